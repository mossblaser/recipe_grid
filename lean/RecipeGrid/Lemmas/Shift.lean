import RecipeGrid.Lemmas.FoldSpec
import RecipeGrid.Lemmas.ParserErrPrefixRules
/-! Position independence of the plain parser (`Model/Parser.lean`), from that of the instrumented one
    (`Lemmas/ParserErrPrefixRules.lean`): the plain parser is the instrumented one with the furthest failure forgotten.
    Then: every written output name has at least one part (`parse_outputs_ne`, read off `Parser.PosBound.recipe_bd`),
    and elaboration commutes with moving the offsets (`compileBlocks_shift`). -/
namespace RG

namespace Parser
variable {pre : Str}

theorem Sh.of_shE {α : Type} {g : α → α} {pe : ParserE.PE α} {p : P α} (h : ParserE.ShE pre g pe pe)
    (hp : ParserE.Sim pe p) : Sh pre g p p := by
  intro hw s st
  rw [← hp _ _, ← hp _ _, h hw s st]
  rfl

theorem Sh.fraction : Sh pre (shNum pre.length) fraction fraction :=
  Sh.of_shE ParserE.ShE.fraction ParserE.Sim.fraction

theorem Sh.number : Sh pre (shNum pre.length) number number :=
  Sh.of_shE ParserE.ShE.number ParserE.Sim.number

theorem Sh.escaped : Sh pre id escaped escaped :=
  Sh.of_shE ParserE.ShE.escaped ParserE.Sim.escaped

theorem Sh.string (static : Bool) : Sh pre (shiftString pre.length) (string static) (string static) :=
  Sh.of_shE (ParserE.ShE.string static) (ParserE.Sim.string static)

theorem Sh.proportion : Sh pre (shiftAmount pre.length) proportion proportion :=
  Sh.of_shE ParserE.ShE.proportion ParserE.Sim.proportion

theorem Sh.reference : Sh pre (shiftExpr pre.length) reference reference :=
  Sh.of_shE ParserE.ShE.reference ParserE.Sim.reference

theorem Sh.stmt : Sh pre (shiftStmt pre.length) stmt stmt :=
  Sh.of_shE ParserE.ShE.stmt ParserE.Sim.stmt

/-- **shift invariance of the whole grammar** (for a padding without word characters) -/
theorem Sh.recipe : Sh pre (List.map (shiftStmt pre.length)) recipe recipe :=
  Sh.of_shE ParserE.ShE.recipe ParserE.Sim.recipe

end Parser

def shiftParse (k : Nat) : ParseResult → ParseResult
  | .ok stmts => .ok (stmts.map (shiftStmt k))
  | r => r

theorem parse_pad_space (pre s : Str) (hsp : ∀ c ∈ pre, isReSpace c = true) :
    parse (pre ++ s) = shiftParse pre.length (parse s) := by
  rw [← parseE_erase, parseE_pad_space pre s hsp, ← parseE_erase s]
  cases parseE s <;> rfl

/-- **shift invariance of `parse`**: `k` newlines in front of the text move every offset by `k` and change nothing else -/
theorem parse_pad (k : Nat) (s : Str) :
    parse (List.replicate k '\n' ++ s) =
      (match parse s with
       | .ok stmts => .ok (stmts.map (shiftStmt k))
       | r => r) := by
  have h := parse_pad_space (List.replicate k '\n') s (by
    intro c hc; rw [List.eq_of_mem_replicate hc]; decide)
  rw [List.length_replicate] at h
  rw [h]
  cases parse s <;> rfl

theorem parse_outputs_ne (s : Str) (stmts : List AStmt) (h : parse s = .ok stmts) :
    ∀ st ∈ stmts, st.OutputsNE :=
  fun st hst => (parse_ok_bd s stmts h st hst).2.1

/-! Offsets reach the result of `compileBlocks` only through the two located errors. -/

def shiftErr (k : Nat) : StmtErr → StmtErr
  | .redefined off => .redefined (off + k)
  | .proportion off => .proportion (off + k)
  | .internal why => .internal why

def shiftExc (k : Nat) {α : Type} : Except StmtErr α → Except StmtErr α
  | .ok a => .ok a
  | .error e => .error (shiftErr k e)

theorem shiftExc_bind (k : Nat) {α β : Type} (x : Except StmtErr α) {f' f : α → Except StmtErr β}
    (h : ∀ a, f' a = shiftExc k (f a)) : (shiftExc k x >>= f') = shiftExc k (x >>= f) := by
  cases x with
  | error e => rfl
  | ok a => exact h a

theorem compileString_shift (k : Nat) (s : AString) : compileString (shiftString k s) = compileString s := by
  unfold compileString shiftString
  rw [List.map_map]
  congr 1
  apply List.map_congr_left
  intro p _
  cases p <;> rfl

theorem compileQuantity_shift (k : Nat) (v : Num) (u : Option AString) (sp p : Str) :
    compileQuantity v (u.map (shiftString k)) sp p = compileQuantity v u sp p := by
  cases u with
  | none => rfl
  | some u => simp [compileQuantity, compileString_shift]

theorem compileAmount_shift (k : Nat) (a : Option AAmount) :
    compileAmount (a.map (shiftAmount k)) = compileAmount a := by
  cases a with
  | none => rfl
  | some a =>
    cases a with
    | qty off v u sp p => simp [shiftAmount, compileAmount, compileQuantity_shift]
    | prop off v pct w p => rfl

mutual
theorem compileExpr_shift (block k : Nat) : ∀ (e : AExpr) (st : CState),
    compileExpr block st (shiftExpr k e) = shiftExc k (compileExpr block st e)
  | .step name inputs, st => by
    rw [shiftExpr, compileExpr, compileExpr, compileExprs_shift block k inputs st, compileString_shift]
    exact shiftExc_bind k _ fun _ => rfl
  | .ref name amount, st => by
    rw [shiftExpr]
    simp only [compileExpr, compileString_shift, compileAmount_shift]
    split
    · rfl
    · cases amount with
      | none => rfl
      | some a =>
        cases a with
        | qty off v u sp p => simp [shiftAmount, shiftExc, compileQuantity_shift]
        | prop off v pct w p => rfl
theorem compileExprs_shift (block k : Nat) : ∀ (es : List AExpr) (st : CState),
    compileExprs block st (shiftExprs k es) = shiftExc k (compileExprs block st es)
  | [], st => rfl
  | e :: es, st => by
    rw [shiftExprs, compileExprs, compileExprs, compileExpr_shift block k e st]
    refine shiftExc_bind k _ fun ⟨t, st1⟩ => ?_
    dsimp only
    rw [compileExprs_shift block k es st1]
    exact shiftExc_bind k _ fun _ => rfl
end

theorem offset_shift (k : Nat) (a : AString) (h : a ≠ []) : AString.offset (shiftString k a) = AString.offset a + k := by
  cases a with
  | nil => exact absurd rfl h
  | cons x xs => cases x <;> rfl

theorem registerOutputs_shift (block : Nat) (sub : Tree) (unwrap : Bool) (k : Nat) (asts : Option (List AString))
    (hne : ∀ l, asts = some l → ∀ a ∈ l, a ≠ []) : ∀ (names : List SVS) (st : CState) (i : Nat),
    registerOutputs block sub unwrap (asts.map (List.map (shiftString k))) st i names =
      shiftExc k (registerOutputs block sub unwrap asts st i names)
  | [], st, i => rfl
  | n :: ns, st, i => by
    simp only [registerOutputs]
    split
    · cases asts with
      | none => rfl
      | some l =>
        simp only [Option.map_some, List.getElem?_map]
        cases hl : l[i]? with
        | none => rfl
        | some a =>
          simp only [Option.map_some, shiftExc, shiftErr]
          rw [offset_shift k a (hne l rfl a (List.mem_of_getElem? hl))]
    · exact registerOutputs_shift block sub unwrap k asts hne ns _ _

theorem stmtNames_shift (k : Nat) (s : AStmt) (tree : Tree) : stmtNames (shiftStmt k s) tree = stmtNames s tree := by
  obtain ⟨e, outputs, named⟩ := s
  unfold stmtNames
  cases outputs with
  | none => rfl
  | some l =>
    cases l with
    | nil => rfl
    | cons o os => simp [shiftStmt, compileString_shift]

theorem nameStmt_shift (block k : Nat) (s : AStmt) (hs : s.OutputsNE) (tree : Tree) (st1 : CState) :
    nameStmt block (shiftStmt k s) tree st1 = shiftExc k (nameStmt block s tree st1) := by
  rw [nameStmt_eq, nameStmt_eq, stmtNames_shift]
  cases stmtNames s tree with
  | none => rfl
  | some p =>
    obtain ⟨names, shown⟩ := p
    dsimp only [shiftStmt]
    rw [registerOutputs_shift block _ (!s.named) k s.outputs hs names st1 0]
    exact shiftExc_bind k _ fun _ => rfl
theorem compileStmt_shift (block k : Nat) (st : CState) (s : AStmt) (hs : s.OutputsNE) :
    compileStmt block st (shiftStmt k s) = shiftExc k (compileStmt block st s) := by
  rw [compileStmt_eq, compileStmt_eq]
  show (compileExpr block st (shiftExpr k s.expr) >>= _) = _
  rw [compileExpr_shift]
  exact shiftExc_bind k _ fun p => nameStmt_shift block k s hs p.1 p.2

theorem compileStmts_shift (block k : Nat) : ∀ (ss : List AStmt) (st : CState), (∀ s ∈ ss, s.OutputsNE) →
    compileStmts block st (ss.map (shiftStmt k)) = shiftExc k (compileStmts block st ss)
  | [], st, _ => rfl
  | s :: ss, st, h => by
    rw [List.map_cons, compileStmts, compileStmts, compileStmt_shift block k st s (h s (List.mem_cons_self ..))]
    refine shiftExc_bind k _ fun ⟨t, st1⟩ => ?_
    dsimp only
    rw [compileStmts_shift block k ss st1 fun x hx => h x (List.mem_cons_of_mem _ hx)]
    exact shiftExc_bind k _ fun _ => rfl

/-- the result of `compile` for padded sources, from the result for the block texts: block `b` was padded with
    `ks[b]` characters, so the offsets of its located errors are `ks[b]` larger -/
def shiftResult (ks : List Nat) : CompileResult → CompileResult
  | .redefined b off => .redefined b (off + ks.getD b 0)
  | .proportion b off => .proportion b (off + ks.getD b 0)
  | r => r

def shiftBlocks (ks : List Nat) (bs : List (List AStmt)) : List (List AStmt) :=
  List.zipWith (fun k b => b.map (shiftStmt k)) ks bs

theorem liftErr_shift (ks : List Nat) (i : Nat) (e : StmtErr) :
    liftErr i (shiftErr (ks.getD i 0) e) = shiftResult ks (liftErr i e) := by
  cases e <;> rfl

theorem compileBlocks_shift (ks : List Nat) : ∀ (bs : List (List AStmt)) (i : Nat) (st : CState),
    (∀ b ∈ bs, ∀ s ∈ b, AStmt.OutputsNE s) → i + bs.length ≤ ks.length →
    compileBlocks i st (shiftBlocks (ks.drop i) bs) =
      (match compileBlocks i st bs with
       | .ok r => .ok r
       | .error e => .error (shiftResult ks e))
  | [], i, st, _, _ => by simp [shiftBlocks, compileBlocks]
  | b :: bs, i, st, hne, hlen => by
    have hi : i < ks.length := by simp only [List.length_cons] at hlen; omega
    have hd : ks.drop i = ks.getD i 0 :: ks.drop (i + 1) := by
      rw [List.drop_eq_getElem_cons hi]
      simp [List.getD, hi]
    rw [hd, shiftBlocks, List.zipWith_cons_cons, compileBlocks_cons, compileBlocks_cons,
      compileStmts_shift i _ b st (hne b (List.mem_cons_self ..))]
    cases compileStmts i st b with
    | error e => simp only [shiftExc, liftErr_shift]
    | ok p =>
      obtain ⟨trees, st1⟩ := p
      simp only [shiftExc]
      have ih := compileBlocks_shift ks bs (i + 1) st1 (fun x hx => hne x (List.mem_cons_of_mem _ hx))
        (by simp only [List.length_cons] at hlen; omega)
      rw [shiftBlocks] at ih
      rw [ih]
      cases compileBlocks (i + 1) st1 bs with
      | error e => rfl
      | ok q => rfl

end RG
