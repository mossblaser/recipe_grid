/-! An encoder that writes character by character and a decoder that reads each piece back, whatever follows: then the
    decoder undoes the encoder on whole strings.  Stated once for every pair (`html.escape`/`quoteattr` with the
    decoders of `Props/C10.lean` and `Props/C10b.lean`, `markupsafe.escape` with that of `Props/C10c.lean`). -/
namespace RG

def Decodes {α β : Type} (dec : List β → List α) (enc : α → List β) (f : α → α) : Prop :=
  ∀ c rest, dec (enc c ++ rest) = f c :: dec rest

theorem Decodes.flatMap_append {α β : Type} {dec : List β → List α} {enc : α → List β} {f : α → α}
    (h : Decodes dec enc f) (s : List α) (rest : List β) : dec (s.flatMap enc ++ rest) = s.map f ++ dec rest := by
  induction s with
  | nil => rfl
  | cons c s ih => rw [List.flatMap_cons, List.append_assoc, h, ih]; rfl

theorem Decodes.flatMap {α β : Type} {dec : List β → List α} {enc : α → List β} {f : α → α} (h : Decodes dec enc f)
    (nil : dec [] = []) (s : List α) : dec (s.flatMap enc) = s.map f := by
  have := h.flatMap_append s []
  rwa [List.append_nil, nil, List.append_nil] at this

end RG
