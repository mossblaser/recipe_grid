import RecipeGrid.Lemmas.NumberReader
import RecipeGrid.Lemmas.ParserNumber
import RecipeGrid.Props.C11
import RecipeGrid.Lemmas.FloatErr
/-! The text of `format_number` is one of the four spellings (`C06.NumLit`) of the grammar's `number` rule, and
    the number that spelling means is the displayed value.  Used by `Props/C11c.lean`. -/
namespace RG
open NumberReader C06 C11

/-- `x` rounded half-to-even to the decimals the digit budget leaves (`fracDigits`): the value `format_float` shows -/
def roundedDecimal (y : Rat) : Rat :=
  ((roundHalfEven (y * ((10 ^ fracDigits Gen.significantFigures y : Nat) : Rat)) : Int) : Rat)
    / ((10 ^ fracDigits Gen.significantFigures y : Nat) : Rat)

/-- what a reader of the tool's number syntax gets from the text of `format_float y`: without a point an `int`,
    with a point the double nearest to the shown decimal -/
def decimalNum (y : Rat) : Num :=
  if '.' ∈ formatFloat y then ⟨toDouble (roundedDecimal y), .flt⟩ else ⟨roundedDecimal y, .int⟩

theorem decimalNum_of_point {y : Rat} (h : '.' ∈ formatFloat y) : decimalNum y = ⟨toDouble (roundedDecimal y), .flt⟩ :=
  if_pos h

theorem decimalNum_of_no_point {y : Rat} (h : '.' ∉ formatFloat y) : decimalNum y = ⟨roundedDecimal y, .int⟩ :=
  if_neg h

theorem decimalNum_val (y : Rat) :
    (decimalNum y).val = if '.' ∈ formatFloat y then toDouble (roundedDecimal y) else roundedDecimal y := by
  rw [decimalNum]; split <;> rfl

theorem decimalNum_kind_of_point (y : Rat) : (decimalNum y).kind = if '.' ∈ formatFloat y then .flt else .int := by
  rw [decimalNum]; split <;> rfl

theorem pow10_mul_roundedDecimal (y : Rat) :
    ((10 ^ fracDigits Gen.significantFigures y : Nat) : Rat) * roundedDecimal y
      = ((roundHalfEven (y * ((10 ^ fracDigits Gen.significantFigures y : Nat) : Rat)) : Int) : Rat) := by
  rw [roundedDecimal, Rat.mul_comm, Rat.div_mul_cancel (Rat.ne_of_gt (pow10_cast_pos _))]

theorem intCast_num_of_den_one {q : Rat} (hd : q.den = 1) : ((q.num : Int) : Rat) = q := by
  have := Rat.mkRat_self q
  rw [hd, Rat.mkRat_eq_div, Rat.div_def] at this
  have h1 : ((1 : Nat) : Rat)⁻¹ = 1 := by decide +kernel
  rw [h1, Rat.mul_one] at this
  exact this

/-- what a reader of the tool's number syntax gets from the text of `format_number x` -/
def shownNum (x : Num) : Num :=
  if x.isFlt then decimalNum x.val
  else if x.val.den = 1 then ⟨x.val, .int⟩
  else if x.val.den ∈ Gen.allowedDenominators then ⟨x.val, .frac⟩
  else decimalNum (toDouble x.val)

theorem shownNum_int (x : Num) (hf : x.isFlt = false) (hd : x.val.den = 1) : shownNum x = ⟨x.val, .int⟩ := by
  simp [shownNum, hf, hd]

theorem shownNum_fraction (x : Num) (hf : x.isFlt = false) (hd : x.val.den ≠ 1)
    (ha : x.val.den ∈ Gen.allowedDenominators) : shownNum x = ⟨x.val, .frac⟩ := by
  simp [shownNum, hf, hd, ha]

theorem shownNum_float (x : Num) (hf : x.isFlt = true) : shownNum x = decimalNum x.val := by
  simp [shownNum, hf]

/-- other Fractions go through the nearest double (the recorded double-rounding finding of C11.4) -/
theorem shownNum_fallback (x : Num) (hf : x.isFlt = false) (hd : x.val.den ≠ 1)
    (ha : x.val.den ∉ Gen.allowedDenominators) : shownNum x = decimalNum (toDouble x.val) := by
  simp [shownNum, hf, hd, ha]

theorem formatNumber_cases (x : Num) (hx : 0 ≤ x.val) :
    (x.isFlt = true ∧ formatNumber x = formatFloat x.val ∧ shownNum x = decimalNum x.val) ∨
    (x.isFlt = false ∧ x.val.den = 1 ∧ formatNumber x = natDigits x.val.num.toNat ∧ shownNum x = ⟨x.val, .int⟩) ∨
    (x.isFlt = false ∧ x.val.den ≠ 1 ∧ x.val.den ∈ Gen.allowedDenominators ∧
      formatNumber x = formatFraction x.val ∧ shownNum x = ⟨x.val, .frac⟩) ∨
    (x.isFlt = false ∧ x.val.den ≠ 1 ∧ x.val.den ∉ Gen.allowedDenominators ∧
      formatNumber x = formatFloat (toDouble x.val) ∧ shownNum x = decimalNum (toDouble x.val)) := by
  by_cases hf : x.isFlt = true
  · exact Or.inl ⟨hf, by simp [formatNumber, hf], shownNum_float x hf⟩
  · have hf' : x.isFlt = false := by simpa using hf
    by_cases hd : x.val.den = 1
    · refine Or.inr (Or.inl ⟨hf', hd, ?_, shownNum_int x hf' hd⟩)
      simp [formatNumber, hf', formatFraction, hd, intStr_of_nonneg (Rat.num_nonneg.mpr hx)]
    · by_cases ha : x.val.den ∈ Gen.allowedDenominators
      · exact Or.inr (Or.inr (Or.inl ⟨hf', hd, ha, by simp [formatNumber, hf'], shownNum_fraction x hf' hd ha⟩))
      · exact Or.inr (Or.inr (Or.inr ⟨hf', hd, ha, by simp [formatNumber, hf', formatFraction_fallback x.val hd ha],
          shownNum_fallback x hf' hd ha⟩))

theorem not_mem_natDigits {c : Char} (hc : c.isDigit = false) (n : Nat) : c ∉ natDigits n :=
  fun h => absurd (natDigits_isDigit n c h) (by simp [hc])

theorem dot_not_mem_natDigits (n : Nat) : '.' ∉ natDigits n := not_mem_natDigits (by decide) n

theorem mkRat_digits_dot (i : Nat) (s : Str) :
    mkRat (digitsValue (natDigits i ++ s) : Nat) (10 ^ s.length)
      = ((i : Nat) : Rat) + ((digitsVal s : Nat) : Rat) / ((10 ^ s.length : Nat) : Rat) := by
  have e : digitsValue (natDigits i ++ s) = i * 10 ^ s.length + digitsVal s := by
    have := Parser.digitsVal_append (natDigits i) s
    rw [digitsVal_natDigits] at this
    exact this
  have hP := pow10_cast_pos s.length
  rw [e, Rat.mkRat_eq_div, Rat.intCast_natCast, Rat.natCast_add, Rat.natCast_mul]
  generalize ((10 ^ s.length : Nat) : Rat) = P at hP
  generalize ((digitsVal s : Nat) : Rat) = V
  generalize ((i : Nat) : Rat) = I
  have h1 : I * P / P = I := Rat.mul_div_cancel (Rat.ne_of_gt hP)
  rw [Rat.div_def, Rat.add_mul, ← Rat.div_def, ← Rat.div_def, h1]

theorem formatFloat_spelling (y : Rat) (hy : 0 ≤ y) :
    ∃ l : NumLit, l.WF ∧ formatFloat y = l.print ∧ l.value = decimalNum y ∧
      ((∃ n : Nat, l = .int (natDigits n) ∧ roundedDecimal y = (n : Rat)) ∨
       (∃ s : Str, l = .dec (natDigits y.floor.toNat) s ∧ s ≠ [] ∧ s.getLast? ≠ some '0' ∧
          s.length ≤ fracDigits Gen.significantFigures y)) := by
  have hval := formatFloat_value Gen.significantFigures y hy
  have hP := pow10_cast_pos (fracDigits Gen.significantFigures y)
  rcases formatFloatSig_cases Gen.significantFigures y hy with ⟨n, hfmt, hr⟩ | ⟨s, k, hfmt, hs, hdig, hlast, hlen, hr⟩
  · have hD : roundedDecimal y = (n : Rat) := by
      rw [roundedDecimal, hr, Rat.intCast_natCast, Rat.natCast_mul, Rat.mul_div_cancel (Rat.ne_of_gt hP)]
    refine ⟨.int (natDigits n), isDigits_natDigits n, hfmt, ?_, Or.inl ⟨n, rfl, hD⟩⟩
    have hnd : '.' ∉ formatFloat y := by
      show '.' ∉ formatFloatSig Gen.significantFigures y
      rw [hfmt]; exact dot_not_mem_natDigits n
    simp only [decimalNum_of_no_point hnd, NumLit.value, digitsValue_natDigits, hD]
  · have hdig' : ∀ c ∈ s, isDigit c = true := fun c hc => isDigit_of_charIsDigit (hdig c hc)
    refine ⟨.dec (natDigits y.floor.toNat) s, ⟨isDigits_natDigits _, hdig'⟩, hfmt, ?_,
      Or.inr ⟨s, rfl, hs, hlast, by omega⟩⟩
    have hd : '.' ∈ formatFloat y := by
      show '.' ∈ formatFloatSig Gen.significantFigures y
      rw [hfmt]; simp
    have h2 := readDecimal_digits_dot (natDigits_ne_nil y.floor.toNat) (natDigits_isDigit _) hs hdig
    rw [← hfmt, hval, digitsVal_natDigits] at h2
    have hD : roundedDecimal y
        = ((y.floor.toNat : Nat) : Rat) + ((digitsVal s : Nat) : Rat) / ((10 ^ s.length : Nat) : Rat) :=
      Option.some.inj h2
    simp only [decimalNum_of_point hd, NumLit.value, mkRat_digits_dot, hD]

theorem formatFloat_of_no_point {y : Rat} (hy : 0 ≤ y) (hd : '.' ∉ formatFloat y) :
    ∃ n : Nat, formatFloat y = natDigits n ∧ roundedDecimal y = (n : Rat) := by
  obtain ⟨l, -, hp, -, ⟨n, rfl, hn⟩ | ⟨s, rfl, -, -, -⟩⟩ := formatFloat_spelling y hy
  · exact ⟨n, hp, hn⟩
  · exact absurd (by rw [hp]; simp [NumLit.print]) hd

theorem formatFraction_spelling (q : Rat) (hq : 0 ≤ q) (hd : q.den ≠ 1) (ha : q.den ∈ Gen.allowedDenominators) :
    ∃ l : NumLit, l.WF ∧ formatFraction q = l.print ∧ l.value = ⟨q, .frac⟩ ∧
      ((l = .mixed (natDigits (q.num.natAbs / q.den)) [' '] (natDigits (q.num.natAbs % q.den)) [] [] (natDigits q.den)) ∨
       (l = .frac (natDigits q.num.natAbs) [] (natDigits q.den) ∧ q.num.natAbs ≤ q.den)) := by
  obtain ⟨hfmt, hpos, hlt, hcop, hv⟩ := format_fraction_exact q hq hd ha
  have hnum : 0 ≤ q.num := Rat.num_nonneg.mpr hq
  have hden := q.den_pos
  have hq0 : digitsValue (natDigits q.den) ≠ 0 := by rw [digitsValue_natDigits]; omega
  by_cases hgt : q.num.natAbs > q.den
  · refine ⟨.mixed (natDigits (q.num.natAbs / q.den)) [' '] (natDigits (q.num.natAbs % q.den)) [] [] (natDigits q.den),
      ⟨isDigits_natDigits _, by simp, isBlanks_space, isDigits_natDigits _, isBlanks_nil, isBlanks_nil,
        isDigits_natDigits _, hq0⟩, ?_, ?_, Or.inl rfl⟩
    · rw [hfmt, if_pos hgt]; simp [NumLit.print]
    · simp only [NumLit.value, digitsValue_natDigits, Rat.mkRat_eq_div, Rat.intCast_natCast]
      rw [hv]
  · refine ⟨.frac (natDigits q.num.natAbs) [] (natDigits q.den),
      ⟨isDigits_natDigits _, isBlanks_nil, isDigits_natDigits _, hq0⟩, ?_, ?_, Or.inr ⟨rfl, by omega⟩⟩
    · rw [hfmt, if_neg hgt]; simp [NumLit.print]
    · simp only [NumLit.value, digitsValue_natDigits]
      have : ((q.num.natAbs : Nat) : Int) = q.num := by omega
      rw [this, Rat.mkRat_self]

theorem fracDigits_le (sig : Nat) (y : Rat) : fracDigits sig y ≤ sig := by
  simp only [fracDigits]; omega

theorem natCast_pow10_mul (k d : Nat) : ((10 ^ k : Nat) : Rat) * ((10 ^ d : Nat) : Rat) = (((10 ^ k * 10 ^ d : Nat) : Int) : Rat) := by
  rw [Rat.intCast_natCast, Rat.natCast_mul]

/-- `k + 5`: below `10^k` there are at most `k + 1` digits before the point (rounding may carry to `10^k`), then the point and
    at most `significantFigures = 3` decimals -/
theorem formatFloat_length {y : Rat} (hy : 0 ≤ y) {k : Nat} (hk : 0 < k) (hlt : y < ((10 ^ k : Nat) : Rat)) :
    (formatFloat y).length ≤ k + 5 := by
  obtain ⟨l, -, hp, -, ⟨n, rfl, hn⟩ | ⟨s, rfl, -, -, hs⟩⟩ := formatFloat_spelling y hy
  · -- the rounded integer is at most 10^k
    rw [hp]
    have hP := pow10_cast_pos (fracDigits Gen.significantFigures y)
    have h1 : y * ((10 ^ fracDigits Gen.significantFigures y : Nat) : Rat)
        < (((10 ^ k * 10 ^ fracDigits Gen.significantFigures y : Nat) : Int) : Rat) := by
      rw [← natCast_pow10_mul]; exact Rat.mul_lt_mul_of_pos_right hlt hP
    have h2 := roundHalfEven_le_of_lt h1
    have h3 : ((roundHalfEven (y * ((10 ^ fracDigits Gen.significantFigures y : Nat) : Rat)) : Int) : Rat)
        = (((n * 10 ^ fracDigits Gen.significantFigures y : Nat) : Int) : Rat) := by
      rw [Rat.intCast_natCast, Rat.natCast_mul, ← hn, Rat.mul_comm (roundedDecimal y), pow10_mul_roundedDecimal]
    have h4 := Rat.intCast_inj.mp h3
    rw [h4] at h2
    have h5 : n * 10 ^ fracDigits Gen.significantFigures y ≤ 10 ^ k * 10 ^ fracDigits Gen.significantFigures y := Int.ofNat_le.mp h2
    have h6 : n ≤ 10 ^ k := Nat.le_of_mul_le_mul_right h5 (Nat.pow_pos (by decide))
    have h7 : n < 10 ^ (k + 1) := by
      have : 0 < 10 ^ k := Nat.pow_pos (by decide)
      rw [Nat.pow_succ]; omega
    have := natDigits_length_le (Nat.succ_pos k) h7
    simp only [NumLit.print]; omega
  · rw [hp]
    have h0 := floor_nonneg hy
    have h1 : y.floor < ((10 ^ k : Nat) : Int) := Rat.floor_lt_iff.mpr (by rw [Rat.intCast_natCast]; exact hlt)
    have h2 : y.floor.toNat < 10 ^ k := by omega
    have := natDigits_length_le hk h2
    have := fracDigits_le Gen.significantFigures y
    have : Gen.significantFigures = 3 := rfl
    simp only [NumLit.print, List.length_append, List.length_cons]; omega

/-- `k + 6`: at most `k` digits of integer part, a blank, numerator, slash and denominator; every allowed denominator (and so
    the numerator) is below `10^2` -/
theorem formatFraction_length {q : Rat} (hq : 0 ≤ q) (hd : q.den ≠ 1) (ha : q.den ∈ Gen.allowedDenominators)
    {k : Nat} (hk : 0 < k) (hlt : q < ((10 ^ k : Nat) : Rat)) : (formatFraction q).length ≤ k + 6 := by
  have hden : q.den < 10 ^ 2 := by
    have : ∀ d ∈ Gen.allowedDenominators, d < 10 ^ 2 := by decide
    exact this _ ha
  have hdl := natDigits_length_le (by decide) hden
  obtain ⟨l, -, hp, -, rfl | ⟨rfl, hle⟩⟩ := formatFraction_spelling q hq hd ha
  · rw [hp]
    have hmod : q.num.natAbs % q.den < 10 ^ 2 := Nat.lt_trans (Nat.mod_lt _ q.den_pos) hden
    have hml := natDigits_length_le (by decide) hmod
    have hw : q.num.natAbs / q.den < 10 ^ k := by
      have h0 : 0 ≤ q.num := Rat.num_nonneg.mpr hq
      have h1 : (((q.num.natAbs / q.den : Nat) : Int) : Rat) ≤ q := by
        have h2 : ((q.num.natAbs / q.den : Nat) : Int) = q.num / (q.den : Int) := by
          have : ((q.num.natAbs : Nat) : Int) = q.num := by omega
          rw [Int.natCast_ediv, this]
        rw [h2, ← Rat.floor_def]
        exact Rat.floor_le q
      have h3 : (((q.num.natAbs / q.den : Nat) : Int) : Rat) < (((10 ^ k : Nat) : Int) : Rat) := by
        rw [Rat.intCast_natCast (10 ^ k)]; exact Std.lt_of_le_of_lt h1 hlt
      have := Rat.intCast_lt_intCast.mp h3
      omega
    have hwl := natDigits_length_le hk hw
    simp only [NumLit.print, List.length_append, List.length_cons, List.length_nil]; omega
  · rw [hp]
    have hn : q.num.natAbs < 10 ^ 2 := by omega
    have hnl := natDigits_length_le (by decide) hn
    simp only [NumLit.print, List.length_append, List.length_cons, List.length_nil]; omega

/-- the text of `format_number` of a non-negative number below `10^k` has at most `k + 6` characters (a Fraction without an
    allowed denominator is shown through its nearest double, which is below `10^(k+1)`: `k + 1 + 5`) -/
theorem formatNumber_length_le (x : Num) (hx : 0 ≤ x.val) {k : Nat} (hk : 0 < k) (hlt : x.val < ((10 ^ k : Nat) : Rat)) :
    (formatNumber x).length ≤ k + 6 := by
  rcases formatNumber_cases x hx with ⟨-, e, -⟩ | ⟨-, hd, e, -⟩ | ⟨-, hd, ha, e, -⟩ | ⟨-, hd, ha, e, -⟩ <;> rw [e]
  · have := formatFloat_length hx hk hlt
    omega
  · have h1 : ((x.val.num : Int) : Rat) < (((10 ^ k : Nat) : Int) : Rat) := by
      rw [intCast_num_of_den_one hd, Rat.intCast_natCast]; exact hlt
    have h2 := Rat.intCast_lt_intCast.mp h1
    have hnum : 0 ≤ x.val.num := Rat.num_nonneg.mpr hx
    have := natDigits_length_le (n := x.val.num.toNat) hk (by omega)
    omega
  · exact formatFraction_length hx hd ha hk hlt
  · have h1 : toDouble x.val < ((10 ^ (k + 1) : Nat) : Rat) := by
      have := toDouble_le_two_mul hx
      rw [Nat.pow_succ, Rat.natCast_mul]
      have h10 : ((10 : Nat) : Rat) = 10 := rfl
      rw [h10]
      have hP := pow10_cast_pos k
      grind
    exact formatFloat_length (toDouble_nonneg hx) (Nat.succ_pos _) h1

/-- the text of `format_number` of a number below `10^(maxLen - 10)` has at most `maxLen` characters (`maxLen - 10 + 6`; the
    margin of 10 is what `reader_reads_format` of Props/C11c.lean is stated with) -/
theorem formatNumber_length (x : Num) (hx : 0 ≤ x.val) (hlt : x.val < ((10 ^ (maxLen - 10) : Nat) : Rat)) :
    (formatNumber x).length ≤ maxLen := by
  have := formatNumber_length_le x hx (k := maxLen - 10) (by decide) hlt
  have hm : maxLen = 300 := rfl
  omega

theorem roundedDecimal_err (y : Rat) :
    2 * ((10 ^ fracDigits Gen.significantFigures y : Nat) : Rat) * (roundedDecimal y - y) ≤ 1 ∧
    2 * ((10 ^ fracDigits Gen.significantFigures y : Nat) : Rat) * (y - roundedDecimal y) ≤ 1 :=
  roundHalfEven_div_err y (pow10_cast_pos _)

theorem roundedDecimal_nonneg {y : Rat} (hy : 0 ≤ y) : 0 ≤ roundedDecimal y := by
  have hP := pow10_cast_pos (fracDigits Gen.significantFigures y)
  have h0 := roundHalfEven_nonneg (Rat.mul_nonneg hy (Rat.le_of_lt hP))
  have h1 : (0 : Rat) ≤ ((roundHalfEven (y * ((10 ^ fracDigits Gen.significantFigures y : Nat) : Rat)) : Int) : Rat) := by
    have := Rat.intCast_le_intCast.mpr h0
    simpa using this
  rw [roundedDecimal, Rat.div_def]
  exact Rat.mul_nonneg h1 (Rat.le_of_lt (Rat.inv_pos.mpr hP))

/-- with at least one decimal, the shown decimal has at most `10^sig` units of its last digit:
    the integer digits use up the rest of the budget -/
theorem scaled_le_of_fracDigits_pos {y : Rat} (hy : 0 ≤ y) (hd : 0 < fracDigits Gen.significantFigures y) :
    roundHalfEven (y * ((10 ^ fracDigits Gen.significantFigures y : Nat) : Rat)) ≤ ((10 ^ Gen.significantFigures : Nat) : Int) := by
  apply roundHalfEven_le_of_lt
  have hP := pow10_cast_pos (fracDigits Gen.significantFigures y)
  have hfl := Rat.lt_floor_add_one y
  have h0 := floor_nonneg hy
  have key : ∃ len : Nat, len + fracDigits Gen.significantFigures y = Gen.significantFigures ∧ y.floor.toNat < 10 ^ len := by
    by_cases hi : y.floor.toNat = 0
    · refine ⟨0, ?_, by simp [hi]⟩
      simp [fracDigits, hi]
    · refine ⟨(natDigits y.floor.toNat).length, ?_, ?_⟩
      · have : (y.floor.toNat == 0) = false := by simpa using hi
        simp only [fracDigits, this] at hd ⊢
        simp only [Bool.false_eq_true, if_false] at hd ⊢
        omega
      · have hpos : 0 < (natDigits y.floor.toNat).length := List.length_pos_iff.mpr (natDigits_ne_nil _)
        exact (Nat.length_toDigits_le_iff (b := 10) (by decide) hpos).mp (Nat.le_refl _)
  obtain ⟨len, hlen, hlt⟩ := key
  have h1 : y < ((10 ^ len : Nat) : Rat) := by
    have h2 : y.floor + 1 ≤ ((10 ^ len : Nat) : Int) := by omega
    have h3 := Rat.intCast_le_intCast.mpr h2
    rw [Rat.intCast_natCast] at h3
    exact Std.lt_of_lt_of_le hfl h3
  have h4 := Rat.mul_lt_mul_of_pos_right h1 hP
  rw [← Rat.natCast_mul, ← Nat.pow_add, hlen] at h4
  rw [Rat.intCast_natCast]
  exact h4

/-- **distance between the number read back and the number shown**: without a point exactly the rounding bound of C11
    (half a unit of the last digit of the budget); with a point the reader returns the double nearest to the shown
    decimal, which adds at most `2·10^sig / 2^53` of that unit (`sig = 3`: about `2.2·10^-13` half-units) -/
theorem decimalNum_err (y : Rat) (hy : 0 ≤ y) :
    ('.' ∉ formatFloat y →
      2 * ((10 ^ fracDigits Gen.significantFigures y : Nat) : Rat) * ((decimalNum y).val - y) ≤ 1 ∧
      2 * ((10 ^ fracDigits Gen.significantFigures y : Nat) : Rat) * (y - (decimalNum y).val) ≤ 1) ∧
    ('.' ∈ formatFloat y →
      2 * ((10 ^ fracDigits Gen.significantFigures y : Nat) : Rat) * ((decimalNum y).val - y)
        ≤ 1 + 2 * ((10 ^ Gen.significantFigures : Nat) : Rat) / 9007199254740992 ∧
      2 * ((10 ^ fracDigits Gen.significantFigures y : Nat) : Rat) * (y - (decimalNum y).val)
        ≤ 1 + 2 * ((10 ^ Gen.significantFigures : Nat) : Rat) / 9007199254740992) := by
  have hb := roundedDecimal_err y
  constructor
  · intro hnd
    simpa [decimalNum_of_no_point hnd] using hb
  · intro hd
    have hdpos : 0 < fracDigits Gen.significantFigures y := by
      obtain ⟨l, -, hp, -, ⟨n, rfl, -⟩ | ⟨s, rfl, hs, -, hlen⟩⟩ := formatFloat_spelling y hy
      · rw [hp] at hd; exact absurd hd (dot_not_mem_natDigits n)
      · have := List.length_pos_iff.mpr hs; omega
    have hR := scaled_le_of_fracDigits_pos hy hdpos
    have hP := pow10_cast_pos (fracDigits Gen.significantFigures y)
    have hD0 := roundedDecimal_nonneg hy
    have herr := toDouble_err_mul (roundedDecimal y)
    rw [Rat.abs_of_nonneg hD0, ← abs_mul_of_nonneg (by decide), abs_le_iff] at herr
    have hPD : ((10 ^ fracDigits Gen.significantFigures y : Nat) : Rat) * roundedDecimal y
        ≤ ((10 ^ Gen.significantFigures : Nat) : Rat) := by
      have h1 := Rat.intCast_le_intCast.mpr hR
      rw [Rat.intCast_natCast] at h1
      rw [pow10_mul_roundedDecimal]
      exact h1
    simp only [decimalNum_of_point hd]
    generalize ((10 ^ fracDigits Gen.significantFigures y : Nat) : Rat) = P at *
    generalize ((10 ^ Gen.significantFigures : Nat) : Rat) = S at *
    generalize roundedDecimal y = D at *
    generalize toDouble D = v at *
    rw [Rat.div_def]
    -- 2^53 * |v - D| ≤ D, P * D ≤ S, 2 P |D - y| ≤ 1
    have e1 := Rat.mul_le_mul_of_nonneg_left herr.1 (Rat.le_of_lt hP)
    have e2 := Rat.mul_le_mul_of_nonneg_left herr.2 (Rat.le_of_lt hP)
    have hinv : (9007199254740992 : Rat) * (9007199254740992 : Rat)⁻¹ = 1 := by decide +kernel
    constructor <;> grind

/-- **the text of `format_number` is a permitted spelling of the grammar's `number`, and means `shownNum`** -/
theorem formatNumber_spelling (x : Num) (hx : 0 ≤ x.val) :
    ∃ l : NumLit, l.WF ∧ formatNumber x = l.print ∧ l.value = shownNum x := by
  rcases formatNumber_cases x hx with ⟨-, e, es⟩ | ⟨-, hd, e, es⟩ | ⟨-, hd, ha, e, es⟩ | ⟨-, hd, ha, e, es⟩ <;> rw [e, es]
  · obtain ⟨l, hwf, hp, hv, -⟩ := formatFloat_spelling x.val hx
    exact ⟨l, hwf, hp, hv⟩
  · refine ⟨.int (natDigits x.val.num.toNat), isDigits_natDigits _, rfl, ?_⟩
    have h1 : ((x.val.num.toNat : Nat) : Rat) = ((x.val.num : Int) : Rat) := by
      rw [← Rat.intCast_natCast, Int.toNat_of_nonneg (Rat.num_nonneg.mpr hx)]
    simp [NumLit.value, digitsValue_natDigits, h1, intCast_num_of_den_one hd]
  · obtain ⟨l, hwf, hp, hv, -⟩ := formatFraction_spelling x.val hx hd ha
    exact ⟨l, hwf, hp, hv⟩
  · obtain ⟨l, hwf, hp, hv, -⟩ := formatFloat_spelling (toDouble x.val) (toDouble_nonneg hx)
    exact ⟨l, hwf, hp, hv⟩

end RG
