import RecipeGrid.Lemmas.Peg
import RecipeGrid.Lemmas.PegMono
import RecipeGrid.Lemmas.TerminalRx
/-! Rule by rule: the generic recogniser on a rule of the generated grammar (`Gen/Grammar.lean`) ends where the hand-written
    parser for that rule (`Model/Parser.lean`) ends.  Each proof follows the body of its rule in the generated list
    operator by operator (an edit of `grammar.peg` breaks the proof of the edited rule).

    The fuel `f` of `pegRun` counts the nesting of rule calls, so a rule needs one level more than the rules it calls:
    a rule that is one terminal needs 1 (`hsp`, `decimal`, `naked_string` …), `fraction` (calls `hsp`) 2, `number` 3,
    `interpolated_number` 4, `bracketed_string` 5.  These are the lemmas `rule_X : k ≤ f → RuleOk …`, from every position.
    `string` calls itself once per atom, and every atom consumes a character: from position `i` it needs `size − i`
    levels on top of the 5 of its atoms and its own (`run_string`: `size − i + 6`); the rules above it add one each
    (`output`, `action` … 7, `explicit_quantity`, `output_list` 8, `reference` 9).  `expr` reaches itself through `step`
    or `ltr_shorthand`, two levels for one character: `2·(size − i) +` the 9 of `reference` and the levels in between
    (`expr` 16, `stmt` 18, `recipe` 19).  These are the lemmas `run_X`, an equation from one position with the fuel that
    position needs; `step_ok`, `ltr_ok` are `step` and `ltr_shorthand` given `expr` (the hypothesis `hexpr`), and
    `expr_ok` closes the recursion on the hand-written parser's own fuel. -/
namespace RG
namespace Peg
open Parser

abbrev genRun (t : Array Char) (f : Nat) : String → Nat → PegRes := pegRun Gen.grammarRules T t f

def RuleOk {α} (t : Array Char) (f : Nat) (name : String) (p : P α) : Prop :=
  ∀ s : PState, genRun t f name s.pos = proj (p t s)

/-- a rule of the generated grammar is its body, one level of rule calls further down (`hb` is closed by `rfl`, which
    looks the rule up by its name and so finds `body`: the order of the rules in `grammar.peg` does not matter) -/
theorem run_of_body {α} {t : Array Char} {n f : Nat} {name : String} {body : PExpr} {p : P α} {s : PState}
    (hb : Gen.grammarRules.lookup name = some body) (hf : n + 1 ≤ f) (h : ∀ g, n ≤ g → Ok (genRun t g) t body p s) :
    genRun t f name s.pos = proj (p t s) := by
  obtain ⟨g, rfl, hg⟩ : ∃ g, f = g + 1 ∧ n ≤ g := ⟨f - 1, by omega, by omega⟩
  show pegRun Gen.grammarRules T t (g + 1) name s.pos = _
  simp only [pegRun, hb]
  exact h g hg

theorem RuleOk.of_body {α} {t : Array Char} {n f : Nat} {name : String} {body : PExpr} {p : P α}
    (hb : Gen.grammarRules.lookup name = some body) (hf : n + 1 ≤ f) (h : ∀ g, n ≤ g → ∀ s, Ok (genRun t g) t body p s) :
    RuleOk t f name p :=
  fun s => run_of_body hb hf fun g hg => h g hg s

section
variable {call : String → Nat → PegRes} {t : Array Char} {s : PState}

theorem proj_void {α} (p : P α) (t : Array Char) (s : PState) : proj (void p t s) = proj (p t s) := by
  unfold void
  rw [bind_apply]
  cases p t s <;> rfl

/-! A terminal: the scanner under its source is read off `terminalScanner` by the defining equations. -/

theorem Ok.termVoid {α} {re : String} {p : P α} (hu : Unif p)
    (hT : T re = some (Peg.void p) := by simp only [terminalScanner]) : Ok call t (.term re) p s :=
  Ok.term hT (unif_void hu) (proj_void p t s).symm

/-- for a scanner that is the `match` of a regular expression: that it hands the flag on is read off the engine
    (`Rx.ScanIs.unif`) -/
theorem Ok.termRx {α} {re : String} {p : P α} {r : Rx} (h : Rx.ScanIs (Peg.void p) r)
    (hT : T re = some (Peg.void p) := by simp only [terminalScanner]) : Ok call t (.term re) p s :=
  Ok.term hT h.unif (proj_void p t s).symm

theorem Ok.termSelf {re : String} {p : P Unit} (hu : Unif p) (hT : T re = some p := by simp only [terminalScanner]) :
    Ok call t (.term re) p s :=
  Ok.term hT hu rfl

theorem Ok.lit {re : String} {c : Char} (hT : T re = some (Parser.lit c) := by simp only [terminalScanner]) :
    Ok call t (.term re) (Parser.lit c) s :=
  Ok.term hT (unif_lit c) rfl

theorem proj_skipMany (p : Char → Bool) (t : Array Char) (s : PState) :
    proj (skipMany p t s) = match proj (skipMany1 p t s) with
      | .fail => .ok s.pos
      | r => r := by
  obtain ⟨i, z⟩ := s
  rw [skipMany_spec p z rfl, skipMany1_spec p z rfl]
  cases hh : (t.toList.drop i).head?.any p with
  | true => simp
  | false =>
    have : (t.toList.drop i).takeWhile p = [] := by
      cases hd : t.toList.drop i with
      | nil => rfl
      | cons c r => rw [hd] at hh; simp at hh; simp [hh]
    simp [this]

/-- `x?` for the rule `x <- r"[p]+"` against `[p]*` -/
theorem Ok.skipMany {name : String} (p : Char → Bool) (h : ∀ s : PState, call name s.pos = proj (skipMany1 p t s)) :
    Ok call t (.maybe (.rule name)) (Parser.skipMany p) s := by
  unfold Ok
  simp only [pegExpr]
  rw [h s]
  exact (proj_skipMany p t s).symm

theorem Ok.ohsp (h : ∀ s : PState, call "hsp" s.pos = proj (hsp t s)) : Ok call t (.maybe (.rule "hsp")) Parser.ohsp s :=
  Ok.skipMany isHsp h

theorem Ok.osp (h : ∀ s : PState, call "sp" s.pos = proj (sp t s)) : Ok call t (.maybe (.rule "sp")) Parser.osp s :=
  Ok.skipMany isReSpace h

end

theorem rule_hsp (t : Array Char) {f : Nat} (hf : 1 ≤ f) : RuleOk t f "hsp" hsp :=
  RuleOk.of_body rfl hf fun _ _ _ => Ok.termSelf (unif_skipMany1 _)

theorem rule_sp (t : Array Char) {f : Nat} (hf : 1 ≤ f) : RuleOk t f "sp" sp :=
  RuleOk.of_body rfl hf fun _ _ _ => Ok.termSelf (unif_skipMany1 _)

theorem rule_eof (t : Array Char) {f : Nat} (hf : 1 ≤ f) : RuleOk t f "eof" eof :=
  RuleOk.of_body rfl hf fun g _ s => by
    have h : Ok (genRun t g) t (.term ".") anyChar s := Ok.termVoid (unif_sat _)
    unfold Ok at *
    simp only [pegExpr] at *
    rw [h]
    unfold anyChar sat eof
    rcases Nat.lt_or_ge s.pos t.size with hlt | hge
    · rw [Array.getElem?_eq_getElem hlt, if_neg (by omega)]; rfl
    · rw [Array.getElem?_eq_none hge, if_pos hge]; rfl

theorem rule_decimal (t : Array Char) {f : Nat} (hf : 1 ≤ f) : RuleOk t f "decimal" decimal :=
  RuleOk.of_body rfl hf fun _ _ _ => Ok.termRx Rx.scanIs_decimal

theorem ok_digits {call : String → Nat → PegRes} {t : Array Char} {s : PState} :
    Ok call t (.term "[0-9]+") digits s := Ok.termRx Rx.scanIs_digits

/-- the last regex of `fraction`: the hand-written parser scans the digits and checks for zero afterwards -/
theorem ok_denominator {β} {call : String → Nat → PegRes} {t : Array Char} {s : PState} (g : Str → β) :
    Ok call t (.term "0*[1-9][0-9]*")
      (digits >>= fun denom => if natOfDigits denom = 0 then fail else pure (g denom)) s := by
  refine Ok.term (scan := denominator) (by simp only [terminalScanner]) Rx.scanIs_denominator.unif ?_
  unfold denominator
  rw [bind_apply, bind_apply]
  cases digits t s with
  | none => rfl
  | some r =>
    obtain ⟨ds, s1⟩ := r
    by_cases h : natOfDigits ds = 0 <;> simp [h]

/-- `fraction <- (r"[0-9]+" hsp)? r"[0-9]+" hsp? "/" hsp? r"0*[1-9][0-9]*"` -/
theorem rule_fraction (t : Array Char) {f : Nat} (hf : 2 ≤ f) : RuleOk t f "fraction" fraction :=
  RuleOk.of_body rfl hf fun g hg s => by
    have hh := rule_hsp t hg
    unfold fraction
    refine Ok.getPos_bind ?_
    refine Ok.bind (Ok.opt (Ok.bind ok_digits fun ds s1 _ => Ok.bind_pure (Ok.rule (hh s1)))) fun integer s1 _ => ?_
    refine Ok.getPos_bind ?_
    refine Ok.bind ok_digits fun numer s2 _ => ?_
    refine Ok.bind (Ok.ohsp hh) fun _ s3 _ => ?_
    refine Ok.bind Ok.lit fun _ s4 _ => ?_
    refine Ok.bind (Ok.ohsp hh) fun _ s5 _ => ?_
    exact ok_denominator _

theorem rule_number (t : Array Char) {f : Nat} (hf : 3 ≤ f) : RuleOk t f "number" number :=
  RuleOk.of_body rfl hf fun g hg s =>
    Ok.orElse (Ok.rule (rule_fraction t hg s)) (Ok.rule (rule_decimal t (by omega) s))

theorem rule_interpolated_number (t : Array Char) {f : Nat} (hf : 4 ≤ f) : RuleOk t f "interpolated_number" number :=
  RuleOk.of_body rfl hf fun _ hg s => Ok.rule (rule_number t hg s)

section
variable {call : String → Nat → PegRes} {t : Array Char} {s : PState}

theorem ok_escaped : Ok call t (.cat (.term "\\\\") (.term ".")) escaped s :=
  Ok.bind Ok.lit fun _ _ _ => Ok.bind_pure (Ok.termVoid (p := anyChar) (unif_sat _))

/-- `q ("\\" . / [^q\n\r])* q`, given the scanners the table has for the two regexes that depend on `q` -/
theorem ok_quotedString {q : Char} {req rec : String} (hq : T req = some (lit q))
    (hc : T rec = some (void (sat fun c => c != q && !isNewline c))) :
    Ok call t (.cat (.term req) (.cat (.star (.alt (.cat (.term "\\\\") (.term ".")) (.term rec))) (.term req)))
      (quotedString q) s := by
  unfold quotedString
  refine Ok.getPos_bind (Ok.bind (Ok.lit hq) fun _ s1 _ => ?_)
  refine Ok.bind (Ok.many (adv_orElse adv_escaped (adv_sat _)) (needs_orElse needs_escaped (needs_sat _))
    fun s' _ => Ok.orElse ok_escaped (Ok.termVoid (unif_sat _) hc)) fun body s2 _ => ?_
  exact Ok.bind_pure (Ok.lit hq)

end

theorem rule_naked_string (t : Array Char) {f : Nat} (hf : 1 ≤ f) : RuleOk t f "naked_string" nakedString :=
  RuleOk.of_body rfl hf fun _ _ _ => Ok.termRx Rx.scanIs_nakedString

theorem rule_d_quoted_string (t : Array Char) {f : Nat} (hf : 1 ≤ f) :
    RuleOk t f "d_quoted_string" (quotedString '"') :=
  RuleOk.of_body rfl hf fun _ _ _ =>
    ok_quotedString (by simp only [terminalScanner]) (by simp only [terminalScanner])

theorem rule_s_quoted_string (t : Array Char) {f : Nat} (hf : 1 ≤ f) :
    RuleOk t f "s_quoted_string" (quotedString '\'') :=
  RuleOk.of_body rfl hf fun _ _ _ =>
    ok_quotedString (by simp only [terminalScanner]) (by simp only [terminalScanner])

/-- `bracketed_string <- "{" (interpolated_number / "\\" . / r"[^0-9{}\n\r]")* "}"` -/
theorem rule_bracketed_string (t : Array Char) {f : Nat} (hf : 5 ≤ f) :
    RuleOk t f "bracketed_string" bracketedString :=
  RuleOk.of_body rfl hf fun g hg s => by
    have hn := rule_interpolated_number t hg
    unfold bracketedString
    refine Ok.getPos_bind (Ok.bind Ok.lit fun _ s1 _ => ?_)
    refine Ok.bind (Ok.many adv_bracketedItem needs_bracketedItem fun s' _ => ?_) fun body s2 _ => Ok.bind_pure Ok.lit
    unfold bracketedItem
    refine Ok.orElse ?_ (Ok.orElse ?_ ?_)
    · exact Ok.bind_silent (Ok.rule (hn s')) fun a s'' => ⟨_, rfl⟩
    · exact Ok.getPos_bind (Ok.bind_pure ok_escaped)
    · exact Ok.getPos_bind (Ok.bind_pure (Ok.termVoid (unif_sat _)))

theorem Ok.orFail {α} {call : String → Nat → PegRes} {t : Array Char} {s : PState} {e : PExpr} {p : P α}
    (h : Ok call t e p s) : Ok call t e (p <|> fail) s := by
  refine Ok.of_eq h ?_
  rw [orElse_apply]
  cases p t s <;> rfl

/-- `(hsp? name)?` after an atom of a string, for a rule `name` that is `stringF static k` to the right of the atom -/
theorem ok_stringMore {call : String → Nat → PegRes} {t : Array Char} {s : PState} {name : String} {static : Bool} {k : Nat}
    (hh : ∀ s : PState, call "hsp" s.pos = proj (hsp t s))
    (hn : ∀ s' : PState, s.pos ≤ s'.pos → call name s'.pos = proj (stringF static k t s')) :
    Ok call t (.maybe (.cat (.maybe (.rule "hsp")) (.rule name))) (opt (stringMore static k)) s := by
  unfold stringMore
  refine Ok.opt (Ok.getPos_bind (Ok.bind (Ok.textOf (Ok.ohsp hh)) fun space s2 h2 => Ok.bind_pure (Ok.rule ?_)))
  exact hn s2 (mono_textOf (mono_skipMany isHsp) _ _ _ _ h2)

/-- `name <- atoms (hsp? name)?`, the shape of `string` and `static_string`: the recursion of `stringF` is the recursion of
    the rule; one level of rule calls per atom -/
theorem stringF_ok (t : Array Char) {name : String} {static : Bool} {atoms : PExpr}
    (hb : Gen.grammarRules.lookup name = some (.cat atoms (.maybe (.cat (.maybe (.rule "hsp")) (.rule name)))))
    (hatoms : ∀ g (s : PState), 5 ≤ g → Ok (genRun t g) t atoms (atom static) s) :
    ∀ (k f : Nat) (s : PState), t.size - s.pos < k → t.size - s.pos + 6 ≤ f →
      genRun t f name s.pos = proj (stringF static k t s)
  | 0, _, _, hk, _ => by omega
  | k + 1, f, s, hk, hf => run_of_body hb hf fun g hg => by
    rw [stringF_succ]
    refine Ok.bind (hatoms g s (by omega)) fun first s1 h1 =>
      Ok.bind_pure (ok_stringMore (rule_hsp t (by omega)) fun s2 h2 => ?_)
    have a1 := adv_atom static _ _ _ _ h1
    have a2 := needs_atom static _ _ _ h1
    exact stringF_ok t hb hatoms k g s2 (by omega) (by omega)

/-- `string <- (naked_string / s_quoted_string / d_quoted_string / bracketed_string) (hsp? string)?` -/
theorem run_string (t : Array Char) {f : Nat} (s : PState) (hf : t.size - s.pos + 6 ≤ f) :
    genRun t f "string" s.pos = proj (string false t s) := by
  unfold string
  rw [bind_apply, remaining_apply]
  refine stringF_ok t rfl (fun g s hg => ?_) _ f s (by omega) hf
  unfold atom
  exact Ok.orElse (Ok.rule (rule_naked_string t (by omega) s))
    (Ok.orElse (Ok.rule (rule_s_quoted_string t (by omega) s))
      (Ok.orElse (Ok.rule (rule_d_quoted_string t (by omega) s)) (Ok.rule (rule_bracketed_string t hg s))))

/-- `static_string <- (naked_string / s_quoted_string / d_quoted_string) (hsp? static_string)?` -/
theorem run_static_string (t : Array Char) {f : Nat} (s : PState) (hf : t.size - s.pos + 6 ≤ f) :
    genRun t f "static_string" s.pos = proj (string true t s) := by
  unfold string
  rw [bind_apply, remaining_apply]
  refine stringF_ok t rfl (fun g s hg => ?_) _ f s (by omega) hf
  unfold atom
  exact Ok.orElse (Ok.rule (rule_naked_string t (by omega) s))
    (Ok.orElse (Ok.rule (rule_s_quoted_string t (by omega) s)) (Ok.orFail (Ok.rule (rule_d_quoted_string t (by omega) s))))

/-- `output`, `action`, `ingredient`: other names for `string` -/
theorem run_output (t : Array Char) {f : Nat} (s : PState) (hf : t.size - s.pos + 7 ≤ f) :
    genRun t f "output" s.pos = proj (string false t s) :=
  run_of_body rfl hf fun _ hg => Ok.rule (run_string t s hg)

theorem run_action (t : Array Char) {f : Nat} (s : PState) (hf : t.size - s.pos + 7 ≤ f) :
    genRun t f "action" s.pos = proj (string false t s) :=
  run_of_body rfl hf fun _ hg => Ok.rule (run_string t s hg)

theorem run_ingredient (t : Array Char) {f : Nat} (s : PState) (hf : t.size - s.pos + 7 ≤ f) :
    genRun t f "ingredient" s.pos = proj (string false t s) :=
  run_of_body rfl hf fun _ hg => Ok.rule (run_string t s hg)

theorem run_freeform_unit (t : Array Char) {f : Nat} (s : PState) (hf : t.size - s.pos + 7 ≤ f) :
    genRun t f "freeform_unit" s.pos = proj (string true t s) :=
  run_of_body rfl hf fun _ hg => Ok.rule (run_static_string t s hg)

theorem rule_remainder (t : Array Char) {f : Nat} (hf : 1 ≤ f) : RuleOk t f "remainder" remainder :=
  RuleOk.of_body rfl hf fun _ _ _ => Ok.termSelf Rx.scanIs_remainder.unif

theorem rule_preposition (t : Array Char) {f : Nat} (hf : 1 ≤ f) : RuleOk t f "preposition" preposition :=
  RuleOk.of_body rfl hf fun _ _ _ => Ok.termSelf Rx.scanIs_preposition.unif

theorem rule_known_unit (t : Array Char) {f : Nat} (hf : 1 ≤ f) : RuleOk t f "known_unit" knownUnit :=
  RuleOk.of_body rfl hf fun _ _ _ => Ok.termSelf Rx.scanIs_knownUnit.unif

section
variable {call : String → Nat → PegRes} {t : Array Char} {s : PState}

theorem ok_hsp_preposition (hh : ∀ s : PState, call "hsp" s.pos = proj (hsp t s))
    (hp : ∀ s : PState, call "preposition" s.pos = proj (preposition t s)) :
    Ok call t (.cat (.rule "hsp") (.rule "preposition")) (hsp >>= fun _ => preposition) s :=
  Ok.bind (Ok.rule (hh s)) fun _ s1 _ => Ok.rule (hp s1)

/-- `(hsp preposition)?` -/
theorem ok_hspPreposition (hh : ∀ s : PState, call "hsp" s.pos = proj (hsp t s))
    (hp : ∀ s : PState, call "preposition" s.pos = proj (preposition t s)) :
    Ok call t (.maybe (.cat (.rule "hsp") (.rule "preposition"))) hspPreposition s :=
  Ok.orPure (Ok.textOf (ok_hsp_preposition hh hp))

end

/-- `proportion <- remainder (hsp preposition)? / number (hsp preposition / hsp? "%" (hsp preposition)? / hsp? "*")` -/
theorem rule_proportion (t : Array Char) {f : Nat} (hf : 4 ≤ f) : RuleOk t f "proportion" proportion :=
  RuleOk.of_body rfl hf fun g hg s => by
    have hh := rule_hsp t (f := g) (by omega)
    have hp := rule_preposition t (f := g) (by omega)
    unfold proportion
    refine Ok.orElse ?_ ?_
    · refine Ok.getPos_bind (Ok.bind (Ok.textOf (Ok.rule (rule_remainder t (by omega) s))) fun _ s1 _ => ?_)
      exact Ok.bind_pure (ok_hspPreposition hh hp)
    · refine Ok.bind (Ok.rule (rule_number t hg s)) fun a s1 _ => ?_
      obtain ⟨off, v⟩ := a
      refine Ok.orElse ?_ (Ok.orElse ?_ ?_)
      · exact Ok.bind_pure (Ok.textOf (ok_hsp_preposition hh hp))
      · refine Ok.bind_pure (Ok.textOf ?_)
        exact Ok.bind (Ok.ohsp hh) fun _ s2 _ => Ok.bind Ok.lit fun _ s3 _ => Ok.bind_pure (ok_hspPreposition hh hp)
      · refine Ok.bind_pure (Ok.textOf ?_)
        exact Ok.bind (Ok.ohsp hh) fun _ s2 _ => Ok.lit

/-- `implicit_quantity <- number (hsp? known_unit (hsp preposition)?)?` -/
theorem rule_implicit_quantity (t : Array Char) {f : Nat} (hf : 4 ≤ f) :
    RuleOk t f "implicit_quantity" implicitQuantity :=
  RuleOk.of_body rfl hf fun g hg s => by
    have hh := rule_hsp t (f := g) (by omega)
    have hp := rule_preposition t (f := g) (by omega)
    unfold implicitQuantity
    refine Ok.bind (Ok.rule (rule_number t hg s)) fun a s1 _ => ?_
    obtain ⟨off, v⟩ := a
    refine Ok.bind_silent (Ok.opt ?_) fun unit s' => ?_
    · refine Ok.bind (Ok.textOf (Ok.ohsp hh)) fun spacing s2 _ => Ok.getPos_bind ?_
      refine Ok.bind (Ok.textOf (Ok.rule (rule_known_unit t (by omega) s2))) fun name s3 _ => ?_
      exact Ok.bind_pure (ok_hspPreposition hh hp)
    · cases unit with
      | none => exact ⟨_, rfl⟩
      | some u => obtain ⟨spacing, u, prep⟩ := u; exact ⟨_, rfl⟩

/-- `explicit_quantity <- "{" hsp? number (hsp? freeform_unit)? hsp? "}" (hsp preposition)?` -/
theorem run_explicit_quantity (t : Array Char) {f : Nat} (s : PState) (hf : t.size - s.pos + 8 ≤ f) :
    genRun t f "explicit_quantity" s.pos = proj (explicitQuantity t s) :=
  run_of_body rfl hf fun g hg => by
    have hh := rule_hsp t (f := g) (by omega)
    have hp := rule_preposition t (f := g) (by omega)
    unfold explicitQuantity
    refine Ok.getPos_bind (Ok.bind Ok.lit fun _ s1 h1 => Ok.bind (Ok.ohsp hh) fun _ s2 h2 => ?_)
    have a1 := (adv_lit _).mono _ _ _ _ h1
    have a2 := mono_skipMany isHsp _ _ _ _ h2
    refine Ok.bind (Ok.rule (rule_number t (by omega) s2)) fun a s3 h3 => ?_
    obtain ⟨off, v⟩ := a
    have a3 := adv_number.mono _ _ _ _ h3
    refine Ok.bind (Ok.opt ?_) fun unit s4 _ => ?_
    · refine Ok.bind (Ok.textOf (Ok.ohsp hh)) fun spacing s5 h5 => Ok.bind_pure (Ok.rule ?_)
      have a5 := mono_textOf (mono_skipMany isHsp) _ _ _ _ h5
      exact run_freeform_unit t s5 (by omega)
    · refine Ok.bind (Ok.ohsp hh) fun _ s6 _ => Ok.bind Ok.lit fun _ s7 _ => ?_
      exact Ok.bind_pure (ok_hspPreposition hh hp)

/-- `reference <- ((proportion / explicit_quantity / implicit_quantity) hsp?)? ingredient` -/
theorem run_reference (t : Array Char) {f : Nat} (s : PState) (hf : t.size - s.pos + 9 ≤ f) :
    genRun t f "reference" s.pos = proj (reference t s) :=
  run_of_body rfl hf fun g hg => by
    have hh := rule_hsp t (f := g) (by omega)
    rw [reference_eq]
    refine Ok.bind (Ok.opt (Ok.bind ?_ fun a s1 _ => Ok.bind_pure (Ok.ohsp hh))) fun amount s2 h2 => Ok.bind_pure (Ok.rule ?_)
    · unfold amount
      exact Ok.orElse (Ok.rule (rule_proportion t (by omega) s))
        (Ok.orElse (Ok.rule (run_explicit_quantity t s hg)) (Ok.rule (rule_implicit_quantity t (by omega) s)))
    · have a2 := mono_optAmount _ _ _ _ h2
      exact run_ingredient t s2 (by omega)

/-! `expr`, `step`, `ltr_shorthand` call each other; the hand-written `expr` takes fuel -/

/-- `step <- action hsp? "(" sp? expr (sp? "," sp? expr)* (sp? ",")? sp? ")"`, given that the rule `expr` (further down)
    agrees with the sub-parser `e` to the right of the start -/
theorem step_ok (t : Array Char) {n f : Nat} {e : P AExpr} (he : Mono e) (s : PState) (hn : t.size - s.pos + 8 ≤ n)
    (hf : n + 1 ≤ f) (hexpr : ∀ g, n ≤ g → ∀ s' : PState, s.pos < s'.pos → s.pos < t.size →
      genRun t g "expr" s'.pos = proj (e t s')) :
    genRun t f "step" s.pos = proj (step e t s) :=
  run_of_body rfl hf fun g hg => by
    have hh := rule_hsp t (f := g) (by omega)
    have hs := rule_sp t (f := g) (by omega)
    have hexpr := hexpr g hg
    rw [step_eq]
    refine Ok.bind (Ok.rule (run_action t s (by omega))) fun name s1 h1 => ?_
    have a0 := needs_string false _ _ _ h1
    have a1 := adv_string false _ _ _ _ h1
    refine Ok.bind (Ok.ohsp hh) fun _ s2 h2 => Ok.bind Ok.lit fun _ s3 h3 => Ok.bind (Ok.osp hs) fun _ s4 h4 => ?_
    have a2 := mono_ohsp _ _ _ _ h2
    have a3 := adv_lit _ _ _ _ _ h3
    have a4 := mono_osp _ _ _ _ h4
    refine Ok.bind (Ok.rule (hexpr s4 (by omega) a0)) fun first s5 h5 => ?_
    have a5 := he _ _ _ _ h5
    refine Ok.bind (Ok.many (adv_commaExpr he) (needs_commaExpr e) fun s' hs' => ?_) fun rest s6 _ => ?_
    · unfold commaExpr
      refine Ok.bind (Ok.osp hs) fun _ s7 h7 => Ok.bind Ok.lit fun _ s8 h8 => Ok.bind (Ok.osp hs) fun _ s9 h9 => ?_
      have a7 := mono_osp _ _ _ _ h7
      have a8 := adv_lit _ _ _ _ _ h8
      have a9 := mono_osp _ _ _ _ h9
      exact Ok.rule (hexpr s9 (by omega) a0)
    · refine Ok.bind (Ok.opt (Ok.bind (Ok.osp hs) fun _ _ _ => Ok.lit)) fun _ s7 _ => ?_
      exact Ok.bind (Ok.osp hs) fun _ s8 _ => Ok.bind_pure Ok.lit

/-- `(hsp? "," hsp? name)*` for a rule `name` that is `string` -/
theorem ok_commaStrings {call : String → Nat → PegRes} {t : Array Char} {s : PState} {name : String}
    (hh : ∀ s : PState, call "hsp" s.pos = proj (hsp t s))
    (hn : ∀ s' : PState, s.pos ≤ s'.pos → call name s'.pos = proj (string false t s')) :
    Ok call t (.star (.cat (.maybe (.rule "hsp")) (.cat (.term ",") (.cat (.maybe (.rule "hsp")) (.rule name)))))
      (many commaString) s := by
  refine Ok.many adv_commaString needs_commaString fun s' hs' => ?_
  unfold commaString
  refine Ok.bind (Ok.ohsp hh) fun _ s1 h1 => Ok.bind Ok.lit fun _ s2 h2 => Ok.bind (Ok.ohsp hh) fun _ s3 h3 => ?_
  have a1 := mono_ohsp _ _ _ _ h1
  have a2 := adv_lit _ _ _ _ _ h2
  have a3 := mono_ohsp _ _ _ _ h3
  exact Ok.rule (hn s3 (by omega))

/-- `ltr_shorthand <- expr (hsp? "," hsp? action)*`, given that the rule `expr` (further down) agrees with the sub-parser
    `e` from the start on -/
theorem ltr_ok (t : Array Char) {n f : Nat} {e : P AExpr} (he : Mono e) (s : PState) (hn : t.size - s.pos + 7 ≤ n)
    (hf : n + 1 ≤ f) (hexpr : ∀ g, n ≤ g → genRun t g "expr" s.pos = proj (e t s)) :
    genRun t f "ltr_shorthand" s.pos = proj (ltrShorthand e t s) :=
  run_of_body rfl hf fun g hg => by
    rw [ltrShorthand_eq]
    refine Ok.bind (Ok.rule (hexpr g hg)) fun first s1 h1 => Ok.bind_pure ?_
    have a1 := he _ _ _ _ h1
    exact ok_commaStrings (rule_hsp t (by omega)) fun s' hs' => run_action t s' (by omega)

/-- `expr <- step / reference / "(" sp? ltr_shorthand sp? ")"` -/
theorem expr_ok (t : Array Char) : ∀ (k f : Nat) (s : PState), t.size - s.pos < k → 2 * (t.size - s.pos) + 16 ≤ f →
    genRun t f "expr" s.pos = proj (expr k t s)
  | 0, _, _, hk, _ => by omega
  | k + 1, f, s, hk, hf => run_of_body rfl hf fun g hg => by
    have hs := rule_sp t (f := g) (by omega)
    have hmono := (adv_expr k).mono
    rw [expr_succ]
    refine Ok.orElse (Ok.rule ?_) (Ok.orElse (Ok.rule (run_reference t s (by omega))) ?_)
    · exact step_ok (n := 2 * (t.size - s.pos) + 14) t hmono s (by omega) (by omega) fun g' hg' s' h1 h2 =>
        expr_ok t k g' s' (by omega) (by omega)
    · refine Ok.bind Ok.lit fun _ s1 h1 => Ok.bind (Ok.osp hs) fun _ s2 h2 => ?_
      have a0 := needs_lit _ _ _ _ h1
      have a1 := adv_lit _ _ _ _ _ h1
      have a2 := mono_osp _ _ _ _ h2
      refine Ok.bind (Ok.rule (ltr_ok (n := 2 * (t.size - s.pos) + 14) t hmono s2 (by omega) (by omega) fun g' hg' =>
        expr_ok t k g' s2 (by omega) (by omega))) fun e s3 _ => ?_
      exact Ok.bind (Ok.osp hs) fun _ s4 _ => Ok.bind_pure Ok.lit

theorem rule_eol (t : Array Char) {f : Nat} (hf : 2 ≤ f) : RuleOk t f "eol" eol :=
  RuleOk.of_body rfl hf fun g hg s => by
    unfold eol
    refine Ok.orElse (Ok.term (scan := eolBreak) (by simp only [terminalScanner]) Rx.scanIs_eolBreak.unif rfl) ?_
    exact Ok.bind (Ok.termSelf (unif_skipMany _)) fun _ s1 _ => Ok.rule (rule_eof t hg s1)

theorem run_output_list (t : Array Char) {f : Nat} (s : PState) (hf : t.size - s.pos + 8 ≤ f) :
    genRun t f "output_list" s.pos = proj (outputList t s) :=
  run_of_body rfl hf fun g hg => by
    rw [outputList_eq]
    refine Ok.bind (Ok.rule (run_output t s hg)) fun first s1 h1 => Ok.bind_pure ?_
    have a1 := mono_string false _ _ _ _ h1
    exact ok_commaStrings (rule_hsp t (by omega)) fun s' hs' => run_output t s' (by omega)

/-- `stmt <- (output_list hsp? r":?=" hsp?)? ltr_shorthand eol` -/
theorem run_stmt (t : Array Char) {f : Nat} (s : PState) (hf : 2 * (t.size - s.pos) + 18 ≤ f) :
    genRun t f "stmt" s.pos = proj (stmt t s) :=
  run_of_body rfl hf fun g hg => by
    have hh := rule_hsp t (f := g) (by omega)
    rw [stmt_eq]
    refine Ok.bind (Ok.opt ?_) fun target s1 h1 => Ok.remaining_bind ?_
    · unfold targetP
      refine Ok.bind (Ok.rule (run_output_list t s (by omega))) fun outputs s2 _ => Ok.bind (Ok.ohsp hh) fun _ s3 _ => ?_
      exact Ok.bind (Ok.termRx Rx.scanIs_assign) fun named s4 _ => Ok.bind_pure (Ok.ohsp hh)
    · have a1 := mono_opt mono_targetP _ _ _ _ h1
      refine Ok.bind (Ok.rule (ltr_ok (n := 2 * (t.size - s.pos) + 16) t (adv_expr _).mono s1 (by omega) (by omega)
        fun g' hg' => expr_ok t _ g' s1 (by omega) (by omega))) fun e s2 _ => ?_
      exact Ok.bind_pure (Ok.rule (rule_eol t (by omega) s2))

theorem run_recipe (t : Array Char) {f : Nat} (s : PState) (hf : 2 * (t.size - s.pos) + 19 ≤ f) :
    genRun t f "recipe" s.pos = proj (recipe t s) :=
  run_of_body rfl hf fun g hg => by
    have hs := rule_sp t (f := g) (by omega)
    rw [recipe_eq]
    refine Ok.bind (Ok.osp hs) fun _ s1 h1 => ?_
    have a1 := mono_osp _ _ _ _ h1
    refine Ok.plus_bind adv_stmt needs_stmt (fun s' hs' => Ok.rule (run_stmt t s' (by omega))) fun a as s' _ => ?_
    exact Ok.bind_pure (Ok.rule (rule_eof t (by omega) s'))

end Peg
end RG
