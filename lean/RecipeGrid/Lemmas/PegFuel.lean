import RecipeGrid.Model.Peg
/-! The generic recogniser of `Model/Peg.lean` and its fuel: a run that did not run out of fuel gives the same result
    with any larger fuel (for every grammar and every table of scanners). -/
namespace RG
namespace Peg

def Carries (r r' : PegRes) : Prop := r = .err .fuel ∨ r' = r

def Extends (call call' : String → Nat → PegRes) : Prop := ∀ n j, Carries (call n j) (call' n j)

theorem pegStar_extends {b b' : Nat → PegRes} (h : ∀ j, Carries (b j) (b' j)) :
    ∀ k i, Carries (pegStar b k i) (pegStar b' k i)
  | 0, _ => .inl rfl
  | k + 1, i => by
    unfold pegStar
    rcases h i with hb | hb
    · exact .inl (by rw [hb])
    · rw [hb]
      cases b i with
      | ok j =>
        simp only
        split
        · exact .inr rfl
        · exact pegStar_extends h k j
      | fail | err e => exact .inr rfl

variable {terms : String → Option (Parser.P Unit)} {t : Array Char}

/-- every operator hands an error of a part on, so a part that ran out of fuel makes the whole run out of fuel; a part that
    did not is the same with more fuel -/
theorem pegExpr_extends {call call' : String → Nat → PegRes} (h : Extends call call') :
    ∀ (e : PExpr) (i : Nat), Carries (pegExpr call terms t e i) (pegExpr call' terms t e i)
  | .empty, _ | .term _, _ | .unsupported _, _ => .inr rfl
  | .rule n, i => h n i
  | .cat a b, i => by
    simp only [pegExpr]
    rcases pegExpr_extends h a i with ha | ha
    · exact .inl (by rw [ha])
    · rw [ha]
      cases pegExpr call terms t a i with
      | ok j => exact pegExpr_extends h b j
      | fail | err e => exact .inr rfl
  | .alt a b, i => by
    simp only [pegExpr]
    rcases pegExpr_extends h a i with ha | ha
    · exact .inl (by rw [ha])
    · rw [ha]
      cases pegExpr call terms t a i with
      | fail => exact pegExpr_extends h b i
      | ok j | err e => exact .inr rfl
  | .star a, i => by
    simp only [pegExpr]
    exact pegStar_extends (pegExpr_extends h a) _ _
  | .plus a, i => by
    simp only [pegExpr]
    rcases pegExpr_extends h a i with ha | ha
    · exact .inl (by rw [ha])
    · rw [ha]
      cases pegExpr call terms t a i with
      | ok j =>
        simp only
        split
        · exact .inr rfl
        · exact pegStar_extends (pegExpr_extends h a) _ _
      | fail | err e => exact .inr rfl
  | .maybe a, i | .notp a, i | .andp a, i => by
    simp only [pegExpr]
    rcases pegExpr_extends h a i with ha | ha
    · exact .inl (by rw [ha])
    · exact .inr (by rw [ha])

variable {rules : List (String × PExpr)}

theorem pegRun_extends : ∀ f, Extends (pegRun rules terms t f) (pegRun rules terms t (f + 1))
  | 0, _, _ => .inl rfl
  | f + 1, n, j => by
    unfold pegRun
    cases rules.lookup n with
    | none => exact .inr rfl
    | some body => exact pegExpr_extends (pegRun_extends f) body j

theorem pegRun_fuel_mono {f f' : Nat} (hle : f ≤ f') (name : String) (i : Nat)
    (hne : pegRun rules terms t f name i ≠ .err .fuel) :
    pegRun rules terms t f' name i = pegRun rules terms t f name i := by
  induction f' with
  | zero => rw [Nat.le_zero.1 hle]
  | succ g ih =>
    rcases Nat.lt_or_ge f (g + 1) with hlt | hge
    · have h1 := ih (by omega)
      rw [← h1] at hne ⊢
      exact (pegRun_extends g name i).resolve_left hne
    · rw [show f = g + 1 by omega]

end Peg
end RG
