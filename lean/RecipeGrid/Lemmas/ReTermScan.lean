import RecipeGrid.Lemmas.ReTerm
/-! Where the scanners of `Model/Parser.lean` end, as functions of the start position (`Ends`), one combinator lemma per
    construct of the parser monad; and the closed forms of the simple scanners. -/
namespace RG
namespace Rx
open Parser Peg

def Ends {α} (scan : P α) (t : Array Char) (f : Nat → Option Nat) : Prop :=
  ∀ i z, (scan t ⟨i, z⟩).map (fun r => r.2) = (f i).map fun j => (⟨j, z⟩ : PState)

section
variable {t : Array Char}

theorem Ends.cases {α} {scan : P α} {f : Nat → Option Nat} (h : Ends scan t f) (i : Nat) (z : Bool) :
    (scan t ⟨i, z⟩ = none ∧ f i = none) ∨ ∃ a j, scan t ⟨i, z⟩ = some (a, ⟨j, z⟩) ∧ f i = some j := by
  have := h i z
  cases hs : scan t ⟨i, z⟩ with
  | none =>
    cases hf : f i with
    | none => exact .inl ⟨rfl, rfl⟩
    | some j => rw [hs, hf] at this; cases this
  | some r =>
    cases hf : f i with
    | none => rw [hs, hf] at this; cases this
    | some j => obtain ⟨a, s⟩ := r; rw [hs, hf] at this; cases this; exact .inr ⟨a, j, rfl, rfl⟩

theorem Ends.unit {scan : P Unit} {f : Nat → Option Nat} (h : Ends scan t f) (i : Nat) (z : Bool) :
    scan t ⟨i, z⟩ = (f i).map fun j => ((), (⟨j, z⟩ : PState)) := by
  rcases h.cases i z with ⟨h1, h2⟩ | ⟨a, j, h1, h2⟩ <;> rw [h1, h2] <;> rfl

theorem Ends.congr {α} {scan : P α} {f g : Nat → Option Nat} (h : Ends scan t f) (hfg : ∀ i, f i = g i) : Ends scan t g := by
  intro i z; rw [← hfg]; exact h i z

theorem ends_pure {α} (a : α) : Ends (pure a : P α) t some := fun _ _ => rfl

theorem ends_fail {α} : Ends (fail : P α) t (fun _ => none) := fun _ _ => rfl

theorem ends_getPos : Ends getPos t some := fun _ _ => rfl

theorem Ends.bind {α β} {m : P α} {f : α → P β} {fm g : Nat → Option Nat} (hm : Ends m t fm) (hf : ∀ a, Ends (f a) t g) :
    Ends (m >>= f) t (fun i => (fm i).bind g) := by
  intro i z
  simp only [bind_apply]
  rcases hm.cases i z with ⟨h1, h2⟩ | ⟨a, j, h1, h2⟩ <;> rw [h1, h2]
  · rfl
  · exact hf a j z

theorem Ends.map {α β} {g : α → β} {p : P α} {f : Nat → Option Nat} (h : Ends p t f) : Ends (g <$> p) t f := by
  have := Ends.bind h (fun a => ends_pure (t := t) (g a))
  refine Ends.congr (scan := g <$> p) ?_ (fun i => by cases f i <;> rfl) (f := fun i => (f i).bind some)
  exact this

theorem Ends.orElse {α} {p q : P α} {f g : Nat → Option Nat} (hp : Ends p t f) (hq : Ends q t g) :
    Ends (p <|> q) t (fun i => orE (f i) (g i)) := by
  intro i z
  simp only [orElse_apply]
  rcases hp.cases i z with ⟨h1, h2⟩ | ⟨a, j, h1, h2⟩ <;> rw [h1, h2]
  · exact hq i z
  · rfl

theorem Ends.opt {α} {p : P α} {f : Nat → Option Nat} (hp : Ends p t f) :
    Ends (Parser.opt p) t (fun i => orE (f i) (some i)) :=
  Ends.orElse (Ends.map hp) (ends_pure _)

theorem Ends.void {α} {p : P α} {f : Nat → Option Nat} (hp : Ends p t f) : Ends (Peg.void p) t f := by
  refine Ends.congr (Ends.bind hp fun _ => ends_pure ()) (fun i => by cases f i <;> rfl)

theorem ends_sat (p : Char → Bool) : Ends (sat p) t (fun i => step t p i some) := by
  intro i z
  simp only [sat, step]
  cases t[i]? with
  | none => rfl
  | some c => cases p c <;> simp

theorem ends_lit (c : Char) : Ends (lit c) t (fun i => step t (· == c) i some) := by
  refine Ends.congr (Ends.bind (ends_sat _) fun _ => ends_pure ()) (fun i => ?_)
  cases step t (fun x => x == c) i some <;> rfl

theorem ends_skipMany (p : Char → Bool) : Ends (skipMany p) t (fun i => some (spanEnd p t i)) := fun _ _ => rfl

theorem ends_skipMany1 (p : Char → Bool) : Ends (skipMany1 p) t (fun i => step t p i (fun j => some (spanEnd p t j))) := by
  refine Ends.congr (Ends.bind (ends_sat p) fun _ => ends_skipMany p) (fun i => ?_)
  simp only [step]
  cases t[i]? with
  | none => rfl
  | some c => cases hp : p c <;> simp [hp]

theorem Ends.withText {α} {p : P α} {f : Nat → Option Nat} (hp : Ends p t f) : Ends (Parser.withText p) t f := by
  intro i z
  simp only [Parser.withText]
  rcases hp.cases i z with ⟨h1, h2⟩ | ⟨a, j, h1, h2⟩ <;> rw [h1, h2] <;> rfl

theorem Ends.textOf {p : P Unit} {f : Nat → Option Nat} (hp : Ends p t f) : Ends (Parser.textOf p) t f := by
  refine Ends.congr (Ends.bind (Ends.withText hp) fun _ => ends_pure _) (fun i => by cases f i <;> rfl)

theorem ends_wordBoundary : Ends wordBoundary t (fun i => if wordBoundaryAt t i then some i else none) := by
  intro i z
  simp only [wordBoundary]
  cases wordBoundaryAt t i <;> rfl

end
end Rx
end RG
