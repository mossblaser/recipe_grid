import RecipeGrid.Lemmas.ParserErrBound
/-! Prefix stability of the scanners of `Model/Parser.lean` (the terminals of the grammar): how a scanner started inside
    `a` behaves on `a ++ b`, when `a` ends in a line break (`Cut a`).  Either it does exactly what it does on `a`
    (`Ex`, "exactly": most scanners cannot pass a line break), or it matches up to or beyond the end of `a` (`Lp`, "the same
    on the longer text, or past the prefix"). -/
namespace RG

namespace ParserE
open Parser (P PState Mono isNakedEdge isNakedInner)

def Cut (a : Str) : Prop := ∃ c, a.getLast? = some c ∧ isNewline c = true

theorem Cut.ne_nil {a : Str} (h : Cut a) : a ≠ [] := by
  obtain ⟨c, hc, _⟩ := h
  intro e; subst e; cases hc

theorem Cut.length_pos {a : Str} (h : Cut a) : 0 < a.length := List.length_pos_iff.2 h.ne_nil

theorem Cut.mem_drop {a : Str} (h : Cut a) {i : Nat} (hi : i < a.length) :
    ∃ c ∈ a.drop i, isNewline c = true := by
  obtain ⟨c, hc, hn⟩ := h
  refine ⟨c, ?_, hn⟩
  have : (a.drop i).getLast? = some c := by
    rw [List.getLast?_drop, if_neg (by omega), hc]
  exact List.mem_of_getLast? this

section
variable (a b : Str)

theorem getElem?_cut {i : Nat} (hi : i < a.length) : (a ++ b).toArray[i]? = a.toArray[i]? := by
  simp [List.getElem?_append_left hi]

theorem size_cut : (a ++ b).toArray.size = a.length + b.length := by simp

theorem takeWhile_length_lt (q : Char → Bool) : ∀ (x : Str), (∃ c ∈ x, q c = false) →
    (x.takeWhile q).length < x.length
  | [], h => by obtain ⟨c, hc, _⟩ := h; cases hc
  | d :: x, h => by
    simp only [List.takeWhile_cons]
    by_cases hd : q d = true
    · simp only [hd, if_true, List.length_cons]
      have := takeWhile_length_lt q x (by
        obtain ⟨c, hc, hq⟩ := h
        rcases List.mem_cons.mp hc with rfl | hc
        · rw [hd] at hq; cases hq
        · exact ⟨c, hc, hq⟩)
      omega
    · simp [hd]

theorem takeWhile_append_of_neg (q : Char → Bool) (x y : Str) (h : ∃ c ∈ x, q c = false) :
    (x ++ y).takeWhile q = x.takeWhile q := by
  rw [List.takeWhile_append, if_neg (Nat.ne_of_lt (takeWhile_length_lt q x h))]

theorem takeWhile_all (q : Char → Bool) (x : Str) (h : ∀ c ∈ x, q c = true) : x.takeWhile q = x := by
  have := takeWhile_run (rest := []) h (fun c hc => by cases hc)
  rwa [List.append_nil] at this

theorem spanEnd_cut_eq (hcut : Cut a) (q : Char → Bool) (hq : ∀ c, isNewline c = true → q c = false) {i : Nat}
    (hi : i < a.length) :
    Parser.spanEnd q (a ++ b).toArray i = Parser.spanEnd q a.toArray i ∧ Parser.spanEnd q a.toArray i < a.length := by
  rw [Parser.spanEnd_eq_takeWhile, Parser.spanEnd_eq_takeWhile]
  dsimp only
  rw [List.drop_append_of_le_length (by omega)]
  obtain ⟨c, hc, hn⟩ := hcut.mem_drop hi
  have hex : ∃ c ∈ a.drop i, q c = false := ⟨c, hc, hq c hn⟩
  rw [takeWhile_append_of_neg q _ _ hex]
  refine ⟨rfl, ?_⟩
  have := takeWhile_length_lt q _ hex
  simp only [List.length_drop] at this
  omega

theorem spanEnd_cut (q : Char → Bool) {i : Nat} (hi : i ≤ a.length) :
    Parser.spanEnd q (a ++ b).toArray i = Parser.spanEnd q a.toArray i ∨
    (a.length ≤ Parser.spanEnd q (a ++ b).toArray i ∧ Parser.spanEnd q a.toArray i = a.length) := by
  rw [Parser.spanEnd_eq_takeWhile, Parser.spanEnd_eq_takeWhile]
  dsimp only
  rw [List.drop_append_of_le_length hi]
  by_cases hex : ∃ c ∈ a.drop i, q c = false
  · left
    rw [takeWhile_append_of_neg q _ _ hex]
  · right
    have hall : ∀ c ∈ a.drop i, q c = true := fun c hc => by
      cases hqc : q c with
      | true => rfl
      | false => exact absurd ⟨c, hc, hqc⟩ hex
    rw [List.takeWhile_append_of_pos hall, takeWhile_all q _ hall]
    simp only [List.length_append, List.length_drop]
    omega

theorem trimBack_cut (q : Char → Bool) (lo : Nat) : ∀ hi, hi ≤ a.length →
    Parser.trimBack q (a ++ b).toArray lo hi = Parser.trimBack q a.toArray lo hi
  | 0, _ => rfl
  | k + 1, h => by
    unfold Parser.trimBack
    rw [getElem?_cut a b (by omega), trimBack_cut q lo k (by omega)]

/-! ## scanners that cannot pass a line break do the same on `a ++ b` -/

def Ex {α : Type} (p : P α) : Prop := ∀ s : PState, s.pos < a.length →
  p (a ++ b).toArray s = p a.toArray s ∧ ∀ x s1, p a.toArray s = some (x, s1) → s1.pos < a.length

variable {a b}

theorem Ex.pure {α : Type} (x : α) : Ex a b (pure x : P α) := by
  intro s hs
  refine ⟨rfl, ?_⟩
  intro y s1 e; cases e; exact hs

theorem Ex.fail {α : Type} : Ex a b (Parser.fail : P α) := by
  intro s _
  refine ⟨rfl, ?_⟩
  intro y s1 e; cases e

theorem Ex.getPos : Ex a b Parser.getPos := by
  intro s hs
  refine ⟨rfl, ?_⟩
  intro y s1 e; cases e; exact hs

theorem Ex.bind {α β : Type} {m : P α} {f : α → P β} (hm : Ex a b m) (hf : ∀ x, Ex a b (f x)) : Ex a b (m >>= f) := by
  intro s hs
  obtain ⟨h1, h2⟩ := hm s hs
  rw [Parser.bind_apply, Parser.bind_apply, h1]
  cases hr : m a.toArray s with
  | none =>
    refine ⟨rfl, ?_⟩
    intro y s1 e; cases e
  | some r =>
    obtain ⟨x, s1⟩ := r
    exact hf x s1 (h2 x s1 hr)

theorem Ex.orElse {α : Type} {p q : P α} (hp : Ex a b p) (hq : Ex a b q) : Ex a b (p <|> q) := by
  intro s hs
  obtain ⟨h1, h2⟩ := hp s hs
  rw [Parser.orElse_apply, Parser.orElse_apply, h1]
  cases hr : p a.toArray s with
  | none => exact hq s hs
  | some r =>
    refine ⟨rfl, ?_⟩
    intro y s1 e; cases e; exact h2 _ _ hr

theorem Ex.map {α β : Type} (f : α → β) {p : P α} (hp : Ex a b p) : Ex a b (f <$> p) :=
  Ex.bind hp fun _ => Ex.pure _

theorem Ex.opt {α : Type} {p : P α} (hp : Ex a b p) : Ex a b (Parser.opt p) :=
  Ex.orElse (Ex.map _ hp) (Ex.pure _)

theorem sat_cut (q : Char → Bool) {s : PState} (hs : s.pos < a.length) :
    Parser.sat q (a ++ b).toArray s = Parser.sat q a.toArray s := by
  unfold Parser.sat
  rw [getElem?_cut a b hs]

theorem Ex.sat (hcut : Cut a) (q : Char → Bool) (hq : ∀ c, isNewline c = true → q c = false) : Ex a b (Parser.sat q) := by
  intro s hs
  refine ⟨sat_cut q hs, ?_⟩
  unfold Parser.sat
  intro y s1 e
  cases hc : a.toArray[s.pos]? with
  | none => rw [hc] at e; cases e
  | some c =>
    rw [hc] at e
    simp only at e
    split at e
    · rename_i hqc
      cases e
      simp only
      -- `s.pos` is not the last index of `a`, which holds a line break
      refine Nat.lt_of_not_le fun hge => ?_
      have hlast : s.pos = a.length - 1 := by omega
      obtain ⟨d, hd, hn⟩ := hcut
      have : a.toArray[s.pos]? = some d := by
        rw [hlast, List.getElem?_toArray, ← List.getLast?_eq_getElem?, hd]
      rw [this] at hc
      cases hc
      rw [hq _ hn] at hqc
      cases hqc
    · cases e

theorem Ex.skipMany (hcut : Cut a) (q : Char → Bool) (hq : ∀ c, isNewline c = true → q c = false) :
    Ex a b (Parser.skipMany q) := by
  intro s hs
  unfold Parser.skipMany
  obtain ⟨h1, h2⟩ := spanEnd_cut_eq a b hcut q hq hs
  rw [h1]
  refine ⟨rfl, ?_⟩
  intro y s1 e; cases e; exact h2

theorem Ex.skipMany1 (hcut : Cut a) (q : Char → Bool) (hq : ∀ c, isNewline c = true → q c = false) :
    Ex a b (Parser.skipMany1 q) :=
  Ex.bind (Ex.sat hcut q hq) fun _ => Ex.skipMany hcut q hq

theorem wordBoundaryAt_cut (a b : Str) {i : Nat} (hi : i < a.length) :
    wordBoundaryAt (a ++ b).toArray i = wordBoundaryAt a.toArray i := by
  unfold wordBoundaryAt
  rw [getElem?_cut a b hi]
  by_cases h0 : i = 0
  · simp only [h0, if_true]
  · simp only [h0, if_false]
    rw [getElem?_cut a b (by omega)]

theorem Ex.wordBoundary : Ex a b Parser.wordBoundary := by
  intro s hs
  unfold Parser.wordBoundary
  rw [wordBoundaryAt_cut a b hs]
  refine ⟨rfl, ?_⟩
  intro y s1 e
  split at e
  · cases e; exact hs
  · cases e

theorem extract_cut (a b : Str) {i j : Nat} (hi : i ≤ a.length) (hj : j ≤ a.length) :
    ((a ++ b).toArray.extract i j).toList = (a.toArray.extract i j).toList := by
  simp only [Array.toList_extract, List.extract_eq_take_drop]
  rw [List.drop_append_of_le_length hi, List.take_append_of_le_length (by simp; omega)]

theorem Ex.withText {α : Type} {p : P α} (hp : Ex a b p) : Ex a b (Parser.withText p) := by
  intro s hs
  obtain ⟨h1, h2⟩ := hp s hs
  unfold Parser.withText
  rw [h1]
  cases hr : p a.toArray s with
  | none =>
    refine ⟨rfl, ?_⟩
    intro y s1 e; cases e
  | some r =>
    obtain ⟨x, s1⟩ := r
    have hlt := h2 x s1 hr
    simp only
    refine ⟨?_, ?_⟩
    · rw [extract_cut a b (Nat.le_of_lt hs) (Nat.le_of_lt hlt)]
    · intro y s2 e; cases e; exact hlt

theorem Ex.textOf {p : P Unit} (hp : Ex a b p) : Ex a b (Parser.textOf p) :=
  Ex.bind (Ex.withText hp) fun _ => Ex.pure _

theorem eq_newline {d : Char} (hd : isNewline d = false) {c : Char} (h : isNewline c = true) : (c == d) = false := by
  cases hcd : c == d with
  | false => rfl
  | true => rw [beq_iff_eq.mp hcd, hd] at h; cases h

theorem ciMatches_newline {l : Char} (hl : Parser.isLowerAscii l = true) {c : Char} (h : isNewline c = true) :
    ciMatches c l = false := by
  cases hm : ciMatches c l with
  | false => rfl
  | true =>
    have h1 := Parser.isReWord_of_ciMatches hl hm
    rw [Parser.isReWord_false_of_isReSpace (Parser.isReSpace_of_isNewline h)] at h1
    cases h1

theorem Ex.hsp (hcut : Cut a) : Ex a b Parser.hsp := Ex.skipMany1 hcut _ Parser.newline_not_hsp
theorem Ex.ohsp (hcut : Cut a) : Ex a b Parser.ohsp := Ex.skipMany hcut _ Parser.newline_not_hsp
theorem Ex.digits (hcut : Cut a) : Ex a b Parser.digits := Ex.textOf (Ex.skipMany1 hcut _ Parser.newline_not_digit)

theorem Ex.lit (hcut : Cut a) (d : Char) (hd : isNewline d = false) : Ex a b (Parser.lit d) :=
  Ex.bind (Ex.sat hcut _ fun _ h => eq_newline hd h) fun _ => Ex.pure _

theorem Ex.decimal (hcut : Cut a) : Ex a b Parser.decimal := by
  unfold Parser.decimal
  refine Ex.bind Ex.getPos fun off => ?_
  refine Ex.bind (Ex.digits hcut) fun whole => ?_
  refine Ex.bind (Ex.opt (Ex.bind (Ex.lit hcut '.' (by decide)) fun _ =>
    Ex.textOf (Ex.skipMany hcut _ Parser.newline_not_digit))) fun frac => ?_
  cases frac <;> exact Ex.pure _

theorem Ex.denominator (hcut : Cut a) : Ex a b denominator := by
  unfold ParserE.denominator
  refine Ex.bind (Ex.digits hcut) fun ds => ?_
  split
  · exact Ex.fail
  · exact Ex.pure _

theorem Ex.nakedTail (hcut : Cut a) : Ex a b Parser.nakedTail := by
  intro s hs
  unfold Parser.nakedTail
  obtain ⟨h1, h2⟩ := spanEnd_cut_eq a b hcut isNakedInner Parser.newline_not_inner hs
  rw [h1, trimBack_cut a b _ _ _ (by omega)]
  refine ⟨rfl, ?_⟩
  intro y s1 e
  cases e
  simp only
  have := Parser.PosBound.trimBack_le_max (t := a.toArray) isNakedEdge s.pos (Parser.spanEnd isNakedInner a.toArray s.pos)
  omega

theorem Ex.nakedString (hcut : Cut a) : Ex a b Parser.nakedString := by
  rw [Parser.nakedString_eq]
  refine Ex.bind Ex.getPos fun off => ?_
  refine Ex.bind (Ex.withText (Ex.bind (Ex.sat hcut _ Parser.newline_not_edge) fun _ => Ex.nakedTail hcut)) fun x => ?_
  obtain ⟨u, text⟩ := x
  exact Ex.pure _

theorem Ex.ciWord (hcut : Cut a) : ∀ w : Str, Parser.IsLowerWord w → Ex a b (Parser.ciWord w)
  | [], _ => Ex.pure _
  | l :: ls, h => by
    unfold Parser.ciWord
    refine Ex.bind (Ex.sat hcut _ fun _ hn => ciMatches_newline (h l (List.mem_cons_self ..)) hn) fun _ => ?_
    exact Ex.ciWord hcut ls fun c hc => h c (List.mem_cons_of_mem _ hc)

theorem Ex.preposition (hcut : Cut a) : Ex a b Parser.preposition := by
  rw [Parser.preposition_eq]
  refine Ex.bind (Ex.ciWord hcut _ Parser.lower_of) fun _ => ?_
  exact Ex.orElse (Ex.bind (Ex.hsp hcut) fun _ => Ex.bind (Ex.ciWord hcut _ Parser.lower_the) fun _ => Ex.wordBoundary)
    Ex.wordBoundary

theorem Ex.remainder (hcut : Cut a) : Ex a b Parser.remainder := by
  rw [Parser.remainder_eq]
  refine Ex.orElse ?_ (Ex.orElse ?_ (Ex.orElse ?_ ?_))
  · exact Ex.bind (Ex.ciWord hcut _ Parser.lower_remaining) fun _ => Ex.wordBoundary
  · exact Ex.bind (Ex.ciWord hcut _ Parser.lower_remainder) fun _ => Ex.wordBoundary
  · exact Ex.bind (Ex.ciWord hcut _ Parser.lower_rest) fun _ => Ex.wordBoundary
  · exact Ex.bind (Ex.ciWord hcut _ Parser.lower_left) fun _ => Ex.bind (Ex.ohsp hcut) fun _ =>
      Ex.bind (Ex.ciWord hcut _ Parser.lower_over) fun _ => Ex.wordBoundary

theorem Ex.assign (hcut : Cut a) : Ex a b Parser.assign := by
  unfold Parser.assign
  exact Ex.orElse
    (Ex.bind (Ex.lit hcut ':' (by decide)) fun _ => Ex.bind (Ex.lit hcut '=' (by decide)) fun _ => Ex.pure _)
    (Ex.bind (Ex.lit hcut '=' (by decide)) fun _ => Ex.pure _)

/-! ## scanners that can reach the end of `a` -/

variable (a b)

def Lp {α : Type} (p : P α) (s : PState) : Prop :=
  p (a ++ b).toArray s = p a.toArray s ∨ ∃ x s1, p (a ++ b).toArray s = some (x, s1) ∧ a.length ≤ s1.pos

variable {a b}

theorem Lp.of_ex {α : Type} {p : P α} (h : Ex a b p) {s : PState} (hs : s.pos < a.length) : Lp a b p s :=
  Or.inl (h s hs).1

theorem Lp.sat (q : Char → Bool) {s : PState} (hs : s.pos < a.length) : Lp a b (Parser.sat q) s :=
  .inl (sat_cut q hs)

theorem Lp.lit (c : Char) {s : PState} (hs : s.pos < a.length) : Lp a b (Parser.lit c) s := by
  left
  show (Parser.sat (fun x => x == c) >>= fun _ => pure ()) (a ++ b).toArray s =
    (Parser.sat (fun x => x == c) >>= fun _ => pure ()) a.toArray s
  rw [Parser.bind_apply, Parser.bind_apply, sat_cut _ hs]
  cases Parser.sat (fun x => x == c) a.toArray s <;> rfl

theorem Lp.fail {α : Type} {s : PState} : Lp a b (Parser.fail : P α) s := Or.inl rfl

theorem Lp.eof {s : PState} (hs : s.pos < a.length) : Lp a b Parser.eof s := by
  left
  unfold Parser.eof
  rw [if_neg (by rw [size_cut]; omega), if_neg (by rw [List.size_toArray]; omega)]

theorem Lp.orElse {α : Type} {p q : P α} {s : PState} (hp : Lp a b p s) (hq : Lp a b q s) : Lp a b (p <|> q) s := by
  rcases hp with hp | ⟨x, s1, hp, hle⟩
  · cases hr : p a.toArray s with
    | none =>
      have hr' : p (a ++ b).toArray s = none := by rw [hp, hr]
      rcases hq with hq | ⟨x, s1, hq, hle⟩
      · left
        rw [Parser.orElse_apply, Parser.orElse_apply, hr, hr']
        exact hq
      · right
        exact ⟨x, s1, by rw [Parser.orElse_apply, hr']; exact hq, hle⟩
    | some r =>
      left
      rw [Parser.orElse_apply, Parser.orElse_apply, hp, hr]
  · right
    exact ⟨x, s1, by rw [Parser.orElse_apply, hp], hle⟩

theorem Lp.bind {α β : Type} {m : P α} {f : α → P β} {s : PState} (hm : Ex a b m) (hs : s.pos < a.length)
    (hf : ∀ x (s1 : PState), s1.pos < a.length → Lp a b (f x) s1) : Lp a b (m >>= f) s := by
  obtain ⟨h1, h2⟩ := hm s hs
  unfold Lp
  rw [Parser.bind_apply, Parser.bind_apply, h1]
  cases hr : m a.toArray s with
  | none => exact Or.inl rfl
  | some r => exact hf r.1 r.2 (h2 r.1 r.2 hr)

theorem Lp.sat_bind {β : Type} (q : Char → Bool) {f : Char → P β} {s : PState} (hs : s.pos < a.length)
    (hf : ∀ c (s1 : PState), s1.pos ≤ a.length → Lp a b (f c) s1) : Lp a b (Parser.sat q >>= f) s := by
  unfold Lp
  rw [Parser.bind_apply, Parser.bind_apply, sat_cut q hs]
  cases hr : Parser.sat q a.toArray s with
  | none => exact Or.inl rfl
  | some r =>
    have := (Parser.PosBound.sat_bd (t := a.toArray) q s r.1 r.2 (by rw [List.size_toArray]; omega) hr).1
    exact hf r.1 r.2 (by rwa [List.size_toArray] at this)

/-- a run of a class, started in `a` or at its end, then a scanner `f` that needs a character: either the run ends
    inside `a` in both texts, or it reaches the end of `a`, where `f` fails on `a` and whatever `f` does on `a ++ b`
    is beyond the end of `a` -/
theorem Lp.skipMany_bind {β : Type} (q : Char → Bool) {f : P β} {s : PState} (hs : s.pos ≤ a.length) (hm : Mono f)
    (hend : ∀ s1 : PState, a.length ≤ s1.pos → f a.toArray s1 = none)
    (hf : ∀ s1 : PState, s1.pos < a.length → Lp a b f s1) : Lp a b (Parser.skipMany q >>= fun _ => f) s := by
  have tail : ∀ s1 s2 : PState, a.length ≤ s1.pos → a.length ≤ s2.pos →
      f (a ++ b).toArray s1 = f a.toArray s2 ∨ ∃ x s3, f (a ++ b).toArray s1 = some (x, s3) ∧ a.length ≤ s3.pos := by
    intro s1 s2 h1 h2
    rw [hend s2 h2]
    cases hr : f (a ++ b).toArray s1 with
    | none => exact Or.inl rfl
    | some r => exact Or.inr ⟨r.1, r.2, rfl, Nat.le_trans h1 (hm _ _ _ _ hr)⟩
  unfold Lp
  rw [Parser.bind_apply, Parser.bind_apply]
  unfold Parser.skipMany
  rcases spanEnd_cut a b q hs with h | ⟨h, hA⟩
  · rw [h]
    by_cases hlt : Parser.spanEnd q a.toArray s.pos < a.length
    · exact hf ⟨_, s.zero⟩ hlt
    · exact tail ⟨_, s.zero⟩ ⟨_, s.zero⟩ (by simp only; omega) (by simp only; omega)
  · exact tail ⟨_, s.zero⟩ ⟨_, s.zero⟩ h (by simp only; omega)

/-- `r"[ \t]*[\r\n]\s*"` -/
theorem Lp.eolBreak (hcut : Cut a) {s : PState} (hs : s.pos < a.length) : Lp a b eolBreak s :=
  Lp.bind (Ex.ohsp hcut) hs fun _ _ h1 => Lp.sat_bind _ h1 fun _ s2 h2 => by
    unfold Parser.osp Parser.skipMany Lp
    dsimp only
    rcases spanEnd_cut a b isReSpace h2 with h | ⟨h, _⟩
    · left; rw [h]
    · right; exact ⟨(), _, rfl, h⟩

theorem sat_end (q : Char → Bool) {t : Array Char} {s : PState} (h : t.size ≤ s.pos) : Parser.sat q t s = none := by
  unfold Parser.sat
  rw [Array.getElem?_eq_none h]

theorem ciWord_end {w : Str} (hw : w ≠ []) {t : Array Char} {s : PState} (h : t.size ≤ s.pos) :
    Parser.ciWord w t s = none := by
  cases w with
  | nil => exact absurd rfl hw
  | cons l ls =>
    unfold Parser.ciWord
    rw [Parser.bind_apply, sat_end _ h]

theorem unitPattern_end {w : Str} {ws : List Str} (hw : w ≠ []) {t : Array Char} {s : PState} (h : t.size ≤ s.pos) :
    Parser.unitPattern (w :: ws) t s = none := by
  cases ws with
  | nil =>
    unfold Parser.unitPattern
    rw [Parser.bind_apply, ciWord_end hw h]
  | cons w2 ws =>
    rw [Parser.unitPattern_cons_cons, Parser.bind_apply, ciWord_end hw h]

/-- one alternative of the unit regex: the `\s+` between two words is the only place where a scanner with something
    still to match can reach the end of `a`; the next word then needs a character -/
theorem Lp.unitPattern (hcut : Cut a) : ∀ (ws : List Str), Parser.IsUnitWords ws → ∀ {s : PState}, s.pos < a.length →
    Lp a b (Parser.unitPattern ws) s
  | [], _, s, hs => Lp.of_ex Ex.wordBoundary hs
  | [w], hws, s, hs => by
    unfold Parser.unitPattern
    exact Lp.of_ex (Ex.bind (Ex.ciWord hcut w (hws w (List.mem_cons_self ..)).2) fun _ => Ex.wordBoundary) hs
  | w :: w2 :: ws, hws, s, hs => by
    have hws' : Parser.IsUnitWords (w2 :: ws) := fun x hx => hws x (List.mem_cons_of_mem _ hx)
    rw [Parser.unitPattern_cons_cons]
    refine Lp.bind (Ex.ciWord hcut w (hws w (List.mem_cons_self ..)).2) hs fun _ s1 h1 => ?_
    rw [show Parser.sp = (Parser.sat isReSpace >>= fun _ => Parser.skipMany isReSpace) from rfl, Parser.bind_assoc]
    refine Lp.sat_bind _ h1 fun _ s2 h2 => Lp.skipMany_bind _ h2 (Parser.mono_unitPattern _) (fun s3 h3 => ?_)
      fun s3 h3 => Lp.unitPattern hcut (w2 :: ws) hws' h3
    exact unitPattern_end (hws' w2 (List.mem_cons_self ..)).1 (by rw [List.size_toArray]; exact h3)

theorem Lp.firstOf : ∀ (ps : List (P Unit)) {s : PState}, (∀ p ∈ ps, Lp a b p s) → Lp a b (Parser.firstOf ps) s
  | [], _, _ => Lp.fail
  | p :: ps, s, h => by
    unfold Parser.firstOf
    exact Lp.orElse (h p (List.mem_cons_self ..)) (Lp.firstOf ps fun q hq => h q (List.mem_cons_of_mem _ hq))

theorem Lp.knownUnit (hcut : Cut a) {s : PState} (hs : s.pos < a.length) : Lp a b Parser.knownUnit s := by
  unfold Parser.knownUnit
  refine Lp.firstOf _ fun p hp => ?_
  obtain ⟨ws, hmem, rfl⟩ := List.mem_map.mp hp
  have hok := List.all_eq_true.mp Parser.unitPatterns_words_table ws hmem
  exact Lp.unitPattern hcut ws (Parser.unitWordsOk_iff hok).2 hs

end
end ParserE
end RG
