import RecipeGrid.Model.Table
/-! The table layout (`Model/Table.lean`): the notions in which its theorems are proved (`Props/C02.lean` states them in
    definitions of its own and bridges to these).  In this order: rectangles tiled by cells (`Rect`, `RTiles`, `Good` for a
    whole table) and what `pad`, `vcat`, `hcat`, `setBorder` do to a tiling; well-formed trees (`wf`) and the nodes that get a
    cell (`drawn`, `layoutAt_pk`); the cells below a path (`under`), their bounding box (`bbox`, `reg`); the stack of the
    inputs of a step; nodes at a path (`Tree.at?`); cells up to borders.  Where the cells are is said in
    `Lemmas/LayoutCells.lean`, the borders are in `Lemmas/Borders.lean`. -/
namespace RG

structure Rect where
  top : Nat
  left : Nat
  bottom : Nat
  right : Nat
deriving DecidableEq, Repr

def PCell.rect (x : PCell) : Rect := ⟨x.row, x.col, x.row + x.rows, x.col + x.cols⟩

def covers (x : PCell) (r c : Nat) : Bool :=
  x.row ≤ r && r < x.row + x.rows && x.col ≤ c && c < x.col + x.cols
def cover (cs : List PCell) (r c : Nat) : Nat := cs.countP (covers · r c)

structure RTiles (cs : List PCell) (R : Rect) : Prop where
  ne : R.top < R.bottom ∧ R.left < R.right
  ok : ∀ x ∈ cs, 0 < x.rows ∧ 0 < x.cols ∧ R.top ≤ x.row ∧ x.row + x.rows ≤ R.bottom ∧
        R.left ≤ x.col ∧ x.col + x.cols ≤ R.right
  one : ∀ r c, R.top ≤ r → r < R.bottom → R.left ≤ c → c < R.right → cover cs r c = 1

theorem covers_iff (x : PCell) (r c : Nat) :
    covers x r c = true ↔ x.row ≤ r ∧ r < x.row + x.rows ∧ x.col ≤ c ∧ c < x.col + x.cols := by
  simp only [covers, Bool.and_eq_true, decide_eq_true_eq, and_assoc]

theorem cover_append (a b : List PCell) (r c : Nat) : cover (a ++ b) r c = cover a r c + cover b r c := by
  simp [cover, List.countP_append]

theorem cover_eq_zero_of (cs : List PCell) (r c : Nat) (h : ∀ x ∈ cs, covers x r c = false) : cover cs r c = 0 := by
  simp only [cover, List.countP_eq_zero]
  intro x hx; simp [h x hx]

theorem cover_map_congr (f : PCell → PCell) (cs : List PCell) (r c r' c' : Nat)
    (h : ∀ x ∈ cs, covers (f x) r c = covers x r' c') : cover (cs.map f) r c = cover cs r' c' := by
  simp only [cover, List.countP_map, Function.comp_def]
  exact List.countP_congr (fun x hx => by simp [h x hx])

theorem cover_map_zero (f : PCell → PCell) (cs : List PCell) (r c : Nat)
    (h : ∀ x ∈ cs, covers (f x) r c = false) : cover (cs.map f) r c = 0 := by
  apply cover_eq_zero_of
  intro y hy
  obtain ⟨x, hx, rfl⟩ := List.mem_map.1 hy
  exact h x hx

theorem RTiles.zero_outside {cs : List PCell} {R : Rect} (h : RTiles cs R) (r c : Nat)
    (ho : r < R.top ∨ R.bottom ≤ r ∨ c < R.left ∨ R.right ≤ c) : cover cs r c = 0 := by
  apply cover_eq_zero_of
  intro x hx
  have := h.ok x hx
  rw [Bool.eq_false_iff]; intro hc; rw [covers_iff] at hc; omega

theorem RTiles.map_geo {cs : List PCell} {R : Rect} (h : RTiles cs R) (f : PCell → PCell)
    (hf : ∀ x, (f x).row = x.row ∧ (f x).col = x.col ∧ (f x).rows = x.rows ∧ (f x).cols = x.cols) :
    RTiles (cs.map f) R := by
  refine ⟨h.ne, ?_, ?_⟩
  · intro y hy
    obtain ⟨x, hx, rfl⟩ := List.mem_map.1 hy
    have := h.ok x hx; have := hf x; omega
  · intro r c h1 h2 h3 h4
    rw [cover_map_congr f cs r c r c]
    · exact h.one r c h1 h2 h3 h4
    · intro x _; have := hf x; simp only [covers]; grind

theorem RTiles.shift {cs : List PCell} {R : Rect} (h : RTiles cs R) (dr dc : Nat) :
    RTiles (cs.map fun x => { x with row := x.row + dr, col := x.col + dc })
      ⟨R.top + dr, R.left + dc, R.bottom + dr, R.right + dc⟩ := by
  refine ⟨by have := h.ne; simp only; omega, ?_, ?_⟩
  · intro y hy
    obtain ⟨x, hx, rfl⟩ := List.mem_map.1 hy
    have := h.ok x hx; simp only; omega
  · intro r c h1 h2 h3 h4
    simp only at h1 h2 h3 h4
    rw [cover_map_congr _ cs r c (r - dr) (c - dc)]
    · exact h.one _ _ (by omega) (by omega) (by omega) (by omega)
    · intro x _
      rw [Bool.eq_iff_iff, covers_iff, covers_iff]; simp only; omega

theorem RTiles.shiftDown {cs : List PCell} {R : Rect} (h : RTiles cs R) (d : Nat) :
    RTiles (cs.map (shiftDown d)) ⟨R.top + d, R.left, R.bottom + d, R.right⟩ := h.shift d 0

/-- the effect of `padCell` on a right edge -/
def padEdge (w0 w c : Nat) : Nat := if c = w0 then w else c

theorem padEdge_self (w c : Nat) : padEdge w w c = c := by
  unfold padEdge; split <;> simp_all

theorem padCell_keeps (w0 w : Nat) (x : PCell) :
    (padCell w0 w x).path = x.path ∧ (padCell w0 w x).kind = x.kind ∧ (padCell w0 w x).row = x.row ∧
    (padCell w0 w x).rows = x.rows ∧ (padCell w0 w x).col = x.col := by
  unfold padCell; split <;> simp

theorem padCell_right (w0 w : Nat) (x : PCell) (hw : w0 ≤ w) :
    (padCell w0 w x).col + (padCell w0 w x).cols = padEdge w0 w (x.col + x.cols) := by
  unfold padCell padEdge
  split <;> simp <;> omega

theorem padEdge_le (w0 w c : Nat) (hw : w0 ≤ w) : c ≤ padEdge w0 w c := by unfold padEdge; split <;> omega

theorem padEdge_mono (w0 w a b : Nat) (hab : a ≤ b) (hb : b ≤ w0) (hw : w0 ≤ w) :
    padEdge w0 w a ≤ padEdge w0 w b := by
  unfold padEdge; split <;> split <;> omega

theorem covers_padCell (w0 w : Nat) (x : PCell) (r c : Nat) (h1 : 0 < x.cols) (h2 : x.col + x.cols ≤ w0)
    (hc : c < w) : covers (padCell w0 w x) r c = covers x r (if c < w0 then c else w0 - 1) := by
  rw [Bool.eq_iff_iff, covers_iff, covers_iff]
  unfold padCell
  split
  · split <;> simp only <;> omega
  · split <;> omega

theorem RTiles.pad {cs : List PCell} {R : Rect} (h : RTiles cs R) (w0 w : Nat) (hR : R.right ≤ w0) (hw : w0 < w) :
    RTiles (cs.map (padCell w0 w)) ⟨R.top, R.left, R.bottom, padEdge w0 w R.right⟩ := by
  have hne := h.ne
  have hle := padEdge_le w0 w R.right (by omega)
  refine ⟨⟨hne.1, by simp only; omega⟩, ?_, ?_⟩
  · intro y hy
    obtain ⟨x, hx, rfl⟩ := List.mem_map.1 hy
    obtain ⟨hrows, hcols, htop, hbottom, hleft, hright⟩ := h.ok x hx
    have k := padCell_keeps w0 w x
    have g := padCell_right w0 w x (by omega)
    have := padEdge_mono w0 w _ _ hright hR (by omega)
    have := padEdge_le w0 w (x.col + x.cols) (by omega)
    simp only; omega
  · intro r c h1 h2 h3 h4
    simp only at h1 h2 h3 h4
    have hcw : c < w := by unfold padEdge at h4; split at h4 <;> omega
    rw [cover_map_congr (padCell w0 w) cs r c r (if c < w0 then c else w0 - 1)]
    · -- left of `w0` the slot itself, from `w0` on the slot in column `w0 - 1`: both lie in `R`
      unfold padEdge at h4
      apply h.one _ _ h1 h2
      · split <;> split at h4 <;> omega
      · split <;> split at h4 <;> omega
    · intro x hx
      obtain ⟨-, hcols, -, -, -, hright⟩ := h.ok x hx
      exact covers_padCell w0 w x r c hcols (by omega) hcw

theorem RTiles.vappend {a b : List PCell} {Ra Rb R : Rect} (ha : RTiles a Ra) (hb : RTiles b Rb)
    (h1 : Ra.left = Rb.left) (h2 : Ra.right = Rb.right) (h3 : Ra.bottom = Rb.top)
    (hR : R = ⟨Ra.top, Ra.left, Rb.bottom, Ra.right⟩) : RTiles (a ++ b) R := by
  subst hR
  have hna := ha.ne; have hnb := hb.ne
  refine ⟨by simp only; omega, ?_, ?_⟩
  · intro x hx
    rcases List.mem_append.1 hx with hx | hx
    · have := ha.ok x hx; simp only; omega
    · have := hb.ok x hx; simp only; omega
  · intro r c h4 h5 h6 h7
    simp only at h4 h5 h6 h7
    rw [cover_append]
    by_cases hr : r < Ra.bottom
    · rw [ha.one r c h4 hr h6 h7, hb.zero_outside r c (by omega)]
    · rw [ha.zero_outside r c (by omega), hb.one r c (by omega) h5 (by omega) (by omega)]

theorem RTiles.happend {a b : List PCell} {Ra Rb R : Rect} (ha : RTiles a Ra) (hb : RTiles b Rb)
    (h1 : Ra.top = Rb.top) (h2 : Ra.bottom = Rb.bottom) (h3 : Ra.right = Rb.left)
    (hR : R = ⟨Ra.top, Ra.left, Ra.bottom, Rb.right⟩) : RTiles (a ++ b) R := by
  subst hR
  have hna := ha.ne; have hnb := hb.ne
  refine ⟨by simp only; omega, ?_, ?_⟩
  · intro x hx
    rcases List.mem_append.1 hx with hx | hx
    · have := ha.ok x hx; simp only; omega
    · have := hb.ok x hx; simp only; omega
  · intro r c h4 h5 h6 h7
    simp only at h4 h5 h6 h7
    rw [cover_append]
    by_cases hc : c < Ra.right
    · rw [ha.one r c h4 h5 h6 hc, hb.zero_outside r c (by omega)]
    · rw [ha.zero_outside r c (by omega), hb.one r c (by omega) (by omega) (by omega) h7]

theorem RTiles.single (x : PCell) (R : Rect) (h1 : 0 < x.rows) (h2 : 0 < x.cols)
    (hR : R = ⟨x.row, x.col, x.row + x.rows, x.col + x.cols⟩) : RTiles [x] R := by
  subst hR
  refine ⟨by simp only; omega, ?_, ?_⟩
  · intro y hy; simp only [List.mem_singleton] at hy; subst hy; simp only; omega
  · intro r c h3 h4 h5 h6
    simp only at h3 h4 h5 h6
    have : covers x r c = true := by rw [covers_iff]; omega
    simp [cover, this]

def Good (t : Tbl) : Prop := RTiles t.cells ⟨0, 0, t.h, t.w⟩

theorem pad_h (t : Tbl) (w : Nat) : (pad t w).h = t.h := by
  unfold pad; split <;> rfl
theorem pad_w (t : Tbl) (w : Nat) : (pad t w).w = max t.w w := by
  unfold pad
  split
  · rename_i h; show t.w = max t.w w; omega
  · rename_i h; show w = max t.w w; omega

theorem Good.vcat {a b : Tbl} (ha : Good a) (hb : Good b) (hw : a.w = b.w) : Good (vcat a b) := by
  have hb' := RTiles.shiftDown hb a.h
  exact RTiles.vappend ha hb' rfl (by simp [hw]) (by simp) (by simp [RG.vcat, Nat.add_comm])

theorem Good.setBorder {t : Tbl} (h : Good t) (b : Border) : Good (setBorder t b) :=
  RTiles.map_geo h _ (fun _ => ⟨rfl, rfl, rfl, rfl⟩)

theorem Good.single (x : PCell) (h w : Nat) (hh : 0 < h) (hw : 0 < w)
    (hx : x.row = 0 ∧ x.col = 0 ∧ x.rows = h ∧ x.cols = w) : Good ⟨h, w, [x]⟩ :=
  RTiles.single x _ (by omega) (by omega) (by simp [hx])

theorem vstack_cons (t : Tbl) (ts : List Tbl) : vstack (t :: ts) = vcat t (vstack ts) := by
  cases ts with
  | nil => cases t; simp [vstack, vcat]
  | cons a as => rfl

theorem maxWidth_ge (ts : List Tbl) : ∀ t ∈ ts, t.w ≤ maxWidth ts := by
  induction ts with
  | nil => simp
  | cons a as ih =>
    intro t ht
    simp only [List.mem_cons] at ht
    rcases ht with rfl | ht
    · simp only [maxWidth]; omega
    · have := ih t ht; simp only [maxWidth]; omega

/-- `set_border_around_table`, for the root only -/
def rootBorder (root : Bool) (T : Tbl) : Tbl := if root then setBorder T .subRecipe else T
def leafTbl (p : List Nat) (k : CellKind) : Tbl :=
  ⟨1, 1, [{ row := 0, col := 0, rows := 1, cols := 1, path := p, kind := k }]⟩
def stackOf (p : List Nat) (ins : List Tree) : Tbl :=
  vstack ((layoutInputs p 0 ins).map (pad · (maxWidth (layoutInputs p 0 ins))))
def stepCol (p : List Nat) (h : Nat) : Tbl :=
  ⟨h, 1, [{ row := 0, col := 0, rows := h, cols := 1, path := p, kind := .step }]⟩

theorem layoutAt_ingredient (p : List Nat) (root : Bool) (d : SVS) (q : Option Quantity) :
    layoutAt p root (.ingredient d q) = rootBorder root (leafTbl p .ingredient) := by simp only [layoutAt]; rfl
theorem layoutAt_reference (p : List Nat) (root : Bool) (s : Tree) (i : Nat) (a : Amount) :
    layoutAt p root (.reference s i a) = rootBorder root (leafTbl p .reference) := by simp only [layoutAt]; rfl
theorem layoutAt_step (p : List Nat) (root : Bool) (d : SVS) (ins : List Tree) :
    layoutAt p root (.step d ins) = rootBorder root (hcat (stackOf p ins) (stepCol p (stackOf p ins).h)) := by
  simp only [layoutAt]; rfl

theorem Good.leaf (p : List Nat) (k : CellKind) : Good (leafTbl p k) :=
  Good.single _ 1 1 (by omega) (by omega) ⟨rfl, rfl, rfl, rfl⟩

mutual
/-- well-formed: every step has an input; `C02.wf` is the same function (`C02.wf_eq`) -/
def wf : Tree → Bool
  | .ingredient .. => true
  | .reference .. => true
  | .step _ inputs => !inputs.isEmpty && wfList inputs
  | .sub body _ _ => wf body
def wfList : List Tree → Bool
  | [] => true
  | t :: ts => wf t && wfList ts
end

theorem wf_step (d : SVS) (ins : List Tree) : wf (.step d ins) = true ↔ ins ≠ [] ∧ wfList ins = true := by
  simp only [wf, Bool.and_eq_true, Bool.not_eq_true', List.isEmpty_eq_false_iff]

theorem wf_sub (b : Tree) (ns : List SVS) (sh : Bool) : wf (.sub b ns sh) = wf b := by simp only [wf]

theorem wfList_cons (t : Tree) (ts : List Tree) : wfList (t :: ts) = true ↔ wf t = true ∧ wfList ts = true := by
  simp only [wfList, Bool.and_eq_true]

theorem layoutInputs_ne (p : List Nat) (i : Nat) (ts : List Tree) (h : ts ≠ []) : layoutInputs p i ts ≠ [] := by
  cases ts with
  | nil => exact absurd rfl h
  | cons a as => simp [layoutInputs]

mutual
def drawn (p : List Nat) : Tree → List (List Nat × CellKind)
  | .ingredient .. => [(p, .ingredient)]
  | .reference .. => [(p, .reference)]
  | .step _ inputs => drawnInputs p 0 inputs ++ [(p, .step)]
  | .sub body names showNames =>
    if names.length = 1 then (if showNames then [(p, .header)] else []) ++ drawn (p ++ [0]) body
    else drawn (p ++ [0]) body ++ [(p, .outputs)]
def drawnInputs (p : List Nat) (i : Nat) : List Tree → List (List Nat × CellKind)
  | [] => []
  | t :: ts => drawn (p ++ [i]) t ++ drawnInputs p (i + 1) ts
end

def pk (x : PCell) : List Nat × CellKind := (x.path, x.kind)

theorem map_pk_map (f : PCell → PCell) (cs : List PCell) (hf : ∀ x, pk (f x) = pk x) :
    (cs.map f).map pk = cs.map pk := by
  simp [List.map_map, Function.comp_def, hf]

theorem pk_padCell (w0 w : Nat) (x : PCell) : pk (padCell w0 w x) = pk x :=
  Prod.ext (padCell_keeps w0 w x).1 (padCell_keeps w0 w x).2.1

theorem pad_pk (t : Tbl) (w : Nat) : (pad t w).cells.map pk = t.cells.map pk := by
  unfold pad; split
  · rfl
  · exact map_pk_map _ _ (pk_padCell _ _)

theorem setBorder_pk (t : Tbl) (b : Border) : (setBorder t b).cells.map pk = t.cells.map pk :=
  map_pk_map _ _ (fun _ => rfl)

theorem rootBorder_pk (root : Bool) (t : Tbl) : (rootBorder root t).cells.map pk = t.cells.map pk := by
  unfold rootBorder; split
  · exact setBorder_pk t _
  · rfl

theorem vcat_pk (a b : Tbl) : (vcat a b).cells.map pk = a.cells.map pk ++ b.cells.map pk := by
  simp only [vcat, List.map_append]; rw [map_pk_map (shiftDown a.h) _ (fun _ => rfl)]

theorem hcat_pk (a b : Tbl) : (hcat a b).cells.map pk = a.cells.map pk ++ b.cells.map pk := by
  simp only [hcat, List.map_append]; rw [map_pk_map (shiftRight a.w) _ (fun _ => rfl)]

mutual
theorem layoutAt_pk : ∀ (t : Tree) (p : List Nat) (root : Bool), (layoutAt p root t).cells.map pk = drawn p t
  | .ingredient .., p, root => by rw [layoutAt_ingredient, rootBorder_pk]; rfl
  | .reference .., p, root => by rw [layoutAt_reference, rootBorder_pk]; rfl
  | .step _ inputs, p, root => by
    rw [layoutAt_step, rootBorder_pk, hcat_pk, stackOf, layoutInputs_pk inputs p 0]; rfl
  | .sub body names showNames, p, root => by
    have hb := layoutAt_pk body (p ++ [0]) false
    simp only [layoutAt, drawn]
    split
    · split
      · rw [setBorder_pk, vcat_pk, hb]; rfl
      · rw [setBorder_pk, hb]; rfl
    · rw [hcat_pk, setBorder_pk, hb]; rfl
theorem layoutInputs_pk : ∀ (ts : List Tree) (p : List Nat) (i w : Nat),
    (vstack ((layoutInputs p i ts).map (pad · w))).cells.map pk = drawnInputs p i ts
  | [], _, _, _ => by simp [layoutInputs, vstack, drawnInputs]
  | a :: as, p, i, w => by
    simp only [layoutInputs, List.map_cons, vstack_cons, drawnInputs]
    rw [vcat_pk, pad_pk, layoutAt_pk a (p ++ [i]) false, layoutInputs_pk as p (i + 1) w]
end

theorem prefix_snoc_ne {p q : List Nat} {j : Nat} (h : p ++ [j] <+: q) : q ≠ p := by
  intro e; subst e
  have := h.length_le; simp at this; omega

theorem prefix_snoc_inj {p q : List Nat} {i j : Nat} (h1 : p ++ [i] <+: q) (h2 : p ++ [j] <+: q) : i = j := by
  obtain ⟨s, rfl⟩ := h1
  obtain ⟨s', h⟩ := h2
  simp only [List.append_assoc, List.append_cancel_left_eq, List.cons_append, List.nil_append,
    List.cons.injEq] at h
  exact h.1.symm

theorem prefix_of_snoc {p q : List Nat} {j : Nat} (h : p ++ [j] <+: q) : p <+: q :=
  List.IsPrefix.trans (List.prefix_append p [j]) h

mutual
theorem drawn_prefix : ∀ (t : Tree) (p : List Nat), ∀ q ∈ (drawn p t).map (·.1), p <+: q
  | .ingredient .., p => by simp [drawn]
  | .reference .., p => by simp [drawn]
  | .step _ inputs, p => by
    intro q hq
    simp only [drawn, List.map_append, List.mem_append, List.map_cons, List.map_nil, List.mem_singleton] at hq
    rcases hq with hq | rfl
    · obtain ⟨j, _, hj⟩ := drawnInputs_prefix inputs p 0 q hq
      exact prefix_of_snoc hj
    · exact List.prefix_refl _
  | .sub body names showNames, p => by
    intro q hq
    have hb := drawn_prefix body (p ++ [0])
    simp only [drawn] at hq
    split at hq
    · simp only [List.map_append, List.mem_append] at hq
      rcases hq with hq | hq
      · split at hq
        · simp only [List.map_cons, List.map_nil, List.mem_singleton] at hq; subst hq; exact List.prefix_refl _
        · simp at hq
      · exact prefix_of_snoc (hb q hq)
    · simp only [List.map_append, List.mem_append, List.map_cons, List.map_nil, List.mem_singleton] at hq
      rcases hq with hq | rfl
      · exact prefix_of_snoc (hb q hq)
      · exact List.prefix_refl _
theorem drawnInputs_prefix : ∀ (ts : List Tree) (p : List Nat) (i : Nat),
    ∀ q ∈ (drawnInputs p i ts).map (·.1), ∃ j, i ≤ j ∧ p ++ [j] <+: q
  | [], _, _ => by simp [drawnInputs]
  | a :: as, p, i => by
    intro q hq
    simp only [drawnInputs, List.map_append, List.mem_append] at hq
    rcases hq with hq | hq
    · exact ⟨i, Nat.le_refl _, drawn_prefix a (p ++ [i]) q hq⟩
    · obtain ⟨j, h1, h2⟩ := drawnInputs_prefix as p (i + 1) q hq
      exact ⟨j, by omega, h2⟩
end

mutual
theorem drawn_nodup : ∀ (t : Tree) (p : List Nat), ((drawn p t).map (·.1)).Nodup
  | .ingredient .., p => by simp [drawn]
  | .reference .., p => by simp [drawn]
  | .step _ inputs, p => by
    simp only [drawn, List.map_append, List.map_cons, List.map_nil]
    rw [List.nodup_append]
    refine ⟨drawnInputs_nodup inputs p 0, by simp, ?_⟩
    intro a ha b hb
    simp only [List.mem_singleton] at hb; rw [hb]
    obtain ⟨j, _, hj⟩ := drawnInputs_prefix inputs p 0 a ha
    exact prefix_snoc_ne hj
  | .sub body names showNames, p => by
    have hb := drawn_nodup body (p ++ [0])
    have hp := drawn_prefix body (p ++ [0])
    simp only [drawn]
    split
    · split
      · simp only [List.map_append, List.map_cons, List.map_nil]
        rw [List.nodup_append]
        refine ⟨by simp, hb, ?_⟩
        intro a ha b hb'
        simp only [List.mem_singleton] at ha; rw [ha]
        exact (prefix_snoc_ne (hp b hb')).symm
      · simpa using hb
    · simp only [List.map_append, List.map_cons, List.map_nil]
      rw [List.nodup_append]
      refine ⟨hb, by simp, ?_⟩
      intro a ha b hb'
      simp only [List.mem_singleton] at hb'; rw [hb']
      exact prefix_snoc_ne (hp a ha)
theorem drawnInputs_nodup : ∀ (ts : List Tree) (p : List Nat) (i : Nat), ((drawnInputs p i ts).map (·.1)).Nodup
  | [], _, _ => by simp [drawnInputs]
  | a :: as, p, i => by
    simp only [drawnInputs, List.map_append]
    rw [List.nodup_append]
    refine ⟨drawn_nodup a (p ++ [i]), drawnInputs_nodup as p (i + 1), ?_⟩
    intro x hx y hy e
    subst e
    have h1 := drawn_prefix a (p ++ [i]) x hx
    obtain ⟨j, h2, h3⟩ := drawnInputs_prefix as p (i + 1) x hy
    have := prefix_snoc_inj h1 h3
    omega
end

def under (q : List Nat) (x : PCell) : Bool := q.isPrefixOf x.path

theorem under_iff {q : List Nat} {x : PCell} : under q x = true ↔ q <+: x.path :=
  List.isPrefixOf_iff_prefix

def bbox (cs : List PCell) : Rect :=
  ⟨(cs.map (·.row)).min?.getD 0, (cs.map (·.col)).min?.getD 0,
   (cs.map fun x => x.row + x.rows).max?.getD 0, (cs.map fun x => x.col + x.cols).max?.getD 0⟩

def reg (cs : List PCell) (q : List Nat) : Rect := bbox (cs.filter (under q))

theorem RTiles.exists_covering {cs : List PCell} {R : Rect} (h : RTiles cs R) (r c : Nat)
    (h1 : R.top ≤ r) (h2 : r < R.bottom) (h3 : R.left ≤ c) (h4 : c < R.right) :
    ∃ x ∈ cs, x.row ≤ r ∧ r < x.row + x.rows ∧ x.col ≤ c ∧ c < x.col + x.cols := by
  have := h.one r c h1 h2 h3 h4
  have hpos : 0 < cs.countP (covers · r c) := by simp only [cover] at this; omega
  obtain ⟨x, hx, hc⟩ := List.countP_pos_iff.1 hpos
  exact ⟨x, hx, (covers_iff x r c).1 hc⟩

theorem min?_map_eq {f : PCell → Nat} {cs : List PCell} {m : Nat} (hm : ∃ x ∈ cs, f x = m) (hle : ∀ y ∈ cs, m ≤ f y) :
    (cs.map f).min? = some m := by
  obtain ⟨x, hx, e⟩ := hm
  rw [List.min?_eq_some_iff]
  exact ⟨List.mem_map.2 ⟨x, hx, e⟩, fun b hb => by obtain ⟨y, hy, rfl⟩ := List.mem_map.1 hb; exact hle y hy⟩

theorem max?_map_eq {f : PCell → Nat} {cs : List PCell} {m : Nat} (hm : ∃ x ∈ cs, f x = m) (hle : ∀ y ∈ cs, f y ≤ m) :
    (cs.map f).max? = some m := by
  obtain ⟨x, hx, e⟩ := hm
  rw [List.max?_eq_some_iff]
  exact ⟨List.mem_map.2 ⟨x, hx, e⟩, fun b hb => by obtain ⟨y, hy, rfl⟩ := List.mem_map.1 hb; exact hle y hy⟩

/-- a tiled rectangle is the bounding box of its tiles: the tiles on three of its corners reach its edges -/
theorem RTiles.bbox_eq {cs : List PCell} {R : Rect} (h : RTiles cs R) : bbox cs = R := by
  have hne := h.ne
  obtain ⟨a, ha, ca⟩ := h.exists_covering R.top R.left (by omega) (by omega) (by omega) (by omega)
  obtain ⟨b, hb, cb⟩ := h.exists_covering (R.bottom - 1) R.left (by omega) (by omega) (by omega) (by omega)
  obtain ⟨c, hc, cc⟩ := h.exists_covering R.top (R.right - 1) (by omega) (by omega) (by omega) (by omega)
  have oa := h.ok a ha; have ob := h.ok b hb; have oc := h.ok c hc
  have htop : ∀ y ∈ cs, R.top ≤ y.row := fun y hy => by obtain ⟨-, -, ht, -, -, -⟩ := h.ok y hy; exact ht
  have hbottom : ∀ y ∈ cs, y.row + y.rows ≤ R.bottom := fun y hy => by obtain ⟨-, -, -, hb, -, -⟩ := h.ok y hy; exact hb
  have hleft : ∀ y ∈ cs, R.left ≤ y.col := fun y hy => by obtain ⟨-, -, -, -, hl, -⟩ := h.ok y hy; exact hl
  have hright : ∀ y ∈ cs, y.col + y.cols ≤ R.right := fun y hy => by obtain ⟨-, -, -, -, -, hr⟩ := h.ok y hy; exact hr
  simp [bbox, min?_map_eq ⟨a, ha, by omega⟩ htop, min?_map_eq ⟨a, ha, by omega⟩ hleft,
    max?_map_eq ⟨b, hb, by omega⟩ hbottom, max?_map_eq ⟨c, hc, by omega⟩ hright]

theorem filter_under_of_prefix {q q' : List Nat} (h : q <+: q') (cs : List PCell) :
    (cs.filter (under q)).filter (under q') = cs.filter (under q') := by
  rw [List.filter_filter]
  apply List.filter_congr
  intro x _
  by_cases hx : under q' x = true
  · have : under q x = true := under_iff.2 (List.IsPrefix.trans h (under_iff.1 hx))
    simp [hx, this]
  · simp [hx]

theorem filter_under_eq_self {q : List Nat} {cs : List PCell} (h : ∀ x ∈ cs, q <+: x.path) :
    cs.filter (under q) = cs :=
  List.filter_eq_self.2 (fun x hx => under_iff.2 (h x hx))

theorem filter_under_eq_nil {q : List Nat} {cs : List PCell} (h : ∀ x ∈ cs, ¬ q <+: x.path) :
    cs.filter (under q) = [] :=
  List.filter_eq_nil_iff.2 (fun x hx hu => h x hx (under_iff.1 hu))

theorem filter_under_map (q : List Nat) (f : PCell → PCell) (cs : List PCell) (hf : ∀ x, (f x).path = x.path) :
    (cs.map f).filter (under q) = (cs.filter (under q)).map f := by
  rw [List.filter_map]
  congr 1
  apply List.filter_congr
  intro x _; simp [under, hf]

theorem reg_map_border (cs : List PCell) (h w : Nat) (b : Border) (q : List Nat) :
    reg (cs.map (borderCell h w b)) q = reg cs q := by
  rw [reg, reg, filter_under_map q (borderCell h w b) cs (fun _ => rfl)]
  simp only [bbox, List.map_map]
  rfl

theorem not_prefix_of_snoc_ne {p Q y : List Nat} {i k : Nat} (h1 : p ++ [i] <+: Q) (h2 : p ++ [k] <+: y)
    (hne : i ≠ k) : ¬ Q <+: y := fun h => hne (prefix_snoc_inj (List.IsPrefix.trans h1 h) h2)

theorem pk_mem {cs : List PCell} {l : List (List Nat × CellKind)} (e : cs.map pk = l) {x : PCell} (hx : x ∈ cs) :
    (x.path, x.kind) ∈ l := e ▸ List.mem_map_of_mem (f := pk) hx

theorem path_of_pk {cs : List PCell} {l : List (List Nat × CellKind)} (e : cs.map pk = l) {P : List Nat → Prop}
    (h : ∀ q ∈ l.map (·.1), P q) : ∀ x ∈ cs, P x.path :=
  fun x hx => h x.path (List.mem_map_of_mem (f := (·.1)) (pk_mem e hx))

theorem layoutAt_under (t : Tree) (p : List Nat) (root : Bool) : ∀ x ∈ (layoutAt p root t).cells, p <+: x.path :=
  path_of_pk (layoutAt_pk t p root) (drawn_prefix t p)

theorem stack_under (ts : List Tree) (p : List Nat) (i w : Nat) :
    ∀ x ∈ (vstack ((layoutInputs p i ts).map (pad · w))).cells, ∃ j, i ≤ j ∧ p ++ [j] <+: x.path :=
  path_of_pk (layoutInputs_pk ts p i w) (drawnInputs_prefix ts p i)

theorem padCell_self (w : Nat) (x : PCell) : padCell w w x = x := by
  unfold padCell
  split
  · rename_i h
    have : w - x.col = x.cols := by omega
    rw [this]
  · rfl

theorem pad_cells (T : Tbl) (w : Nat) (h : T.w ≤ w) : (pad T w).cells = T.cells.map (padCell T.w w) := by
  unfold pad
  split
  · rename_i h'
    have : T.w = w := by omega
    rw [← this, show padCell T.w T.w = id from funext (padCell_self T.w)]; simp
  · rfl

theorem layoutInputs_length : ∀ (ts : List Tree) (p : List Nat) (i : Nat), (layoutInputs p i ts).length = ts.length
  | [], _, _ => rfl
  | a :: as, p, i => by simp [layoutInputs, layoutInputs_length as p (i + 1)]

theorem layoutInputs_getElem? : ∀ (ts : List Tree) (p : List Nat) (i j : Nat),
    (layoutInputs p i ts)[j]? = ts[j]?.map (layoutAt (p ++ [i + j]) false)
  | [], _, _, _ => by simp [layoutInputs]
  | a :: as, p, i, 0 => by simp [layoutInputs]
  | a :: as, p, i, j + 1 => by
    simp only [layoutInputs, List.getElem?_cons_succ, layoutInputs_getElem? as p (i + 1) j]
    rw [show i + 1 + j = i + (j + 1) by omega]

theorem vstack_pad_w (w : Nat) (Ts : List Tbl) (hne : Ts ≠ []) (hle : ∀ T ∈ Ts, T.w ≤ w) :
    (vstack (Ts.map (pad · w))).w = w := by
  cases Ts with
  | nil => exact absurd rfl hne
  | cons A Ts =>
    have := hle A (by simp)
    simp only [List.map_cons, vstack_cons, vcat, pad_w]; omega

theorem stackOf_w (p : List Nat) (ins : List Tree) (hne : ins ≠ []) :
    (stackOf p ins).w = maxWidth (layoutInputs p 0 ins) :=
  vstack_pad_w _ _ (layoutInputs_ne p 0 ins hne) (maxWidth_ge _)

theorem at?_nil (t : Tree) : t.at? [] = some t := by cases t <;> rfl

theorem at?_step_cons (d : SVS) (ins : List Tree) (i : Nat) (r : List Nat) (c : Tree) (h : ins[i]? = some c) :
    (Tree.step d ins).at? (i :: r) = c.at? r := by simp [Tree.at?, h]

theorem at?_sub_zero (b : Tree) (ns : List SVS) (sh : Bool) (r : List Nat) :
    (Tree.sub b ns sh).at? (0 :: r) = b.at? r := by simp [Tree.at?]

theorem at?_cons (t : Tree) (i : Nat) (rest : List Nat) (n : Tree) (h : t.at? (i :: rest) = some n) :
    (∃ d ins c, t = .step d ins ∧ ins[i]? = some c ∧ c.at? rest = some n) ∨
    (∃ b ns sh, t = .sub b ns sh ∧ i = 0 ∧ b.at? rest = some n) := by
  cases t with
  | ingredient d q => simp [Tree.at?] at h
  | reference s j a => simp [Tree.at?] at h
  | step d ins =>
    left
    simp only [Tree.at?] at h
    cases hc : ins[i]? with
    | none => simp [hc] at h
    | some c => simp only [hc] at h; exact ⟨d, ins, c, rfl, hc, h⟩
  | sub b ns sh =>
    right
    cases i with
    | zero => simp only [Tree.at?] at h; exact ⟨b, ns, sh, rfl, rfl, h⟩
    | succ k => simp [Tree.at?] at h

theorem wfList_getElem? : ∀ (ts : List Tree) (i : Nat) (c : Tree), wfList ts = true → ts[i]? = some c → wf c = true
  | [], _, _, _, h => by simp at h
  | a :: as, 0, c, hw, h => by
    rw [wfList_cons] at hw
    simp at h; subst h; exact hw.1
  | a :: as, i + 1, c, hw, h => by
    rw [wfList_cons] at hw
    simp only [List.getElem?_cons_succ] at h
    exact wfList_getElem? as i c hw.2 h

theorem wf_at : ∀ (q : List Nat) (t n : Tree), wf t = true → t.at? q = some n → wf n = true
  | [], t, n, hw, h => by
    rw [at?_nil, Option.some.injEq] at h
    subst h
    exact hw
  | i :: rest, t, n, hw, h => by
    rcases at?_cons t i rest n h with ⟨d, ins, c, rfl, hc, hr⟩ | ⟨b, ns, sh, rfl, rfl, hr⟩
    · rw [wf_step] at hw
      exact wf_at rest c n (wfList_getElem? ins i c hw.2 hc) hr
    · rw [wf_sub] at hw
      exact wf_at rest b n hw hr

/-! ## Cells up to borders (`strip`, `GEq`); a cell moved down and widened (`emb`) -/

def strip (x : PCell) : PCell := { x with bl := .normal, br := .normal, bt := .normal, bb := .normal }

def GEq (a b : List PCell) : Prop := a.map strip = b.map strip

theorem RTiles.stripped {a : List PCell} {R : Rect} (h : RTiles a R) : RTiles (a.map RG.strip) R :=
  h.map_geo RG.strip (fun _ => ⟨rfl, rfl, rfl, rfl⟩)

theorem GEq.setBorder (t : Tbl) (b : Border) : GEq (setBorder t b).cells t.cells := by
  simp only [GEq, RG.setBorder, List.map_map]
  congr 1

theorem strip_shiftDown (d : Nat) (x : PCell) : strip (shiftDown d x) = shiftDown d (strip x) := rfl

def emb (d w0 w : Nat) (x : PCell) : PCell := shiftDown d (padCell w0 w x)

def embR (d w0 w : Nat) (R : Rect) : Rect := ⟨R.top + d, R.left, R.bottom + d, padEdge w0 w R.right⟩

theorem emb_path (d w0 w : Nat) (x : PCell) : (emb d w0 w x).path = x.path := (padCell_keeps w0 w x).1

theorem emb_kind (d w0 w : Nat) (x : PCell) : (emb d w0 w x).kind = x.kind := (padCell_keeps w0 w x).2.1

theorem emb_borders (d w0 w : Nat) (x : PCell) :
    (emb d w0 w x).bl = x.bl ∧ (emb d w0 w x).br = x.br ∧ (emb d w0 w x).bt = x.bt ∧ (emb d w0 w x).bb = x.bb := by
  unfold emb shiftDown padCell; split <;> exact ⟨rfl, rfl, rfl, rfl⟩

theorem emb_geo (d w0 w : Nat) (x : PCell) (h1 : 0 < x.cols) (_h2 : x.col + x.cols ≤ w0) (hw : w0 ≤ w) :
    (emb d w0 w x).row = x.row + d ∧ (emb d w0 w x).rows = x.rows ∧ (emb d w0 w x).col = x.col ∧
    (emb d w0 w x).col + (emb d w0 w x).cols = padEdge w0 w (x.col + x.cols) := by
  unfold emb shiftDown padCell padEdge
  split <;> simp <;> omega

theorem emb_rect (d w0 w : Nat) (x : PCell) (h1 : 0 < x.cols) (h2 : x.col + x.cols ≤ w0) (hw : w0 ≤ w) :
    (emb d w0 w x).rect = embR d w0 w x.rect := by
  have := emb_geo d w0 w x h1 h2 hw
  simp only [PCell.rect, embR, Rect.mk.injEq]
  omega

def geo (x : PCell) : Nat × Nat × Nat × Nat × List Nat × CellKind := (x.row, x.col, x.rows, x.cols, x.path, x.kind)

theorem geo_emb_inner (d w0 w : Nat) (x : PCell) (h1 : 0 < x.cols) (h2 : x.col + x.cols < w0) (hw : w0 ≤ w) :
    geo (emb d w0 w x) = (x.row + d, x.col, x.rows, x.cols, x.path, x.kind) := by
  have := emb_geo d w0 w x h1 (by omega) hw
  simp only [padEdge] at this
  rw [if_neg (by omega)] at this
  simp only [geo, emb_path, emb_kind, Prod.mk.injEq, and_true]
  omega

end RG
