import RecipeGrid.Model.BraceExpr
/-! The backtracking matcher of `Model/BraceExpr.lean` against the declarative reading of a regular expression:
    every answer comes from a split of the text into a word of the language and a rest on which the
    continuation gives that answer (`run_sound`); and if some such split exists on whose rest the continuation
    answers, the matcher answers (`run_complete`).  Plus the facts about greedy loops over one character class. -/
namespace RG.Re

def Matches : Re → Str → Prop
  | eps, x => x = []
  | cls p, x => ∃ ch, p ch = true ∧ x = [ch]
  | seq a b, x => ∃ y z, x = y ++ z ∧ Matches a y ∧ Matches b z
  | alt a b, x => Matches a x ∨ Matches b x
  | star a, x => ∃ ys : List Str, x = ys.flatten ∧ ∀ y ∈ ys, Matches a y
  | grp _ a, x => Matches a x

def nullable : Re → Bool
  | eps => true
  | cls _ => false
  | seq a b => nullable a && nullable b
  | alt a b => nullable a || nullable b
  | star _ => true
  | grp _ a => nullable a

def first : Re → Char → Bool
  | eps, _ => false
  | cls p, ch => p ch
  | seq a b, ch => first a ch || (nullable a && first b ch)
  | alt a b, ch => first a ch || first b ch
  | star a, ch => first a ch
  | grp _ a, ch => first a ch

def alphabet : Re → Char → Bool
  | eps, _ => false
  | cls p, ch => p ch
  | seq a b, ch => alphabet a ch || alphabet b ch
  | alt a b, ch => alphabet a ch || alphabet b ch
  | star a, ch => alphabet a ch
  | grp _ a, ch => alphabet a ch

/-- no `*` over a pattern that matches the empty word (so that the fuel of a loop suffices) -/
def StarOK : Re → Prop
  | eps => True
  | cls _ => True
  | seq a b => StarOK a ∧ StarOK b
  | alt a b => StarOK a ∧ StarOK b
  | star a => nullable a = false ∧ StarOK a
  | grp _ a => StarOK a

theorem nullable_of_matches_nil : ∀ (r : Re), Matches r [] → nullable r = true
  | eps, _ => rfl
  | cls _, h => by obtain ⟨ch, _, h⟩ := h; cases h
  | seq a b, h => by
    obtain ⟨y, z, hx, ha, hb⟩ := h
    obtain ⟨rfl, rfl⟩ := List.append_eq_nil_iff.1 hx.symm
    simp [nullable, nullable_of_matches_nil a ha, nullable_of_matches_nil b hb]
  | alt a b, h => by
    rcases h with h | h
    · simp [nullable, nullable_of_matches_nil a h]
    · simp [nullable, nullable_of_matches_nil b h]
  | star _, _ => rfl
  | grp _ a, h => by simpa [nullable] using nullable_of_matches_nil a h

theorem first_of_matches : ∀ (r : Re) (ch : Char) (x : Str), Matches r (ch :: x) → first r ch = true
  | eps, _, _, h => by cases h
  | cls p, ch, x, h => by
    obtain ⟨c, hp, h⟩ := h
    cases h; simpa [first] using hp
  | seq a b, ch, x, h => by
    obtain ⟨y, z, hx, ha, hb⟩ := h
    cases y with
    | nil =>
      simp only [List.nil_append] at hx
      subst hx
      simp [first, nullable_of_matches_nil a ha, first_of_matches b ch x hb]
    | cons c y =>
      simp only [List.cons_append, List.cons.injEq] at hx
      obtain ⟨rfl, _⟩ := hx
      simp [first, first_of_matches a ch y ha]
  | alt a b, ch, x, h => by
    rcases h with h | h
    · simp [first, first_of_matches a ch x h]
    · simp [first, first_of_matches b ch x h]
  | star a, ch, x, h => by
    obtain ⟨ys, hx, hys⟩ := h
    induction ys with
    | nil => cases hx
    | cons y ys ih =>
      cases y with
      | nil => exact ih (by simpa using hx) (fun y hy => hys y (List.mem_cons_of_mem _ hy))
      | cons c y =>
        simp only [List.flatten_cons, List.cons_append, List.cons.injEq] at hx
        obtain ⟨rfl, _⟩ := hx
        simpa [first] using first_of_matches a ch y (hys _ (List.mem_cons_self ..))
  | grp _ a, ch, x, h => by simpa [first] using first_of_matches a ch x h

theorem alphabet_of_matches : ∀ (r : Re) (x : Str), Matches r x → ∀ ch ∈ x, alphabet r ch = true
  | eps, _, h => by cases h; simp
  | cls p, x, h => by
    obtain ⟨c, hp, h⟩ := h
    subst h; simpa [alphabet] using hp
  | seq a b, x, h => by
    obtain ⟨y, z, hx, ha, hb⟩ := h
    subst hx
    intro ch hch
    rcases List.mem_append.1 hch with h | h
    · simp [alphabet, alphabet_of_matches a y ha ch h]
    · simp [alphabet, alphabet_of_matches b z hb ch h]
  | alt a b, x, h => by
    intro ch hch
    rcases h with h | h
    · simp [alphabet, alphabet_of_matches a x h ch hch]
    · simp [alphabet, alphabet_of_matches b x h ch hch]
  | star a, x, h => by
    obtain ⟨ys, hx, hys⟩ := h
    subst hx
    intro ch hch
    obtain ⟨y, hy, hc⟩ := List.mem_flatten.1 hch
    simpa [alphabet] using alphabet_of_matches a y (hys y hy) ch hc
  | grp _ a, x, h => by
    intro ch hch
    simpa [alphabet] using alphabet_of_matches a x h ch hch

theorem starK_sound {α : Type} {a : Re} (ma : Str → Caps → Cont α → Option α)
    (hma : ∀ s c k v, ma s c k = some v → ∃ x s' c', s = x ++ s' ∧ Matches a x ∧ k s' c' = some v) :
    ∀ (fuel : Nat) (s : Str) (c : Caps) (k : Cont α) (v : α), starK ma fuel s c k = some v →
      ∃ x s' c', s = x ++ s' ∧ Matches (star a) x ∧ k s' c' = some v
  | 0, s, c, k, v, h => ⟨[], s, c, rfl, ⟨[], rfl, by simp⟩, h⟩
  | fuel + 1, s, c, k, v, h => by
    simp only [starK] at h
    split at h
    · rename_i r hr
      cases h
      obtain ⟨x, s', c', hs, hx, hk⟩ := hma _ _ _ _ hr
      obtain ⟨x2, s2, c2, hs2, ⟨ys, hys, hall⟩, hk2⟩ := starK_sound ma hma fuel s' c' k v hk
      refine ⟨x ++ x2, s2, c2, by rw [hs, hs2, List.append_assoc], ⟨x :: ys, by simp [hys], ?_⟩, hk2⟩
      intro y hy
      rcases List.mem_cons.1 hy with rfl | hy
      · exact hx
      · exact hall y hy
    · exact ⟨[], s, c, rfl, ⟨[], rfl, by simp⟩, h⟩

theorem run_sound {α : Type} : ∀ (r : Re) (s : Str) (c : Caps) (k : Cont α) (v : α), run r s c k = some v →
    ∃ x s' c', s = x ++ s' ∧ Matches r x ∧ k s' c' = some v
  | eps, s, c, k, v, h => ⟨[], s, c, rfl, rfl, h⟩
  | cls p, s, c, k, v, h => by
    cases s with
    | nil => simp [run] at h
    | cons ch rest =>
      simp only [run] at h
      split at h
      · rename_i hp
        exact ⟨[ch], rest, c, rfl, ⟨ch, hp, rfl⟩, h⟩
      · cases h
  | seq a b, s, c, k, v, h => by
    simp only [run] at h
    obtain ⟨x, s', c', hs, hx, hk⟩ := run_sound a s c _ v h
    obtain ⟨y, s2, c2, hs2, hy, hk2⟩ := run_sound b s' c' k v hk
    exact ⟨x ++ y, s2, c2, by rw [hs, hs2, List.append_assoc], ⟨x, y, rfl, hx, hy⟩, hk2⟩
  | alt a b, s, c, k, v, h => by
    simp only [run] at h
    split at h
    · rename_i r hr
      cases h
      obtain ⟨x, s', c', hs, hx, hk⟩ := run_sound a s c k _ hr
      exact ⟨x, s', c', hs, Or.inl hx, hk⟩
    · obtain ⟨x, s', c', hs, hx, hk⟩ := run_sound b s c k v h
      exact ⟨x, s', c', hs, Or.inr hx, hk⟩
  | star a, s, c, k, v, h => by
    simp only [run] at h
    exact starK_sound (run a) (fun s c k v h => run_sound a s c k v h) _ s c k v h
  | grp id a, s, c, k, v, h => by
    simp only [run] at h
    obtain ⟨x, s', c', hs, hx, hk⟩ := run_sound a s c _ v h
    exact ⟨x, s', _, hs, hx, hk⟩

theorem run_eq_none {α : Type} (r : Re) (s : Str) (c : Caps) (k : Cont α)
    (h : ∀ x s' c', s = x ++ s' → Matches r x → k s' c' = none) : run r s c k = none := by
  cases hr : run r s c k with
  | none => rfl
  | some v =>
    obtain ⟨x, s', c', hs, hx, hk⟩ := run_sound r s c k v hr
    rw [h x s' c' hs hx] at hk
    cases hk

theorem run_eq_none_of_first {α : Type} (r : Re) (s : Str) (c : Caps) (k : Cont α)
    (hn : nullable r = false) (hf : ∀ ch, s.head? = some ch → first r ch = false) : run r s c k = none := by
  apply run_eq_none
  intro x s' c' hs hx
  cases x with
  | nil => rw [nullable_of_matches_nil r hx] at hn; cases hn
  | cons ch x =>
    have := first_of_matches r ch x hx
    rw [hf ch (by simp [hs])] at this
    cases this

theorem starK_complete {α : Type} {a : Re} (ma : Str → Caps → Cont α → Option α)
    (hma : ∀ x, Matches a x → ∀ s' c k, (∀ c', (k s' c').isSome) → (ma (x ++ s') c k).isSome)
    (hnn : ¬ Matches a []) (s' : Str) (k : Cont α) (hk : ∀ c', (k s' c').isSome) :
    ∀ (ys : List Str), (∀ y ∈ ys, Matches a y) → ∀ (fuel : Nat) (c : Caps), ys.flatten.length ≤ fuel →
      (starK ma fuel (ys.flatten ++ s') c k).isSome
  | [], _, fuel, c, _ => by
    cases fuel with
    | zero => simpa [starK] using hk c
    | succ f =>
      simp only [List.flatten_nil, List.nil_append, starK]
      split
      · rfl
      · exact hk c
  | y :: ys, hys, fuel, c, hf => by
    have hy := hys y (List.mem_cons_self ..)
    have hyne : y ≠ [] := fun h => hnn (h ▸ hy)
    have hylen : 0 < y.length := List.length_pos_iff.2 hyne
    simp only [List.flatten_cons, List.length_append] at hf
    cases fuel with
    | zero => omega
    | succ f =>
      simp only [List.flatten_cons, List.append_assoc, starK]
      have : (ma (y ++ (ys.flatten ++ s')) c (fun s'' c'' => starK ma f s'' c'' k)).isSome := by
        apply hma y hy
        intro c'
        exact starK_complete ma hma hnn s' k hk ys (fun y hy => hys y (List.mem_cons_of_mem _ hy)) f c' (by omega)
      split
      · rfl
      · rename_i hnone
        rw [hnone] at this
        cases this

theorem run_complete {α : Type} : ∀ (r : Re), StarOK r → ∀ (x : Str), Matches r x →
    ∀ (s' : Str) (c : Caps) (k : Cont α), (∀ c', (k s' c').isSome) → (run r (x ++ s') c k).isSome
  | eps, _, x, hx, s', c, k, hk => by cases hx; exact hk c
  | cls p, _, x, hx, s', c, k, hk => by
    obtain ⟨ch, hp, rfl⟩ := hx
    simp only [List.cons_append, List.nil_append, run, hp, if_true]
    exact hk c
  | seq a b, hw, x, hx, s', c, k, hk => by
    obtain ⟨y, z, rfl, hy, hz⟩ := hx
    simp only [run, List.append_assoc]
    apply run_complete a hw.1 y hy
    intro c'
    exact run_complete b hw.2 z hz s' c' k hk
  | alt a b, hw, x, hx, s', c, k, hk => by
    simp only [run]
    rcases hx with hx | hx
    · have := run_complete a hw.1 x hx s' c k hk
      split
      · rfl
      · rename_i hnone; rw [hnone] at this; cases this
    · split
      · rfl
      · exact run_complete b hw.2 x hx s' c k hk
  | star a, hw, x, hx, s', c, k, hk => by
    obtain ⟨ys, rfl, hys⟩ := hx
    simp only [run]
    apply starK_complete (run a) (fun x hx s' c k hk => run_complete a hw.2 x hx s' c k hk) _ s' k hk ys hys
    · simp
    · intro h
      have := nullable_of_matches_nil a h
      rw [hw.1] at this
      cases this
  | grp id a, hw, x, hx, s', c, k, hk => by
    simp only [run]
    apply run_complete a hw x hx
    intro c'
    exact hk _

theorem run_alt {α : Type} (a b : Re) (s : Str) (c : Caps) (k : Cont α) :
    run (alt a b) s c k = match run a s c k with | some r => some r | none => run b s c k := by
  rw [run]; cases run a s c k <;> rfl

theorem run_alt_of_left_none {α : Type} {a b : Re} {s : Str} {c : Caps} {k : Cont α}
    (h : run a s c k = none) : run (alt a b) s c k = run b s c k := by
  rw [run_alt, h]

theorem run_cls_cons {α : Type} (p : Char → Bool) (ch : Char) (rest : Str) (c : Caps) (k : Cont α) :
    run (cls p) (ch :: rest) c k = if p ch then k rest c else none := rfl

theorem run_cls_nil {α : Type} (p : Char → Bool) (c : Caps) (k : Cont α) : run (cls p) [] c k = none := rfl

theorem run_seq {α : Type} (a b : Re) (s : Str) (c : Caps) (k : Cont α) :
    run (seq a b) s c k = run a s c (fun s' c' => run b s' c' k) := rfl

theorem run_grp {α : Type} (id : Nat) (a : Re) (s : Str) (c : Caps) (k : Cont α) :
    run (grp id a) s c k = run a s c (fun s' c' => k s' ((id, s.take (s.length - s'.length)) :: c')) := rfl

theorem run_chr_cons {α : Type} (ch : Char) (rest : Str) (c : Caps) (k : Cont α) :
    run (chr ch) (ch :: rest) c k = k rest c := by
  simp [chr, run]

theorem run_chr_ne {α : Type} (ch : Char) (s : Str) (c : Caps) (k : Cont α)
    (h : ∀ x, s.head? = some x → x ≠ ch) : run (chr ch) s c k = none := by
  cases s with
  | nil => rfl
  | cons x rest => simp [chr, run, h x rfl]

variable {α : Type}

/-- a greedy loop over one character class never gives a character back when a shorter run cannot help: if the continuation fails
    after the whole run it also fails in front of a character of the class.  Then the loop is `dropWhile`, whether it finds
    something or not. -/
theorem starK_cls_commit (p : Char → Bool) (k : Cont α) (c : Caps)
    (hk : ∀ ch rest, p ch = true → k (rest.dropWhile p) c = none → k (ch :: rest) c = none) :
    ∀ (fuel : Nat) (s : Str), s.length ≤ fuel → starK (run (cls p)) fuel s c k = k (s.dropWhile p) c
  | 0, s, hs => by rw [List.length_eq_zero_iff.1 (Nat.le_zero.1 hs)]; rfl
  | fuel + 1, [], _ => rfl
  | fuel + 1, ch :: rest, hs => by
    simp only [starK, run_cls_cons, List.dropWhile_cons]
    cases hp : p ch with
    | false => rfl
    | true =>
      simp only [if_true]
      rw [starK_cls_commit p k c hk fuel rest (by simpa using hs)]
      cases h : k (rest.dropWhile p) c with
      | some a => rfl
      | none => exact hk ch rest hp h

/-- the two ways the hypothesis of `starK_cls_commit` is met: the continuation cannot start with a character of the class, or it
    cannot fail -/
def Commits (p : Char → Bool) (k : Cont α) : Prop :=
  (∀ ch rest c, p ch = true → k (ch :: rest) c = none) ∨ ∀ s c, k s c ≠ none

theorem Commits.rejects {p : Char → Bool} {k : Cont α} (h : ∀ ch rest c, p ch = true → k (ch :: rest) c = none) :
    Commits p k := Or.inl h

theorem Commits.total {p : Char → Bool} {k : Cont α} (h : ∀ s c, k s c ≠ none) : Commits p k := Or.inr h

theorem run_star_cls_commit (p : Char → Bool) {k : Cont α} (hk : Commits p k) (s : Str) (c : Caps) :
    run (star (cls p)) s c k = k (s.dropWhile p) c :=
  starK_cls_commit p k c (fun ch rest hp h => hk.elim (fun h1 => h1 ch rest c hp) (fun h2 => absurd h (h2 _ c)))
    _ s (Nat.le_refl _)

theorem run_plus_cls_commit (p : Char → Bool) {k : Cont α} (hk : Commits p k) (s : Str) (c : Caps) :
    run (plus (cls p)) s c k = if s.takeWhile p = [] then none else k (s.dropWhile p) c := by
  cases s with
  | nil => rfl
  | cons ch rest =>
    rw [plus, run, run_cls_cons, List.takeWhile_cons, List.dropWhile_cons]
    cases p ch with
    | false => rfl
    | true => simp only [if_true]; rw [run_star_cls_commit p hk]; simp

end RG.Re
