/-! The longest run of a class at the head of a list: `xs ++ rest` splits at `xs` under `takeWhile p` / `dropWhile p`
    when `p` holds on `xs` and `rest` does not go on with `p`.  The second hypothesis is written out
    (`∀ c, rest.head? = some c → p c = false`); it is what `C06.NextNot p rest` unfolds to. -/
namespace RG

theorem head_append_of_ne {α : Type _} {xs r : List α} {p : α → Prop} (hne : xs ≠ []) (h : ∀ x ∈ xs, p x) :
    ∀ c, (xs ++ r).head? = some c → p c := by
  intro c hc
  cases xs with
  | nil => exact absurd rfl hne
  | cons x xs => cases hc; exact h _ (List.mem_cons_self ..)

variable {α : Type _} {p : α → Bool}

theorem mem_takeWhile_imp {l : List α} {x : α} (hx : x ∈ l.takeWhile p) : p x = true :=
  List.all_eq_true.mp List.all_takeWhile x hx

theorem head_dropWhile_false {l : List α} {c : α} (h : (l.dropWhile p).head? = some c) : p c = false := by
  have := List.head?_dropWhile_not p l
  rw [h] at this
  simpa using this

theorem takeWhile_nil_of_next {rest : List α} (hr : ∀ c, rest.head? = some c → p c = false) :
    rest.takeWhile p = [] := by
  cases rest with
  | nil => rfl
  | cons c cs => simp [hr c rfl]

theorem dropWhile_self_of_next {rest : List α} (hr : ∀ c, rest.head? = some c → p c = false) :
    rest.dropWhile p = rest := by
  cases rest with
  | nil => rfl
  | cons c cs => simp [hr c rfl]

theorem takeWhile_run {xs rest : List α} (hx : ∀ x ∈ xs, p x = true) (hr : ∀ c, rest.head? = some c → p c = false) :
    (xs ++ rest).takeWhile p = xs := by
  rw [List.takeWhile_append_of_pos hx, takeWhile_nil_of_next hr, List.append_nil]

theorem dropWhile_run {xs rest : List α} (hx : ∀ x ∈ xs, p x = true) (hr : ∀ c, rest.head? = some c → p c = false) :
    (xs ++ rest).dropWhile p = rest := by
  rw [List.dropWhile_append_of_pos hx, dropWhile_self_of_next hr]

theorem span_run (p : α → Bool) (xs rest : List α) (hx : ∀ x ∈ xs, p x = true)
    (hr : ∀ c, rest.head? = some c → p c = false) :
    (xs ++ rest).takeWhile p = xs ∧ (xs ++ rest).dropWhile p = rest :=
  ⟨takeWhile_run hx hr, dropWhile_run hx hr⟩

theorem takeWhile_eq_nil_iff_head {s : List α} : s.takeWhile p = [] ↔ s.head?.any p = false := by
  cases s with
  | nil => simp
  | cons c cs => cases h : p c <;> simp [h]

theorem take_length_sub_append {α} (a b : List α) : (a ++ b).take ((a ++ b).length - b.length) = a := by
  simp

theorem split_run (p : α → Bool) (s : List α) :
    s = s.takeWhile p ++ s.dropWhile p ∧ (∀ x ∈ s.takeWhile p, p x = true) ∧
      ∀ c, (s.dropWhile p).head? = some c → p c = false :=
  ⟨List.takeWhile_append_dropWhile.symm, fun _ hx => mem_takeWhile_imp hx, fun _ => head_dropWhile_false⟩

end RG
