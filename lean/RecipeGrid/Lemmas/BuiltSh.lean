import RecipeGrid.Lemmas.ParserErrShift
/-! What the rules of the instrumented parser have in common, and one walk over them.  `BuiltSh pre g pe' pe p`: `pe` is built
    by the combinators of `Model/ParserErr.lean` from terminals whose scanners behave, `p` is the same construction in
    `Model/Parser.lean`, and `pe'` is `pe` again with every value it binds mapped by the shift (in `ShE.bind` the continuation
    is applied to the shifted value, so the map `g` has to be part of the relation).  `Sim`, `Good`, `LE` and `ShE` follow
    by one induction each (the first three say nothing of the padding and are read at `pre = []`); then every terminal and
    every rule of the grammar is `BuiltSh`. -/
namespace RG
namespace ParserE
open Parser (P PState Sh Adv Mono shSt)

inductive BuiltSh (pre : Str) : {α α' : Type} → (α → α') → PE α' → PE α → P α → Prop
  | pure {α α' : Type} {g : α → α'} {a : α} {b : α'} (h : b = g a) :
      BuiltSh pre g (Pure.pure b) (Pure.pure a) (Pure.pure a)
  | term {α α' : Type} {g : α → α'} {p' : P α'} {p : P α} (hg : Good (ParserE.term p))
      (hl : ∀ (a b : Str), Cut a → ∀ s : PState, s.pos < a.length → Lp a b p s) (hs : Sh pre g p' p) :
      BuiltSh pre g (ParserE.term p') (ParserE.term p) p
  | getPos : BuiltSh pre (· + pre.length) ParserE.getPos ParserE.getPos Parser.getPos
  | skipManyOpt (q : Char → Bool) : BuiltSh pre id (ParserE.skipManyOpt q) (ParserE.skipManyOpt q) (Parser.skipMany q)
  | liftOhsp : BuiltSh pre id (ParserE.lift Parser.ohsp) (ParserE.lift Parser.ohsp) Parser.ohsp
  | bind {α α' β β' : Type} {f : α → α'} {g : β → β'} {m' : PE α'} {m : PE α} {mp : P α} {h' : α' → PE β'}
      {h : α → PE β} {hp : α → P β} : BuiltSh pre f m' m mp → (∀ a, BuiltSh pre g (h' (f a)) (h a) (hp a)) →
      BuiltSh pre g (m' >>= h') (m >>= h) (mp >>= hp)
  | orElse {α α' : Type} {g : α → α'} {p' q' : PE α'} {p q : PE α} {pp qp : P α} :
      BuiltSh pre g p' p pp → BuiltSh pre g q' q qp → BuiltSh pre g (p' <|> q') (p <|> q) (pp <|> qp)
  | withText {α α' : Type} {g : α → α'} {p' : PE α'} {p : PE α} {pp : P α} : BuiltSh pre g p' p pp →
      BuiltSh pre (fun x => (g x.1, x.2)) (ParserE.withText p') (ParserE.withText p) (Parser.withText pp)
  | many {α α' : Type} {g : α → α'} {p' : PE α'} {p : PE α} {pp : P α} : BuiltSh pre g p' p pp → Adv pp →
      BuiltSh pre (List.map g) (ParserE.many p') (ParserE.many p) (Parser.many pp)
  | bind_remaining {β β' : Type} {g : β → β'} {f' : Nat → PE β'} {f : Nat → PE β} {fp : Nat → P β} :
      (∀ k, BuiltSh pre g (f' k) (f k) (fp k)) →
      (∀ (k k' : Nat) (t : Array Char) (lo : Nat), t.size ≤ k + lo → k ≤ k' → EqFrom t lo (f k') (f k)) →
      BuiltSh pre g (remaining >>= f') (remaining >>= f) (Parser.remaining >>= fp)
  /-- the plain parser may be written differently, and so may the map -/
  | congr {α α' : Type} {g g' : α → α'} {pe' : PE α'} {pe : PE α} {p p' : P α} : BuiltSh pre g pe' pe p →
      (∀ t s, p' t s = p t s) → g = g' → BuiltSh pre g' pe' pe p'

variable {pre : Str}

theorem BuiltSh.sim {α α' : Type} {g : α → α'} {pe' : PE α'} {pe : PE α} {p : P α} (h : BuiltSh [] g pe' pe p) :
    Sim pe p := by
  induction h with
  | pure _ => exact Sim.pure _
  | term _ _ _ => exact Sim.term _
  | getPos => exact Sim.getPos
  | skipManyOpt q => exact Sim.skipManyOpt q
  | liftOhsp => exact Sim.lift _
  | bind _ _ ihm ihf => exact Sim.bind ihm ihf
  | orElse _ _ ihp ihq => exact Sim.orElse ihp ihq
  | withText _ ih => exact Sim.withText ih
  | many _ _ ih => exact Sim.many ih
  | bind_remaining _ _ ih => exact Sim.bind Sim.remaining ih
  | congr _ e _ ih => exact fun t s => (ih t s).trans (e t s).symm

theorem BuiltSh.good {α α' : Type} {g : α → α'} {pe' : PE α'} {pe : PE α} {p : P α} (h : BuiltSh [] g pe' pe p) :
    Good pe := by
  induction h with
  | pure _ => exact Good.pure _
  | term hg _ _ => exact hg
  | getPos => exact Good.getPos
  | skipManyOpt q => exact Good.skipManyOpt q
  | liftOhsp => exact Good.liftOhsp
  | bind _ _ ihm ihf => exact Good.bind ihm ihf
  | orElse _ _ ihp ihq => exact Good.orElse ihp ihq
  | withText _ ih => exact Good.withText ih
  | many _ _ ih => exact Good.many ih
  | bind_remaining _ _ ih => exact Good.bind Good.remaining ih
  | congr _ _ _ ih => exact ih

theorem BuiltSh.le {α α' : Type} {g : α → α'} {pe' : PE α'} {pe : PE α} {p : P α} (h : BuiltSh [] g pe' pe p)
    {a : Str} (b : Str) (hcut : Cut a) (s : PState) : LE a b pe pe s := by
  induction h generalizing s with
  | pure _ => exact LE.pure _
  | term hg hl _ => exact LE.term hg (hl a b hcut s)
  | getPos => exact fun _ => Or.inl rfl
  | skipManyOpt q => exact LE.skipManyOpt q
  | liftOhsp => exact LE.liftOhsp
  | bind hm hf ihm ihf => exact LE.bind hm.good (fun x => (hf x).good) (ihm s) fun x s1 _ => ihf x s1
  | orElse _ _ ihp ihq => exact LE.orElse (ihp s) (ihq s)
  | withText hp ih => exact LE.withText hp.good (ih s)
  | many hp hadv ih => exact LE.many hp.good (AdvE.of_sim hp.sim hadv) ih
  | bind_remaining hf hfuel ih => exact LE.bind_remaining (fun k => (hf k).good) ih hfuel
  | congr _ _ _ ih => exact ih s

theorem BuiltSh.shE {α α' : Type} {g : α → α'} {pe' : PE α'} {pe : PE α} {p : P α} (h : BuiltSh pre g pe' pe p) :
    ShE pre g pe' pe := by
  induction h with
  | pure h => exact ShE.pure h
  | term _ _ hs => exact ShE.term hs
  | getPos => exact ShE.getPos
  | skipManyOpt q => exact ShE.skipManyOpt q
  | liftOhsp => exact ShE.lift Sh.ohsp
  | bind _ _ ihm ihf => exact ShE.bind ihm ihf
  | orElse _ _ ihp ihq => exact ShE.orElse ihp ihq
  | withText _ ih => exact ShE.withText ih
  | many _ _ ih => exact ShE.many ih
  | bind_remaining _ _ ih => exact ShE.bind ShE.remaining ih
  | congr _ _ e ih => exact ih.of_eq e

theorem BuiltSh.opt {α α' : Type} {g : α → α'} {p' : PE α'} {p : PE α} {pp : P α} (hp : BuiltSh pre g p' p pp) :
    BuiltSh pre (Option.map g) (opt p') (opt p) (Parser.opt pp) :=
  BuiltSh.orElse (BuiltSh.bind hp fun _ => BuiltSh.pure rfl) (BuiltSh.pure rfl)

theorem BuiltSh.textOf {p' p : PE Unit} {pp : P Unit} (hp : BuiltSh pre id p' p pp) :
    BuiltSh pre id (textOf p') (textOf p) (Parser.textOf pp) :=
  BuiltSh.bind (BuiltSh.withText hp) fun _ => BuiltSh.pure rfl

theorem BuiltSh.many_id {α : Type} {p' p : PE α} {pp : P α} (hp : BuiltSh pre id p' p pp) (ha : Adv pp) :
    BuiltSh pre id (ParserE.many p') (ParserE.many p) (Parser.many pp) :=
  BuiltSh.congr (BuiltSh.many hp ha) (fun _ _ => rfl) (by funext l; simp)

theorem BuiltSh.of_ex {α α' : Type} {g : α → α'} {p' : P α'} {p : P α} (hg : Good (ParserE.term p))
    (he : ∀ {a b : Str}, Cut a → Ex a b p) (hs : Sh pre g p' p) : BuiltSh pre g (ParserE.term p') (ParserE.term p) p :=
  BuiltSh.term hg (fun _ _ hcut _ h => Lp.of_ex (he hcut) h) hs

theorem BuiltSh.lit (c : Char) : BuiltSh pre id (lit c) (lit c) (Parser.lit c) :=
  BuiltSh.term (Good.lit c) (fun _ _ _ _ h => Lp.lit c h) (Sh.lit c)
theorem BuiltSh.sat (q : Char → Bool) :
    BuiltSh pre id (ParserE.term (Parser.sat q)) (ParserE.term (Parser.sat q)) (Parser.sat q) :=
  BuiltSh.term (Good.sat q) (fun _ _ _ _ h => Lp.sat q h) (Sh.sat q)
theorem BuiltSh.ohsp : BuiltSh pre id ohsp ohsp Parser.ohsp := BuiltSh.skipManyOpt _
theorem BuiltSh.hsp : BuiltSh pre id hsp hsp Parser.hsp :=
  BuiltSh.of_ex Good.hsp Ex.hsp Sh.hsp
theorem BuiltSh.digits : BuiltSh pre id digits digits Parser.digits :=
  BuiltSh.of_ex Good.digits Ex.digits Sh.digits
theorem BuiltSh.decimal : BuiltSh pre (Parser.shNum pre.length) decimal decimal Parser.decimal :=
  BuiltSh.of_ex Good.decimal Ex.decimal Sh.decimal
theorem BuiltSh.denominator :
    BuiltSh pre id (ParserE.term denominator) (ParserE.term denominator) denominator :=
  BuiltSh.of_ex Good.denominator Ex.denominator Sh.denominator

theorem BuiltSh.nakedString : BuiltSh pre (shiftString pre.length) nakedString nakedString Parser.nakedString :=
  BuiltSh.of_ex Good.nakedString Ex.nakedString Sh.nakedString

theorem BuiltSh.fail {α : Type} {g : α → α} : BuiltSh pre g (fail : PE α) fail Parser.fail :=
  BuiltSh.term Good.fail (fun _ _ _ _ _ => Lp.fail) Sh.fail

theorem BuiltSh.osp : BuiltSh pre id osp osp Parser.osp := BuiltSh.skipManyOpt _
theorem BuiltSh.eof : BuiltSh pre id eof eof Parser.eof := BuiltSh.term Good.eof (fun _ _ _ _ h => Lp.eof h) Sh.eof
theorem BuiltSh.preposition : BuiltSh pre id preposition preposition Parser.preposition :=
  BuiltSh.of_ex Good.preposition Ex.preposition Sh.preposition
theorem BuiltSh.remainder : BuiltSh pre id remainder remainder Parser.remainder :=
  BuiltSh.of_ex Good.remainder Ex.remainder Sh.remainder
theorem BuiltSh.knownUnit : BuiltSh pre id knownUnit knownUnit Parser.knownUnit :=
  BuiltSh.term Good.knownUnit (fun _ _ hcut _ h => Lp.knownUnit hcut h) Sh.knownUnit
theorem BuiltSh.eolBreak : BuiltSh pre id (ParserE.term eolBreak) (ParserE.term eolBreak) eolBreak :=
  BuiltSh.term Good.eolBreak (fun _ _ hcut _ h => Lp.eolBreak hcut h) Sh.eolBreak
theorem BuiltSh.assign : BuiltSh pre id assign assign Parser.assign :=
  BuiltSh.of_ex Good.assign Ex.assign Sh.assign

theorem BuiltSh.fraction : BuiltSh pre (Parser.shNum pre.length) fraction fraction Parser.fraction := by
  unfold ParserE.fraction Parser.fraction
  refine BuiltSh.bind BuiltSh.getPos fun start => ?_
  refine BuiltSh.bind (BuiltSh.opt (g := id) (BuiltSh.bind BuiltSh.digits fun ds => BuiltSh.bind BuiltSh.hsp fun _ =>
    BuiltSh.pure rfl)) fun integer => ?_
  refine BuiltSh.bind BuiltSh.getPos fun numerStart => ?_
  refine BuiltSh.bind BuiltSh.digits fun numer => ?_
  refine BuiltSh.bind BuiltSh.ohsp fun _ => ?_
  refine BuiltSh.bind (BuiltSh.lit _) fun _ => ?_
  refine BuiltSh.bind BuiltSh.ohsp fun _ => ?_
  refine BuiltSh.congr (BuiltSh.bind BuiltSh.denominator fun denom => BuiltSh.pure ?_) (fun t s => ?_) rfl
  · simp only [id, Option.map_id_fun]
    cases integer <;> rfl
  · unfold ParserE.denominator
    rw [Parser.bind_apply, Parser.bind_apply, Parser.bind_apply]
    cases Parser.digits t s with
    | none => rfl
    | some r =>
      by_cases h : Parser.natOfDigits r.1 = 0
      · simp only [h, if_true, Parser.fail_apply]
      · simp only [h, if_false, Parser.pure_apply]

theorem BuiltSh.number : BuiltSh pre (Parser.shNum pre.length) number number Parser.number :=
  BuiltSh.orElse BuiltSh.fraction BuiltSh.decimal

theorem BuiltSh.escaped : BuiltSh pre id escaped escaped Parser.escaped :=
  BuiltSh.bind (BuiltSh.lit _) fun _ => BuiltSh.bind (BuiltSh.sat _) fun _ => BuiltSh.pure rfl

theorem BuiltSh.quotedString (q : Char) :
    BuiltSh pre (shiftString pre.length) (quotedString q) (quotedString q) (Parser.quotedString q) := by
  unfold ParserE.quotedString Parser.quotedString
  refine BuiltSh.bind BuiltSh.getPos fun off => ?_
  refine BuiltSh.bind (BuiltSh.lit _) fun _ => ?_
  refine BuiltSh.bind (BuiltSh.many_id (BuiltSh.orElse BuiltSh.escaped (BuiltSh.sat _))
    (Parser.adv_orElse Parser.adv_escaped (Parser.adv_sat _))) fun body => ?_
  exact BuiltSh.bind (BuiltSh.lit _) fun _ => BuiltSh.pure rfl

theorem BuiltSh.bracketedItem :
    BuiltSh pre (Parser.shItem pre.length) bracketedItem bracketedItem Parser.bracketedItem := by
  unfold ParserE.bracketedItem Parser.bracketedItem
  refine BuiltSh.orElse ?_ (BuiltSh.orElse ?_ ?_)
  · refine BuiltSh.bind BuiltSh.number fun x => ?_
    obtain ⟨off, n⟩ := x
    exact BuiltSh.pure rfl
  · exact BuiltSh.bind BuiltSh.getPos fun off => BuiltSh.bind BuiltSh.escaped fun c => BuiltSh.pure rfl
  · exact BuiltSh.bind BuiltSh.getPos fun off => BuiltSh.bind (BuiltSh.sat _) fun c => BuiltSh.pure rfl

theorem BuiltSh.bracketedString :
    BuiltSh pre (shiftString pre.length) bracketedString bracketedString Parser.bracketedString := by
  unfold ParserE.bracketedString Parser.bracketedString
  refine BuiltSh.bind BuiltSh.getPos fun off => ?_
  refine BuiltSh.bind (BuiltSh.lit _) fun _ => ?_
  refine BuiltSh.bind (BuiltSh.many BuiltSh.bracketedItem Parser.adv_bracketedItem) fun body => ?_
  refine BuiltSh.bind (BuiltSh.lit _) fun _ => BuiltSh.pure ?_
  rw [← Parser.finish_shift, ← Parser.foldl_push_shift _ _ _ (fun h => absurd rfl h)]
  rfl

/-- the first part of `string` -/
def atom (static : Bool) : PE AString :=
  nakedString <|> quotedString '\'' <|> quotedString '"' <|> (if static then fail else bracketedString)

theorem BuiltSh.atom (static : Bool) :
    BuiltSh pre (shiftString pre.length) (ParserE.atom static) (ParserE.atom static) (Parser.atom static) := by
  unfold ParserE.atom Parser.atom
  refine BuiltSh.orElse BuiltSh.nakedString (BuiltSh.orElse (BuiltSh.quotedString _) (BuiltSh.orElse (BuiltSh.quotedString _) ?_))
  cases static
  · exact BuiltSh.bracketedString
  · exact BuiltSh.fail

/-- `string` takes one more unit of fuel than there are characters left, and every level consumes a character before it
    recurses: the level without fuel is never reached -/
theorem stringF_fuel (static : Bool) {t : Array Char} : ∀ (k k' lo : Nat), t.size < k + lo → k ≤ k' →
    EqFrom t lo (stringF static k') (stringF static k)
  | 0, _, _, _, _ => fun _ _ _ => by omega
  | k + 1, 0, _, _, h => by omega
  | k + 1, k' + 1, lo, hk, hkk => by
    unfold ParserE.stringF
    refine .bind_adv (BuiltSh.atom static).good
      (AdvE.of_sim (BuiltSh.atom static).sim (Parser.adv_atom static)) fun first => ?_
    refine EqFrom.bind_left (.orElse (EqFrom.bind_left ?_ _) (.refl _)) _
    refine .bind Good.getPos (.refl _) fun off => .bind (Good.textOf Good.ohsp) (.refl _) fun space => ?_
    exact (stringF_fuel static k k' (lo + 1) (by omega) (by omega)).bind_left _

theorem BuiltSh.stringF (static : Bool) : ∀ fuel,
    BuiltSh pre (shiftString pre.length) (stringF static fuel) (stringF static fuel) (Parser.stringF static fuel)
  | 0 => BuiltSh.fail
  | fuel + 1 => by
    unfold ParserE.stringF Parser.stringF
    refine BuiltSh.bind (BuiltSh.atom static) fun first => ?_
    refine BuiltSh.bind (BuiltSh.opt (g := shiftString pre.length) ?_) fun rest => ?_
    · refine BuiltSh.bind BuiltSh.getPos fun off => ?_
      refine BuiltSh.bind (BuiltSh.textOf BuiltSh.ohsp) fun space => ?_
      refine BuiltSh.bind (BuiltSh.stringF static fuel) fun more => BuiltSh.pure ?_
      simp only [id]
      split <;> rfl
    · refine BuiltSh.pure ?_
      cases rest <;> simp [shiftString]

theorem BuiltSh.string (static : Bool) :
    BuiltSh pre (shiftString pre.length) (string static) (string static) (Parser.string static) :=
  BuiltSh.bind_remaining (fun k => BuiltSh.stringF static (k + 1)) fun k k' _ lo hk hkk =>
    stringF_fuel static (k + 1) (k' + 1) lo (by omega) (by omega)

theorem BuiltSh.hspPreposition : BuiltSh pre id hspPreposition hspPreposition Parser.hspPreposition :=
  BuiltSh.orElse (BuiltSh.textOf (BuiltSh.bind BuiltSh.hsp fun _ => BuiltSh.preposition)) (BuiltSh.pure rfl)

theorem BuiltSh.proportion : BuiltSh pre (shiftAmount pre.length) proportion proportion Parser.proportion := by
  unfold ParserE.proportion Parser.proportion
  refine BuiltSh.orElse ?_ ?_
  · refine BuiltSh.bind BuiltSh.getPos fun off => ?_
    refine BuiltSh.bind (BuiltSh.textOf BuiltSh.remainder) fun wording => ?_
    exact BuiltSh.bind BuiltSh.hspPreposition fun prep => BuiltSh.pure rfl
  · refine BuiltSh.bind BuiltSh.number fun x => ?_
    obtain ⟨off, v⟩ := x
    refine BuiltSh.orElse ?_ (BuiltSh.orElse ?_ ?_)
    · exact BuiltSh.bind (BuiltSh.textOf (BuiltSh.bind BuiltSh.hsp fun _ => BuiltSh.preposition)) fun prep => BuiltSh.pure rfl
    · refine BuiltSh.bind (BuiltSh.textOf (BuiltSh.bind BuiltSh.ohsp fun _ => BuiltSh.bind (BuiltSh.lit _) fun _ =>
        BuiltSh.bind BuiltSh.hspPreposition fun _ => BuiltSh.pure rfl)) fun prep => BuiltSh.pure rfl
    · exact BuiltSh.bind (BuiltSh.textOf (BuiltSh.bind BuiltSh.ohsp fun _ => BuiltSh.lit _)) fun prep => BuiltSh.pure rfl

theorem BuiltSh.explicitQuantity :
    BuiltSh pre (shiftAmount pre.length) explicitQuantity explicitQuantity Parser.explicitQuantity := by
  unfold ParserE.explicitQuantity Parser.explicitQuantity
  refine BuiltSh.bind BuiltSh.getPos fun off => ?_
  refine BuiltSh.bind (BuiltSh.lit _) fun _ => ?_
  refine BuiltSh.bind BuiltSh.ohsp fun _ => ?_
  refine BuiltSh.bind BuiltSh.number fun x => ?_
  obtain ⟨o, v⟩ := x
  refine BuiltSh.bind (BuiltSh.opt (g := fun x : Str × AString => (x.1, shiftString pre.length x.2))
    (BuiltSh.bind (BuiltSh.textOf BuiltSh.ohsp) fun spacing => BuiltSh.bind (BuiltSh.string true) fun u => BuiltSh.pure rfl))
    fun unit => ?_
  refine BuiltSh.bind BuiltSh.ohsp fun _ => ?_
  refine BuiltSh.bind (BuiltSh.lit _) fun _ => ?_
  refine BuiltSh.bind BuiltSh.hspPreposition fun prep => BuiltSh.pure ?_
  cases unit <;> rfl

theorem BuiltSh.implicitQuantity :
    BuiltSh pre (shiftAmount pre.length) implicitQuantity implicitQuantity Parser.implicitQuantity := by
  unfold ParserE.implicitQuantity Parser.implicitQuantity
  refine BuiltSh.bind BuiltSh.number fun x => ?_
  obtain ⟨off, v⟩ := x
  refine BuiltSh.bind (BuiltSh.opt (g := fun x : Str × AString × Str => (x.1, shiftString pre.length x.2.1, x.2.2))
    ?_) fun unit => ?_
  · refine BuiltSh.bind (BuiltSh.textOf BuiltSh.ohsp) fun spacing => ?_
    refine BuiltSh.bind BuiltSh.getPos fun unitOff => ?_
    refine BuiltSh.bind (BuiltSh.textOf BuiltSh.knownUnit) fun name => ?_
    exact BuiltSh.bind BuiltSh.hspPreposition fun prep => BuiltSh.pure rfl
  · cases unit with
    | none => exact BuiltSh.pure rfl
    | some u => obtain ⟨spacing, u, prep⟩ := u; exact BuiltSh.pure rfl

theorem BuiltSh.reference : BuiltSh pre (shiftExpr pre.length) reference reference Parser.reference := by
  unfold ParserE.reference Parser.reference
  refine BuiltSh.bind (BuiltSh.opt (g := shiftAmount pre.length) ?_) fun amount => ?_
  · refine BuiltSh.bind (BuiltSh.orElse BuiltSh.proportion (BuiltSh.orElse BuiltSh.explicitQuantity BuiltSh.implicitQuantity))
      fun a => ?_
    exact BuiltSh.bind BuiltSh.ohsp fun _ => BuiltSh.pure rfl
  · exact BuiltSh.bind (BuiltSh.string false) fun name => BuiltSh.pure (by rw [shiftExpr])

/-- `hsp? "," hsp? string`, the repeated part of `ltr_shorthand` and of an output list -/
def commaString : PE AString := do ohsp; lit ','; ohsp; string

theorem BuiltSh.commaString :
    BuiltSh pre (shiftString pre.length) ParserE.commaString ParserE.commaString Parser.commaString :=
  BuiltSh.bind BuiltSh.ohsp fun _ => BuiltSh.bind (BuiltSh.lit _) fun _ => BuiltSh.bind BuiltSh.ohsp fun _ =>
    BuiltSh.string false

theorem BuiltSh.step {e : PE AExpr} {ep : P AExpr} (he : BuiltSh pre (shiftExpr pre.length) e e ep) (hm : Parser.Mono ep) :
    BuiltSh pre (shiftExpr pre.length) (step e) (step e) (Parser.step ep) := by
  unfold ParserE.step Parser.step
  refine BuiltSh.bind (BuiltSh.string false) fun name => ?_
  refine BuiltSh.bind BuiltSh.ohsp fun _ => ?_
  refine BuiltSh.bind (BuiltSh.lit _) fun _ => ?_
  refine BuiltSh.bind BuiltSh.osp fun _ => ?_
  refine BuiltSh.bind he fun first => ?_
  refine BuiltSh.bind (BuiltSh.many (BuiltSh.bind BuiltSh.osp fun _ => BuiltSh.bind (BuiltSh.lit _) fun _ =>
    BuiltSh.bind BuiltSh.osp fun _ => he) (Parser.adv_commaExpr hm)) fun rest => ?_
  refine BuiltSh.bind (BuiltSh.opt (g := id) (BuiltSh.bind BuiltSh.osp fun _ => BuiltSh.lit _)) fun _ => ?_
  refine BuiltSh.bind BuiltSh.osp fun _ => ?_
  refine BuiltSh.bind (BuiltSh.lit _) fun _ => ?_
  exact BuiltSh.pure (by rw [shiftExpr, shiftExprs_eq_map]; rfl)

theorem BuiltSh.ltrShorthand {e : PE AExpr} {ep : P AExpr} (he : BuiltSh pre (shiftExpr pre.length) e e ep) :
    BuiltSh pre (shiftExpr pre.length) (ltrShorthand e) (ltrShorthand e) (Parser.ltrShorthand ep) := by
  unfold ParserE.ltrShorthand Parser.ltrShorthand
  refine BuiltSh.bind he fun first => ?_
  refine BuiltSh.bind (BuiltSh.many BuiltSh.commaString Parser.adv_commaString) fun actions => ?_
  exact BuiltSh.pure (Parser.foldl_step_shift _ _ _)

theorem BuiltSh.expr : ∀ k, BuiltSh pre (shiftExpr pre.length) (ParserE.expr k) (ParserE.expr k) (Parser.expr k)
  | 0 => BuiltSh.fail
  | k + 1 => by
    unfold ParserE.expr Parser.expr
    refine BuiltSh.orElse (BuiltSh.step (BuiltSh.expr k) (Parser.adv_expr k).mono) (BuiltSh.orElse BuiltSh.reference ?_)
    refine BuiltSh.bind (BuiltSh.lit _) fun _ => ?_
    refine BuiltSh.bind BuiltSh.osp fun _ => ?_
    refine BuiltSh.bind (BuiltSh.ltrShorthand (BuiltSh.expr k)) fun e0 => ?_
    exact BuiltSh.bind BuiltSh.osp fun _ => BuiltSh.bind (BuiltSh.lit _) fun _ => BuiltSh.pure rfl

theorem AdvE.lit (c : Char) : AdvE (lit c) := AdvE.of_sim (BuiltSh.lit c).sim (Parser.adv_lit c)
theorem AdvE.string (static : Bool) : AdvE (string static) :=
  AdvE.of_sim (BuiltSh.string static).sim (Parser.adv_string static)

/-- `step` calls its argument only after `string` has consumed a character -/
theorem EqFrom.step {e' e : PE AExpr} (hg : Good e) {t : Array Char} {lo : Nat} (he : EqFrom t (lo + 1) e' e) :
    EqFrom t lo (step e') (step e) := by
  unfold ParserE.step
  refine .bind_adv (BuiltSh.string false).good (AdvE.string false) fun name => ?_
  refine .bind Good.ohsp (.refl _) fun _ => .bind (Good.lit _) (.refl _) fun _ => .bind Good.osp (.refl _) fun _ => ?_
  refine .bind hg he fun first => EqFrom.bind_left (.many ?_ ?_) _
  · exact Good.bind Good.osp fun _ => Good.bind (Good.lit _) fun _ => Good.bind Good.osp fun _ => hg
  · exact .bind Good.osp (.refl _) fun _ => .bind (Good.lit _) (.refl _) fun _ => .bind Good.osp (.refl _) fun _ => he

theorem EqFrom.ltrShorthand {e' e : PE AExpr} {t : Array Char} {lo : Nat} (he : EqFrom t lo e' e) :
    EqFrom t lo (ltrShorthand e') (ltrShorthand e) :=
  he.bind_left _

/-- `expr` takes more fuel than there are characters left, and every level consumes a character before it recurses
    (through `step`, after a `string`; through `ltr_shorthand`, after `(`): the level without fuel is never reached -/
theorem expr_fuel {t : Array Char} : ∀ (k k' lo : Nat), t.size < k + lo → k ≤ k' → EqFrom t lo (expr k') (expr k)
  | 0, _, _, _, _ => fun _ _ _ => by omega
  | k + 1, 0, _, _, h => by omega
  | k + 1, k' + 1, lo, hk, hkk => by
    have he := expr_fuel (t := t) k k' (lo + 1) (by omega) (by omega)
    unfold ParserE.expr
    refine .orElse (.step (BuiltSh.expr k).good he) (.orElse (.refl _) ?_)
    refine .bind_adv (Good.lit _) (AdvE.lit _) fun _ => .bind Good.osp (.refl _) fun _ => ?_
    exact he.ltrShorthand.bind_left _

theorem BuiltSh.eol : BuiltSh pre id eol eol Parser.eol :=
  BuiltSh.orElse BuiltSh.eolBreak (BuiltSh.bind BuiltSh.liftOhsp fun _ => BuiltSh.eof)

theorem BuiltSh.outputList :
    BuiltSh pre (List.map (shiftString pre.length)) outputList outputList Parser.outputList := by
  unfold ParserE.outputList Parser.outputList
  refine BuiltSh.bind (BuiltSh.string false) fun first => ?_
  exact BuiltSh.bind (BuiltSh.many BuiltSh.commaString Parser.adv_commaString) fun rest => BuiltSh.pure rfl

theorem BuiltSh.stmt : BuiltSh pre (shiftStmt pre.length) stmt stmt Parser.stmt := by
  unfold ParserE.stmt Parser.stmt
  refine BuiltSh.bind (BuiltSh.opt (g := fun x : List AString × Bool => (x.1.map (shiftString pre.length), x.2)) ?_)
    fun target => ?_
  · refine BuiltSh.bind BuiltSh.outputList fun outputs => ?_
    refine BuiltSh.bind BuiltSh.ohsp fun _ => ?_
    refine BuiltSh.bind BuiltSh.assign fun named => ?_
    exact BuiltSh.bind BuiltSh.ohsp fun _ => BuiltSh.pure rfl
  refine BuiltSh.bind_remaining (fun k => ?_) fun k k' _ lo hk hkk => ?_
  · refine BuiltSh.bind (BuiltSh.ltrShorthand (BuiltSh.expr _)) fun e0 => ?_
    refine BuiltSh.bind BuiltSh.eol fun _ => BuiltSh.pure ?_
    cases target <;> rfl
  · exact (expr_fuel (k + 1) (k' + 1) lo (by omega) (by omega)).ltrShorthand.bind_left _

/-- `stmt+ eof`: `recipe` after its leading `sp?` -/
def recipeBody : PE (List AStmt) := do
  let first ← stmt
  let rest ← many stmt
  eof
  pure (first :: rest)

theorem BuiltSh.recipeBody : BuiltSh pre (List.map (shiftStmt pre.length)) recipeBody recipeBody
    (do let first ← Parser.stmt; let rest ← Parser.many Parser.stmt; Parser.eof; Pure.pure (first :: rest)) :=
  BuiltSh.bind BuiltSh.stmt fun _ => BuiltSh.bind (BuiltSh.many BuiltSh.stmt Parser.adv_stmt) fun _ =>
    BuiltSh.bind BuiltSh.eof fun _ => BuiltSh.pure rfl

theorem BuiltSh.recipe : BuiltSh pre (List.map (shiftStmt pre.length)) recipe recipe Parser.recipe :=
  BuiltSh.bind BuiltSh.osp fun _ => BuiltSh.recipeBody

end ParserE
end RG
