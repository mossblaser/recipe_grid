import RecipeGrid.Lemmas.ParserBasic
import RecipeGrid.Model.BraceExpr
/-! Scanners for the parts of a number at the head of a text, working with maximal runs of digits and blanks: an integer part
    followed by blanks (`lexFracInt`), `numerator / denominator` (`lexFracTail`), a decimal (`lexDecimal`).  Each comes with what it
    does over a digit run (`_run`); `lexFracInt` and `lexFracTail` also with what they return on a text of their shape
    (`_spelling`) and what a result says about the text (`_some`; for `lexDecimal` that is `Parser.lexDecimal_some`, Lemmas/NumberInv.lean).
    The grammar's `number` rule (Lemmas/ParserNumber.lean) and the lexer of the `{…}` expressions (Lemmas/BraceLex.lean) are both
    made of them.  The spellings are stated in the words of `Props/C06Spec.lean` (`IsDigits`, `IsBlanks`), so that the spellings
    `C06.NumLit` of the grammar go in and come out without conversion; `hasNonZero` stays inside the scanners. -/
namespace RG

theorem isBlanks_nil : C06.IsBlanks [] := fun _ h => nomatch h

theorem isBlanks_space : C06.IsBlanks [' '] := by
  intro c hc; simp at hc; subst hc; decide

theorem C06.isDigits_natDigits (n : Nat) : C06.IsDigits (natDigits n) := ⟨natDigits_ne_nil n, natDigits_all_digit n⟩

end RG

namespace RG.Brace
open Parser
open C06 (IsDigits IsBlanks)

/-- a digit run with a non-zero digit: what `0*[1-9][0-9]*` needs -/
def hasNonZero (ds : Str) : Bool := ds.any isNonZeroDigit

/-- `numerator [ \t]* / [ \t]* denominator` at the start of `s`, all runs maximal:
    numerator, denominator, rest -/
def lexFracTail (s : Str) : Option (Str × Str × Str) :=
  if s.takeWhile isDigit = [] then none else
  match (s.dropWhile isDigit).dropWhile isHsp with
  | ch :: r =>
    if ch = '/' then
      if hasNonZero ((r.dropWhile isHsp).takeWhile isDigit) then
        some (s.takeWhile isDigit, (r.dropWhile isHsp).takeWhile isDigit, (r.dropWhile isHsp).dropWhile isDigit)
      else none
    else none
  | [] => none

/-- `integer [ \t]+` at the start of `s`, runs maximal: integer, rest -/
def lexFracInt (s : Str) : Option (Str × Str) :=
  if s.takeWhile isDigit = [] ∨ (s.dropWhile isDigit).takeWhile isHsp = [] then none
  else some (s.takeWhile isDigit, (s.dropWhile isDigit).dropWhile isHsp)

/-- a mixed fraction `integer numerator/denominator` at the start of `s` -/
def lexMixed (s : Str) : Option (Str × Str × Str × Str) :=
  match lexFracInt s with
  | some (i, r) =>
    match lexFracTail r with
    | some (n, d, r') => some (i, n, d, r')
    | none => none
  | none => none

/-- a decimal at the start of `s` (which starts with a digit) -/
def lexDecimal (s : Str) : Num × Str :=
  match s.dropWhile isDigit with
  | ch :: r =>
    if ch = '.' then (floatValue (s.takeWhile isDigit) (r.takeWhile isDigit), r.dropWhile isDigit)
    else (intValue (s.takeWhile isDigit), ch :: r)
  | [] => (intValue (s.takeWhile isDigit), [])

/-- the spelling `n h2 / h3 d` that `lexFracTail` reads -/
structure FracTail (n h2 h3 d : Str) : Prop where
  num : IsDigits n
  before : IsBlanks h2
  after : IsBlanks h3
  den : IsDigits d
  den_ne_zero : natOfDigits d ≠ 0

theorem fracValue_none (n d : Str) : fracValue none n d = ⟨mkRat (natOfDigits n) (natOfDigits d), .frac⟩ := by
  simp [fracValue, Rat.zero_add]

theorem isDigit_of_nonZero {ch : Char} (h : isNonZeroDigit ch = true) : isDigit ch = true := by
  simp only [isNonZeroDigit, isDigit, Bool.and_eq_true, decide_eq_true_eq] at *
  omega

theorem nonZero_of_digit_ne_zero {ch : Char} (h : isDigit ch = true) (h0 : ch ≠ '0') : isNonZeroDigit ch = true := by
  simp only [isNonZeroDigit, isDigit, Bool.and_eq_true, decide_eq_true_eq] at *
  have : ch.toNat ≠ 48 := by
    intro hc
    apply h0
    have := (Char.ofNat_toNat ch).symm
    rw [hc] at this
    exact this
  omega

theorem hasNonZero_iff {d : Str} (hd : ∀ ch ∈ d, isDigit ch = true) : hasNonZero d = true ↔ natOfDigits d ≠ 0 := by
  rw [← Bool.not_eq_false, Ne, natOfDigits_eq, digitsVal_eq_zero, hasNonZero, List.any_eq_false]
  refine not_congr (forall_congr' fun ch => forall_congr' fun hm => ?_)
  have := hd ch hm
  simp only [isNonZeroDigit, isDigit, Bool.and_eq_true, decide_eq_true_eq] at this ⊢
  omega

theorem head_blanks_slash (h2 r : Str) (hh2 : IsBlanks h2) :
    ∀ ch, (h2 ++ '/' :: r).head? = some ch → isDigit ch = false := by
  intro ch hch
  cases h2 with
  | nil =>
    simp only [List.nil_append, List.head?_cons, Option.some.injEq] at hch
    subst hch; decide
  | cons x xs =>
    simp only [List.cons_append, List.head?_cons, Option.some.injEq] at hch
    subst hch
    exact isDigit_of_isHsp (hh2 _ (List.mem_cons_self ..))

theorem head_not_digit_of_dropWhile_hsp {r : Str} (h : ∀ c, (r.dropWhile isHsp).head? = some c → isDigit c = false) :
    ∀ c, r.head? = some c → isDigit c = false := by
  intro c hc
  cases r with
  | nil => cases hc
  | cons x r =>
    cases hc
    cases hd : isDigit c with
    | false => rfl
    | true => rw [← hd]; exact h c (by simp [isHsp_of_isDigit hd])

theorem lexFracTail_none_of_head (s : Str) (h : ∀ ch, s.head? = some ch → isDigit ch = false) :
    lexFracTail s = none := by
  rw [lexFracTail, takeWhile_nil_of_next h]; rfl

theorem lexFracInt_none_of_head (s : Str) (h : ∀ ch, s.head? = some ch → isDigit ch = false) :
    lexFracInt s = none := by
  rw [lexFracInt, takeWhile_nil_of_next h]; rfl

theorem lexFracInt_run {w r : Str} (hw : IsDigits w) (hr : ∀ ch, r.head? = some ch → isDigit ch = false) :
    lexFracInt (w ++ r) = if r.takeWhile isHsp = [] then none else some (w, r.dropWhile isHsp) := by
  have t1 := span_run isDigit w r hw.2 hr
  simp only [lexFracInt, t1.1, t1.2, hw.1, false_or]

theorem lexFracTail_run_none {w r : Str} (hw : ∀ ch ∈ w, isDigit ch = true)
    (hr : ∀ ch, r.head? = some ch → isDigit ch = false)
    (hs : ∀ ch, (r.dropWhile isHsp).head? = some ch → ch ≠ '/') : lexFracTail (w ++ r) = none := by
  have t1 := span_run isDigit w r hw hr
  simp only [lexFracTail, t1.1, t1.2]
  split
  · rfl
  · cases hrr : r.dropWhile isHsp with
    | nil => rfl
    | cons x rr => simp [hs x (by rw [hrr]; rfl)]

theorem lexDecimal_run {w r : Str} (hw : ∀ ch ∈ w, isDigit ch = true)
    (hr : ∀ ch, r.head? = some ch → isDigit ch = false) :
    lexDecimal (w ++ r) = match r with
      | ch :: r' => if ch = '.' then (floatValue w (r'.takeWhile isDigit), r'.dropWhile isDigit) else (intValue w, ch :: r')
      | [] => (intValue w, []) := by
  have t1 := span_run isDigit w r hw hr
  simp only [lexDecimal, t1.1, t1.2]
  cases r <;> rfl

theorem lexMixed_run_none {w r : Str} (hw : IsDigits w) (hr : ∀ ch, r.head? = some ch → isDigit ch = false)
    (ht : lexFracTail (r.dropWhile isHsp) = none) : lexMixed (w ++ r) = none := by
  rw [lexMixed, lexFracInt_run hw hr]
  by_cases hb : r.takeWhile isHsp = [] <;> simp [hb, ht]

theorem lexFracInt_spelling {i h1 r : Str} (hi : IsDigits i) (h1ne : h1 ≠ []) (hh1 : IsBlanks h1)
    (hr : ∀ ch, r.head? = some ch → isHsp ch = false) : lexFracInt (i ++ (h1 ++ r)) = some (i, r) := by
  have t1 := span_run isDigit i (h1 ++ r) hi.2
    (fun ch hch => isDigit_of_isHsp (head_append_of_ne (p := fun x => isHsp x = true) h1ne hh1 ch hch))
  have t2 := span_run isHsp h1 r hh1 hr
  unfold lexFracInt
  rw [t1.1, t1.2, t2.1, t2.2]
  simp [hi.1, h1ne]

theorem lexFracTail_spelling {n h2 h3 d r : Str} (h : FracTail n h2 h3 d)
    (hr : ∀ ch, r.head? = some ch → isDigit ch = false) :
    lexFracTail (n ++ (h2 ++ '/' :: (h3 ++ (d ++ r)))) = some (n, d, r) := by
  have t1 := span_run isDigit n (h2 ++ '/' :: (h3 ++ (d ++ r))) h.num.2 (head_blanks_slash h2 _ h.before)
  have t2 := span_run isHsp h2 ('/' :: (h3 ++ (d ++ r))) h.before
    (by intro ch hch; simp at hch; subst hch; decide)
  have t3 := span_run isHsp h3 (d ++ r) h.after
    (by intro ch hch
        exact isHsp_of_isDigit (head_append_of_ne (p := fun x => isDigit x = true) h.den.1 h.den.2 ch hch))
  have t4 := span_run isDigit d r h.den.2 hr
  unfold lexFracTail
  rw [t1.1, t1.2, t2.2]
  simp only [h.num.1, if_false, if_true, t3.2, t4.1, t4.2, (hasNonZero_iff h.den.2).2 h.den_ne_zero]

theorem lexFracTail_some {s n d r : Str} (h : lexFracTail s = some (n, d, r)) :
    ∃ h2 h3, s = n ++ (h2 ++ '/' :: (h3 ++ (d ++ r))) ∧ FracTail n h2 h3 d ∧
      ∀ ch, r.head? = some ch → isDigit ch = false := by
  obtain ⟨e0, hn, -⟩ := split_run isDigit s
  obtain ⟨e1, hh2, -⟩ := split_run isHsp (s.dropWhile isDigit)
  unfold lexFracTail at h
  by_cases hne : s.takeWhile isDigit = []
  · simp [hne] at h
  · rw [if_neg hne] at h
    cases hr0 : (s.dropWhile isDigit).dropWhile isHsp with
    | nil => simp [hr0] at h
    | cons ch r0 =>
      obtain ⟨e2, hh3, -⟩ := split_run isHsp r0
      obtain ⟨e3, hd, hr⟩ := split_run isDigit (r0.dropWhile isHsp)
      by_cases hch : ch = '/'
      · subst hch
        by_cases hnz : hasNonZero ((r0.dropWhile isHsp).takeWhile isDigit) = true
        · simp only [hr0, if_true, hnz, Option.some.injEq, Prod.mk.injEq] at h
          obtain ⟨rfl, rfl, rfl⟩ := h
          have hdne : (r0.dropWhile isHsp).takeWhile isDigit ≠ [] := fun h0 => by rw [h0] at hnz; cases hnz
          refine ⟨_, _, ?_, ⟨⟨hne, hn⟩, hh2, hh3, ⟨hdne, hd⟩, (hasNonZero_iff hd).1 hnz⟩, hr⟩
          rw [← e3, ← e2, ← hr0, ← e1]
          exact e0
        · simp [hr0, hnz] at h
      · simp [hr0, hch] at h

theorem lexFracInt_some {s i r : Str} (h : lexFracInt s = some (i, r)) :
    ∃ h1, h1 = (s.dropWhile isDigit).takeWhile isHsp ∧ s = i ++ (h1 ++ r) ∧ IsDigits i ∧ h1 ≠ [] ∧ IsBlanks h1 ∧
      ∀ ch, r.head? = some ch → isHsp ch = false := by
  unfold lexFracInt at h
  split at h
  · cases h
  · rename_i hne
    simp only [not_or] at hne
    simp only [Option.some.injEq, Prod.mk.injEq] at h
    obtain ⟨rfl, rfl⟩ := h
    refine ⟨(s.dropWhile isDigit).takeWhile isHsp, rfl, ?_, ⟨hne.1, fun ch hch => mem_takeWhile_imp hch⟩, hne.2,
      fun ch hch => mem_takeWhile_imp hch, fun _ => head_dropWhile_false⟩
    rw [List.takeWhile_append_dropWhile, List.takeWhile_append_dropWhile]

theorem lexMixed_some {s i n d r : Str} (h : lexMixed s = some (i, n, d, r)) :
    ∃ rr, lexFracInt s = some (i, rr) ∧ lexFracTail rr = some (n, d, r) := by
  unfold lexMixed at h
  cases hi : lexFracInt s with
  | none => rw [hi] at h; cases h
  | some t =>
    obtain ⟨i', rr⟩ := t
    rw [hi] at h
    simp only at h
    cases ht : lexFracTail rr with
    | none => rw [ht] at h; cases h
    | some t =>
      obtain ⟨n', d', r'⟩ := t
      rw [ht] at h
      simp only [Option.some.injEq, Prod.mk.injEq] at h
      obtain ⟨rfl, rfl, rfl, rfl⟩ := h
      exact ⟨rr, rfl, ht⟩

end RG.Brace
