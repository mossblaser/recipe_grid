import RecipeGrid.Lemmas.BuiltSh
/-! What the walk over the rules (`Lemmas/BuiltSh.lean`) gives for the rules that the documents name: `Sim`, `Good`, prefix
    stability (`LE`) and position independence (`ShE`).  Hence: forgetting the failure record gives back `parse`; the offset of
    a syntax error lies in the text; if `a` ends in a line break and is accepted on its own, a syntax error of `a ++ b` is not
    reported inside `a`; and padding with white space moves every offset (`parseE_pad`). -/
namespace RG
namespace ParserE
open Parser (P PState Mono Adv)

theorem Sim.escaped : Sim escaped Parser.escaped := BuiltSh.escaped.sim
theorem Sim.fraction : Sim fraction Parser.fraction := BuiltSh.fraction.sim
theorem Sim.number : Sim number Parser.number := BuiltSh.number.sim
theorem Sim.string (static : Bool) : Sim (string static) (Parser.string static) := (BuiltSh.string static).sim
theorem Sim.proportion : Sim proportion Parser.proportion := BuiltSh.proportion.sim
theorem Sim.reference : Sim reference Parser.reference := BuiltSh.reference.sim
theorem Sim.stmt : Sim stmt Parser.stmt := BuiltSh.stmt.sim
theorem Sim.recipe : Sim recipe Parser.recipe := BuiltSh.recipe.sim

theorem Good.escaped : Good escaped := BuiltSh.escaped.good
theorem Good.fraction : Good fraction := BuiltSh.fraction.good
theorem Good.number : Good number := BuiltSh.number.good
theorem Good.string (static : Bool) : Good (string static) := (BuiltSh.string static).good
theorem Good.proportion : Good proportion := BuiltSh.proportion.good
theorem Good.reference : Good reference := BuiltSh.reference.good
theorem Good.stmt : Good stmt := BuiltSh.stmt.good
theorem Good.recipe : Good recipe := BuiltSh.recipe.good

section
variable {a b : Str}

/-- needs no line break at the end of `a`: neither of its two terminals looks beyond the character it reads -/
theorem LE.escaped {s : PState} : LE a b escaped escaped s :=
  LE.bind (Good.lit _) (fun _ => Good.bind (Good.sat _) fun _ => Good.pure _) (LE.term (Good.lit _) fun h => Lp.lit _ h)
    fun _ _ _ => LE.bind (Good.sat _) (fun _ => Good.pure _) (LE.term (Good.sat _) fun h => Lp.sat _ h) fun _ _ _ => LE.pure _

variable (hcut : Cut a)
include hcut

theorem LE.digits {s : PState} : LE a b digits digits s := BuiltSh.digits.le b hcut s
theorem LE.decimal {s : PState} : LE a b decimal decimal s := BuiltSh.decimal.le b hcut s
theorem LE.denominator {s : PState} : LE a b (ParserE.term denominator) (ParserE.term denominator) s :=
  BuiltSh.denominator.le b hcut s
theorem LE.preposition {s : PState} : LE a b preposition preposition s := BuiltSh.preposition.le b hcut s
theorem LE.remainder {s : PState} : LE a b remainder remainder s := BuiltSh.remainder.le b hcut s
theorem LE.fraction {s : PState} : LE a b fraction fraction s := BuiltSh.fraction.le b hcut s
theorem LE.number {s : PState} : LE a b number number s := BuiltSh.number.le b hcut s
theorem LE.string (static : Bool) {s : PState} : LE a b (string static) (string static) s :=
  (BuiltSh.string static).le b hcut s
theorem LE.proportion {s : PState} : LE a b proportion proportion s := BuiltSh.proportion.le b hcut s
theorem LE.reference {s : PState} : LE a b reference reference s := BuiltSh.reference.le b hcut s
theorem LE.recipe {s : PState} : LE a b recipe recipe s := BuiltSh.recipe.le b hcut s

end

/-- `sp? stmt+`: `recipe` without its final `eof` -/
def stmtsPlus : P (List AStmt) := do
  Parser.osp
  let first ← Parser.stmt
  let rest ← Parser.many Parser.stmt
  pure (first :: rest)

theorem recipe_far_ge_stmts {t : Array Char} {stmts : List AStmt} {s' : PState}
    (hp : stmtsPlus t ⟨0, false⟩ = some (stmts, s')) (hfail : (recipe t ⟨0, false⟩).1 = none) :
    ∃ f, (recipe t ⟨0, false⟩).2 = some f ∧ s'.pos ≤ f := by
  unfold stmtsPlus at hp
  obtain ⟨u, s1, h1, hp⟩ := Parser.bind_some hp
  obtain ⟨first, s2, h2, hp⟩ := Parser.bind_some hp
  obtain ⟨rest, s3, h3, hp⟩ := Parser.bind_some hp
  obtain ⟨rfl, rfl⟩ : first :: rest = stmts ∧ s3 = s' := by cases hp; exact ⟨rfl, rfl⟩
  rw [← BuiltSh.osp.sim] at h1
  rw [← Sim.stmt] at h2
  rw [← (BuiltSh.many BuiltSh.stmt Parser.adv_stmt).sim] at h3
  unfold ParserE.recipe at hfail ⊢
  rw [bind_fst _ _ h1, bind_fst _ _ h2, bind_fst _ _ h3, bind_apply] at hfail
  refine far_bind_ge h1 (far_bind_ge h2 (far_bind_ge h3 ?_))
  -- the final `eof` has failed at `s3`, and recorded that
  rw [bind_apply]
  unfold ParserE.eof at hfail ⊢
  rw [term_apply] at hfail ⊢
  cases h : Parser.eof t s3 with
  | none => exact ⟨s3.pos, rfl, Nat.le_refl _⟩
  | some r => rw [h] at hfail; cases hfail

theorem recipe_far_ge_start {t : Array Char} (hfail : (recipe t ⟨0, false⟩).1 = none) :
    ∃ f, (recipe t ⟨0, false⟩).2 = some f ∧ f ≤ t.size ∧
      (stmtsPlus t ⟨0, false⟩ = none → Parser.spanEnd isReSpace t 0 ≤ f) := by
  obtain ⟨f, hf, _, hle⟩ := Good.recipe.fail_far (t := t) (s := ⟨0, false⟩) (Nat.zero_le _) hfail
  refine ⟨f, hf, hle, fun hnone => ?_⟩
  have h1 : (osp t ⟨0, false⟩).1 = some ((), ⟨Parser.spanEnd isReSpace t 0, false⟩) := rfl
  -- the first statement fails: after a statement `stmt*` always succeeds
  have h2 : Parser.stmt t ⟨Parser.spanEnd isReSpace t 0, false⟩ = none := by
    cases h : Parser.stmt t ⟨Parser.spanEnd isReSpace t 0, false⟩ with
    | none => rfl
    | some r =>
      obtain ⟨a, s2⟩ := r
      obtain ⟨x, hx⟩ := Peg.many_some Parser.stmt t s2
      unfold stmtsPlus at hnone
      simp only [Parser.bind_apply, h, hx,
        show Parser.osp t ⟨0, false⟩ = some ((), ⟨Parser.spanEnd isReSpace t 0, false⟩) from rfl] at hnone
      cases hnone
  rw [← Sim.stmt] at h2
  obtain ⟨y, hy, hge, _⟩ := Good.stmt.fail_far (s := ⟨Parser.spanEnd isReSpace t 0, false⟩)
    (Parser.spanEnd_le _ (Nat.zero_le _)) h2
  obtain ⟨x, hx, hl⟩ : ∃ x, (recipe t ⟨0, false⟩).2 = some x ∧ Parser.spanEnd isReSpace t 0 ≤ x := by
    unfold ParserE.recipe
    refine far_bind_ge h1 ?_
    rw [bind_apply, h2]
    exact ⟨y, hy, hge⟩
  rw [hf] at hx
  cases hx
  exact hl

end ParserE

theorem parseE_erase (src : Str) : (parseE src).erase = parse src := by
  unfold parseE parse
  rw [← ParserE.Sim.recipe src.toArray ⟨0, false⟩]
  cases h : (ParserE.recipe src.toArray ⟨0, false⟩) with
  | mk r far =>
    cases r with
    | none => rfl
    | some x => rfl

theorem syntaxError_offset_le (src : Str) (off : Nat) (h : parseE src = .syntaxError off) : off ≤ src.length := by
  obtain ⟨hn, rfl⟩ := parseE_syntaxError h
  obtain ⟨f, hf, _, hle⟩ := ParserE.Good.recipe.fail_far (Nat.zero_le _) hn
  rw [hf]
  simpa using hle

/-- **a text that is accepted and ends in a line break is never blamed for what follows it**: if `a` ends in a line
    break and the grammar accepts `a`, and `a ++ b` is rejected, then the reported offset is not inside `a` -/
theorem prefix_syntaxError_offset (a b : Str) (hcut : ParserE.Cut a) (stmts : List AStmt) (ha : parseE a = .ok stmts)
    (off : Nat) (hab : parseE (a ++ b) = .syntaxError off) : a.length ≤ off := by
  obtain ⟨hn, rfl⟩ := parseE_syntaxError hab
  rcases ParserE.LE.recipe (b := b) hcut (s := ⟨0, false⟩) (Nat.zero_le _) with e | ⟨f, hf, hle⟩ | ⟨x, s1, e, _⟩
  · -- the same run as on `a`, which is accepted
    rw [e] at hn
    unfold parseE at ha
    cases hr : ParserE.recipe a.toArray ⟨0, false⟩ with
    | mk r far => rw [hr] at ha hn; cases hn; cases ha
  · rw [hf]; exact hle
  · rw [hn] at e; cases e

namespace ParserE
open Parser (Sh NonWord shSt)
variable {pre : Str}

theorem ShE.digits : ShE pre id digits digits := BuiltSh.digits.shE
theorem ShE.decimal : ShE pre (Parser.shNum pre.length) decimal decimal := BuiltSh.decimal.shE
theorem ShE.preposition : ShE pre id preposition preposition := BuiltSh.preposition.shE
theorem ShE.remainder : ShE pre id remainder remainder := BuiltSh.remainder.shE
theorem ShE.fraction : ShE pre (Parser.shNum pre.length) fraction fraction := BuiltSh.fraction.shE
theorem ShE.number : ShE pre (Parser.shNum pre.length) number number := BuiltSh.number.shE
theorem ShE.escaped : ShE pre id escaped escaped := BuiltSh.escaped.shE
theorem ShE.string (static : Bool) : ShE pre (shiftString pre.length) (string static) (string static) :=
  (BuiltSh.string static).shE
theorem ShE.proportion : ShE pre (shiftAmount pre.length) proportion proportion := BuiltSh.proportion.shE
theorem ShE.reference : ShE pre (shiftExpr pre.length) reference reference := BuiltSh.reference.shE
theorem ShE.stmt : ShE pre (shiftStmt pre.length) stmt stmt := BuiltSh.stmt.shE

theorem ShE.recipe : ShE pre (List.map (shiftStmt pre.length)) recipe recipe := BuiltSh.recipe.shE

end ParserE

def shiftParseE (k : Nat) : ParseResultE → ParseResultE
  | .ok stmts => .ok (stmts.map (shiftStmt k))
  | .syntaxError off => .syntaxError (off + k)

/-- the leading `sp?` records a failure only where it matches nothing, and then at offset 0: beside a later failure `f`
    that is never the furthest -/
theorem getD_fmax_zero {a : ParserE.Far} (ha : a = none ∨ a = some 0) (f : Nat) :
    (ParserE.fmax a (some f)).getD 0 = f := by
  rcases ha with rfl | rfl
  · rfl
  · simp [ParserE.fmax]

/-- the leading `sp?` of `recipe` swallows the padding and what follows it is position
    independent (`BuiltSh.recipeBody`); `sp?` itself is not (on the padded text it always matches something), but the failure
    it can record is at offset 0 and `recipeBody`, when it fails, has recorded a later one (it is `Good`) -/
theorem parseE_pad_space (pre s : Str) (hsp : ∀ c ∈ pre, isReSpace c = true) :
    parseE (pre ++ s) = shiftParseE pre.length (parseE s) := by
  unfold parseE
  rw [show ParserE.recipe = (do ParserE.osp; ParserE.recipeBody) from rfl, ParserE.bind_apply, ParserE.bind_apply]
  have h1 : ParserE.osp (pre ++ s).toArray ⟨0, false⟩ =
      (some ((), Parser.shSt pre.length ⟨Parser.spanEnd isReSpace s.toArray 0, false⟩),
        if Parser.spanEnd isReSpace s.toArray 0 + pre.length = 0 then some 0 else none) := by
    simp only [ParserE.osp, ParserE.skipManyOpt, Parser.spanEnd_zero_pad _ _ _ hsp]; rfl
  have h2 : ParserE.osp s.toArray ⟨0, false⟩ =
      (some ((), ⟨Parser.spanEnd isReSpace s.toArray 0, false⟩),
        if Parser.spanEnd isReSpace s.toArray 0 = 0 then some 0 else none) := rfl
  rw [h1, h2]
  simp only
  rw [ParserE.BuiltSh.recipeBody.shE (Parser.nonWord_of_space hsp) s _]
  have hg := ParserE.BuiltSh.recipeBody.good s.toArray ⟨Parser.spanEnd isReSpace s.toArray 0, false⟩
    (Parser.spanEnd_le _ (Nat.zero_le _))
  cases hB : ParserE.recipeBody s.toArray ⟨Parser.spanEnd isReSpace s.toArray 0, false⟩ with
  | mk r fb =>
    rw [hB] at hg
    cases r with
    | some x => rfl
    | none =>
      cases fb with
      | none => exact absurd rfl (hg.2.2 rfl)
      | some f =>
        simp only [ParserE.shOut, ParserE.shFar, Option.map_none, Option.map_some, shiftParseE]
        rw [getD_fmax_zero (by split <;> simp), getD_fmax_zero (by split <;> simp)]

/-- **shift invariance of `parseE`**: `k` newlines in front of the text move every offset — that of a syntax error
    included — by `k` and change nothing else -/
theorem parseE_pad (k : Nat) (s : Str) :
    parseE (List.replicate k '\n' ++ s) = shiftParseE k (parseE s) := by
  have h := parseE_pad_space (List.replicate k '\n') s (by
    intro c hc; rw [List.eq_of_mem_replicate hc]; decide)
  rw [List.length_replicate] at h
  exact h

end RG
