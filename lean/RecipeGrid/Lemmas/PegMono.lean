import RecipeGrid.Lemmas.Parser
import RecipeGrid.Lemmas.TerminalRx
/-! Progress facts about the hand-written parser that the tie to the generated grammar needs (`Lemmas/PegRules.lean`):
    every rule is monotone (`Mono`), `expr` and `stmt` consume a character (`Adv`) and need one (`NeedsChar`).
    (`*` in peggie insists on progress; `Parser.many` takes its fuel from the characters left.) -/
namespace RG
namespace Parser

theorem needs_bind_right {α β} {m : P α} {f : α → P β} (hm : Mono m) (hf : ∀ a, NeedsChar (f a)) :
    NeedsChar (m >>= f) := by
  intro t s r e
  obtain ⟨b, s'⟩ := r
  obtain ⟨a, s1, e1, e2⟩ := bind_some e
  have h1 := hm _ _ _ _ e1
  have h2 := hf a _ _ _ e2
  omega

theorem mono_eof : Mono eof := by
  intro t s a s' e
  unfold eof at e
  split at e
  · cases e; exact Nat.le_refl _
  · cases e

theorem mono_hsp : Mono hsp := (adv_skipMany1 _).mono
theorem mono_sp : Mono sp := (adv_skipMany1 _).mono
theorem mono_ohsp : Mono ohsp := mono_skipMany _
theorem mono_osp : Mono osp := mono_skipMany _

theorem mono_wordBoundary : Mono wordBoundary := by
  intro t s a s' e
  unfold wordBoundary at e
  split at e
  · cases e; exact Nat.le_refl _
  · cases e

theorem mono_ciWord : ∀ w : Str, Mono (ciWord w)
  | [] => mono_pure _
  | _ :: ls => mono_bind (adv_sat _).mono fun _ => mono_ciWord ls

theorem mono_unitPattern : ∀ ws : List Str, Mono (unitPattern ws)
  | [] => mono_wordBoundary
  | [w] => by
    unfold unitPattern
    exact mono_bind (mono_ciWord _) fun _ => mono_wordBoundary
  | w :: w2 :: ws => by
    unfold unitPattern
    exact mono_bind (mono_ciWord _) fun _ => mono_bind mono_sp fun _ => mono_unitPattern (w2 :: ws)

theorem mono_preposition : Mono preposition := Rx.scanIs_preposition.endsRx.mono
theorem mono_remainder : Mono remainder := Rx.scanIs_remainder.endsRx.mono
theorem mono_knownUnit : Mono knownUnit := Rx.scanIs_knownUnit.endsRx.mono
theorem mono_assign : Mono assign := (Rx.EndsRx.of_void Rx.scanIs_assign).mono

theorem needs_digits : NeedsChar digits := needs_bind (needs_withText (needs_bind (needs_sat _)))

theorem needs_decimal : NeedsChar decimal := needs_getPos_bind fun _ => needs_bind needs_digits

theorem needs_fraction : NeedsChar fraction := by
  unfold fraction
  refine needs_getPos_bind fun _ => needs_bind_right (mono_opt ?_) fun _ => needs_getPos_bind fun _ => needs_bind needs_digits
  exact mono_bind adv_digits.mono fun _ => mono_bind (adv_skipMany1 _).mono fun _ => mono_pure _

theorem needs_number : NeedsChar number := needs_orElse needs_fraction needs_decimal

theorem needs_escaped : NeedsChar escaped := needs_bind (needs_lit _)

theorem needs_bracketedItem : NeedsChar bracketedItem := by
  unfold bracketedItem
  exact needs_orElse (needs_bind needs_number)
    (needs_orElse (needs_getPos_bind fun _ => needs_bind needs_escaped) (needs_getPos_bind fun _ => needs_bind (needs_sat _)))

theorem mono_hspPreposition : Mono hspPreposition :=
  mono_orElse (mono_textOf (mono_bind mono_hsp fun _ => mono_preposition)) (mono_pure _)

theorem mono_proportion : Mono proportion := by
  unfold proportion
  refine mono_orElse ?_ ?_
  · exact mono_bind mono_getPos fun _ => mono_bind (mono_textOf mono_remainder) fun _ =>
      mono_bind mono_hspPreposition fun _ => mono_pure _
  · refine mono_bind adv_number.mono fun a => ?_
    obtain ⟨off, v⟩ := a
    refine mono_orElse ?_ (mono_orElse ?_ ?_)
    · exact mono_bind (mono_textOf (mono_bind mono_hsp fun _ => mono_preposition)) fun _ => mono_pure _
    · exact mono_bind (mono_textOf (mono_bind mono_ohsp fun _ => mono_bind (adv_lit _).mono fun _ =>
        mono_bind mono_hspPreposition fun _ => mono_pure _)) fun _ => mono_pure _
    · exact mono_bind (mono_textOf (mono_bind mono_ohsp fun _ => (adv_lit _).mono)) fun _ => mono_pure _

theorem mono_explicitQuantity : Mono explicitQuantity := by
  unfold explicitQuantity
  refine mono_bind mono_getPos fun _ => mono_bind (adv_lit _).mono fun _ => mono_bind mono_ohsp fun _ => ?_
  refine mono_bind adv_number.mono fun a => ?_
  obtain ⟨off, v⟩ := a
  refine mono_bind (mono_opt ?_) fun _ => ?_
  · exact mono_bind (mono_textOf mono_ohsp) fun _ => mono_bind (mono_string true) fun _ => mono_pure _
  · exact mono_bind mono_ohsp fun _ => mono_bind (adv_lit _).mono fun _ => mono_bind mono_hspPreposition fun _ =>
      mono_pure _

theorem mono_implicitQuantity : Mono implicitQuantity := by
  unfold implicitQuantity
  refine mono_bind adv_number.mono fun a => ?_
  obtain ⟨off, v⟩ := a
  refine mono_bind (mono_opt ?_) fun unit => ?_
  · exact mono_bind (mono_textOf mono_ohsp) fun _ => mono_bind mono_getPos fun _ =>
      mono_bind (mono_textOf mono_knownUnit) fun _ => mono_bind mono_hspPreposition fun _ => mono_pure _
  · cases unit with
    | none => exact mono_pure _
    | some u => obtain ⟨spacing, u, prep⟩ := u; exact mono_pure _

theorem mono_amount : Mono amount :=
  mono_orElse mono_proportion (mono_orElse mono_explicitQuantity mono_implicitQuantity)

theorem mono_optAmount : Mono (opt (amount >>= fun a => ohsp >>= fun _ => (pure a : P AAmount))) :=
  mono_opt (mono_bind mono_amount fun _ => mono_bind mono_ohsp fun _ => mono_pure _)

theorem adv_reference : Adv reference := by
  rw [reference_eq]
  exact adv_bind_right mono_optAmount fun _ => adv_bind_left (adv_string false) fun _ => mono_pure _

theorem needs_reference : NeedsChar reference := by
  rw [reference_eq]
  exact needs_bind_right mono_optAmount fun _ => needs_bind (needs_string false)

theorem mono_commaExpr {e : P AExpr} (he : Mono e) : Mono (commaExpr e) :=
  mono_bind mono_osp fun _ => mono_bind (adv_lit _).mono fun _ => mono_bind mono_osp fun _ => he

theorem adv_commaExpr {e : P AExpr} (he : Mono e) : Adv (commaExpr e) :=
  adv_bind_right mono_osp fun _ => adv_bind_left (adv_lit _) fun _ => mono_bind mono_osp fun _ => he

theorem needs_commaExpr (e : P AExpr) : NeedsChar (commaExpr e) :=
  needs_bind_right mono_osp fun _ => needs_bind (needs_lit _)

theorem adv_commaString : Adv commaString :=
  adv_bind_right mono_ohsp fun _ => adv_bind_left (adv_lit _) fun _ => mono_bind mono_ohsp fun _ => mono_string false

theorem needs_commaString : NeedsChar commaString :=
  needs_bind_right mono_ohsp fun _ => needs_bind (needs_lit _)

theorem adv_step {e : P AExpr} (he : Mono e) : Adv (step e) := by
  rw [step_eq]
  refine adv_bind_left (adv_string false) fun _ => mono_bind mono_ohsp fun _ => mono_bind (adv_lit _).mono fun _ => ?_
  refine mono_bind mono_osp fun _ => mono_bind he fun _ => mono_bind (mono_many (mono_commaExpr he)) fun _ => ?_
  refine mono_bind (mono_opt (mono_bind mono_osp fun _ => (adv_lit _).mono)) fun _ => ?_
  exact mono_bind mono_osp fun _ => mono_bind (adv_lit _).mono fun _ => mono_pure _

theorem adv_ltrShorthand {e : P AExpr} (he : Adv e) : Adv (ltrShorthand e) := by
  rw [ltrShorthand_eq]
  exact adv_bind_left he fun _ => mono_bind (mono_many mono_commaString) fun _ => mono_pure _

theorem adv_expr : ∀ k, Adv (expr k)
  | 0 => adv_fail
  | k + 1 => by
    rw [expr_succ]
    refine adv_orElse (adv_step (adv_expr k).mono) (adv_orElse adv_reference ?_)
    refine adv_bind_left (adv_lit _) fun _ => mono_bind mono_osp fun _ => ?_
    refine mono_bind (adv_ltrShorthand (adv_expr k)).mono fun _ => mono_bind mono_osp fun _ => ?_
    exact mono_bind (adv_lit _).mono fun _ => mono_pure _

theorem needs_expr : ∀ k, NeedsChar (expr k)
  | 0 => needs_fail
  | k + 1 => by
    rw [expr_succ]
    refine needs_orElse ?_ (needs_orElse needs_reference (needs_bind (needs_lit _)))
    rw [step_eq]
    exact needs_bind (needs_string false)

theorem mono_eol : Mono eol := by
  unfold eol
  exact mono_orElse (mono_bind mono_ohsp fun _ => mono_bind (adv_sat _).mono fun _ => mono_osp)
    (mono_bind mono_ohsp fun _ => mono_eof)

theorem mono_targetP : Mono targetP :=
  mono_bind mono_outputList fun _ => mono_bind mono_ohsp fun _ => mono_bind mono_assign fun _ =>
    mono_bind mono_ohsp fun _ => mono_pure _

theorem adv_stmt : Adv stmt := by
  rw [stmt_eq]
  refine adv_bind_right (mono_opt mono_targetP) fun _ => adv_bind_right mono_remaining fun n => ?_
  exact adv_bind_left (adv_ltrShorthand (adv_expr _)) fun _ => mono_bind mono_eol fun _ => mono_pure _

theorem needs_stmt : NeedsChar stmt := by
  rw [stmt_eq]
  refine needs_bind_right (mono_opt mono_targetP) fun _ => needs_bind_right mono_remaining fun n => ?_
  rw [ltrShorthand_eq]
  exact needs_bind (needs_bind (needs_expr _))

end Parser
end RG
