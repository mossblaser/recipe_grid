import RecipeGrid.Lemmas.ReTermSlice
/-! The fuel of the greedy loop is not part of the semantics: for a body that cannot match the empty string (the only
    bodies the translator lets through, `Rx.wellFormed`) every iteration consumes a character, so the number of characters
    left is enough and any larger fuel gives the same answers. -/
namespace RG
namespace Rx

variable {α : Type}

theorem run_none_at_end (t : Array Char) (base : Nat) (r : Rx) (hn : nullable r = false) (i : Nat) (k : K α)
    (hi : i = t.size) : run t base r i k = none := by
  rw [run_congr_gt t base r hn i k (fun _ => none) (by omega) (fun j h1 h2 => by omega)]
  cases h : run t base r i (fun _ => none) with
  | none => rfl
  | some a =>
    obtain ⟨j, _, _, h3⟩ := run_answer t base r i _ a (by omega) h
    cases h3

theorem starK_fuel_succ (t : Array Char) (base : Nat) (x : Rx) (hn : nullable x = false) (k : K α) : ∀ fuel i, i ≤ t.size →
    t.size - i ≤ fuel → starK (run t base x) (fuel + 1) i k = starK (run t base x) fuel i k
  | 0, i, hi, hf => by
    rw [starK_succ, run_none_at_end t base x hn i _ (by omega)]
    rfl
  | fuel + 1, i, hi, hf => by
    rw [starK_succ, starK_succ (fuel := fuel), run_congr_gt t base x hn i _ (fun j => starK (run t base x) fuel j k) hi
      fun j h1 h2 => starK_fuel_succ t base x hn k fuel j h2 (by omega)]

/-- **the fuel of `*` is not part of the semantics**: any fuel from the number of characters left on gives the same answer -/
theorem star_fuel_irrelevant (t : Array Char) (base : Nat) (x : Rx) (hn : nullable x = false) (k : K α) (i : Nat) (hi : i ≤ t.size) :
    ∀ extra, starK (run t base x) (t.size - i + extra) i k = run t base (star x) i k
  | 0 => by rw [run]; rfl
  | extra + 1 => by
    rw [show t.size - i + (extra + 1) = (t.size - i + extra) + 1 by omega,
      starK_fuel_succ t base x hn k _ i hi (by omega)]
    exact star_fuel_irrelevant t base x hn k i hi extra

end Rx
end RG
