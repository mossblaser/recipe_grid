import RecipeGrid.Lemmas.MdTagger
/-! The blocks `assemble2` produces from tagged lines: where a block comes from (`mem_assemble2`, `assemble2_origin`,
    `Tags.opening`), their order, that what a block captures is no longer than the lines it is taken from and so ends before
    the next block starts, their number — for the blocks of `scanBlocks2` and, the container-free lines being read as
    top-level lines (`scanBlocks_eq`), of `scanBlocks`. -/
namespace RG

theorem mem_assemble2 {b : MdBlock} {pos line : Nat} {ts : List TLine2} (h : b ∈ assemble2 pos line ts) :
    ∃ pre t rest, ts = pre ++ t :: rest ∧
      ((∃ f, t.tag = .fenceOpen f ∧
          b = ⟨.fenced f.lang, pos + lenSum2 pre,
                fencedSource f.indent ((rest.takeWhile (·.tag.isFenceBody)).map TLine2.inner),
                line + lineSum2 pre + pyLineCount t.text⟩) ∨
       (t.tag = .codeStart ∧
          b = ⟨.indented, pos + lenSum2 pre, codeSource ((t :: rest.takeWhile (·.tag.isCodeMore)).map TLine2.inner),
                line + lineSum2 pre⟩)) := by
  induction ts generalizing pos line with
  | nil => simp [assemble2] at h
  | cons t rest ih =>
    simp only [assemble2, List.mem_append] at h
    rcases h with h | h
    · refine ⟨[], t, rest, rfl, ?_⟩
      split at h
      · rename_i f hf
        simp only [List.mem_singleton] at h
        exact Or.inl ⟨f, hf, by simp [h, lenSum2, lineSum2]⟩
      · rename_i hc
        simp only [List.mem_singleton] at h
        exact Or.inr ⟨hc, by simp [h, lenSum2, lineSum2]⟩
      · simp at h
    · obtain ⟨pre, t', rest', hts, hb⟩ := ih h
      refine ⟨t :: pre, t', rest', by rw [hts]; rfl, ?_⟩
      rcases hb with ⟨f, hf, hb⟩ | ⟨hc, hb⟩
      · exact Or.inl ⟨f, hf, by rw [hb]; simp [lenSum2, lineSum2]; omega⟩
      · exact Or.inr ⟨hc, by rw [hb]; simp [lenSum2, lineSum2]; omega⟩

theorem stripFence_length_le (n : Nat) (l : Str) : (stripFence n l).length ≤ l.length := by
  unfold stripFence
  simp only
  split
  · simp
  · split
    · rename_i tail heq
      have h1 : (l.drop (leadSpaces l)).length ≤ l.length := by simp
      rw [heq, List.length_cons] at h1
      show 1 ≤ l.length
      omega
    · exact (List.dropWhile_sublist _).length_le

theorem stripCode_length_le (t : TLine) (ht : t.text ≠ []) : (stripCode t).length ≤ t.text.length := by
  have hpos : 0 < t.text.length := List.length_pos_iff.2 ht
  unfold stripCode
  split
  · unfold stripCodeBlank
    by_cases h4 : 4 ≤ leadSpaces t.text
    · simp only [h4, if_true]
      by_cases he : (t.text.drop 4).isEmpty = true
      · simp only [he, if_true, List.length_cons, List.length_nil]; omega
      · simp only [he]; simp
    · simp only [h4, if_false, List.isEmpty_nil, if_true, List.length_cons, List.length_nil]; omega
  · simp

theorem rstripNl_length_le (s : Str) : (rstripNl s).length ≤ s.length := by
  unfold rstripNl
  rw [List.length_reverse]
  have := (List.dropWhile_sublist (· == '\n') (l := s.reverse)).length_le
  simpa using this

theorem takeWhile_prefix_of_stop {α : Type} (p : α → Bool) (pre : List α) (t : α) (r : List α) (ht : p t = false) :
    ∃ suffix, pre = (pre ++ t :: r).takeWhile p ++ suffix := by
  induction pre with
  | nil => exact ⟨[], by simp [ht]⟩
  | cons x pre ih =>
    simp only [List.cons_append, List.takeWhile_cons]
    split
    · obtain ⟨sfx, h⟩ := ih
      exact ⟨sfx, by rw [List.cons_append, ← h]⟩
    · exact ⟨x :: pre, rfl⟩

def LineTag.startsBlock : LineTag → Bool
  | .fenceOpen _ => true
  | .codeStart => true
  | _ => false

theorem assemble2_pos_ge {b : MdBlock} {pos line : Nat} {ts : List TLine2} (h : b ∈ assemble2 pos line ts) :
    pos ≤ b.pos ∧ line ≤ b.startLine := by
  obtain ⟨pre, t, rest, _, h⟩ := mem_assemble2 h
  rcases h with ⟨f, _, rfl⟩ | ⟨_, rfl⟩
  · exact ⟨Nat.le_add_right _ _, by simp only; omega⟩
  · exact ⟨Nat.le_add_right _ _, Nat.le_add_right _ _⟩

theorem lenSum2_append (a b : List TLine2) : lenSum2 (a ++ b) = lenSum2 a + lenSum2 b := by
  simp [lenSum2]

theorem stripFence_inner_length_le (n : Nat) (x : TLine2) : (stripFence n x.inner.text).length ≤ x.text.length := by
  have h1 := stripFence_length_le n x.inner.text
  have h2 : x.inner.text.length ≤ x.text.length := by simp [TLine2.inner]
  omega

theorem fencedSource_inner_length_le (n : Nat) (body : List TLine2) :
    (fencedSource n (body.map TLine2.inner)).length ≤ lenSum2 body := by
  induction body with
  | nil => simp [fencedSource, lenSum2]
  | cons t ts ih =>
    simp only [fencedSource, lenSum2, List.map_cons, List.flatten_cons, List.length_append, List.sum_cons] at ih ⊢
    have := stripFence_inner_length_le n t
    omega

theorem stripCode_inner_length_le (x : TLine2) (hx : x.text ≠ []) : (stripCode x.inner).length ≤ x.text.length := by
  have hpos : 0 < x.text.length := List.length_pos_iff.2 hx
  by_cases hi : x.inner.text = []
  · unfold stripCode
    rw [hi]
    split
    · simp only [stripCodeBlank, leadSpaces, List.takeWhile_nil, List.length_nil]
      simp; omega
    · simp
  · have h1 := stripCode_length_le x.inner hi
    have h2 : x.inner.text.length ≤ x.text.length := by simp [TLine2.inner]
    omega

theorem stripCode_inner_flatten_length_le (ts : List TLine2) (h : ∀ t ∈ ts, t.text ≠ []) :
    (((ts.map TLine2.inner).map stripCode).flatten).length ≤ lenSum2 ts := by
  induction ts with
  | nil => simp [lenSum2]
  | cons t ts ih =>
    have := stripCode_inner_length_le t (h t (by simp))
    have := ih (fun x hx => h x (List.mem_cons_of_mem _ hx))
    simp only [lenSum2, List.map_cons, List.flatten_cons, List.length_append, List.sum_cons] at *
    omega

theorem codeSource_inner_length_le (t : TLine2) (more : List TLine2) (ht : t.tag = .codeStart) (hs : TagSound t.inner)
    (h : ∀ x ∈ more, x.text ≠ []) :
    (codeSource ((t :: more).map TLine2.inner)).length ≤ t.text.length + lenSum2 more := by
  have h4 : 4 ≤ leadSpaces t.inner.text := (hs.codeStart ht).1
  have hlen : 4 ≤ t.inner.text.length := by
    have : leadSpaces t.inner.text ≤ t.inner.text.length := (List.takeWhile_sublist _).length_le
    omega
  have hle : t.inner.text.length ≤ t.text.length := by simp [TLine2.inner]
  have h1 : (stripCode t.inner).length = t.inner.text.length - 4 := by
    have : t.inner.tag = .codeStart := ht
    simp [stripCode, this]
  have h2 := stripCode_inner_flatten_length_le more h
  have h3 := rstripNl_length_le (((t :: more).map TLine2.inner).map stripCode).flatten
  simp only [codeSource, List.length_append, List.length_cons, List.length_nil]
  simp only [List.map_cons, List.flatten_cons, List.length_append] at h3 ⊢
  omega

theorem lenSum2_takeWhile_le (p : LineTag → Bool) (pre' : List TLine2) (t' : TLine2) (rest' : List TLine2)
    (hstop : p t'.tag = false) :
    lenSum2 ((pre' ++ t' :: rest').takeWhile fun x => p x.tag) ≤ lenSum2 pre' := by
  obtain ⟨sfx, hsfx⟩ := takeWhile_prefix_of_stop (fun x : TLine2 => p x.tag) pre' t' rest' hstop
  conv => rhs; rw [hsfx]
  rw [lenSum2_append]
  omega

theorem assemble2_apart (pos line : Nat) (ts : List TLine2) (hne : ∀ t ∈ ts, t.text ≠ [])
    (hs : ∀ t ∈ ts, TagSound t.inner) :
    (assemble2 pos line ts).Pairwise fun b1 b2 =>
      b1.pos < b2.pos ∧ b1.startLine ≤ b2.startLine ∧ b1.pos + b1.source.length ≤ b2.pos := by
  induction ts generalizing pos line with
  | nil => simp [assemble2]
  | cons t rest ih =>
    simp only [assemble2]
    rw [List.pairwise_append]
    refine ⟨?_, ih _ _ (fun x hx => hne x (List.mem_cons_of_mem _ hx)) (fun x hx => hs x (List.mem_cons_of_mem _ hx)), ?_⟩
    · split <;> simp
    · intro a ha b hb
      have hline := (assemble2_pos_ge hb).2
      have htl : 0 < t.text.length := List.length_pos_iff.2 (hne t (by simp))
      obtain ⟨pre', t', rest', hr, hb'⟩ := mem_assemble2 hb
      have hbpos : b.pos = pos + t.text.length + lenSum2 pre' := by
        rcases hb' with ⟨f, _, rfl⟩ | ⟨_, rfl⟩ <;> rfl
      have hstop : t'.tag.isFenceBody = false ∧ t'.tag.isCodeMore = false := by
        rcases hb' with ⟨f', hf', _⟩ | ⟨hc', _⟩
        · simp [hf', LineTag.isFenceBody, LineTag.isCodeMore]
        · simp [hc', LineTag.isFenceBody, LineTag.isCodeMore]
      split at ha
      · rename_i f hf
        simp only [List.mem_singleton] at ha
        subst ha
        simp only
        have h1 := fencedSource_inner_length_le f.indent (rest.takeWhile (·.tag.isFenceBody))
        have h2 := lenSum2_takeWhile_le LineTag.isFenceBody pre' t' rest' hstop.1
        rw [← hr] at h2
        omega
      · rename_i hc
        simp only [List.mem_singleton] at ha
        subst ha
        simp only
        have h1 := codeSource_inner_length_le t (rest.takeWhile (·.tag.isCodeMore)) hc (hs t (by simp))
          (fun x hx => hne x (List.mem_cons_of_mem _ ((List.takeWhile_sublist _).mem hx)))
        have h2 := lenSum2_takeWhile_le LineTag.isCodeMore pre' t' rest' hstop.2
        rw [← hr] at h2
        omega
      · simp at ha

theorem assemble2_length (pos line : Nat) (ts : List TLine2) :
    (assemble2 pos line ts).length = (ts.filter fun t => t.tag.startsBlock).length := by
  induction ts generalizing pos line with
  | nil => rfl
  | cons t rest ih =>
    simp only [assemble2, List.length_append, ih, List.filter_cons]
    -- an opening fence line and a first code line give one block each, the other lines none
    cases ht : t.tag with
    | fenceOpen f =>
      simp [LineTag.startsBlock]
      omega
    | codeStart =>
      simp [LineTag.startsBlock]
      omega
    | _ => simp [LineTag.startsBlock]

section
variable {doc : Str} {ts : List TLine2} {b : MdBlock}

/-- the block `b` that the tagged line `t` of a document opens — `t` an opening fence line or the first line of an indented
    block, `pre` the lines before it, `rest` the lines after it: `pos` is the offset of `t`, the text is taken from the lines
    that follow (`FencedCode.parse`) or from `t` and the lines that follow (`CodeBlock.parse`) -/
def Opens (pre : List TLine2) (t : TLine2) (rest : List TLine2) (b : MdBlock) : Prop :=
  (∃ f, t.tag = .fenceOpen f ∧
      b = ⟨.fenced f.lang, lenSum2 pre,
            fencedSource f.indent ((rest.takeWhile (·.tag.isFenceBody)).map TLine2.inner),
            1 + lineSum2 pre + pyLineCount t.text⟩) ∨
    (t.tag = .codeStart ∧
      b = ⟨.indented, lenSum2 pre, codeSource ((t :: rest.takeWhile (·.tag.isCodeMore)).map TLine2.inner),
            1 + lineSum2 pre⟩)

theorem assemble2_origin (hb : b ∈ assemble2 0 1 ts) : ∃ pre t rest, ts = pre ++ t :: rest ∧ Opens pre t rest b := by
  obtain ⟨pre, t, rest, hts, h⟩ := mem_assemble2 hb
  exact ⟨pre, t, rest, hts, by simpa [Opens] using h⟩

/-- `pos` is the offset of a whole line of the document: the line whose inner part (behind `t.pfx` characters of container
    prefix) is the opening fence, with the block's language as its first info word, or the first line of an indented block -/
theorem Tags.opening (h : Tags doc ts) (hb : b ∈ assemble2 0 1 ts) :
    ∃ t ∈ ts, ∃ tail, (normaliseCrLf doc).drop b.pos = t.text ++ tail ∧ t.text ≠ [] ∧
      (∀ lang, b.kind = .fenced lang → ∃ f, fenceOpen? (t.text.drop t.pfx) = some f ∧ lang = f.lang) ∧
      (b.kind = .indented → 4 ≤ leadSpaces (t.text.drop t.pfx)) := by
  obtain ⟨pre, t, rest, rfl, hbe⟩ := assemble2_origin hb
  have hpos : b.pos = lenSum2 pre := by rcases hbe with ⟨f, _, rfl⟩ | ⟨_, rfl⟩ <;> rfl
  have hs := h.sound t (by simp)
  refine ⟨t, by simp, (rest.map (·.text)).flatten, by rw [hpos, h.drop_start],
    h.linesOk.append_right.head.1, ?_, ?_⟩
  · rintro lang hk
    rcases hbe with ⟨f, hf, rfl⟩ | ⟨_, rfl⟩
    · exact ⟨f, hs.fenceOpen hf, (CodeBlockKind.fenced.inj hk).symm⟩
    · cases hk
  · rintro hk
    rcases hbe with ⟨f, _, rfl⟩ | ⟨hc, rfl⟩
    · cases hk
    · exact (hs.codeStart hc).1

theorem Tags.pos_lt (h : Tags doc ts) (hb : b ∈ assemble2 0 1 ts) : b.pos < (normaliseCrLf doc).length := by
  obtain ⟨t, _, tail, hd, hne, _⟩ := h.opening hb
  have := congrArg List.length hd
  have := List.length_pos_iff.2 hne
  simp only [List.length_drop, List.length_append] at *
  omega

theorem Tags.apart (h : Tags doc ts) :
    (assemble2 0 1 ts).Pairwise fun b1 b2 =>
      b1.pos < b2.pos ∧ b1.startLine ≤ b2.startLine ∧ b1.pos + b1.source.length ≤ b2.pos :=
  assemble2_apart _ _ _ (fun t ht => (h.mdLine t ht).1) h.sound

theorem Tags.ordered (h : Tags doc ts) :
    (assemble2 0 1 ts).Pairwise fun b1 b2 => b1.pos < b2.pos ∧ b1.startLine ≤ b2.startLine :=
  h.apart.imp fun h => ⟨h.1, h.2.1⟩

theorem Tags.disjoint (h : Tags doc ts) :
    (assemble2 0 1 ts).Pairwise fun b1 b2 => b1.pos + b1.source.length ≤ b2.pos :=
  h.apart.imp fun h => h.2.2

end

theorem scanBlocks_eq (doc : Str) : scanBlocks doc = assemble2 0 1 ((tagDoc doc).map TLine.lift) :=
  (assemble2_lift 0 1 _).symm

end RG
