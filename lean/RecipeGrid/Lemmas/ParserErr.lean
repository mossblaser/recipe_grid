import RecipeGrid.Model.ParserErr
import RecipeGrid.Lemmas.Parser
/-! The instrumented parser of `Model/ParserErr.lean` is the parser of `Model/Parser.lean` plus a record of the furthest
    failure: forgetting the record (`Sim`) gives back the plain parser, combinator by combinator (the rules are walked in
    `Lemmas/BuiltSh.lean`). -/
namespace RG
namespace ParserE
open Parser (P PState)

@[simp] theorem pure_apply {α} (a : α) (t : Array Char) (s : PState) :
    (pure a : PE α) t s = (some (a, s), none) := rfl

theorem bind_apply {α β} (m : PE α) (f : α → PE β) (t : Array Char) (s : PState) :
    (m >>= f) t s = match (m t s).1 with
      | none => (none, (m t s).2)
      | some (a, s') => ((f a t s').1, fmax (m t s).2 (f a t s').2) := rfl

theorem orElse_apply {α} (p q : PE α) (t : Array Char) (s : PState) :
    (p <|> q) t s = match (p t s).1 with
      | some r => (some r, (p t s).2)
      | none => ((q t s).1, fmax (p t s).2 (q t s).2) := rfl

theorem map_eq_bind {α β} (f : α → β) (m : PE α) : f <$> m = m >>= fun a => pure (f a) := rfl

theorem term_apply {α} (p : P α) (t : Array Char) (s : PState) :
    term p t s = match p t s with
      | some r => (some r, none)
      | none => (none, some s.pos) := rfl

@[simp] theorem fmax_none_left (b : Far) : fmax none b = b := by cases b <;> rfl
@[simp] theorem fmax_none_right (a : Far) : fmax a none = a := by cases a <;> rfl

def Sim {α} (pe : PE α) (p : P α) : Prop := ∀ t s, (pe t s).1 = p t s

theorem Sim.pure {α} (a : α) : Sim (pure a : PE α) (pure a) := fun _ _ => rfl

theorem Sim.term {α} (p : P α) : Sim (term p) p := by
  intro t s
  rw [term_apply]
  cases p t s <;> rfl

theorem Sim.lift {α} (p : P α) : Sim (lift p) p := fun _ _ => rfl

theorem Sim.bind {α β} {m : PE α} {m' : P α} {f : α → PE β} {f' : α → P β} (hm : Sim m m')
    (hf : ∀ a, Sim (f a) (f' a)) : Sim (m >>= f) (m' >>= f') := by
  intro t s
  rw [bind_apply, Parser.bind_apply, ← hm t s]
  cases (m t s).1 with
  | none => rfl
  | some r => exact hf r.1 t r.2

theorem Sim.orElse {α} {p q : PE α} {p' q' : P α} (hp : Sim p p') (hq : Sim q q') : Sim (p <|> q) (p' <|> q') := by
  intro t s
  rw [orElse_apply, Parser.orElse_apply, ← hp t s]
  cases (p t s).1 with
  | none => exact hq t s
  | some r => rfl

theorem Sim.getPos : Sim getPos Parser.getPos := Sim.lift _
theorem Sim.remaining : Sim remaining Parser.remaining := Sim.lift _

theorem Sim.manyF {α} {p : PE α} {p' : P α} (hp : Sim p p') : ∀ fuel, Sim (manyF p fuel) (Parser.manyF p' fuel)
  | 0 => Sim.pure _
  | fuel + 1 => by
    unfold ParserE.manyF Parser.manyF
    exact Sim.orElse (Sim.bind hp fun _ => Sim.bind (Sim.manyF hp fuel) fun _ => Sim.pure _) (Sim.pure _)

theorem Sim.many {α} {p : PE α} {p' : P α} (hp : Sim p p') : Sim (many p) (Parser.many p') :=
  Sim.bind Sim.remaining fun fuel => Sim.manyF hp fuel

theorem Sim.withText {α} {p : PE α} {p' : P α} (hp : Sim p p') : Sim (withText p) (Parser.withText p') := by
  intro t s
  unfold ParserE.withText Parser.withText
  rw [← hp t s]
  cases (p t s).1 with
  | none => rfl
  | some r => rfl

theorem Sim.skipManyOpt (p : Char → Bool) : Sim (skipManyOpt p) (Parser.skipMany p) := fun _ _ => rfl

theorem Sim.digits : Sim digits Parser.digits := Sim.term _
theorem Sim.decimal : Sim decimal Parser.decimal := Sim.term _
theorem Sim.preposition : Sim preposition Parser.preposition := Sim.term _
theorem Sim.remainder : Sim remainder Parser.remainder := Sim.term _

end ParserE

theorem parseE_syntaxError {src : Str} {off : Nat} (h : parseE src = .syntaxError off) :
    (ParserE.recipe src.toArray ⟨0, false⟩).1 = none ∧ (ParserE.recipe src.toArray ⟨0, false⟩).2.getD 0 = off := by
  unfold parseE at h
  cases hr : ParserE.recipe src.toArray ⟨0, false⟩ with
  | mk r far =>
    rw [hr] at h
    cases r with
    | some x => cases h
    | none => cases h; exact ⟨rfl, rfl⟩

end RG
