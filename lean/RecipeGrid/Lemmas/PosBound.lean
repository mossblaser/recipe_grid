import RecipeGrid.Model.Compiler
import RecipeGrid.Lemmas.TerminalRx
/-! What `parse` guarantees of the AST it returns, by one walk over the rules (`Bd`, "bounded", one lemma per combinator and rule): the
    parser never records a position beyond the end of the text, every string it returns has at least one part, and every
    step has an input (`SOk`, `EOk`, `StOk`). -/
namespace RG

mutual
def AExpr.propOffsets : AExpr → List Nat
  | .step _ inputs => AExpr.propOffsetsList inputs
  | .ref _ (some (.prop off _ _ _ _)) => [off]
  | .ref _ _ => []
def AExpr.propOffsetsList : List AExpr → List Nat
  | [] => []
  | e :: es => e.propOffsets ++ AExpr.propOffsetsList es
end

/-- the offsets a statement can be rejected at: its proportions and its written output names -/
def AStmt.errOffsets (s : AStmt) : List Nat := s.expr.propOffsets ++ (s.outputs.getD []).map AString.offset

mutual
def AExpr.stepsNonempty : AExpr → Bool
  | .step _ inputs => !inputs.isEmpty && AExpr.stepsNonemptyList inputs
  | .ref .. => true
def AExpr.stepsNonemptyList : List AExpr → Bool
  | [] => true
  | e :: es => e.stepsNonempty && AExpr.stepsNonemptyList es
end

theorem AExpr.stepsNonemptyList_iff : ∀ es : List AExpr,
    AExpr.stepsNonemptyList es = true ↔ ∀ e ∈ es, e.stepsNonempty = true
  | [] => by simp [AExpr.stepsNonemptyList]
  | e :: es => by simp [AExpr.stepsNonemptyList, AExpr.stepsNonemptyList_iff es]

/-- the written output names of a statement are non-empty strings (`AString.offset` of an empty one would be `0`) -/
def AStmt.OutputsNE (s : AStmt) : Prop := ∀ l, s.outputs = some l → ∀ a ∈ l, a ≠ []

end RG

namespace RG.Parser

theorem spanEnd_eq_takeWhile (p : Char → Bool) (t : Array Char) (i : Nat) :
    spanEnd p t i = i + ((t.toList.drop i).takeWhile p).length := by
  refine spanEnd_run (rest := (t.toList.drop i).dropWhile p) List.takeWhile_append_dropWhile.symm
    (fun x hx => mem_takeWhile_imp hx) fun c hc => ?_
  have := List.head?_dropWhile_not p (t.toList.drop i)
  rw [hc] at this
  simpa using this

theorem spanEnd_le (p : Char → Bool) {t : Array Char} {i : Nat} (h : i ≤ t.size) : spanEnd p t i ≤ t.size := by
  rw [spanEnd_eq_takeWhile]
  have := (List.takeWhile_sublist p (l := t.toList.drop i)).length_le
  simp only [List.length_drop, Array.length_toList] at this
  omega

end RG.Parser

namespace RG.Parser.PosBound

def Bd {α : Type} (t : Array Char) (p : P α) (Q : α → Prop) : Prop :=
  ∀ s a s', s.pos ≤ t.size → p t s = some (a, s') → s'.pos ≤ t.size ∧ Q a

variable {t : Array Char}

theorem Bd.pure {α : Type} {a : α} {Q : α → Prop} (h : Q a) : Bd t (pure a) Q := by
  intro s a' s' hs he
  cases he
  exact ⟨hs, h⟩

theorem Bd.bind {α β : Type} {p : P α} {f : α → P β} {Q1 : α → Prop} {Q2 : β → Prop} (h1 : Bd t p Q1)
    (h2 : ∀ a, Q1 a → Bd t (f a) Q2) : Bd t (p >>= f) Q2 := by
  intro s b s' hs he
  have he' : (match p t s with | none => none | some (a, s1) => f a t s1) = some (b, s') := he
  cases hp : p t s with
  | none => rw [hp] at he'; cases he'
  | some r =>
    obtain ⟨a, s1⟩ := r
    rw [hp] at he'
    obtain ⟨hs1, hq⟩ := h1 s a s1 hs hp
    exact h2 a hq s1 b s' hs1 he'

theorem Bd.seq {α β : Type} {p : P α} {q : P β} {Q1 : α → Prop} {Q : β → Prop} (h1 : Bd t p Q1) (h2 : Bd t q Q) :
    Bd t (p >>= fun _ => q) Q :=
  Bd.bind h1 fun _ _ => h2

theorem Bd.orElse {α : Type} {p q : P α} {Q : α → Prop} (h1 : Bd t p Q) (h2 : Bd t q Q) : Bd t (p <|> q) Q := by
  intro s a s' hs he
  have he' : (match p t s with | some r => some r | none => q t s) = some (a, s') := he
  cases hp : p t s with
  | none => rw [hp] at he'; exact h2 s a s' hs he'
  | some r => rw [hp] at he'; cases he'; exact h1 s a s' hs hp

theorem Bd.mono {α : Type} {p : P α} {Q Q' : α → Prop} (h : Bd t p Q) (hq : ∀ a, Q a → Q' a) : Bd t p Q' :=
  fun s a s' hs he => ⟨(h s a s' hs he).1, hq a (h s a s' hs he).2⟩

theorem Bd.map {α β : Type} {p : P α} {f : α → β} {Q : β → Prop} (h : Bd t p (fun a => Q (f a))) : Bd t (f <$> p) Q :=
  Bd.bind h (fun _ ha => Bd.pure ha)

theorem Bd.fail {α : Type} {Q : α → Prop} : Bd t (fail : P α) Q := by
  intro s a s' _ he; cases he

abbrev Top {α : Type} : α → Prop := fun _ => True

theorem sat_bd (p : Char → Bool) : Bd t (sat p) Top := by
  intro s a s' hs he
  unfold sat at he
  cases hc : t[s.pos]? with
  | none => rw [hc] at he; cases he
  | some c =>
    obtain ⟨hlt, _⟩ := Array.getElem?_eq_some_iff.1 hc
    rw [hc] at he
    simp only at he
    split at he <;> cases he
    exact ⟨hlt, trivial⟩

theorem lit_bd (c : Char) : Bd t (lit c) Top := (sat_bd _).seq (Bd.pure trivial)

theorem skipMany_bd (p : Char → Bool) : Bd t (skipMany p) Top := by
  intro s a s' hs he
  unfold skipMany at he
  cases he
  exact ⟨spanEnd_le p hs, trivial⟩

theorem skipMany1_bd (p : Char → Bool) : Bd t (skipMany1 p) Top := (sat_bd p).seq (skipMany_bd p)

theorem hsp_bd : Bd t hsp Top := skipMany1_bd _
theorem ohsp_bd : Bd t ohsp Top := skipMany_bd _
theorem osp_bd : Bd t osp Top := skipMany_bd _

theorem eof_bd : Bd t eof Top := by
  intro s a s' hs he
  unfold eof at he
  split at he
  · cases he; exact ⟨hs, trivial⟩
  · cases he

theorem Bd.of_endsRx {α : Type} {p : P α} {r : Rx} (h : Rx.EndsRx p r) : Bd t p Top :=
  fun _ _ _ hs e => ⟨(h.bounds hs e).2, trivial⟩

theorem getPos_bd : Bd t getPos (· ≤ t.size) := by
  intro s a s' hs he
  cases he
  exact ⟨hs, hs⟩

theorem remaining_bd : Bd t remaining Top := by
  intro s a s' hs he
  cases he
  exact ⟨hs, trivial⟩

theorem many_bd {α : Type} {p : P α} {Q : α → Prop} (h : Bd t p Q) : Bd t (many p) (fun l => ∀ a ∈ l, Q a) := by
  refine Bd.bind remaining_bd fun fuel hfuel => ?_
  clear hfuel
  induction fuel with
  | zero => exact Bd.pure (List.forall_mem_nil _)
  | succ fuel ih =>
    unfold manyF
    refine Bd.orElse (Bd.bind h fun a ha => Bd.bind ih fun rest hrest => ?_) (Bd.pure (List.forall_mem_nil _))
    exact Bd.pure (List.forall_mem_cons.2 ⟨ha, hrest⟩)

theorem withText_bd {α : Type} {p : P α} {Q : α → Prop} (h : Bd t p Q) : Bd t (withText p) (fun x => Q x.1) := by
  intro s a s' hs he
  unfold withText at he
  cases hp : p t s with
  | none => rw [hp] at he; cases he
  | some r =>
    obtain ⟨a1, s1⟩ := r
    rw [hp] at he
    cases he
    exact h s a1 _ hs hp

theorem textOf_bd {p : P Unit} (h : Bd t p Top) : Bd t (textOf p) Top :=
  Bd.bind (withText_bd h) fun _ _ => Bd.pure trivial

theorem opt_bd {α : Type} {p : P α} {Q : α → Prop} (h : Bd t p Q) : Bd t (opt p) (fun o => ∀ a, o = some a → Q a) := by
  unfold opt
  refine Bd.orElse (Bd.map (h.mono ?_)) (Bd.pure (by simp))
  intro a ha b hb
  cases hb
  exact ha

theorem digits_bd : Bd t digits Top := textOf_bd (skipMany1_bd _)

theorem decimal_bd : Bd t decimal (fun x => x.1 ≤ t.size) := by
  unfold decimal
  refine Bd.bind getPos_bd fun off hoff => ?_
  refine Bd.bind digits_bd fun whole _ => ?_
  refine Bd.bind (opt_bd ((lit_bd _).seq (textOf_bd (skipMany_bd _)))) fun frac _ => ?_
  cases frac <;> exact Bd.pure hoff

theorem fraction_bd : Bd t fraction (fun x => x.1 ≤ t.size) := by
  unfold fraction
  refine Bd.bind getPos_bd fun start hstart => ?_
  refine Bd.bind (opt_bd (Bd.bind digits_bd fun _ _ => hsp_bd.seq (Bd.pure trivial))) fun integer _ => ?_
  refine Bd.bind getPos_bd fun numerStart hns => ?_
  refine Bd.bind digits_bd fun numer _ => ohsp_bd.seq ((lit_bd _).seq (ohsp_bd.seq ?_))
  refine Bd.bind digits_bd fun denom _ => ?_
  simp only
  split
  · exact Bd.fail
  · refine Bd.pure ?_
    simp only
    split <;> assumption

theorem number_bd : Bd t number (fun x => x.1 ≤ t.size) := Bd.orElse fraction_bd decimal_bd

def subOff : SubStr → Nat
  | .sub o _ => o
  | .num o _ => o

def AOk (t : Array Char) (a : AString) : Prop := ∀ x ∈ a, subOff x ≤ t.size

theorem AOk.offset {a : AString} (h : AOk t a) : AString.offset a ≤ t.size := by
  match a, h with
  | [], _ => exact Nat.zero_le _
  | .sub o x :: _, h => exact h (.sub o x) (List.mem_cons_self)
  | .num o x :: _, h => exact h (.num o x) (List.mem_cons_self)

theorem AOk.single {x : SubStr} (h : subOff x ≤ t.size) : AOk t [x] :=
  fun _ hy => List.mem_singleton.1 hy ▸ h

def SOk (t : Array Char) (a : AString) : Prop := AOk t a ∧ a ≠ []

theorem SOk.single {x : SubStr} (h : subOff x ≤ t.size) : SOk t [x] := ⟨AOk.single h, List.cons_ne_nil _ _⟩

theorem AOk.append {a b : AString} (ha : AOk t a) (hb : AOk t b) : AOk t (a ++ b) :=
  fun x hx => (List.mem_append.1 hx).elim (ha x) (hb x)

theorem trimBack_le_max (p : Char → Bool) (lo k : Nat) : trimBack p t lo k ≤ max lo k := by
  rcases Nat.le_total lo k with h | h
  · exact Nat.le_trans (Parser.trimBack_le p t lo k h) (Nat.le_max_right ..)
  · rw [trimBack_of_le p t lo k h]; exact Nat.le_max_left ..

theorem nakedString_bd : Bd t nakedString (SOk t) := by
  unfold nakedString
  refine Bd.bind getPos_bd fun off hoff => ?_
  refine Bd.bind (withText_bd (Q := Top) ((sat_bd _).seq ?_)) fun x _ => Bd.pure (SOk.single hoff)
  intro s a s' hs he
  cases he
  exact ⟨Nat.le_trans (trimBack_le_max isNakedEdge s.pos _) (Nat.max_le.2 ⟨hs, spanEnd_le _ hs⟩), trivial⟩

theorem escaped_bd : Bd t escaped Top := (lit_bd _).seq (Bd.bind (sat_bd _) fun _ _ => Bd.pure trivial)

theorem quotedString_bd (q : Char) : Bd t (quotedString q) (SOk t) := by
  unfold quotedString
  refine Bd.bind getPos_bd fun off hoff => (lit_bd _).seq ?_
  refine Bd.bind (many_bd (Bd.orElse escaped_bd (sat_bd _))) fun body _ => ?_
  exact (lit_bd _).seq (Bd.pure (SOk.single hoff))

def itemOff : BracketedItem → Nat
  | .num o _ => o
  | .chr o _ => o

theorem bracketedItem_bd : Bd t bracketedItem (fun i => itemOff i ≤ t.size) := by
  unfold bracketedItem
  refine Bd.orElse (Bd.bind number_bd fun ⟨off, n⟩ hx => Bd.pure hx) (Bd.orElse ?_ ?_)
  · exact Bd.bind getPos_bd fun off hoff => Bd.bind escaped_bd fun c _ => Bd.pure hoff
  · exact Bd.bind getPos_bd fun off hoff => Bd.bind (sat_bd _) fun c _ => Bd.pure hoff

def AccOk (t : Array Char) (a : BracketedAcc) : Prop :=
  AOk t a.out ∧ (∀ o, a.segmentOff = some o → o ≤ t.size) ∧ (a.out ≠ [] ∨ a.segmentOff.isSome = true)

theorem AccOk.push {a : BracketedAcc} (h : AccOk t a) {i : BracketedItem} (hi : itemOff i ≤ t.size) : AccOk t (a.push i) := by
  have hseg : ∀ d, d ≤ t.size → a.segmentOff.getD d ≤ t.size := by
    intro d hd
    cases hs : a.segmentOff with
    | none => exact hd
    | some o => exact h.2.1 o hs
  cases i with
  | num off n =>
    refine ⟨AOk.append ?_ (AOk.single hi), fun o ho => (by cases ho), Or.inl ?_⟩
    · show AOk t (if _ then _ else _)
      split
      · exact h.1
      · exact AOk.append h.1 (AOk.single (hseg 0 (Nat.zero_le _)))
    · show (_ ++ [SubStr.num off n]) ≠ []
      simp
  | chr off c => exact ⟨h.1, fun o ho => (by cases ho; exact hseg off hi), Or.inr rfl⟩

theorem AccOk.foldl : ∀ (body : List BracketedItem) (a : BracketedAcc), AccOk t a → (∀ i ∈ body, itemOff i ≤ t.size) →
    AccOk t (body.foldl BracketedAcc.push a)
  | [], a, h, _ => h
  | i :: body, a, h, hb => AccOk.foldl body _ (h.push (hb i (by simp))) (fun j hj => hb j (by simp [hj]))

theorem AccOk.finish {a : BracketedAcc} (h : AccOk t a) : SOk t a.finish := by
  unfold BracketedAcc.finish
  cases hs : a.segmentOff with
  | none => exact ⟨h.1, h.2.2.resolve_right (by simp [hs])⟩
  | some o => exact ⟨AOk.append h.1 (AOk.single (h.2.1 o hs)), by simp⟩

theorem bracketedString_bd : Bd t bracketedString (SOk t) := by
  unfold bracketedString
  refine Bd.bind getPos_bd fun off hoff => (lit_bd _).seq ?_
  refine Bd.bind (many_bd bracketedItem_bd) fun body hbody => (lit_bd _).seq (Bd.pure ?_)
  refine AccOk.finish (AccOk.foldl body _ ⟨List.forall_mem_nil _, fun o ho => ?_, Or.inr rfl⟩ hbody)
  cases ho
  exact hoff

theorem stringF_bd (static : Bool) : ∀ fuel, Bd t (stringF static fuel) (SOk t)
  | 0 => Bd.fail
  | fuel + 1 => by
    unfold stringF
    refine Bd.bind (Bd.orElse nakedString_bd (Bd.orElse (quotedString_bd _) (Bd.orElse (quotedString_bd _) ?_)))
      fun first hfirst => ?_
    · cases static
      · exact bracketedString_bd
      · exact Bd.fail
    refine Bd.bind (opt_bd (Q := AOk t) ?_) fun rest hrest => ?_
    · refine Bd.bind getPos_bd fun off hoff => ?_
      refine Bd.bind (textOf_bd ohsp_bd) fun space _ => ?_
      refine Bd.bind (stringF_bd static fuel) fun more hmore => Bd.pure ?_
      split
      · exact hmore.1
      · exact List.forall_mem_cons.2 ⟨hoff, hmore.1⟩
    · refine Bd.pure ⟨AOk.append hfirst.1 ?_, fun h => hfirst.2 (List.append_eq_nil_iff.mp h).1⟩
      cases rest with
      | none => intro y hy; cases hy
      | some r => exact hrest r rfl

theorem string_bd (static : Bool) : Bd t (string static) (SOk t) :=
  Bd.bind remaining_bd fun _ _ => stringF_bd static _

theorem commaString_bd : Bd t commaString (SOk t) :=
  ohsp_bd.seq ((lit_bd _).seq (ohsp_bd.seq (string_bd _)))

theorem preposition_bd : Bd t preposition Top := Bd.of_endsRx Rx.scanIs_preposition.endsRx

theorem hspPreposition_bd : Bd t hspPreposition Top :=
  Bd.orElse (textOf_bd (hsp_bd.seq preposition_bd)) (Bd.pure trivial)

theorem remainder_bd : Bd t remainder Top := Bd.of_endsRx Rx.scanIs_remainder.endsRx

theorem knownUnit_bd : Bd t knownUnit Top := Bd.of_endsRx Rx.scanIs_knownUnit.endsRx

theorem proportion_bd : Bd t proportion (fun a => AAmount.offset a ≤ t.size) := by
  unfold proportion
  refine Bd.orElse ?_ (Bd.bind number_bd fun ⟨off, v⟩ hx => Bd.orElse ?_ (Bd.orElse ?_ ?_))
  · refine Bd.bind getPos_bd fun off hoff => Bd.bind (textOf_bd remainder_bd) fun wording _ => ?_
    exact Bd.bind hspPreposition_bd fun prep _ => Bd.pure hoff
  · exact Bd.bind (textOf_bd (hsp_bd.seq preposition_bd)) fun prep _ => Bd.pure hx
  · refine Bd.bind (textOf_bd ?_) fun prep _ => Bd.pure hx
    exact ohsp_bd.seq ((lit_bd _).seq (hspPreposition_bd.seq (Bd.pure trivial)))
  · exact Bd.bind (textOf_bd (ohsp_bd.seq (lit_bd _))) fun prep _ => Bd.pure hx

theorem explicitQuantity_bd : Bd t explicitQuantity (fun a => AAmount.offset a ≤ t.size) := by
  unfold explicitQuantity
  refine Bd.bind getPos_bd fun off hoff => (lit_bd _).seq (ohsp_bd.seq ?_)
  refine Bd.bind number_bd fun ⟨_, v⟩ _ => ?_
  refine Bd.bind (opt_bd (Q := Top) ?_) fun unit _ => ?_
  · exact Bd.bind (textOf_bd ohsp_bd) fun _ _ => Bd.bind (string_bd _) fun _ _ => Bd.pure trivial
  exact ohsp_bd.seq ((lit_bd _).seq (Bd.bind hspPreposition_bd fun prep _ => Bd.pure hoff))

theorem implicitQuantity_bd : Bd t implicitQuantity (fun a => AAmount.offset a ≤ t.size) := by
  unfold implicitQuantity
  refine Bd.bind number_bd fun ⟨off, v⟩ hx => ?_
  refine Bd.bind (opt_bd (Q := Top) ?_) fun unit _ => ?_
  · refine Bd.bind (textOf_bd ohsp_bd) fun _ _ => Bd.bind getPos_bd fun _ _ => ?_
    exact Bd.bind (textOf_bd knownUnit_bd) fun _ _ => Bd.bind hspPreposition_bd fun _ _ => Bd.pure trivial
  · rcases unit with _ | ⟨spacing, u, prep⟩
    · exact Bd.pure hx
    · exact Bd.pure hx

def EOk (t : Array Char) (e : AExpr) : Prop := (∀ off ∈ e.propOffsets, off ≤ t.size) ∧ e.stepsNonempty = true

theorem EOk.list : ∀ {es : List AExpr}, (∀ e ∈ es, EOk t e) → ∀ off ∈ AExpr.propOffsetsList es, off ≤ t.size
  | [], _, _, hoff => by cases hoff
  | e :: es, h, off, hoff => by
    rw [AExpr.propOffsetsList, List.mem_append] at hoff
    exact hoff.elim ((List.forall_mem_cons.1 h).1.1 off) (EOk.list (List.forall_mem_cons.1 h).2 off)

theorem EOk.step {name : AString} {e : AExpr} {es : List AExpr} (he : EOk t e) (hes : ∀ x ∈ es, EOk t x) :
    EOk t (.step name (e :: es)) := by
  have h : ∀ x ∈ e :: es, EOk t x := List.forall_mem_cons.2 ⟨he, hes⟩
  refine ⟨fun off hoff => EOk.list h off (by rwa [AExpr.propOffsets] at hoff), ?_⟩
  rw [AExpr.stepsNonempty, Bool.and_eq_true, AExpr.stepsNonemptyList_iff]
  exact ⟨rfl, fun x hx => (h x hx).2⟩

theorem reference_bd : Bd t reference (EOk t) := by
  unfold reference
  refine Bd.bind (opt_bd (Q := fun a => AAmount.offset a ≤ t.size) ?_) fun amount hamount => ?_
  · exact Bd.bind (Bd.orElse proportion_bd (Bd.orElse explicitQuantity_bd implicitQuantity_bd)) fun a ha =>
      ohsp_bd.seq (Bd.pure ha)
  refine Bd.bind (string_bd _) fun name _ => Bd.pure ⟨fun off hoff => ?_, rfl⟩
  rcases amount with _ | ⟨_ | ⟨o, v, pc, w, p⟩⟩
  · cases hoff
  · cases hoff
  · cases List.mem_singleton.1 hoff
    exact hamount _ rfl

theorem step_bd {e : P AExpr} (h : Bd t e (EOk t)) : Bd t (step e) (EOk t) := by
  unfold step
  refine Bd.bind (string_bd _) fun name _ => ohsp_bd.seq ((lit_bd _).seq (osp_bd.seq ?_))
  refine Bd.bind h fun first hfirst => ?_
  refine Bd.bind (many_bd (osp_bd.seq ((lit_bd _).seq (osp_bd.seq h)))) fun rest hrest => ?_
  exact (opt_bd (osp_bd.seq (lit_bd _))).seq (osp_bd.seq ((lit_bd _).seq (Bd.pure (hfirst.step hrest))))

theorem ltrShorthand_bd {e : P AExpr} (h : Bd t e (EOk t)) : Bd t (ltrShorthand e) (EOk t) := by
  unfold ltrShorthand
  refine Bd.bind h fun first hfirst => Bd.bind (many_bd commaString_bd) fun actions hact => Bd.pure ?_
  clear h hact
  induction actions generalizing first with
  | nil => exact hfirst
  | cons a as ih => exact ih _ (hfirst.step (List.forall_mem_nil _))

theorem expr_bd : ∀ fuel, Bd t (expr fuel) (EOk t)
  | 0 => Bd.fail
  | fuel + 1 => by
    unfold expr
    refine Bd.orElse (step_bd (expr_bd fuel)) (Bd.orElse reference_bd ((lit_bd _).seq (osp_bd.seq ?_)))
    exact Bd.bind (ltrShorthand_bd (expr_bd fuel)) fun e he => osp_bd.seq ((lit_bd _).seq (Bd.pure he))

theorem eol_bd : Bd t eol Top :=
  Bd.orElse (ohsp_bd.seq ((sat_bd _).seq osp_bd)) (ohsp_bd.seq eof_bd)

theorem outputList_bd : Bd t outputList (fun l => ∀ a ∈ l, SOk t a) :=
  Bd.bind (string_bd _) fun _ hfirst => Bd.bind (many_bd commaString_bd) fun _ hrest =>
    Bd.pure (List.forall_mem_cons.2 ⟨hfirst, hrest⟩)

theorem assign_bd : Bd t assign Top := Bd.of_endsRx (Rx.EndsRx.of_void Rx.scanIs_assign)

def StOk (t : Array Char) (st : AStmt) : Prop :=
  (∀ off ∈ st.errOffsets, off ≤ t.size) ∧ st.OutputsNE ∧ st.expr.stepsNonempty = true

theorem stmt_bd : Bd t stmt (StOk t) := by
  unfold stmt
  refine Bd.bind (opt_bd (Q := fun x : List AString × Bool => ∀ a ∈ x.1, SOk t a) ?_) fun target htarget => ?_
  · exact Bd.bind outputList_bd fun outputs houtputs => ohsp_bd.seq (Bd.bind assign_bd fun named _ =>
      ohsp_bd.seq (Bd.pure houtputs))
  refine Bd.bind remaining_bd fun fuel _ => Bd.bind (ltrShorthand_bd (expr_bd _)) fun e he =>
    eol_bd.seq (Bd.pure ⟨fun off hoff => ?_, fun l hl a ha => ?_, he.2⟩)
  · rcases List.mem_append.1 hoff with hoff | hoff
    · exact he.1 off hoff
    · obtain ⟨a, ha, rfl⟩ := List.mem_map.1 hoff
      rcases target with _ | x
      · cases ha
      · exact (htarget x rfl a ha).1.offset
  · rcases target with _ | x
    · cases hl
    · cases hl; exact (htarget x rfl a ha).2

theorem recipe_bd : Bd t recipe (fun l => ∀ st ∈ l, StOk t st) :=
  osp_bd.seq (Bd.bind stmt_bd fun _ hfirst => Bd.bind (many_bd stmt_bd) fun _ hrest =>
    eof_bd.seq (Bd.pure (List.forall_mem_cons.2 ⟨hfirst, hrest⟩)))

end RG.Parser.PosBound
