import RecipeGrid.Props.C01
import RecipeGrid.Props.C03
import RecipeGrid.Props.C07
/-! The inlining pass of `Model/Compiler.lean` (`foldStep`, `foldAll`) on trees with embedded copies, in four parts:
    the notions on trees the pass is described with, and what `Tree.subst` does to each; one inlining (the invariants
    `FoldInv` and `RefCount`, the data `FoldData.Ok` of a successful iteration, what it keeps); the state elaboration
    leaves satisfies the invariants (through the by-name description of `Props/C01.lean`); the loop and `compile` as a
    whole (`foldAll_induct`, `fold_reachable`, `validS_of_scoped`, `compile_cases`).
    `Scoped`, `Tree.refNodes`, `Tree.collect`, `Tree.expandH`, `DescendsH`, `Tree.wfB` are the notions in which
    `Props/C05.lean` and `Props/C08b.lean` prove their statements; `Props/C01b.lean` describes the same loop by name. -/
namespace RG

/-! ## Notions on trees, and what substitution for a reference does to them -/

mutual
def Tree.size : Tree → Nat
  | .ingredient .. => 1
  | .step _ i => 1 + Tree.sizeList i
  | .reference s _ _ => 1 + Tree.size s
  | .sub b _ _ => 1 + Tree.size b
def Tree.sizeList : List Tree → Nat
  | [] => 0
  | t :: ts => Tree.size t + Tree.sizeList ts
end

mutual
/-- every reference node met when walking a tree, including inside embedded copies -/
def Tree.refNodes : Tree → List Tree
  | .ingredient .. => []
  | .step _ i => Tree.refNodesList i
  | .reference s n a => .reference s n a :: Tree.refNodes s
  | .sub b _ _ => Tree.refNodes b
def Tree.refNodesList : List Tree → List Tree
  | [] => []
  | t :: ts => Tree.refNodes t ++ Tree.refNodesList ts
end

def Tree.subNames : Tree → List SVS
  | .sub _ ns _ => ns
  | _ => []

mutual
theorem Tree.size_key : ∀ t : Tree, t.key.size = t.size
  | .ingredient .. => rfl
  | .step _ i => congrArg (1 + ·) (Tree.sizeList_key i)
  | .reference s _ _ => congrArg (1 + ·) (Tree.size_key s)
  | .sub b _ _ => congrArg (1 + ·) (Tree.size_key b)
theorem Tree.sizeList_key : ∀ ts : List Tree, Tree.sizeList (Tree.keyList ts) = Tree.sizeList ts
  | [] => rfl
  | t :: ts => by rw [Tree.keyList, Tree.sizeList, Tree.sizeList, Tree.size_key t, Tree.sizeList_key ts]
end

/- `==` is equality of keys (`Tree.beq_iff_key`), and the key of a tree has its size -/
theorem Tree.beq_size : ∀ a b : Tree, Tree.beq a b = true → a.size = b.size :=
  fun a b h => by rw [← Tree.size_key a, (Tree.beq_iff_key a b).1 h, Tree.size_key]
theorem Tree.beqList_size : ∀ a b : List Tree, Tree.beqList a b = true → Tree.sizeList a = Tree.sizeList b :=
  fun a b h => by rw [← Tree.sizeList_key a, (Tree.beqList_iff_key a b).1 h, Tree.sizeList_key]

theorem Tree.size_pos (t : Tree) : 0 < t.size := by
  cases t <;> simp only [Tree.size] <;> omega

theorem Tree.subNames_key (t : Tree) : t.key.subNames = t.subNames.map (·.map Part.key) := by
  cases t <;> rfl

theorem Tree.isSub_key (t : Tree) : t.key.isSub = t.isSub := by
  cases t <;> rfl

theorem Tree.beq_subNames {a b : Tree} (h : Tree.beq a b = true) : (a.subNames == b.subNames) = true := by
  rw [List.beq_iff_map_eq (fun s : SVS => s.map Part.key) Svs.beq_iff_key, ← Tree.subNames_key a,
    (Tree.beq_iff_key a b).1 h, Tree.subNames_key]

theorem Tree.beq_isSub {a b : Tree} (h : Tree.beq a b = true) : a.isSub = b.isSub := by
  rw [← Tree.isSub_key a, (Tree.beq_iff_key a b).1 h, Tree.isSub_key]

theorem Tree.beq_of_isRef {t old : Tree} (hr : old.isRef = true) (ht : t.isRef = false) : Tree.beq t old = false := by
  cases old with
  | reference => cases t <;> first | rfl | cases ht
  | _ => cases hr

theorem Tree.beq_of_size_ne {a b : Tree} (h : a.size ≠ b.size) : Tree.beq a b = false :=
  Bool.eq_false_iff.mpr fun hb => h (Tree.beq_size a b hb)

mutual
theorem Tree.subst_small (old new : Tree) : ∀ t : Tree, t.size < old.size → Tree.subst old new t = t := by
  intro t h
  rw [Tree.subst_eq, Tree.beq_of_size_ne (Nat.ne_of_lt h), if_neg Bool.false_ne_true]
  match t, h with
  | .ingredient .., _ => rfl
  | .step d i, h => exact congrArg (Tree.step d) (Tree.substList_small old new i (by simp only [Tree.size] at h; omega))
  | .reference s n a, h =>
    exact congrArg (Tree.reference · n a) (Tree.subst_small old new s (by simp only [Tree.size] at h; omega))
  | .sub b ns sh, h => exact congrArg (Tree.sub · ns sh) (Tree.subst_small old new b (by simp only [Tree.size] at h; omega))
theorem Tree.substList_small (old new : Tree) : ∀ ts : List Tree, Tree.sizeList ts < old.size →
    Tree.substList old new ts = ts
  | [], _ => rfl
  | t :: ts, h => by
    simp only [Tree.sizeList] at h
    have := Tree.size_pos t
    simp only [Tree.substList, Tree.subst_small old new t (by omega), Tree.substList_small old new ts (by omega)]
end

theorem Tree.substList_eq_map (old new : Tree) : ∀ ts : List Tree, Tree.substList old new ts = ts.map (Tree.subst old new)
  | [] => rfl
  | t :: ts => by simp [Tree.substList, Tree.substList_eq_map old new ts]

theorem Tree.subst_ingredient {old : Tree} (new : Tree) (hr : old.isRef = true) (d : SVS) (q : Option Quantity) :
    Tree.subst old new (.ingredient d q) = .ingredient d q := by
  rw [Tree.subst_eq, Tree.beq_of_isRef (t := .ingredient d q) hr rfl]
  rfl

theorem Tree.subst_step {old : Tree} (new : Tree) (hr : old.isRef = true) (d : SVS) (i : List Tree) :
    Tree.subst old new (.step d i) = .step d (Tree.substList old new i) := by
  rw [Tree.subst_eq, Tree.beq_of_isRef (t := .step d i) hr rfl]
  rfl

theorem Tree.subst_sub (old new b : Tree) (ns : List SVS) (sh : Bool) (hr : old.isRef = true) :
    Tree.subst old new (.sub b ns sh) = .sub (Tree.subst old new b) ns sh := by
  rw [Tree.subst_eq, Tree.beq_of_isRef (t := .sub b ns sh) hr rfl]
  rfl

theorem Tree.isSub_subst (old new t : Tree) (hr : old.isRef = true) (h : t.isSub = true) :
    (Tree.subst old new t).isSub = true := by
  cases t <;> simp [Tree.isSub] at h
  rw [Tree.subst_sub _ _ _ _ _ hr]
  rfl

theorem Tree.subNames_subst (old new t : Tree) (hr : old.isRef = true) (h : t.isSub = true) :
    (Tree.subst old new t).subNames = t.subNames := by
  cases t <;> simp [Tree.isSub] at h
  rw [Tree.subst_sub _ _ _ _ _ hr]
  rfl

theorem Tree.numOutputs_eq (t : Tree) : t.numOutputs = t.subNames.length := by
  cases t <;> rfl

mutual
theorem Tree.refNodes_size : ∀ (t n : Tree), n ∈ t.refNodes → n.size ≤ t.size
  | .ingredient .., n, h => by simp [Tree.refNodes] at h
  | .step d i, n, h => by
    simp only [Tree.refNodes] at h
    have := Tree.refNodesList_size i n h
    simp only [Tree.size]
    omega
  | .reference s i a, n, h => by
    simp only [Tree.refNodes, List.mem_cons] at h
    rcases h with rfl | h
    · exact Nat.le_refl _
    · have := Tree.refNodes_size s n h
      simp only [Tree.size]
      omega
  | .sub b ns sh, n, h => by
    simp only [Tree.refNodes] at h
    have := Tree.refNodes_size b n h
    simp only [Tree.size]
    omega
theorem Tree.refNodesList_size : ∀ (ts : List Tree) (n : Tree), n ∈ Tree.refNodesList ts → n.size ≤ Tree.sizeList ts
  | [], n, h => by simp [Tree.refNodesList] at h
  | t :: ts, n, h => by
    simp only [Tree.refNodesList, List.mem_append] at h
    simp only [Tree.sizeList]
    rcases h with h | h
    · have := Tree.refNodes_size t n h
      omega
    · have := Tree.refNodesList_size ts n h
      omega
end

def SubstNode (old new : Tree) (L : List Tree) (n' : Tree) : Prop :=
  (∃ s i a, Tree.reference s i a ∈ L ∧ Tree.beq (.reference s i a) old = false ∧
      n' = .reference (Tree.subst old new s) i a) ∨
  (n' ∈ new.refNodes ∧ ∃ m ∈ L, Tree.beq m old = true)

theorem SubstNode.mono {old new n' : Tree} {L L' : List Tree} (hsub : ∀ m ∈ L, m ∈ L')
    (h : SubstNode old new L n') : SubstNode old new L' n' :=
  h.imp (fun ⟨s, i, a, h1, h2⟩ => ⟨s, i, a, hsub _ h1, h2⟩) (fun ⟨h1, m, h2, h3⟩ => ⟨h1, m, hsub m h2, h3⟩)

mutual
theorem Tree.refNodes_subst (old new : Tree) (hr : old.isRef = true) : ∀ (t n' : Tree),
    n' ∈ (Tree.subst old new t).refNodes → SubstNode old new t.refNodes n'
  | .ingredient d q, n', h => by rw [Tree.subst_ingredient new hr] at h; cases h
  | .step d i, n', h => by
    rw [Tree.subst_step new hr] at h
    exact Tree.refNodesList_subst old new hr i n' h
  | .reference s j a, n', h => by
    simp only [Tree.subst] at h
    cases hb : Tree.beq (.reference s j a) old with
    | true =>
      simp only [hb, if_true] at h
      exact Or.inr ⟨h, _, List.mem_cons_self, hb⟩
    | false =>
      simp only [hb, Bool.false_eq_true, if_false, Tree.refNodes, List.mem_cons] at h
      rcases h with rfl | h
      · exact Or.inl ⟨s, j, a, List.mem_cons_self, hb, rfl⟩
      · exact (Tree.refNodes_subst old new hr s n' h).mono fun m hm => List.mem_cons_of_mem _ hm
  | .sub b ns sh, n', h => by
    rw [Tree.subst_sub _ _ _ _ _ hr] at h
    exact Tree.refNodes_subst old new hr b n' h
theorem Tree.refNodesList_subst (old new : Tree) (hr : old.isRef = true) : ∀ (ts : List Tree) (n' : Tree),
    n' ∈ Tree.refNodesList (Tree.substList old new ts) →
    (∃ s i a, Tree.reference s i a ∈ Tree.refNodesList ts ∧ Tree.beq (.reference s i a) old = false ∧
      n' = .reference (Tree.subst old new s) i a) ∨
    (n' ∈ new.refNodes ∧ ∃ m ∈ Tree.refNodesList ts, Tree.beq m old = true)
  | [], n', h => by cases h
  | t :: ts, n', h => by
    rcases List.mem_append.mp h with h | h
    · exact SubstNode.mono (fun m hm => List.mem_append_left _ hm) (Tree.refNodes_subst old new hr t n' h)
    · exact SubstNode.mono (fun m hm => List.mem_append_right _ hm) (Tree.refNodesList_subst old new hr ts n' h)
end

mutual
theorem Tree.refTargets_refNodes : ∀ (t s : Tree), s ∈ t.refTargets → ∃ i a, Tree.reference s i a ∈ t.refNodes
  | .ingredient .., s, h => by simp [Tree.refTargets] at h
  | .step d i, s, h => by
    simp only [Tree.refTargets] at h
    simpa [Tree.refNodes] using Tree.refTargetsList_refNodes i s h
  | .reference s' i a, s, h => by
    simp only [Tree.refTargets, List.mem_cons] at h
    rcases h with rfl | h
    · exact ⟨i, a, by simp [Tree.refNodes]⟩
    · obtain ⟨i', a', h'⟩ := Tree.refTargets_refNodes s' s h
      exact ⟨i', a', by simp [Tree.refNodes, h']⟩
  | .sub b ns sh, s, h => by
    simp only [Tree.refTargets] at h
    simpa [Tree.refNodes] using Tree.refTargets_refNodes b s h
theorem Tree.refTargetsList_refNodes : ∀ (ts : List Tree) (s : Tree), s ∈ Tree.refTargetsList ts →
    ∃ i a, Tree.reference s i a ∈ Tree.refNodesList ts
  | [], s, h => by simp [Tree.refTargetsList] at h
  | t :: ts, s, h => by
    simp only [Tree.refTargetsList, List.mem_append] at h
    rcases h with h | h
    · obtain ⟨i, a, h'⟩ := Tree.refTargets_refNodes t s h
      exact ⟨i, a, by simp [Tree.refNodesList, h']⟩
    · obtain ⟨i, a, h'⟩ := Tree.refTargetsList_refNodes ts s h
      exact ⟨i, a, by simp [Tree.refNodesList, h']⟩
end

/-- `Scoped flat`: every embedded copy IS (structurally) a sub recipe root at an earlier position -/
def Scoped (flat : List Tree) : Prop :=
  ∀ (p : Nat) (T : Tree), flat[p]? = some T → ∀ s i a, Tree.reference s i a ∈ T.refNodes →
    ∃ k, k < p ∧ flat[k]? = some s ∧ s.isSub = true

mutual
def Tree.innerSubs : Tree → List Tree
  | .ingredient .. => []
  | .step _ i => Tree.innerSubsList i
  | .reference .. => []
  | .sub b ns sh => .sub b ns sh :: Tree.innerSubs b
def Tree.innerSubsList : List Tree → List Tree
  | [] => []
  | t :: ts => Tree.innerSubs t ++ Tree.innerSubsList ts
end

def Tree.bodyOrSelf : Tree → Tree
  | .sub b _ _ => b
  | t => t

theorem Tree.innerSubs_bodyOrSelf (t x : Tree) (h : x ∈ t.bodyOrSelf.innerSubs) : x ∈ t.innerSubs := by
  cases t <;> simp only [Tree.bodyOrSelf] at h <;> try exact h
  simp [Tree.innerSubs, h]

mutual
theorem Tree.innerSubs_subst (old new : Tree) (hr : old.isRef = true) : ∀ (t x' : Tree),
    x' ∈ (Tree.subst old new t).innerSubs → (∃ x ∈ t.innerSubs, x'.subNames = x.subNames) ∨ x' ∈ new.innerSubs
  | .ingredient d q, x', h => by rw [Tree.subst_ingredient new hr] at h; cases h
  | .step d i, x', h => by
    rw [Tree.subst_step new hr] at h
    exact Tree.innerSubsList_subst old new hr i x' h
  | .reference s j a, x', h => by
    simp only [Tree.subst] at h
    split at h
    · exact Or.inr h
    · cases h
  | .sub b ns sh, x', h => by
    rw [Tree.subst_sub _ _ _ _ _ hr] at h
    rcases List.mem_cons.mp h with rfl | h
    · exact Or.inl ⟨.sub b ns sh, List.mem_cons_self, rfl⟩
    · exact (Tree.innerSubs_subst old new hr b x' h).imp_left fun ⟨x, hx, he⟩ => ⟨x, List.mem_cons_of_mem _ hx, he⟩
theorem Tree.innerSubsList_subst (old new : Tree) (hr : old.isRef = true) : ∀ (ts : List Tree) (x' : Tree),
    x' ∈ Tree.innerSubsList (Tree.substList old new ts) →
    (∃ x ∈ Tree.innerSubsList ts, x'.subNames = x.subNames) ∨ x' ∈ new.innerSubs
  | [], x', h => by cases h
  | t :: ts, x', h => by
    rcases List.mem_append.mp h with h | h
    · exact (Tree.innerSubs_subst old new hr t x' h).imp_left fun ⟨x, hx, he⟩ => ⟨x, List.mem_append_left _ hx, he⟩
    · exact (Tree.innerSubsList_subst old new hr ts x' h).imp_left
        fun ⟨x, hx, he⟩ => ⟨x, List.mem_append_right _ hx, he⟩
end

theorem Tree.isSub_mem_innerSubs (t : Tree) (h : t.isSub = true) : t ∈ t.innerSubs := by
  cases t <;> simp [Tree.isSub] at h
  simp [Tree.innerSubs]

theorem getElem?_split {α : Type} (l : List α) (d : Nat) (x : α) (h : l[d]? = some x) :
    l = l.take d ++ x :: l.drop (d + 1) ∧ (l.take d).length = d := by
  obtain ⟨hlt, he⟩ := List.getElem?_eq_some_iff.mp h
  refine ⟨?_, by simp; omega⟩
  rw [← he]
  exact (List.take_append_drop d l).symm.trans (by rw [List.drop_eq_getElem_cons hlt])

theorem getElem?_map_some {α β : Type} {f : α → β} {l : List α} {k : Nat} {y : β} (h : (l.map f)[k]? = some y) :
    ∃ x, l[k]? = some x ∧ y = f x := by
  rw [List.getElem?_map] at h
  obtain ⟨x, hx, rfl⟩ := Option.map_eq_some_iff.mp h
  exact ⟨x, hx, rfl⟩

mutual
/-- the ingredient and step nodes of a tree outside embedded copies, in order, each seen through `fi` (description and
    quantity of an ingredient) or `fs` (description and number of inputs of a step) -/
def Tree.collect {β : Type} (fi : SVS → Option Quantity → β) (fs : SVS → Nat → β) : Tree → List β
  | .ingredient d q => [fi d q]
  | .step d i => fs d i.length :: Tree.collectList fi fs i
  | .reference .. => []
  | .sub b _ _ => Tree.collect fi fs b
def Tree.collectList {β : Type} (fi : SVS → Option Quantity → β) (fs : SVS → Nat → β) : List Tree → List β
  | [] => []
  | t :: ts => Tree.collect fi fs t ++ Tree.collectList fi fs ts
end

mutual
/-- the reference nodes of a tree outside embedded copies (the function `Model/Lint.lean` declares under the same name
    for the lint model: a module imports one of the two files, never both) -/
def Tree.topRefs : Tree → List Tree
  | .ingredient .. => []
  | .step _ i => Tree.topRefsList i
  | .reference s n a => [.reference s n a]
  | .sub b _ _ => Tree.topRefs b
def Tree.topRefsList : List Tree → List Tree
  | [] => []
  | t :: ts => Tree.topRefs t ++ Tree.topRefsList ts
end

theorem Tree.collectList_eq {β : Type} (fi : SVS → Option Quantity → β) (fs : SVS → Nat → β) :
    ∀ ts : List Tree, Tree.collectList fi fs ts = ts.flatMap (Tree.collect fi fs)
  | [] => rfl
  | t :: ts => by rw [Tree.collectList, Tree.collectList_eq fi fs ts, List.flatMap_cons]

theorem Tree.topRefsList_eq : ∀ ts : List Tree, Tree.topRefsList ts = ts.flatMap Tree.topRefs
  | [] => rfl
  | t :: ts => by rw [Tree.topRefsList, Tree.topRefsList_eq ts, List.flatMap_cons]

theorem Tree.substList_length (old new : Tree) (ts : List Tree) : (Tree.substList old new ts).length = ts.length := by
  rw [Tree.substList_eq_map, List.length_map]

mutual
theorem Tree.topRefs_sub_refNodes : ∀ (t n : Tree), n ∈ t.topRefs → n ∈ t.refNodes
  | .ingredient .., n, h => by simp [Tree.topRefs] at h
  | .step d i, n, h => by
    simp only [Tree.topRefs] at h
    simp only [Tree.refNodes]
    exact Tree.topRefsList_sub_refNodes i n h
  | .reference s j a, n, h => by
    simp only [Tree.topRefs, List.mem_singleton] at h
    simp [Tree.refNodes, h]
  | .sub b ns sh, n, h => by
    simp only [Tree.topRefs] at h
    simp only [Tree.refNodes]
    exact Tree.topRefs_sub_refNodes b n h
theorem Tree.topRefsList_sub_refNodes : ∀ (ts : List Tree) (n : Tree), n ∈ Tree.topRefsList ts → n ∈ Tree.refNodesList ts
  | [], n, h => by simp [Tree.topRefsList] at h
  | t :: ts, n, h => by
    simp only [Tree.topRefsList, List.mem_append] at h
    simp only [Tree.refNodesList, List.mem_append]
    exact h.imp (Tree.topRefs_sub_refNodes t n) (Tree.topRefsList_sub_refNodes ts n)
end

def Tree.occ (old t : Tree) : Nat := (t.topRefs).countP (fun n => Tree.beq n old)
def Tree.occList (old : Tree) (ts : List Tree) : Nat := (Tree.topRefsList ts).countP (fun n => Tree.beq n old)

mutual
theorem Tree.collect_subst {β : Type} (fi : SVS → Option Quantity → β) (fs : SVS → Nat → β) (old new : Tree)
    (hr : old.isRef = true) (p : β → Bool) : ∀ t : Tree,
    (Tree.collect fi fs (Tree.subst old new t)).countP p =
      (Tree.collect fi fs t).countP p + Tree.occ old t * (Tree.collect fi fs new).countP p
  | .ingredient d q => by
    simp only [Tree.subst_ingredient new hr, Tree.occ, Tree.topRefs, List.countP_nil, Nat.zero_mul, Nat.add_zero]
  | .step d i => by
    have ih := Tree.collectList_subst fi fs old new hr p i
    simp only [Tree.subst_step new hr, Tree.collect, Tree.substList_length, List.countP_cons, ih, Tree.occ,
      Tree.topRefs, Tree.occList]
    omega
  | .reference s j a => by
    simp only [Tree.subst, Tree.occ, Tree.topRefs, List.countP_cons, List.countP_nil]
    cases hb : Tree.beq (.reference s j a) old <;> simp [Tree.collect]
  | .sub b ns sh => by
    rw [Tree.subst_sub _ _ _ _ _ hr]
    simpa [Tree.collect, Tree.occ, Tree.topRefs] using Tree.collect_subst fi fs old new hr p b
theorem Tree.collectList_subst {β : Type} (fi : SVS → Option Quantity → β) (fs : SVS → Nat → β) (old new : Tree)
    (hr : old.isRef = true) (p : β → Bool) : ∀ ts : List Tree,
    (Tree.collectList fi fs (Tree.substList old new ts)).countP p =
      (Tree.collectList fi fs ts).countP p + Tree.occList old ts * (Tree.collect fi fs new).countP p
  | [] => by simp [Tree.substList, Tree.collectList, Tree.occList, Tree.topRefsList]
  | t :: ts => by
    have h1 := Tree.collect_subst fi fs old new hr p t
    have h2 := Tree.collectList_subst fi fs old new hr p ts
    simp only [Tree.substList, Tree.collectList, List.countP_append, h1, h2, Tree.occList, Tree.topRefsList, Tree.occ,
      Nat.add_mul]
    omega
end

mutual
theorem Tree.topRefs_subst (old new : Tree) (hr : old.isRef = true) (q : Tree → Bool) : ∀ t : Tree,
    (∀ s j a, Tree.reference s j a ∈ t.topRefs →
      (Tree.beq (.reference s j a) old = true → q (.reference s j a) = false) ∧
      q (.reference (Tree.subst old new s) j a) = q (.reference s j a)) →
    (Tree.subst old new t).topRefs.countP q = t.topRefs.countP q + Tree.occ old t * new.topRefs.countP q
  | .ingredient d q', _ => by
    simp only [Tree.subst_ingredient new hr, Tree.occ, Tree.topRefs, List.countP_nil, Nat.zero_mul, Nat.add_zero]
  | .step d i, h => by
    rw [Tree.subst_step new hr]
    exact Tree.topRefsList_subst old new hr q i h
  | .reference s j a, h => by
    simp only [Tree.subst, Tree.occ, Tree.topRefs, List.countP_cons, List.countP_nil]
    cases hb : Tree.beq (.reference s j a) old with
    | true => simp [(h s j a (by simp [Tree.topRefs])).1 hb]
    | false => simp [Tree.topRefs, (h s j a (by simp [Tree.topRefs])).2]
  | .sub b ns sh, h => by
    rw [Tree.subst_sub _ _ _ _ _ hr]
    simpa [Tree.topRefs, Tree.occ] using Tree.topRefs_subst old new hr q b (by simpa [Tree.topRefs] using h)
theorem Tree.topRefsList_subst (old new : Tree) (hr : old.isRef = true) (q : Tree → Bool) : ∀ ts : List Tree,
    (∀ s j a, Tree.reference s j a ∈ Tree.topRefsList ts →
      (Tree.beq (.reference s j a) old = true → q (.reference s j a) = false) ∧
      q (.reference (Tree.subst old new s) j a) = q (.reference s j a)) →
    (Tree.topRefsList (Tree.substList old new ts)).countP q =
      (Tree.topRefsList ts).countP q + Tree.occList old ts * new.topRefs.countP q
  | [], _ => by simp [Tree.substList, Tree.topRefsList, Tree.occList]
  | t :: ts, h => by
    have h1 := Tree.topRefs_subst old new hr q t (fun s j a hm => h s j a (by simp [Tree.topRefsList, hm]))
    have h2 := Tree.topRefsList_subst old new hr q ts (fun s j a hm => h s j a (by simp [Tree.topRefsList, hm]))
    simp only [Tree.substList, Tree.topRefsList, List.countP_append, h1, h2, Tree.occList, Tree.occ, Nat.add_mul]
    omega
end

theorem collect_subst_flat {β : Type} (fi : SVS → Option Quantity → β) (fs : SVS → Nat → β) (old new : Tree)
    (hr : old.isRef = true) (p : β → Bool) (L : List Tree) :
    ((L.map (Tree.subst old new)).flatMap (Tree.collect fi fs)).countP p =
      (L.flatMap (Tree.collect fi fs)).countP p +
        (L.flatMap Tree.topRefs).countP (fun n => Tree.beq n old) * (Tree.collect fi fs new).countP p := by
  rw [← Tree.substList_eq_map, ← Tree.collectList_eq, ← Tree.collectList_eq, ← Tree.topRefsList_eq]
  exact Tree.collectList_subst fi fs old new hr p L

theorem topRefs_subst_flat (old new : Tree) (hr : old.isRef = true) (q : Tree → Bool) (L : List Tree)
    (h : ∀ s j a, Tree.reference s j a ∈ L.flatMap Tree.topRefs →
      (Tree.beq (.reference s j a) old = true → q (.reference s j a) = false) ∧
      q (.reference (Tree.subst old new s) j a) = q (.reference s j a)) :
    ((L.map (Tree.subst old new)).flatMap Tree.topRefs).countP q =
      (L.flatMap Tree.topRefs).countP q +
        (L.flatMap Tree.topRefs).countP (fun n => Tree.beq n old) * new.topRefs.countP q := by
  rw [← Tree.substList_eq_map, ← Tree.topRefsList_eq, ← Tree.topRefsList_eq] at *
  exact Tree.topRefsList_subst old new hr q L h

/- `Tree.expandH`, `InlineChainH`, `DescendsH` are the notions in which this file states what the pass keeps of the roots.
   `Props/C05.lean` states its results with definitions of its own (`C05.expand`, `C05.InlineChain`, `C05.Descends`);
   `C05.expand_eq`, `C05.inlineChain_of`, `C05.descends_of` say they are the same. -/
mutual
/-- the pure step/ingredient tree a recipe tree stands for: every reference is replaced by the expansion of its
    embedded copy, sub recipe wrappers and amounts are dropped -/
def Tree.expandH : Tree → Tree
  | .ingredient d q => .ingredient d q
  | .step d i => .step d (Tree.expandHList i)
  | .reference s _ _ => Tree.expandH s
  | .sub b _ _ => Tree.expandH b
def Tree.expandHList : List Tree → List Tree
  | [] => []
  | t :: ts => Tree.expandH t :: Tree.expandHList ts
end

mutual
theorem Tree.expandH_subst (old new : Tree) (hr : old.isRef = true) (he : old.expandH = new.expandH) : ∀ t : Tree,
    (∀ n ∈ t.refNodes, Tree.beq n old = true → n = old) → (Tree.subst old new t).expandH = t.expandH
  | .ingredient d q, _ => by rw [Tree.subst_ingredient new hr]
  | .step d i, h => by
    rw [Tree.subst_step new hr]
    simp only [Tree.expandH]
    rw [Tree.expandHList_subst old new hr he i h]
  | .reference s j a, h => by
    simp only [Tree.subst]
    cases hb : Tree.beq (.reference s j a) old with
    | true =>
      simp only [if_true]
      rw [← he, ← h _ (by simp [Tree.refNodes]) hb]
    | false =>
      simp only [Bool.false_eq_true, if_false, Tree.expandH]
      exact Tree.expandH_subst old new hr he s (fun n hn => h n (by simp [Tree.refNodes, hn]))
  | .sub b ns sh, h => by
    rw [Tree.subst_sub _ _ _ _ _ hr]
    simp only [Tree.expandH]
    exact Tree.expandH_subst old new hr he b (by simpa [Tree.refNodes] using h)
theorem Tree.expandHList_subst (old new : Tree) (hr : old.isRef = true) (he : old.expandH = new.expandH) :
    ∀ ts : List Tree, (∀ n ∈ Tree.refNodesList ts, Tree.beq n old = true → n = old) →
    Tree.expandHList (Tree.substList old new ts) = Tree.expandHList ts
  | [], _ => rfl
  | t :: ts, h => by
    simp only [Tree.substList, Tree.expandHList]
    rw [Tree.expandH_subst old new hr he t (fun n hn => h n (by simp [Tree.refNodesList, hn])),
      Tree.expandHList_subst old new hr he ts (fun n hn => h n (by simp [Tree.refNodesList, hn]))]
end

mutual
/-- every node is accepted by its constructor (`mkStep`, `mkSub`, `mkReference`) -/
def Tree.wfB : Tree → Bool
  | .ingredient .. => true
  | .step _ i => Tree.wfBList i
  | .reference s idx _ => decide (idx < s.numOutputs) && Tree.wfB s
  | .sub b ns _ => b.canBeChild && !ns.isEmpty && Tree.wfB b
def Tree.wfBList : List Tree → Bool
  | [] => true
  | t :: ts => t.canBeChild && Tree.wfB t && Tree.wfBList ts
end

theorem Tree.canBeChild_subst (old new t : Tree) (hr : old.isRef = true) (hn : new.canBeChild = true)
    (ht : t.canBeChild = true) : (Tree.subst old new t).canBeChild = true := by
  cases t with
  | ingredient d q =>
    rw [Tree.subst_ingredient new hr]
    rfl
  | step d i =>
    rw [Tree.subst_step new hr]
    rfl
  | reference s j a =>
    simp only [Tree.subst]
    split
    · exact hn
    · rfl
  | sub b ns sh =>
    rw [Tree.subst_sub _ _ _ _ _ hr]
    exact ht

theorem Tree.numOutputs_subst (old new s : Tree) (hr : old.isRef = true) (hs : s.isSub = true) :
    (Tree.subst old new s).numOutputs = s.numOutputs := by
  rw [Tree.numOutputs_eq, Tree.numOutputs_eq, Tree.subNames_subst old new s hr hs]

mutual
theorem Tree.wfB_subst (old new : Tree) (hr : old.isRef = true) (hnw : new.wfB = true) (hnc : new.canBeChild = true) :
    ∀ t : Tree, t.wfB = true → (Tree.subst old new t).wfB = true
  | .ingredient d q, _ => by rw [Tree.subst_ingredient new hr]; rfl
  | .step d i, h => by
    rw [Tree.subst_step new hr]
    exact Tree.wfBList_subst old new hr hnw hnc i h
  | .reference s j a, h => by
    simp only [Tree.subst]
    split
    · exact hnw
    · simp only [Tree.wfB, Bool.and_eq_true, decide_eq_true_eq] at h ⊢
      have hsub : s.isSub = true := by
        cases s <;> simp [Tree.numOutputs] at h <;> rfl
      exact ⟨by rw [Tree.numOutputs_subst old new s hr hsub]; exact h.1, Tree.wfB_subst old new hr hnw hnc s h.2⟩
  | .sub b ns sh, h => by
    rw [Tree.subst_sub _ _ _ _ _ hr]
    simp only [Tree.wfB, Bool.and_eq_true] at h ⊢
    exact ⟨⟨Tree.canBeChild_subst old new b hr hnc h.1.1, h.1.2⟩, Tree.wfB_subst old new hr hnw hnc b h.2⟩
theorem Tree.wfBList_subst (old new : Tree) (hr : old.isRef = true) (hnw : new.wfB = true)
    (hnc : new.canBeChild = true) : ∀ ts : List Tree, Tree.wfBList ts = true →
    Tree.wfBList (Tree.substList old new ts) = true
  | [], _ => rfl
  | t :: ts, h => by
    simp only [Tree.substList, Tree.wfBList, Bool.and_eq_true] at h ⊢
    exact ⟨⟨Tree.canBeChild_subst old new t hr hnc h.1.1, Tree.wfB_subst old new hr hnw hnc t h.1.2⟩,
      Tree.wfBList_subst old new hr hnw hnc ts h.2⟩
end

/-! ## One inlining -/

/-- the state of the inlining loop before visiting table entry `i` -/
structure FoldInv (i : Nat) (blocks : List Block) (outs : List NamedOutput) : Prop where
  shape : ∀ o ∈ outs, o.sub.isSub = true
  /-- a single-output entry shares its names with no other entry -/
  distinct : ∀ (j k : Nat) (oj ok : NamedOutput), outs[j]? = some oj → outs[k]? = some ok → j ≠ k → oj.sub.numOutputs = 1 →
    (oj.sub.subNames == ok.sub.subNames) = false ∧ (ok.sub.subNames == oj.sub.subNames) = false
  /-- a recorded reference embeds the entry's current sub recipe -/
  refsShape : ∀ o ∈ outs, ∀ p ∈ o.refs, ∃ a, p.1 = Tree.reference o.sub o.idx a
  /-- every reference node of the recipe (at any depth) is a recorded reference -/
  nodes : ∀ T ∈ blocks.flatten, ∀ n ∈ T.refNodes, ∃ o ∈ outs, ∃ p ∈ o.refs, p.1 = n
  wf : Scoped blocks.flatten
  /-- the names of a not yet visited entry are the names of at most one root -/
  uniq : ∀ (k : Nat) (o : NamedOutput), i ≤ k → outs[k]? = some o → ∀ (p q : Nat) (r r' : Tree), blocks.flatten[p]? = some r → blocks.flatten[q]? = some r' →
    r.isSub = true → r'.isSub = true → (r.subNames == o.sub.subNames) = true → (r'.subNames == o.sub.subNames) = true →
    p = q
  /-- … and of no sub recipe below a root (outside copies) -/
  inner : ∀ (k : Nat) (o : NamedOutput), i ≤ k → outs[k]? = some o → ∀ T ∈ blocks.flatten, ∀ x ∈ T.bodyOrSelf.innerSubs,
    (x.subNames == o.sub.subNames) = false
  /-- the sub recipe of a not yet visited entry is a root of its block -/
  rooted : ∀ (k : Nat) (o : NamedOutput), i ≤ k → outs[k]? = some o → ∃ trees, blocks[o.defBlock]? = some trees ∧ o.sub ∈ trees

theorem FoldInv.next {i blocks outs} (h : FoldInv i blocks outs) : FoldInv (i + 1) blocks outs :=
  { h with
    uniq := fun k o hk => h.uniq k o (by omega)
    inner := fun k o hk => h.inner k o (by omega)
    rooted := fun k o hk => h.rooted k o (by omega) }

theorem FoldInv.node_recorded {i blocks outs} (h : FoldInv i blocks outs) {T n : Tree} (hT : T ∈ blocks.flatten)
    (hn : n ∈ T.refNodes) :
    ∃ (k : Nat) (ok : NamedOutput) (a : Amount) (b : Nat), outs[k]? = some ok ∧ (n, b) ∈ ok.refs ∧
      n = Tree.reference ok.sub ok.idx a ∧ ok.sub.isSub = true := by
  obtain ⟨ok, hok, p, hp, rfl⟩ := h.nodes T hT n hn
  obtain ⟨k, hk⟩ := List.mem_iff_getElem?.mp hok
  obtain ⟨a, ha⟩ := h.refsShape ok hok p hp
  exact ⟨k, ok, a, p.2, hk, hp, ha, h.shape ok hok⟩

theorem canBeInlined_facts (o : NamedOutput) (h : o.canBeInlined = true) :
    o.sub.numOutputs = 1 ∧ ∃ s i a rb, o.refs = [(Tree.reference s i a, rb)] := by
  unfold NamedOutput.canBeInlined at h
  simp only [Bool.and_eq_true, beq_iff_eq] at h
  refine ⟨h.1, ?_⟩
  have h2 := h.2
  split at h2
  · rename_i s i a rb heq
    exact ⟨_, _, _, _, heq⟩
  · cases h2

theorem foldStep_skip (i : Nat) (blocks : List Block) (outs : List NamedOutput)
    (h : ∀ o, outs[i]? = some o → o.canBeInlined = false) : foldStep i blocks outs = .ok (blocks, outs) := by
  unfold foldStep
  cases ho : outs[i]? with
  | none => rfl
  | some o => simp [h o ho]

theorem foldStep_fold (i : Nat) (blocks : List Block) (outs : List NamedOutput) (o : NamedOutput) (body : Tree)
    (ns : List SVS) (sh : Bool) (ref : Tree) (rb : Nat) (rest : List (Tree × Nat)) (trees trees' : List Tree)
    (ho : outs[i]? = some o) (hc : o.canBeInlined = true) (hs : o.sub = .sub body ns sh) (hr : o.refs = (ref, rb) :: rest)
    (hb : blocks[o.defBlock]? = some trees) (hrm : removeFirst o.sub trees = some trees') :
    foldStep i blocks outs =
      .ok ((blocks.set o.defBlock trees').map (Tree.substList ref (if o.unwrap then body else o.sub)),
           outs.map (NamedOutput.substitute ref (if o.unwrap then body else o.sub))) := by
  unfold foldStep
  simp only [ho, hc, Bool.not_true, Bool.false_eq_true, if_false]
  rw [hs] at hrm ⊢
  simp only [hr, hb, hrm]

theorem Tree.bodyOrSelf_of_not_sub (t : Tree) (h : t.isSub = false) : t.bodyOrSelf = t := by
  cases t <;> simp [Tree.isSub] at h <;> rfl

theorem Tree.beq_ref_target {s s' : Tree} {i i' : Nat} {a a' : Amount}
    (h : Tree.beq (.reference s i a) (.reference s' i' a') = true) : Tree.beq s s' = true := by
  simp only [Tree.beq, Bool.and_eq_true] at h
  exact h.1.1

theorem set_flatten_erase (blocks : List Block) (d : Nat) (t1 t2 : List Tree) (a : Tree)
    (hb : blocks[d]? = some (t1 ++ a :: t2)) :
    ∃ l1 l2, blocks.flatten = l1 ++ a :: l2 ∧ (blocks.set d (t1 ++ t2)).flatten = l1 ++ l2 := by
  obtain ⟨he, hl⟩ := getElem?_split blocks d _ hb
  refine ⟨(blocks.take d).flatten ++ t1, t2 ++ (blocks.drop (d + 1)).flatten, ?_, ?_⟩
  · conv => lhs; rw [he]
    simp [List.flatten_append]
  · conv => lhs; rw [he]
    rw [List.set_append_right _ _ (by omega)]
    simp [hl, List.flatten_append]

/-- the data of one successful inlining: the folded entry `o`; its sub recipe `.sub body ns sh`; the amount `am` and
    the block `rb` of its only reference; where the definition stands, `t1 ++ o.sub :: t2` in its block and
    `l1 ++ o.sub :: l2` in the flattened recipe -/
structure FoldData where
  o : NamedOutput
  body : Tree
  ns : List SVS
  sh : Bool
  am : Amount
  rb : Nat
  t1 : List Tree
  t2 : List Tree
  l1 : List Tree
  l2 : List Tree

def FoldData.ref (d : FoldData) : Tree := .reference d.o.sub d.o.idx d.am
/-- what the reference is replaced by -/
def FoldData.new (d : FoldData) : Tree := if d.o.unwrap then d.body else d.o.sub
def FoldData.blocks' (d : FoldData) (blocks : List Block) : List Block :=
  (blocks.set d.o.defBlock (d.t1 ++ d.t2)).map (Tree.substList d.ref d.new)
def FoldData.outs' (d : FoldData) (outs : List NamedOutput) : List NamedOutput :=
  outs.map (NamedOutput.substitute d.ref d.new)
/-- where the root at position `p` of the new recipe stood before the definition was removed -/
def FoldData.posBefore (d : FoldData) (p : Nat) : Nat := if p < d.l1.length then p else p + 1

/-- `d` describes the inlining that iteration `i` performs: `ho` entry `i` is `d.o`; `hc` it can be inlined, `hnum` it
    has one output; `hs` its sub recipe, `hrefs` its only reference; `hb`, `hflat` where the definition stands;
    `hflat'` the flattened recipe without it; `hstep` the result of the iteration -/
structure FoldData.Ok (d : FoldData) (i : Nat) (blocks : List Block) (outs : List NamedOutput) : Prop where
  ho : outs[i]? = some d.o
  hc : d.o.canBeInlined = true
  hnum : d.o.sub.numOutputs = 1
  hs : d.o.sub = .sub d.body d.ns d.sh
  hrefs : d.o.refs = [(d.ref, d.rb)]
  hb : blocks[d.o.defBlock]? = some (d.t1 ++ d.o.sub :: d.t2)
  hflat : blocks.flatten = d.l1 ++ d.o.sub :: d.l2
  hflat' : (blocks.set d.o.defBlock (d.t1 ++ d.t2)).flatten = d.l1 ++ d.l2
  hstep : foldStep i blocks outs = .ok (d.blocks' blocks, d.outs' outs)

theorem foldStep_shape {i : Nat} {blocks : List Block} {outs : List NamedOutput} (h : FoldInv i blocks outs) :
    foldStep i blocks outs = .ok (blocks, outs) ∨ ∃ d : FoldData, d.Ok i blocks outs := by
  cases ho : outs[i]? with
  | none => exact Or.inl (foldStep_skip i blocks outs (fun o h' => by rw [ho] at h'; cases h'))
  | some o =>
  cases hc : o.canBeInlined with
  | false => exact Or.inl (foldStep_skip i blocks outs (fun o' h' => by rw [ho] at h'; cases h'; exact hc))
  | true =>
    have hom : o ∈ outs := List.mem_of_getElem? ho
    obtain ⟨hnum, s0, i0, am, rb, hrefs⟩ := canBeInlined_facts o hc
    have hshape := h.shape o hom
    obtain ⟨body, ns, sh, hs⟩ : ∃ body ns sh, o.sub = Tree.sub body ns sh := by
      cases hsub : o.sub with
      | sub b n s => exact ⟨b, n, s, rfl⟩
      | _ =>
        rw [hsub] at hshape
        simp [Tree.isSub] at hshape
    obtain ⟨am', hrefEq⟩ := h.refsShape o hom (Tree.reference s0 i0 am, rb) (by rw [hrefs]; simp)
    simp only at hrefEq
    obtain ⟨trees, hb, hmem⟩ := h.rooted i o (Nat.le_refl _) ho
    obtain ⟨trees', hrm⟩ := removeFirst_isSome o.sub trees ⟨o.sub, hmem, Tree.beq_refl _⟩
    obtain ⟨t1, a, t2, htrees, htrees', hab⟩ := removeFirst_split o.sub trees trees' hrm
    subst htrees htrees'
    obtain ⟨l1, l2, hflat, hflat'⟩ := set_flatten_erase blocks o.defBlock t1 t2 a hb
    -- the removed root is the recorded sub recipe
    have haq : blocks.flatten[l1.length]? = some a := by rw [hflat]; simp
    have ha : a = o.sub := by
      have : o.sub ∈ blocks.flatten := List.mem_flatten.mpr ⟨_, List.mem_of_getElem? hb, hmem⟩
      obtain ⟨q2, hq2⟩ := List.mem_iff_getElem?.mp this
      have := h.uniq i o (Nat.le_refl _) ho l1.length q2 a o.sub haq hq2 (by rw [Tree.beq_isSub hab]; exact hshape)
        hshape (Tree.beq_subNames hab) (by simp)
      rw [← this, haq] at hq2
      exact Option.some.inj hq2
    subst ha
    clear hab
    have hrefs' : o.refs = [(Tree.reference o.sub o.idx am', rb)] := by rw [hrefs, hrefEq]
    right
    refine ⟨⟨o, body, ns, sh, am', rb, t1, t2, l1, l2⟩, ⟨ho, hc, hnum, hs, hrefs', hb, hflat, hflat', ?_⟩⟩
    exact foldStep_fold i blocks outs o body ns sh _ rb [] _ _ ho hc hs hrefs' hb hrm

namespace FoldData.Ok
variable {d : FoldData} {i : Nat} {blocks : List Block} {outs : List NamedOutput}

theorem refIsRef : d.ref.isRef = true := rfl

theorem size_lt : d.o.sub.size < d.ref.size := by
  simp only [FoldData.ref, Tree.size]
  omega

/-- a tree no larger than the removed definition holds no copy of the replaced reference -/
theorem subst_of_le {t : Tree} (ht : t.size ≤ d.o.sub.size) : Tree.subst d.ref d.new t = t :=
  Tree.subst_small d.ref d.new t (Nat.lt_of_le_of_lt ht size_lt)

theorem flatNew (hd : d.Ok i blocks outs) :
    (d.blocks' blocks).flatten = (d.l1 ++ d.l2).map (Tree.subst d.ref d.new) := by
  unfold FoldData.blocks'
  rw [← hd.hflat', List.map_flatten]
  congr 1
  apply List.map_congr_left
  intro b _
  exact Tree.substList_eq_map d.ref d.new b

theorem blocks'_getElem (hd : d.Ok i blocks outs) (b : Nat) :
    (d.blocks' blocks)[b]? =
      (if d.o.defBlock = b then some (d.t1 ++ d.t2) else blocks[b]?).map (Tree.substList d.ref d.new) := by
  unfold FoldData.blocks'
  rw [List.getElem?_map, List.getElem?_set, if_pos (List.getElem?_eq_some_iff.mp hd.hb).1]

theorem mem_flat (hd : d.Ok i blocks outs) {T : Tree} (hT : T ∈ d.l1 ++ d.l2) : T ∈ blocks.flatten := by
  rw [hd.hflat]
  simp only [List.mem_append, List.mem_cons] at hT ⊢
  rcases hT with hT | hT
  · exact Or.inl hT
  · exact Or.inr (Or.inr hT)

theorem flatNew_erase (hd : d.Ok i blocks outs) :
    (d.blocks' blocks).flatten = (blocks.flatten.eraseIdx d.l1.length).map (Tree.subst d.ref d.new) := by
  rw [hd.flatNew, hd.hflat, List.eraseIdx_append_of_length_le (Nat.le_refl _), Nat.sub_self, List.eraseIdx_cons_zero]

theorem flatNew_getElem (hd : d.Ok i blocks outs) {p' : Nat} {T' : Tree} (h : (d.blocks' blocks).flatten[p']? = some T') :
    ∃ T, blocks.flatten[d.posBefore p']? = some T ∧ T' = Tree.subst d.ref d.new T := by
  rw [hd.flatNew_erase, List.getElem?_map, List.getElem?_eraseIdx, ← apply_ite (blocks.flatten[·]?)] at h
  obtain ⟨T, hT, rfl⟩ := Option.map_eq_some_iff.mp h
  exact ⟨T, hT, rfl⟩

theorem posBefore_inj {p q : Nat} (h : d.posBefore p = d.posBefore q) : p = q := by
  unfold FoldData.posBefore at h
  split at h <;> split at h <;> omega

theorem sub_at (hd : d.Ok i blocks outs) : blocks.flatten[d.l1.length]? = some d.o.sub := by
  rw [hd.hflat, List.getElem?_append_right (Nat.le_refl _), Nat.sub_self]
  rfl

theorem sub_mem_flat (hd : d.Ok i blocks outs) : d.o.sub ∈ blocks.flatten := List.mem_of_getElem? hd.sub_at

theorem isSub (hd : d.Ok i blocks outs) (h : FoldInv i blocks outs) : d.o.sub.isSub = true :=
  h.shape d.o (List.mem_of_getElem? hd.ho)

/-- what is inserted is the removed definition or its body: whatever looks through a sub recipe wrapper reads the
    same off both -/
theorem new_eq (hd : d.Ok i blocks outs) {α : Type} (f : Tree → α) (hf : ∀ b ns sh, f (.sub b ns sh) = f b) :
    f d.new = f d.o.sub := by
  unfold FoldData.new
  split
  · rw [hd.hs, hf]
  · rfl

theorem new_innerSubs (hd : d.Ok i blocks outs) (x : Tree) (hx : x ∈ d.new.innerSubs) :
    x = d.o.sub ∨ x ∈ d.o.sub.bodyOrSelf.innerSubs := by
  unfold FoldData.new at hx
  rw [hd.hs] at hx ⊢
  split at hx
  · exact Or.inr hx
  · exact List.mem_cons.mp hx

theorem recorded_eq_ref (hd : d.Ok i blocks outs) (h : FoldInv i blocks outs) (k : Nat) (ok : NamedOutput)
    (hk : outs[k]? = some ok) (p : Tree × Nat) (hp : p ∈ ok.refs)
    (hbeq : Tree.beq p.1 d.ref = true) : k = i ∧ p.1 = d.ref := by
  by_cases hki : k = i
  · subst hki
    rw [hd.ho] at hk
    cases hk
    rw [hd.hrefs, List.mem_singleton] at hp
    rw [hp]
    exact ⟨rfl, rfl⟩
  · exfalso
    obtain ⟨a', hpe⟩ := h.refsShape ok (List.mem_of_getElem? hk) p hp
    have hdist := h.distinct i k d.o ok hd.ho hk (Ne.symm hki) hd.hnum
    rw [hpe] at hbeq
    have := Tree.beq_subNames (Tree.beq_ref_target hbeq)
    rw [hdist.2] at this
    cases this

/-- what the substitution of the table makes of a recorded reference: a reference to the substituted sub recipe (the
    replaced reference itself is left alone, and so is the sub recipe it holds, which is smaller) -/
theorem substitute_recorded (hd : d.Ok i blocks outs) (h : FoldInv i blocks outs) {k : Nat} {ok : NamedOutput}
    (hk : outs[k]? = some ok) {r : Tree} {b : Nat} (hp : (r, b) ∈ ok.refs) {a : Amount}
    (hpe : r = Tree.reference ok.sub ok.idx a) :
    (if !Tree.beq d.ref r then Tree.subst d.ref d.new r else r) =
      Tree.reference (Tree.subst d.ref d.new ok.sub) ok.idx a := by
  cases hbr : Tree.beq d.ref r with
  | true =>
    obtain ⟨rfl, _⟩ := hd.recorded_eq_ref h k ok hk (r, b) hp (Tree.beq_symm hbr)
    rw [hd.ho] at hk
    cases hk
    rw [subst_of_le (Nat.le_refl _), hpe]
    rfl
  | false =>
    have hbr' : Tree.beq r d.ref = false := Bool.eq_false_iff.mpr fun hb' => by
      have he : r = d.ref := (hd.recorded_eq_ref h k ok hk (r, b) hp hb').2
      rw [he, Tree.beq_refl] at hbr
      cases hbr
    rw [hpe] at hbr' ⊢
    simp only [Bool.not_false, if_true, Tree.subst, hbr', Bool.false_eq_true, if_false]

theorem same_sub (hd : d.Ok i blocks outs) (h : FoldInv i blocks outs) (k : Nat) (ok : NamedOutput)
    (hk : outs[k]? = some ok) (he : ok.sub = d.o.sub) : k = i := by
  apply Decidable.byContradiction
  intro hki
  have hdist := h.distinct i k d.o ok hd.ho hk (Ne.symm hki) hd.hnum
  rw [he] at hdist
  simp at hdist

theorem subNames_out (h : FoldInv i blocks outs) {k : Nat} {ok : NamedOutput} (hok : outs[k]? = some ok) :
    (NamedOutput.substitute d.ref d.new ok).sub.subNames = ok.sub.subNames :=
  Tree.subNames_subst d.ref d.new ok.sub rfl (h.shape ok (List.mem_of_getElem? hok))

theorem innerSubs_fresh (hd : d.Ok i blocks outs) (h : FoldInv i blocks outs) {k : Nat} {ok : NamedOutput}
    (hk : i + 1 ≤ k) (hok : outs[k]? = some ok) {t x' : Tree}
    (ht : ∀ x ∈ t.innerSubs, (x.subNames == ok.sub.subNames) = false)
    (hx : x' ∈ (Tree.subst d.ref d.new t).innerSubs) : (x'.subNames == ok.sub.subNames) = false := by
  rcases Tree.innerSubs_subst d.ref d.new refIsRef t x' hx with ⟨x, hx, he⟩ | hx
  · rw [he]
    exact ht x hx
  · -- a sub recipe of the inserted tree: the folded definition itself, or one below it
    rcases hd.new_innerSubs x' hx with rfl | hx
    · exact (h.distinct i k d.o ok hd.ho hok (by omega) hd.hnum).1
    · exact h.inner k ok (by omega) hok d.o.sub hd.sub_mem_flat x' hx

theorem root_of_new (hd : d.Ok i blocks outs) {T' : Tree} (hT' : T' ∈ (d.blocks' blocks).flatten) :
    ∃ T ∈ blocks.flatten, T' = Tree.subst d.ref d.new T := by
  rw [hd.flatNew] at hT'
  obtain ⟨T, hT, rfl⟩ := List.mem_map.mp hT'
  exact ⟨T, hd.mem_flat hT, rfl⟩

theorem flatNew_of_getElem (hd : d.Ok i blocks outs) {k p' : Nat} {s : Tree} (hks : blocks.flatten[k]? = some s)
    (hkq : k ≠ d.l1.length) (hkp : k < d.posBefore p') :
    ∃ k', k' < p' ∧ (d.blocks' blocks).flatten[k']? = some (Tree.subst d.ref d.new s) := by
  unfold FoldData.posBefore at hkp
  rw [hd.flatNew_erase]
  by_cases hlt : k < d.l1.length
  · refine ⟨k, by split at hkp <;> omega, ?_⟩
    rw [List.getElem?_map, List.getElem?_eraseIdx_of_lt hlt, hks]
    rfl
  · refine ⟨k - 1, by split at hkp <;> omega, ?_⟩
    rw [List.getElem?_map, List.getElem?_eraseIdx_of_ge (by omega), show k - 1 + 1 = k by omega, hks]
    rfl

theorem node_eq_ref (hd : d.Ok i blocks outs) (h : FoldInv i blocks outs) {T n : Tree} (hT : T ∈ blocks.flatten)
    (hn : n ∈ T.refNodes) (hb : Tree.beq n d.ref = true) : n = d.ref := by
  obtain ⟨k, ok, _, b, hk, hp, _⟩ := h.node_recorded hT hn
  exact (hd.recorded_eq_ref h k ok hk (n, b) hp hb).2

theorem ref_to_sub (hd : d.Ok i blocks outs) (h : FoldInv i blocks outs) {T : Tree} (hT : T ∈ blocks.flatten)
    {j : Nat} {a : Amount} (hn : Tree.reference d.o.sub j a ∈ T.refNodes) : Tree.reference d.o.sub j a = d.ref := by
  obtain ⟨k, ok, _, b, hk, hp, he, _⟩ := h.node_recorded hT hn
  injection he with hse
  cases hd.same_sub h k ok hk hse.symm
  rw [hd.ho] at hk
  cases hk
  rw [hd.hrefs, List.mem_singleton] at hp
  exact congrArg Prod.fst hp

theorem inv (hd : d.Ok i blocks outs) (h : FoldInv i blocks outs) : FoldInv (i + 1) (d.blocks' blocks) (d.outs' outs) := by
  unfold FoldData.outs'
  refine { shape := ?_, distinct := ?_, refsShape := ?_, nodes := ?_, wf := ?_, uniq := ?_, inner := ?_, rooted := ?_ }
  · intro o' ho'
    obtain ⟨ok, hok, rfl⟩ := List.mem_map.mp ho'
    exact Tree.isSub_subst d.ref d.new ok.sub refIsRef (h.shape ok hok)
  · intro j k oj' ok' hj hk hjk hn
    obtain ⟨oj, hoj, rfl⟩ := getElem?_map_some hj
    obtain ⟨ok, hok, rfl⟩ := getElem?_map_some hk
    rw [Tree.numOutputs_eq, subNames_out h hoj, ← Tree.numOutputs_eq] at hn
    rw [subNames_out h hoj, subNames_out h hok]
    exact h.distinct j k oj ok hoj hok hjk hn
  · intro o' ho' p' hp'
    obtain ⟨ok, hok, rfl⟩ := List.mem_map.mp ho'
    obtain ⟨k, hk⟩ := List.mem_iff_getElem?.mp hok
    obtain ⟨⟨r, b⟩, hp, rfl⟩ := List.mem_map.mp hp'
    obtain ⟨a', hpe⟩ := h.refsShape ok hok (r, b) hp
    exact ⟨a', hd.substitute_recorded h hk hp hpe⟩
  · intro T' hT' n' hn'
    obtain ⟨T, hTflat, rfl⟩ := hd.root_of_new hT'
    rcases Tree.refNodes_subst d.ref d.new refIsRef T n' hn' with ⟨s, j, a, hn, hnb, rfl⟩ | ⟨hn, _⟩
    · obtain ⟨k, ok, _, b, hk, hp, he, _⟩ := h.node_recorded hTflat hn
      injection he with h1 h2 h3
      subst h1 h2 h3
      exact ⟨_, List.mem_map_of_mem (List.mem_of_getElem? hk), _, List.mem_map_of_mem hp,
        hd.substitute_recorded h hk hp rfl⟩
    · -- a node of the inserted tree was a node of the removed definition, and its record is left alone
      rw [hd.new_eq Tree.refNodes fun _ _ _ => rfl] at hn
      obtain ⟨ok, hok, p, hp, hpe⟩ := h.nodes d.o.sub hd.sub_mem_flat n' hn
      refine ⟨_, List.mem_map_of_mem hok, ?_⟩
      simp only [NamedOutput.substitute, List.mem_map]
      refine ⟨_, ⟨p, hp, rfl⟩, ?_⟩
      simp only [hpe, subst_of_le (Tree.refNodes_size d.o.sub n' hn), ite_self]
  · intro p' T' hT' s' j a hn'
    obtain ⟨T, hTp, rfl⟩ := hd.flatNew_getElem hT'
    rcases Tree.refNodes_subst d.ref d.new refIsRef T _ hn' with ⟨s, j', a', hn, hnb, he⟩ | ⟨hn, m, hm, hmb⟩
    · -- the image of a node that is not replaced: its target is an earlier root other than the removed definition
      cases he
      obtain ⟨k, hkp, hks, hsub⟩ := h.wf _ T hTp s j a hn
      have hkq : k ≠ d.l1.length := by
        intro hkq
        rw [hkq, hd.sub_at] at hks
        cases hks
        rw [hd.ref_to_sub h (List.mem_of_getElem? hTp) hn, Tree.beq_refl] at hnb
        cases hnb
      obtain ⟨k', hk', hks'⟩ := hd.flatNew_of_getElem hks hkq hkp
      exact ⟨k', hk', hks', Tree.isSub_subst d.ref d.new s refIsRef hsub⟩
    · -- a node of the inserted tree: its target is a root before the removed definition, which stands before `T`
      rw [hd.new_eq Tree.refNodes fun _ _ _ => rfl] at hn
      obtain ⟨k, hkq, hks, hsub⟩ := h.wf _ d.o.sub hd.sub_at s' j a hn
      have hqp : d.l1.length < d.posBefore p' := by
        cases hd.node_eq_ref h (List.mem_of_getElem? hTp) hm hmb
        obtain ⟨km, hkmp, hkms, hsubm⟩ := h.wf _ T hTp _ _ _ hm
        rw [← h.uniq i d.o (Nat.le_refl _) hd.ho km d.l1.length _ _ hkms hd.sub_at hsubm hsubm (by simp) (by simp)]
        exact hkmp
      obtain ⟨k', hk', hks'⟩ := hd.flatNew_of_getElem hks (Nat.ne_of_lt hkq) (Nat.lt_trans hkq hqp)
      have hle := Tree.refNodes_size d.o.sub _ hn
      rw [subst_of_le (by simp only [Tree.size] at hle; omega)] at hks'
      exact ⟨k', hk', hks', hsub⟩
  · intro k ok' hk hok' p1 p2 r1' r2' hp1 hp2 hs1 hs2 hn1 hn2
    obtain ⟨ok, hok, rfl⟩ := getElem?_map_some hok'
    rw [subNames_out h hok] at hn1 hn2
    -- a root of the new recipe that is a sub recipe with these names was one before
    have back : ∀ (p' : Nat) (r' : Tree),
        (d.blocks' blocks).flatten[p']? = some r' →
        r'.isSub = true → (r'.subNames == ok.sub.subNames) = true →
        ∃ r, blocks.flatten[d.posBefore p']? = some r ∧ r.isSub = true ∧ (r.subNames == ok.sub.subNames) = true := by
      intro p' r' hp' hs' hn'
      obtain ⟨r, hrp, rfl⟩ := hd.flatNew_getElem hp'
      cases hrs : r.isSub with
      | true =>
        rw [Tree.subNames_subst d.ref d.new r refIsRef hrs] at hn'
        exact ⟨r, hrp, hrs, hn'⟩
      | false =>
        have hin := h.inner k ok (by omega) hok r (List.mem_of_getElem? hrp)
        rw [Tree.bodyOrSelf_of_not_sub r hrs] at hin
        rw [hd.innerSubs_fresh h hk hok hin (Tree.isSub_mem_innerSubs _ hs')] at hn'
        cases hn'
    obtain ⟨r1, hr1, hr1s, hr1n⟩ := back p1 r1' hp1 hs1 hn1
    obtain ⟨r2, hr2, hr2s, hr2n⟩ := back p2 r2' hp2 hs2 hn2
    exact posBefore_inj (h.uniq k ok (by omega) hok _ _ r1 r2 hr1 hr2 hr1s hr2s hr1n hr2n)
  · intro k ok' hk hok' T' hT' x' hx'
    obtain ⟨ok, hok, rfl⟩ := getElem?_map_some hok'
    rw [subNames_out h hok]
    obtain ⟨T, hTflat, rfl⟩ := hd.root_of_new hT'
    have hin := h.inner k ok (by omega) hok T hTflat
    cases hTs : T.isSub with
    | true =>
      cases T <;> simp [Tree.isSub] at hTs
      rw [Tree.subst_sub _ _ _ _ _ refIsRef] at hx'
      exact hd.innerSubs_fresh h hk hok hin hx'
    | false =>
      rw [Tree.bodyOrSelf_of_not_sub T hTs] at hin
      exact hd.innerSubs_fresh h hk hok hin (Tree.innerSubs_bodyOrSelf _ _ hx')
  · intro k ok' hk hok'
    obtain ⟨ok, hok, rfl⟩ := getElem?_map_some hok'
    obtain ⟨treesk, hbk, hmemk⟩ := h.rooted k ok (by omega) hok
    show ∃ trees, (d.blocks' blocks)[ok.defBlock]? = some trees ∧ Tree.subst d.ref d.new ok.sub ∈ trees
    rw [hd.blocks'_getElem]
    by_cases hdb : d.o.defBlock = ok.defBlock
    · rw [if_pos hdb]
      refine ⟨_, rfl, ?_⟩
      rw [Tree.substList_eq_map]
      apply List.mem_map_of_mem
      rw [← hdb, hd.hb] at hbk
      cases hbk
      rcases List.mem_append.mp hmemk with hm | hm
      · exact List.mem_append_left _ hm
      · rcases List.mem_cons.mp hm with hm | hm
        · exact absurd (hd.same_sub h k ok hok hm) (by omega)
        · exact List.mem_append_right _ hm
    · rw [if_neg hdb, hbk]
      exact ⟨_, rfl, by rw [Tree.substList_eq_map]; exact List.mem_map_of_mem hmemk⟩

end FoldData.Ok

def pointsTo (names : List SVS) (idx : Nat) : Tree → Bool
  | .reference s j _ => s.subNames == names && j == idx
  | _ => false

/-- `bs'` holds the written nodes of `bs`, each as often, whatever is read off them -/
def SameNodes (bs bs' : List Block) : Prop :=
  ∀ {β : Type} (fi : SVS → Option Quantity → β) (fs : SVS → Nat → β) (p : β → Bool),
    (bs'.flatten.flatMap (Tree.collect fi fs)).countP p = (bs.flatten.flatMap (Tree.collect fi fs)).countP p

/-- as many references outside copies point to a not yet visited entry (by names and index) as it has recorded -/
def RefCount (i : Nat) (blocks : List Block) (outs : List NamedOutput) : Prop :=
  ∀ (k : Nat) (o : NamedOutput), i ≤ k → outs[k]? = some o →
    (blocks.flatten.flatMap Tree.topRefs).countP (pointsTo o.sub.subNames o.idx) = o.refs.length

namespace FoldData.Ok
variable {d : FoldData} {i : Nat} {blocks : List Block} {outs : List NamedOutput}

theorem topRef_recorded (h : FoldInv i blocks outs) {n : Tree} (hn : n ∈ blocks.flatten.flatMap Tree.topRefs) :
    ∃ (k : Nat) (ok : NamedOutput) (a : Amount) (b : Nat), outs[k]? = some ok ∧ (n, b) ∈ ok.refs ∧
      n = Tree.reference ok.sub ok.idx a ∧ ok.sub.isSub = true := by
  obtain ⟨T, hT, hnT⟩ := List.mem_flatMap.mp hn
  exact h.node_recorded hT (Tree.topRefs_sub_refNodes T n hnT)

theorem points_iff (hd : d.Ok i blocks outs) (h : FoldInv i blocks outs) {n : Tree}
    (hn : n ∈ blocks.flatten.flatMap Tree.topRefs) :
    (Tree.beq n d.ref = pointsTo d.o.sub.subNames d.o.idx n) ∧ (Tree.beq n d.ref = true → n = d.ref) := by
  obtain ⟨k, ok, a, b, hk, hmem, hne, _⟩ := topRef_recorded h hn
  have heq := fun hb => hd.recorded_eq_ref h k ok hk (n, b) hmem hb
  refine ⟨?_, fun hb => (heq hb).2⟩
  cases hb : Tree.beq n d.ref with
  | true =>
    obtain ⟨rfl, hnr⟩ := heq hb
    rw [hd.ho] at hk
    cases hk
    simp [hne, pointsTo]
  | false =>
    have hki : k ≠ i := by
      rintro rfl
      rw [hd.ho] at hk
      cases hk
      rw [hd.hrefs, List.mem_singleton] at hmem
      rw [(Prod.mk.inj hmem).1, Tree.beq_refl] at hb
      cases hb
    simp [hne, pointsTo, (h.distinct i k d.o ok hd.ho hk (Ne.symm hki) hd.hnum).2]

theorem occ_one (hd : d.Ok i blocks outs) (h : FoldInv i blocks outs) (hc : RefCount i blocks outs) :
    ((d.l1 ++ d.l2).flatMap Tree.topRefs).countP (fun n => Tree.beq n d.ref) = 1 := by
  have h1 : (blocks.flatten.flatMap Tree.topRefs).countP (fun n => Tree.beq n d.ref) = 1 := by
    have := hc i d.o (Nat.le_refl _) hd.ho
    rw [hd.hrefs] at this
    simp only [List.length_singleton] at this
    rw [← this]
    apply List.countP_congr
    intro n hn
    rw [(points_iff hd h hn).1]
  have h2 : d.o.sub.topRefs.countP (fun n => Tree.beq n d.ref) = 0 := by
    rw [List.countP_eq_zero]
    intro n hn hb
    have h3 := Tree.refNodes_size _ _ (Tree.topRefs_sub_refNodes _ _ hn)
    have h4 := Tree.beq_size _ _ hb
    have := size_lt (d := d)
    omega
  rw [hd.hflat] at h1
  simp only [List.flatMap_append, List.flatMap_cons, List.countP_append, h2] at h1 ⊢
  omega

/-- **conservation**: one inlining keeps every written node, exactly once -/
theorem collect_count (hd : d.Ok i blocks outs) (h : FoldInv i blocks outs) (hc : RefCount i blocks outs) :
    SameNodes blocks (d.blocks' blocks) := by
  intro β fi fs p
  rw [flatNew hd, collect_subst_flat fi fs d.ref d.new rfl p, occ_one hd h hc,
    hd.new_eq (Tree.collect fi fs) fun _ _ _ => rfl, hd.hflat]
  simp only [List.flatMap_append, List.flatMap_cons, List.countP_append]
  omega

theorem refCount (hd : d.Ok i blocks outs) (h : FoldInv i blocks outs) (hc : RefCount i blocks outs) :
    RefCount (i + 1) (d.blocks' blocks) (d.outs' outs) := by
  intro k ok' hk hok'
  obtain ⟨ok, hok, rfl⟩ := getElem?_map_some hok'
  have hlen : (NamedOutput.substitute d.ref d.new ok).refs.length = ok.refs.length := by
    simp [NamedOutput.substitute]
  rw [subNames_out h hok, show (NamedOutput.substitute d.ref d.new ok).idx = ok.idx from rfl, hlen,
    ← hc k ok (by omega) hok]
  have hdist := h.distinct i k d.o ok hd.ho hok (by omega) hd.hnum
  rw [flatNew hd, topRefs_subst_flat d.ref d.new rfl _ (d.l1 ++ d.l2), occ_one hd h hc,
    hd.new_eq Tree.topRefs fun _ _ _ => rfl, hd.hflat]
  · simp only [List.flatMap_append, List.flatMap_cons, List.countP_append]
    omega
  · intro s j a hn
    obtain ⟨T, hT, hn⟩ := List.mem_flatMap.mp hn
    have hnf : Tree.reference s j a ∈ blocks.flatten.flatMap Tree.topRefs :=
      List.mem_flatMap.mpr ⟨T, mem_flat hd hT, hn⟩
    constructor
    · intro hb
      rw [(points_iff hd h hnf).2 hb]
      simp [FoldData.ref, pointsTo, hdist.1]
    · obtain ⟨_, oe, _, _, _, _, hne, hsub⟩ := topRef_recorded h hnf
      have hs : s = oe.sub := by injection hne
      simp only [pointsTo]
      rw [Tree.subNames_subst d.ref d.new s rfl (by rw [hs]; exact hsub)]

end FoldData.Ok

/-- a composition of inlining substitutions: each replaces a reference to a sub recipe by that sub recipe or by its
    body -/
inductive InlineChainH : (Tree → Tree) → Prop
  | nil : InlineChainH id
  | step {σ : Tree → Tree} (body : Tree) (ns : List SVS) (sh : Bool) (idx : Nat) (a : Amount) (unwrap : Bool) :
      InlineChainH σ →
      InlineChainH (fun t => Tree.subst (.reference (.sub body ns sh) idx a)
        (if unwrap then body else .sub body ns sh) (σ t))

/-- the roots of `bs'` descend from those of `bs`: block by block a sublist (same order), each root rewritten by the
    same composition of inlining substitutions, with the same expansion -/
def DescendsH (bs bs' : List Block) : Prop :=
  ∃ σ, InlineChainH σ ∧ bs'.length = bs.length ∧
    ∀ (b : Nat) (ts' : List Tree), bs'[b]? = some ts' →
      ∃ ts kept, bs[b]? = some ts ∧ List.Sublist kept ts ∧ ts' = kept.map σ ∧
        ∀ t ∈ kept, (σ t).expandH = t.expandH

theorem DescendsH.refl (bs : List Block) : DescendsH bs bs :=
  ⟨id, .nil, rfl, fun _ ts' h => ⟨ts', ts', h, List.Sublist.refl _, by simp, fun _ _ => rfl⟩⟩

theorem DescendsH.length_eq {bs bs' : List Block} (h : DescendsH bs bs') : bs'.length = bs.length := by
  obtain ⟨_, _, hl, _⟩ := h
  exact hl

namespace FoldData.Ok
variable {d : FoldData} {i : Nat} {blocks : List Block} {outs : List NamedOutput}

theorem expand_eq (hd : d.Ok i blocks outs) (h : FoldInv i blocks outs) {T : Tree} (hT : T ∈ blocks.flatten) :
    (Tree.subst d.ref d.new T).expandH = T.expandH := by
  exact Tree.expandH_subst d.ref d.new rfl (hd.new_eq Tree.expandH fun _ _ _ => rfl).symm T
    fun n hn hb => node_eq_ref hd h hT hn hb

theorem descends (hd : d.Ok i blocks outs) (h : FoldInv i blocks outs) {bs0 : List Block}
    (h0 : DescendsH bs0 blocks) : DescendsH bs0 (d.blocks' blocks) := by
  obtain ⟨σ, hσ, hl, hrel⟩ := h0
  refine ⟨fun t => Tree.subst d.ref d.new (σ t), ?_, by simp [FoldData.blocks', hl], ?_⟩
  · have := InlineChainH.step d.body d.ns d.sh d.o.idx d.am d.o.unwrap hσ
    simp only [FoldData.ref, FoldData.new, hd.hs]
    exact this
  · intro b ts' hts'
    rw [hd.blocks'_getElem] at hts'
    obtain ⟨x, hx, rfl⟩ := Option.map_eq_some_iff.mp hts'
    have hsub : ∃ ts1, blocks[b]? = some ts1 ∧ List.Sublist x ts1 := by
      split at hx
      · next hdb =>
        cases hx
        rw [← hdb]
        exact ⟨_, hd.hb, List.Sublist.append (List.Sublist.refl _) (List.sublist_cons_self _ _)⟩
      · exact ⟨x, hx, List.Sublist.refl _⟩
    obtain ⟨ts1, hts1, hsub1⟩ := hsub
    obtain ⟨ts, kept1, hts, hk1, he1, hexp1⟩ := hrel b ts1 hts1
    rw [he1, List.sublist_map_iff] at hsub1
    obtain ⟨kept2, hk2, hx2⟩ := hsub1
    refine ⟨ts, kept2, hts, hk2.trans hk1, ?_, ?_⟩
    · rw [hx2, Tree.substList_eq_map, List.map_map]
      rfl
    · intro t ht
      have hmem : σ t ∈ blocks.flatten := by
        apply List.mem_flatten.mpr
        refine ⟨ts1, List.mem_of_getElem? hts1, ?_⟩
        rw [he1]
        exact List.mem_map_of_mem (hk2.subset ht)
      rw [expand_eq hd h hmem]
      exact hexp1 t (hk2.subset ht)

end FoldData.Ok

theorem RefCount.next {i : Nat} {blocks : List Block} {outs : List NamedOutput} (h : RefCount i blocks outs) :
    RefCount (i + 1) blocks outs := fun k o hk => h k o (by omega)

/-- every root is accepted by the constructors (`Tree.wfB`); `WFT` of `Lemmas/EndToEnd.lean` is the other
    well-formedness, "every step has an input" -/
def WFAll (blocks : List Block) : Prop := ∀ T ∈ blocks.flatten, T.wfB = true

theorem FoldData.Ok.wfAll {d : FoldData} {i : Nat} {blocks : List Block} {outs : List NamedOutput}
    (hd : d.Ok i blocks outs) (hw : WFAll blocks) : WFAll (d.blocks' blocks) := by
  intro T' hT'
  obtain ⟨T, hT, rfl⟩ := hd.root_of_new hT'
  have hsub := hw _ hd.sub_mem_flat
  have hnum := hd.hnum
  rw [hd.hs] at hsub hnum
  simp only [Tree.wfB, Bool.and_eq_true] at hsub
  apply Tree.wfB_subst d.ref d.new rfl
  · unfold FoldData.new
    split
    · exact hsub.2
    · rw [hd.hs]
      simp only [Tree.wfB, Bool.and_eq_true]
      exact hsub
  · unfold FoldData.new
    split
    · exact hsub.1.1
    · rw [hd.hs]
      simp only [Tree.numOutputs] at hnum
      simp [Tree.canBeChild, hnum]
  · exact hw T hT

/-! ## The state elaboration leaves satisfies the invariants -/

theorem normaliseName_congr {a b : SVS} (h : (a == b) = true) : (normaliseName a == normaliseName b) = true := by
  rw [Svs.beq_iff_key] at h ⊢
  rw [← normaliseName_map Part.key_shape, ← normaliseName_map Part.key_shape, h]

open C01

theorem numbered_block : ∀ (bs : List (List AStmt)) (i : Nat), ∀ p ∈ numbered i bs, p.1 < i + bs.length
  | [], _, p, h => by simp [numbered] at h
  | b :: bs, i, p, h => by
    simp only [numbered, List.mem_append, List.mem_map] at h
    rcases h with ⟨s, _, rfl⟩ | h
    · simp
    · have := numbered_block bs (i + 1) p h
      simp only [List.length_cons]
      omega

theorem spec_stmt_facts (asts : List (List AStmt)) (ns : List NStmt) (h : Spec.blocks asts = .ok ns)
    (k : Nat) (s : NStmt) (hk : ns[k]? = some s) :
    s.block < asts.length ∧ ∀ r ∈ s.tree.refs, ∃ key, (key, r.1, r.2.1) ∈ definedNames (ns.take k) := by
  obtain ⟨hl, hst⟩ := spec_stmt_at asts ns h
  have hlt : k < (numbered 0 asts).length := by rw [← hl]; exact (List.getElem?_eq_some_iff.mp hk).1
  obtain ⟨n, hn, hs⟩ := hst k _ (List.getElem?_eq_getElem hlt)
  rw [hk] at hn
  cases hn
  obtain ⟨he, hb, _⟩ := spec_stmt_ok hs
  refine ⟨?_, refs_defined _ _ he⟩
  have := numbered_block asts 0 _ (List.getElem_mem hlt)
  omega

theorem definedNames_take {ns : List NStmt} {k : Nat} {d : SVS × Nat × Nat} (h : d ∈ definedNames (ns.take k)) :
    d ∈ definedNames ns ∧ d.2.1 < k := by
  have hlt := definedNames_sid_lt h
  rw [mem_definedNames] at h ⊢
  obtain ⟨s, hs, hn⟩ := h
  rw [List.getElem?_take] at hs
  simp only [List.length_take] at hlt
  split at hs
  · exact ⟨⟨s, hs, hn⟩, by omega⟩
  · cases hs

theorem rootsOf_getElem (ns : List NStmt) (k : Nat) (s : NStmt) (hk : ns[k]? = some s) :
    (rootsOf ns)[k]? = some (embedStmt ((rootsOf ns).take k) s) := by
  obtain ⟨new, h, _, hnew⟩ := foldl_snoc embedStmt ns []
  rw [rootsOf, h, List.nil_append]
  exact hnew k s hk

theorem rootsOf_getElem_some (ns : List NStmt) (k : Nat) (r : Tree) (hr : (rootsOf ns)[k]? = some r) :
    ∃ s, ns[k]? = some s ∧ r = embedStmt ((rootsOf ns).take k) s := by
  have hlt : k < ns.length := by rw [← rootsOf_length]; exact (List.getElem?_eq_some_iff.mp hr).1
  have hs := List.getElem?_eq_getElem hlt
  rw [rootsOf_getElem ns k _ hs] at hr
  exact ⟨_, hs, (Option.some.inj hr).symm⟩

theorem ref_defined (asts : List (List AStmt)) (ns : List NStmt) (h : Spec.blocks asts = .ok ns)
    (k : Nat) (s : NStmt) (hk : ns[k]? = some s) (x : Nat × Nat × Amount) (hx : x ∈ s.tree.refs) :
    x.1 < k ∧ ∃ key, (key, x.1, x.2.1) ∈ definedNames ns := by
  obtain ⟨key, hdef⟩ := (spec_stmt_facts asts ns h k s hk).2 x hx
  obtain ⟨hdef', hxk⟩ := definedNames_take hdef
  exact ⟨hxk, key, hdef'⟩

mutual
theorem refNodes_embedTree (roots : List Tree) : ∀ (nt : NTree) (n : Tree), n ∈ (embedTree roots nt).refNodes →
    ∃ r ∈ nt.refs, n = Tree.reference (roots[r.1]?.getD default) r.2.1 r.2.2 ∨ n ∈ (roots[r.1]?.getD default).refNodes
  | .ingredient d q, n, h => by cases h
  | .step d inputs, n, h => refNodes_embedTrees roots inputs n h
  | .nref sid idx a, n, h => ⟨(sid, idx, a), List.mem_singleton.mpr rfl, List.mem_cons.mp h⟩
theorem refNodes_embedTrees (roots : List Tree) : ∀ (nts : List NTree) (n : Tree),
    n ∈ Tree.refNodesList (embedTrees roots nts) →
    ∃ r ∈ NTree.refsList nts, n = Tree.reference (roots[r.1]?.getD default) r.2.1 r.2.2 ∨
      n ∈ (roots[r.1]?.getD default).refNodes
  | [], n, h => by cases h
  | t :: ts, n, h => by
    rcases List.mem_append.mp h with h | h
    · obtain ⟨r, hr, hn⟩ := refNodes_embedTree roots t n h
      exact ⟨r, List.mem_append_left _ hr, hn⟩
    · obtain ⟨r, hr, hn⟩ := refNodes_embedTrees roots ts n h
      exact ⟨r, List.mem_append_right _ hr, hn⟩
end

mutual
theorem innerSubs_embedTree (roots : List Tree) : ∀ nt : NTree, (embedTree roots nt).innerSubs = []
  | .ingredient .. => rfl
  | .step d inputs => by simp only [embedTree, Tree.innerSubs]; exact innerSubs_embedTrees roots inputs
  | .nref .. => rfl
theorem innerSubs_embedTrees (roots : List Tree) : ∀ nts : List NTree, Tree.innerSubsList (embedTrees roots nts) = []
  | [] => rfl
  | t :: ts => by simp [embedTrees, Tree.innerSubsList, innerSubs_embedTree roots t, innerSubs_embedTrees roots ts]
end

theorem refNodes_embedStmt (roots : List Tree) (s : NStmt) :
    (embedStmt roots s).refNodes = (embedTree roots s.tree).refNodes := by
  unfold embedStmt; split <;> rfl

theorem innerSubs_embedStmt (roots : List Tree) (s : NStmt) : (embedStmt roots s).bodyOrSelf.innerSubs = [] := by
  unfold embedStmt
  split
  · cases h : embedTree roots s.tree with
    | sub b ns sh =>
      have := innerSubs_embedTree roots s.tree
      rw [h] at this
      simp [Tree.innerSubs] at this
    | _ =>
      simp only [Tree.bodyOrSelf]
      rw [← h]
      exact innerSubs_embedTree roots s.tree
  · exact innerSubs_embedTree roots s.tree

theorem embedStmt_named (roots : List Tree) (s : NStmt) (h : s.names ≠ []) :
    embedStmt roots s = .sub (embedTree roots s.tree) s.names s.showNames := by
  unfold embedStmt
  cases hn : s.names with
  | nil => exact absurd hn h
  | cons a b => simp

theorem root_of_defined (ns : List NStmt) {key : SVS} {sid idx : Nat} (hd : (key, sid, idx) ∈ definedNames ns) :
    ∃ s b, ns[sid]? = some s ∧ (rootsOf ns)[sid]? = some (.sub b s.names s.showNames) ∧
      (s.names[idx]?).map normaliseName = some key := by
  obtain ⟨s, hs, hn⟩ := (mem_definedNames ns _).mp hd
  have hne : s.names ≠ [] := by intro h; rw [h] at hn; simp at hn
  exact ⟨s, _, hs, by rw [rootsOf_getElem ns _ s hs, embedStmt_named _ _ hne], hn⟩

theorem refNodes_root (asts : List (List AStmt)) (ns : List NStmt) (h : Spec.blocks asts = .ok ns) :
    ∀ (k : Nat) (r n : Tree), (rootsOf ns)[k]? = some r → n ∈ r.refNodes →
      ∃ ref ∈ allRefs ns, ref.1 < k ∧ (∃ key, (key, ref.1, ref.2.1) ∈ definedNames ns) ∧
        ∃ rs, (rootsOf ns)[ref.1]? = some rs ∧ n = Tree.reference rs ref.2.1 ref.2.2.1 := by
  intro k
  induction k using Nat.strongRecOn with
  | _ k ih =>
    intro r n hr hn
    obtain ⟨s, hs, rfl⟩ := rootsOf_getElem_some ns k r hr
    rw [refNodes_embedStmt] at hn
    obtain ⟨x, hx, hn⟩ := refNodes_embedTree _ _ n hn
    obtain ⟨hxk, key, hdef'⟩ := ref_defined asts ns h k s hs x hx
    obtain ⟨s', b', hs', hr', _⟩ := root_of_defined ns hdef'
    rw [List.getElem?_take_of_lt hxk, hr'] at hn
    simp only [Option.getD_some] at hn
    rcases hn with hn | hn
    · refine ⟨(x.1, x.2.1, x.2.2, s.block), ?_, hxk, ⟨key, hdef'⟩, _, hr', hn⟩
      simp only [allRefs, List.mem_flatMap, List.mem_map]
      exact ⟨s, List.mem_of_getElem? hs, x, hx, rfl⟩
    · obtain ⟨ref, hrefm, hlt', hd', hrs⟩ := ih x.1 hxk _ n hr' hn
      exact ⟨ref, hrefm, by omega, hd', hrs⟩

theorem stmtDefs_pairwise (sid : Nat) : ∀ (names : List SVS) (i : Nat),
    (stmtDefs sid i names).Pairwise (fun d d' => d.2 ≠ d'.2)
  | [], _ => by simp [stmtDefs]
  | n :: ns, i => by
    simp only [stmtDefs, List.pairwise_cons]
    refine ⟨?_, stmtDefs_pairwise sid ns (i + 1)⟩
    intro d hd he
    have := ((mem_stmtDefs sid d ns (i + 1)).mp hd).2.1
    rw [← he] at this
    simp only at this
    omega

theorem definedNamesFrom_pairwise : ∀ (ss : List NStmt) (k : Nat),
    (definedNamesFrom k ss).Pairwise (fun d d' => d.2 ≠ d'.2)
  | [], _ => by simp [definedNamesFrom]
  | s :: ss, k => by
    simp only [definedNamesFrom, List.pairwise_append]
    refine ⟨stmtDefs_pairwise k s.names 0, definedNamesFrom_pairwise ss (k + 1), ?_⟩
    intro d hd d' hd' he
    have h1 := ((mem_stmtDefs k d s.names 0).mp hd).1
    have h2 := ((mem_definedNamesFrom d' ss (k + 1)).mp hd').1
    rw [← he, h1] at h2
    omega

theorem definedNames_pos_inj (ns : List NStmt) (j k : Nat) (d d' : SVS × Nat × Nat)
    (hj : (definedNames ns)[j]? = some d) (hk : (definedNames ns)[k]? = some d') (he : d.2 = d'.2) : j = k := by
  have hp : (definedNames ns).Pairwise (fun d d' => d.2 ≠ d'.2) := definedNamesFrom_pairwise ns 0
  rw [List.pairwise_iff_getElem] at hp
  obtain ⟨hjl, hje⟩ := List.getElem?_eq_some_iff.mp hj
  obtain ⟨hkl, hke⟩ := List.getElem?_eq_some_iff.mp hk
  apply Decidable.byContradiction
  intro hne
  rcases Nat.lt_or_gt_of_ne hne with hlt | hlt
  · exact hp j k hjl hkl hlt (by rw [hje, hke]; exact he)
  · exact hp k j hkl hjl hlt (by rw [hje, hke]; exact he.symm)

theorem embedTree_not_sub (roots : List Tree) (nt : NTree) : (embedTree roots nt).isSub = false := by
  cases nt <;> rfl

theorem canBeChild_embedTree (roots : List Tree) (nt : NTree) : (embedTree roots nt).canBeChild = true := by
  cases nt <;> rfl

theorem rootsOf_sub (ns : List NStmt) (p : Nat) (r : Tree) (hp : (rootsOf ns)[p]? = some r) (hsub : r.isSub = true) :
    ∃ s, ns[p]? = some s ∧ s.names ≠ [] ∧ r = .sub (embedTree ((rootsOf ns).take p) s.tree) s.names s.showNames := by
  obtain ⟨s, hs, rfl⟩ := rootsOf_getElem_some ns p r hp
  have hne : s.names ≠ [] := by
    intro hnil
    rw [show embedStmt ((rootsOf ns).take p) s = embedTree ((rootsOf ns).take p) s.tree by simp [embedStmt, hnil],
      embedTree_not_sub] at hsub
    cases hsub
  exact ⟨s, hs, hne, embedStmt_named _ _ hne⟩

theorem same_stmt_of_names (ns : List NStmt) (hU : KeysUnique (definedNames ns)) (p q : Nat) (sp sq : NStmt)
    (hp : ns[p]? = some sp) (hq : ns[q]? = some sq) (hne : sp.names ≠ []) (hn : (sp.names == sq.names) = true) :
    p = q := by
  cases hsp : sp.names with
  | nil => exact absurd hsp hne
  | cons a as =>
    cases hsq : sq.names with
    | nil =>
      rw [hsp, hsq] at hn
      cases hn
    | cons b bs =>
      rw [hsp, hsq] at hn
      have hab : (a == b) = true := ((Bool.and_eq_true _ _).mp (hn : (a == b && as == bs) = true)).1
      have h1 : (normaliseName a, p, 0) ∈ definedNames ns :=
        (mem_definedNames ns _).mpr ⟨sp, hp, by simp [hsp]⟩
      have h2 : (normaliseName b, q, 0) ∈ definedNames ns :=
        (mem_definedNames ns _).mpr ⟨sq, hq, by simp [hsq]⟩
      have := hU _ h1 _ h2
      -- `this` speaks of projections of the two triples; reduced first, because the unifier is slow to see through them
      simp only [] at this
      exact (Prod.mk.inj (Prod.mk.inj (this (normaliseName_congr hab))).2).1

/-- table entry `o` records output `o.idx` of statement `s`, the `sid`-th, whose root is `.sub b s.names s.showNames` -/
structure EntryOf (ns : List NStmt) (o : NamedOutput) (sid : Nat) (s : NStmt) (b : Tree) : Prop where
  stmt : ns[sid]? = some s
  root : (rootsOf ns)[sid]? = some o.sub
  sub : o.sub = .sub b s.names s.showNames
  idx : o.idx < s.names.length
  block : o.defBlock = s.block
  refs : o.refs = ((allRefs ns).filter (fun r => r.1 == sid && r.2.1 == o.idx)).map
    (fun r => (Tree.reference o.sub o.idx r.2.2.1, r.2.2.2))

theorem elab_entry (asts : List (List AStmt)) (bs : List Block) (st : CState)
    (h : compileBlocks 0 {} asts = .ok (bs, st)) (ns : List NStmt) (hs : Spec.blocks asts = .ok ns)
    (p : Nat) (o : NamedOutput) (ho : st.outputs[p]? = some o) :
    ∃ key sid s b, (definedNames ns)[p]? = some (key, sid, o.idx) ∧ EntryOf ns o sid s b := by
  have h1 := congrArg (·[p]?) (elab_table asts bs st h ns hs).1
  simp only [List.getElem?_map, ho, Option.map_some] at h1
  obtain ⟨⟨key, sid, idx⟩, hd, h1⟩ := Option.map_eq_some_iff.mp h1.symm
  obtain ⟨s, b, hsid, hroot, hn⟩ := root_of_defined ns (List.mem_of_getElem? hd)
  simp only [tableEntry, hroot, List.getElem?_map, hsid, Option.map_some, Option.getD_some, view, Prod.mk.injEq] at h1
  obtain ⟨_, e2, e3, e4, e5⟩ := h1
  subst e2
  obtain ⟨_, hx, _⟩ := Option.map_eq_some_iff.mp hn
  exact ⟨key, sid, s, b, hd, hsid, by rw [hroot, e3], e3.symm, (List.getElem?_eq_some_iff.mp hx).1, e4.symm,
    by rw [← e5, e3]⟩

theorem foldInv_init (asts : List (List AStmt)) (bs : List Block) (st : CState)
    (h : compileBlocks 0 {} asts = .ok (bs, st)) : FoldInv 0 bs st.outputs := by
  obtain ⟨ns, hs, hbs⟩ := (elab_ok_iff asts bs).mp ⟨st, h⟩
  obtain ⟨_, hflat⟩ := elab_table asts bs st h ns hs
  have hlen := elab_table_length asts bs st h ns hs
  have hU := spec_keys_unique asts ns hs
  have entry := elab_entry asts bs st h ns hs
  have entryOf : ∀ d ∈ definedNames ns, ∃ (p : Nat) (o : NamedOutput), st.outputs[p]? = some o ∧ (definedNames ns)[p]? = some d := by
    intro d hd
    obtain ⟨p, hp⟩ := List.mem_iff_getElem?.mp hd
    have hlt : p < st.outputs.length := by rw [hlen]; exact (List.getElem?_eq_some_iff.mp hp).1
    exact ⟨p, _, List.getElem?_eq_getElem hlt, hp⟩
  refine { shape := ?_, distinct := ?_, refsShape := ?_, nodes := ?_, wf := ?_, uniq := ?_, inner := ?_, rooted := ?_ }
  · intro o ho
    obtain ⟨p, hp⟩ := List.mem_iff_getElem?.mp ho
    obtain ⟨_, _, _, _, _, e⟩ := entry p o hp
    rw [e.sub]
    rfl
  · intro j k oj ok hj hk hjk hnum
    obtain ⟨keyj, sidj, sj, bj, hdj, ej⟩ := entry j oj hj
    obtain ⟨keyk, sidk, sk, bk, hdk, ek⟩ := entry k ok hk
    rw [ej.sub, ek.sub]
    simp only [Tree.subNames]
    rw [ej.sub] at hnum
    simp only [Tree.numOutputs] at hnum
    have hnej : sj.names ≠ [] := by intro h; rw [h] at hnum; cases hnum
    have contra : (sj.names == sk.names) = true → False := by
      intro hn
      have hsid := same_stmt_of_names ns hU sidj sidk sj sk ej.stmt ek.stmt hnej hn
      subst hsid
      cases ej.stmt.symm.trans ek.stmt
      -- the one name of the statement has index 0
      have hij : oj.idx = ok.idx := by
        have := ej.idx
        have := ek.idx
        omega
      exact hjk (definedNames_pos_inj ns j k _ _ hdj hdk (by rw [hij]))
    exact ⟨Bool.eq_false_iff.mpr contra, Svs.names_beq_symm .. ▸ Bool.eq_false_iff.mpr contra⟩
  · intro o ho p hp
    obtain ⟨k, hk⟩ := List.mem_iff_getElem?.mp ho
    obtain ⟨_, _, _, _, _, e⟩ := entry k o hk
    rw [e.refs, List.mem_map] at hp
    obtain ⟨r, _, rfl⟩ := hp
    exact ⟨_, rfl⟩
  · intro T hT n hn
    rw [← hflat] at hT
    obtain ⟨k, hk⟩ := List.mem_iff_getElem?.mp hT
    obtain ⟨ref, hrefm, _, ⟨key, hdef⟩, rs, hrs, rfl⟩ := refNodes_root asts ns hs k T n hk hn
    obtain ⟨p, o, ho, hd⟩ := entryOf _ hdef
    obtain ⟨key', sid', s, b, hd', e⟩ := entry p o ho
    rw [hd] at hd'
    simp only [Option.some.injEq, Prod.mk.injEq] at hd'
    obtain ⟨_, hsid, hidx⟩ := hd'
    subst hsid
    cases hrs.symm.trans e.root
    refine ⟨o, List.mem_of_getElem? ho, (Tree.reference o.sub ref.2.1 ref.2.2.1, ref.2.2.2), ?_, rfl⟩
    rw [e.refs, List.mem_map]
    exact ⟨ref, List.mem_filter.mpr ⟨hrefm, by simp [hidx]⟩, by rw [hidx]⟩
  · intro p T hp s i a hn
    rw [← hflat] at hp ⊢
    obtain ⟨ref, _, hlt, ⟨key, hdef⟩, rs, hrs, he⟩ := refNodes_root asts ns hs p T _ hp hn
    cases he
    obtain ⟨s', b', _, hr', _⟩ := root_of_defined ns hdef
    rw [hrs] at hr'
    refine ⟨ref.1, hlt, hrs, ?_⟩
    rw [Option.some.inj hr']
    rfl
  · intro k o _ ho p q r r' hp hq hsub hsub' hn hn'
    rw [← hflat] at hp hq
    obtain ⟨_, sid, s, _, _, e⟩ := entry k o ho
    rw [e.sub] at hn hn'
    -- a sub recipe root with the names of the entry is the root of the entry's statement `sid`
    obtain ⟨sp, hsp, hne, rfl⟩ := rootsOf_sub ns p r hp hsub
    obtain ⟨sq, hsq, hne', rfl⟩ := rootsOf_sub ns q r' hq hsub'
    rw [same_stmt_of_names ns hU p sid sp s hsp e.stmt hne hn, same_stmt_of_names ns hU q sid sq s hsq e.stmt hne' hn']
  · intro k o _ ho T hT x hx
    rw [← hflat] at hT
    obtain ⟨p, hp⟩ := List.mem_iff_getElem?.mp hT
    obtain ⟨_, _, rfl⟩ := rootsOf_getElem_some ns p T hp
    rw [innerSubs_embedStmt] at hx
    cases hx
  · intro k o _ ho
    obtain ⟨_, sid, s, _, _, e⟩ := entry k o ho
    have hblt := (spec_stmt_facts asts ns hs sid s e.stmt).1
    rw [hbs, e.block]
    simp only [embed, List.getElem?_map, List.getElem?_range hblt, Option.map_some]
    refine ⟨_, rfl, ?_⟩
    simp only [List.mem_map, List.mem_filter]
    refine ⟨(s, o.sub), ⟨?_, by simp⟩, rfl⟩
    apply List.mem_iff_getElem?.mpr
    exact ⟨sid, by rw [List.getElem?_zip_eq_some]; exact ⟨e.stmt, e.root⟩⟩

mutual
theorem topRefs_embedTree (roots : List Tree) : ∀ nt : NTree,
    (embedTree roots nt).topRefs = nt.refs.map (fun r => Tree.reference (roots[r.1]?.getD default) r.2.1 r.2.2)
  | .ingredient .. => rfl
  | .step d inputs => by simp only [embedTree, Tree.topRefs, NTree.refs]; exact topRefs_embedTrees roots inputs
  | .nref .. => rfl
theorem topRefs_embedTrees (roots : List Tree) : ∀ nts : List NTree,
    Tree.topRefsList (embedTrees roots nts) =
      (NTree.refsList nts).map (fun r => Tree.reference (roots[r.1]?.getD default) r.2.1 r.2.2)
  | [] => rfl
  | t :: ts => by
    simp [embedTrees, Tree.topRefsList, NTree.refsList, topRefs_embedTree roots t, topRefs_embedTrees roots ts]
end

theorem topRefs_embedStmt (roots : List Tree) (s : NStmt) :
    (embedStmt roots s).topRefs = (embedTree roots s.tree).topRefs := by
  unfold embedStmt; split <;> rfl

theorem allRefs_defined (asts : List (List AStmt)) (ns : List NStmt) (h : Spec.blocks asts = .ok ns) :
    ∀ r ∈ allRefs ns, ∃ key, (key, r.1, r.2.1) ∈ definedNames ns := by
  intro r hr
  simp only [allRefs, List.mem_flatMap, List.mem_map] at hr
  obtain ⟨s, hs, x, hx, rfl⟩ := hr
  obtain ⟨k, hk⟩ := List.mem_iff_getElem?.mp hs
  exact (ref_defined asts ns h k s hk x hx).2

theorem topRefs_rootsOf (asts : List (List AStmt)) (ns : List NStmt) (h : Spec.blocks asts = .ok ns) :
    ∀ k, k ≤ ns.length → ((rootsOf ns).take k).flatMap Tree.topRefs =
      (allRefs (ns.take k)).map (fun r => Tree.reference ((rootsOf ns)[r.1]?.getD default) r.2.1 r.2.2.1)
  | 0, _ => by simp [allRefs]
  | k + 1, hk => by
    have ih := topRefs_rootsOf asts ns h k (by omega)
    have hlt : k < ns.length := by omega
    have hs : ns[k]? = some ns[k] := List.getElem?_eq_getElem hlt
    rw [List.take_add_one, List.take_add_one, hs, rootsOf_getElem ns k _ hs, Option.toList_some, Option.toList_some,
      allRefs_snoc, List.flatMap_append, List.map_append, ih]
    congr 1
    simp only [List.flatMap_cons, List.flatMap_nil, List.append_nil, topRefs_embedStmt, topRefs_embedTree,
      List.map_map]
    apply List.map_congr_left
    intro x hx
    simp only [Function.comp]
    rw [List.getElem?_take_of_lt (ref_defined asts ns h k _ hs x hx).1]

theorem refCount_init (asts : List (List AStmt)) (bs : List Block) (st : CState)
    (h : compileBlocks 0 {} asts = .ok (bs, st)) : RefCount 0 bs st.outputs := by
  obtain ⟨ns, hs, hbs⟩ := (elab_ok_iff asts bs).mp ⟨st, h⟩
  obtain ⟨_, hflat⟩ := elab_table asts bs st h ns hs
  have hU := spec_keys_unique asts ns hs
  intro k o _ ho
  obtain ⟨_, sid, s, _, _, e⟩ := elab_entry asts bs st h ns hs k o ho
  have htop := topRefs_rootsOf asts ns hs ns.length (Nat.le_refl _)
  rw [List.take_length, List.take_of_length_le (Nat.le_of_eq (rootsOf_length ns))] at htop
  rw [← hflat, htop, e.refs, List.length_map, ← List.countP_eq_length_filter, List.countP_map]
  apply List.countP_congr
  intro r hr
  obtain ⟨key', hdef⟩ := allRefs_defined asts ns hs r hr
  obtain ⟨s', b', hs', hr', hn'⟩ := root_of_defined ns hdef
  have hne : s'.names ≠ [] := by intro hnil; rw [hnil] at hn'; simp at hn'
  simp only [Function.comp, hr', Option.getD_some, pointsTo, e.sub, Tree.subNames]
  by_cases he : r.1 = sid
  · rw [he, e.stmt] at hs'
    cases hs'
    simp [he]
  · have : (s'.names == s.names) = false :=
      Bool.eq_false_iff.mpr fun hx => he (same_stmt_of_names ns hU r.1 sid s' s hs' e.stmt hne hx)
    simp [this, he]

mutual
theorem wfB_embedTree (roots : List Tree) : ∀ nt : NTree,
    (∀ r ∈ nt.refs, r.2.1 < (roots[r.1]?.getD default).numOutputs ∧ (roots[r.1]?.getD default).wfB = true) →
    (embedTree roots nt).wfB = true
  | .ingredient .., _ => rfl
  | .step d inputs, h => wfB_embedTrees roots inputs h
  | .nref sid idx a, h => by
    have := h (sid, idx, a) (by simp [NTree.refs])
    simp only [embedTree, Tree.wfB, Bool.and_eq_true, decide_eq_true_eq]
    exact this
theorem wfB_embedTrees (roots : List Tree) : ∀ nts : List NTree,
    (∀ r ∈ NTree.refsList nts, r.2.1 < (roots[r.1]?.getD default).numOutputs ∧ (roots[r.1]?.getD default).wfB = true) →
    Tree.wfBList (embedTrees roots nts) = true
  | [], _ => rfl
  | t :: ts, h => by
    simp only [embedTrees, Tree.wfBList, Bool.and_eq_true]
    exact ⟨⟨canBeChild_embedTree roots t, wfB_embedTree roots t (fun r hr => h r (List.mem_append_left _ hr))⟩,
      wfB_embedTrees roots ts (fun r hr => h r (List.mem_append_right _ hr))⟩
end

theorem wfB_root (asts : List (List AStmt)) (ns : List NStmt) (h : Spec.blocks asts = .ok ns) :
    ∀ (k : Nat) (r : Tree), (rootsOf ns)[k]? = some r → r.wfB = true := by
  intro k
  induction k using Nat.strongRecOn with
  | _ k ih =>
    intro r hr
    obtain ⟨s, hs, rfl⟩ := rootsOf_getElem_some ns k r hr
    have htree : (embedTree ((rootsOf ns).take k) s.tree).wfB = true := by
      apply wfB_embedTree
      intro x hx
      obtain ⟨hxk, key, hdef'⟩ := ref_defined asts ns h k s hs x hx
      obtain ⟨s', b', hs', hr', hn'⟩ := root_of_defined ns hdef'
      rw [List.getElem?_take_of_lt hxk, hr']
      simp only [Option.getD_some, Tree.numOutputs]
      refine ⟨?_, ih x.1 hxk _ hr'⟩
      cases hx' : s'.names[x.2.1]? with
      | none =>
        rw [hx'] at hn'
        cases hn'
      | some _ => exact (List.getElem?_eq_some_iff.mp hx').1
    unfold embedStmt
    split
    · exact htree
    · rename_i hne
      simp only [Tree.wfB, Bool.and_eq_true]
      exact ⟨⟨canBeChild_embedTree _ s.tree, by simpa using hne⟩, htree⟩

theorem wfAll_init (asts : List (List AStmt)) (bs : List Block) (st : CState)
    (h : compileBlocks 0 {} asts = .ok (bs, st)) : WFAll bs := by
  obtain ⟨ns, hs, _⟩ := (elab_ok_iff asts bs).mp ⟨st, h⟩
  obtain ⟨_, hflat⟩ := elab_table asts bs st h ns hs
  intro T hT
  rw [← hflat] at hT
  obtain ⟨k, hk⟩ := List.mem_iff_getElem?.mp hT
  exact wfB_root asts ns hs k T hk

/-! ## The loop, and `compile` as a whole -/

theorem foldAll_succ (n i : Nat) (blocks : List Block) (outs : List NamedOutput) :
    foldAll (n + 1) i blocks outs = (foldStep i blocks outs >>= fun p => foldAll n (i + 1) p.1 p.2) := by
  rw [foldAll]

theorem foldAll_add : ∀ (m1 m2 i : Nat) (blocks : List Block) (outs : List NamedOutput),
    foldAll (m1 + m2) i blocks outs = (foldAll m1 i blocks outs >>= fun p => foldAll m2 (i + m1) p.1 p.2) := by
  intro m1
  induction m1 with
  | zero =>
    intro m2 i blocks outs
    rw [Nat.zero_add]
    rfl
  | succ m1 ih =>
    intro m2 i blocks outs
    rw [Nat.add_right_comm, foldAll_succ, foldAll_succ]
    cases foldStep i blocks outs with
    | error e => rfl
    | ok p => rw [Except.ok_bind, Except.ok_bind, ih, Nat.add_assoc, Nat.add_comm 1]

theorem foldAll_skip : ∀ (m i : Nat) (blocks : List Block) (outs : List NamedOutput),
    (∀ j o, i ≤ j → j < i + m → outs[j]? = some o → o.canBeInlined = false) →
    foldAll m i blocks outs = .ok (blocks, outs) := by
  intro m
  induction m with
  | zero =>
    intro i blocks outs _
    rfl
  | succ m ih =>
    intro i blocks outs h
    rw [foldAll_succ, foldStep_skip i blocks outs fun o ho => h i o (Nat.le_refl _) (Nat.lt_add_of_pos_right (Nat.succ_pos m)) ho,
      Except.ok_bind]
    exact ih (i + 1) blocks outs fun j o h1 h2 ho =>
      h j o (Nat.le_of_succ_le h1) (by rw [Nat.add_right_comm] at h2; exact h2) ho

/-- the loop never fails; it keeps the two invariants and every further property `P` that each single inlining keeps
    (given the invariants).  `RefCount` is carried for the conservation results only (`occ_one`: the replaced
    reference stands exactly once); `FoldInv` is preserved without it. -/
theorem foldAll_induct (P : List Block → List NamedOutput → Prop)
    (hP : ∀ (d : FoldData) (i : Nat) (blocks : List Block) (outs : List NamedOutput), d.Ok i blocks outs →
      FoldInv i blocks outs → RefCount i blocks outs → P blocks outs → P (d.blocks' blocks) (d.outs' outs)) :
    ∀ (n i : Nat) (blocks : List Block) (outs : List NamedOutput), FoldInv i blocks outs → RefCount i blocks outs →
      P blocks outs → ∃ b' o', foldAll n i blocks outs = .ok (b', o') ∧ FoldInv (i + n) b' o' ∧
        RefCount (i + n) b' o' ∧ P b' o'
  | 0, _, blocks, outs, h, hc, hp => ⟨blocks, outs, rfl, h, hc, hp⟩
  | n + 1, i, blocks, outs, h, hc, hp => by
    rw [show i + (n + 1) = i + 1 + n by omega]
    rcases foldStep_shape h with hs | ⟨d, hd⟩
    · simp only [foldAll, hs]
      exact foldAll_induct P hP n (i + 1) blocks outs h.next hc.next hp
    · simp only [foldAll, hd.hstep]
      exact foldAll_induct P hP n (i + 1) _ _ (hd.inv h) (hd.refCount h hc) (hP d i blocks outs hd h hc hp)

theorem foldAll_preserves (P : List Block → List NamedOutput → Prop)
    (hP : ∀ (d : FoldData) (i : Nat) (blocks : List Block) (outs : List NamedOutput), d.Ok i blocks outs →
      FoldInv i blocks outs → RefCount i blocks outs → P blocks outs → P (d.blocks' blocks) (d.outs' outs))
    (n i : Nat) (blocks : List Block) (outs : List NamedOutput) (h : FoldInv i blocks outs)
    (hc : RefCount i blocks outs) (hp : P blocks outs) (b' : List Block) (o' : List NamedOutput)
    (hf : foldAll n i blocks outs = .ok (b', o')) : P b' o' := by
  obtain ⟨b2, o2, hf2, _, _, hp2⟩ := foldAll_induct P hP n i blocks outs h hc hp
  rw [hf] at hf2
  cases hf2
  exact hp2

theorem sublist_index_map {α : Type} {l1 l2 : List α} (h : l1.Sublist l2) :
    ∃ f : Nat → Nat, (∀ i j, i < j → j < l1.length → f i < f j) ∧ ∀ j, j < l1.length → l2[f j]? = l1[j]? := by
  induction h with
  | slnil => exact ⟨id, fun _ _ h _ => h, fun _ h => by simp at h⟩
  | cons a _ ih =>
    obtain ⟨f, hm, hg⟩ := ih
    exact ⟨fun j => f j + 1, fun i j hij hj => Nat.succ_lt_succ (hm i j hij hj), fun j hj => by simpa using hg j hj⟩
  | cons_cons a _ ih =>
    obtain ⟨f, hm, hg⟩ := ih
    refine ⟨fun j => match j with | 0 => 0 | j + 1 => f j + 1, ?_, ?_⟩
    · intro i j hij hj
      cases j with
      | zero => omega
      | succ j =>
        cases i with
        | zero => simp
        | succ i =>
          simp only [List.length_cons] at hj
          exact Nat.succ_lt_succ (hm i j (by omega) (by omega))
    · intro j hj
      cases j with
      | zero => simp
      | succ j =>
        simp only [List.length_cons] at hj
        simpa using hg j (by omega)

theorem fold_total (asts : List (List AStmt)) (bs : List Block) (st : CState)
    (h : compileBlocks 0 {} asts = .ok (bs, st)) (n : Nat) : ∃ b1 o1, foldAll n 0 bs st.outputs = .ok (b1, o1) := by
  obtain ⟨b1, o1, hf, _⟩ := foldAll_induct (fun _ _ => True) (fun _ _ _ _ _ _ _ _ => trivial) n 0 bs st.outputs
    (foldInv_init asts bs st h) (refCount_init asts bs st h) trivial
  exact ⟨b1, o1, hf⟩

theorem fold_reachable (asts : List (List AStmt)) (bs : List Block) (st : CState)
    (h : compileBlocks 0 {} asts = .ok (bs, st)) (n : Nat) (b1 : List Block) (o1 : List NamedOutput)
    (hf : foldAll n 0 bs st.outputs = .ok (b1, o1)) :
    FoldInv n b1 o1 ∧ RefCount n b1 o1 ∧ SameNodes bs b1 ∧ DescendsH bs b1 := by
  obtain ⟨b2, o2, hf2, h1, h2, h3, h4⟩ := foldAll_induct (fun b _ => SameNodes bs b ∧ DescendsH bs b)
    (fun d i blocks outs hd hi hc hp =>
      ⟨fun fi fs p => (hd.collect_count hi hc fi fs p).trans (hp.1 fi fs p), hd.descends hi hp.2⟩)
    n 0 bs st.outputs (foldInv_init asts bs st h) (refCount_init asts bs st h) ⟨fun _ _ _ => rfl, DescendsH.refl bs⟩
  rw [hf] at hf2
  cases hf2
  rw [Nat.zero_add] at h1 h2
  exact ⟨h1, h2, h3, h4⟩

theorem foldAll_wfAll (asts : List (List AStmt)) (bs : List Block) (st : CState)
    (h : compileBlocks 0 {} asts = .ok (bs, st)) (n : Nat) (b' : List Block) (o' : List NamedOutput)
    (hf : foldAll n 0 bs st.outputs = .ok (b', o')) : WFAll b' :=
  foldAll_preserves (fun b _ => WFAll b) (fun _ _ _ _ hd _ _ hp => hd.wfAll hp) n 0 bs st.outputs
    (foldInv_init asts bs st h) (refCount_init asts bs st h) (wfAll_init asts bs st h) b' o' hf

theorem validBlockS_mono : ∀ (b : Block) (prev prev' : List Tree), (∀ x ∈ prev, x ∈ prev') →
    C03.ValidBlockS prev b → C03.ValidBlockS prev' b
  | [], _, _, _, _ => trivial
  | t :: ts, prev, prev', hsub, h => by
    refine ⟨fun s hs => hsub s (h.1 s hs), validBlockS_mono ts _ _ ?_ h.2⟩
    intro x hx
    cases ht : t.isSub with
    | false =>
      simp only [ht, Bool.false_eq_true, if_false] at hx ⊢
      exact hsub x hx
    | true =>
      simp only [ht, if_true, List.mem_cons] at hx ⊢
      exact hx.imp id (hsub x)

theorem validBlockS_append : ∀ (b c : Block) (prev : List Tree),
    C03.ValidBlockS prev (b ++ c) ↔ (C03.ValidBlockS prev b ∧ C03.ValidBlockS ((b.filter Tree.isSub).reverse ++ prev) c)
  | [], c, prev => by simp [C03.ValidBlockS]
  | t :: b, c, prev => by
    simp only [List.cons_append, C03.ValidBlockS, validBlockS_append b c, and_assoc]
    cases ht : t.isSub <;> simp [ht]

theorem validS_of_flatten : ∀ (bs : List Block) (prev : List Tree), C03.ValidBlockS prev bs.flatten → C03.ValidS prev bs
  | [], _, _ => trivial
  | b :: bs, prev, h => by
    rw [List.flatten_cons, validBlockS_append] at h
    refine ⟨h.1, validS_of_flatten bs _ (validBlockS_mono _ _ _ ?_ h.2)⟩
    intro x hx
    simp only [List.mem_append, List.mem_reverse] at hx ⊢
    exact hx.symm

theorem validBlockS_of_pos : ∀ (b : Block) (prev : List Tree),
    (∀ (p : Nat) (T : Tree), b[p]? = some T → ∀ s ∈ T.refTargets,
      s ∈ prev ∨ ∃ k, k < p ∧ b[k]? = some s ∧ s.isSub = true) → C03.ValidBlockS prev b
  | [], _, _ => trivial
  | t :: ts, prev, h => by
    refine ⟨?_, validBlockS_of_pos ts _ ?_⟩
    · intro s hs
      rcases h 0 t rfl s hs with h' | ⟨k, hk, _⟩
      · exact h'
      · omega
    · intro p T hp s hs
      rcases h (p + 1) T (by simpa using hp) s hs with h' | ⟨k, hk, hks, hsub⟩
      · left
        cases t.isSub <;> simp [h']
      · cases k with
        | zero =>
          simp only [List.getElem?_cons_zero, Option.some.injEq] at hks
          subst hks
          left
          simp [hsub]
        | succ k => exact Or.inr ⟨k, by omega, by simpa using hks, hsub⟩

theorem validS_of_scoped (bs : List Block) (h : Scoped bs.flatten) : C03.ValidS [] bs := by
  apply validS_of_flatten
  apply validBlockS_of_pos
  intro p T hp s hs
  obtain ⟨i, a, hn⟩ := Tree.refTargets_refNodes T s hs
  exact Or.inr (h p T hp s i a hn)

theorem checkBlocks_of_scoped (bs : List Block) (h : Scoped bs.flatten) : checkBlocks [] bs = true :=
  C03.validS_check bs (validS_of_scoped bs h)

theorem parseAll_nil (i : Nat) : parseAll i [] = .ok [] := rfl

attribute [local irreducible] parse in
theorem parseAll_cons (i : Nat) (s : Str) (ss : List Str) : parseAll i (s :: ss) =
    match parse s with
    | .ok stmts => (parseAll (i + 1) ss) >>= fun rest => pure (stmts :: rest)
    | .syntaxError => .error (.syntaxError i)
    | .zeroDivision => .error (.zeroDivision i) := rfl

theorem parseAll_error_first : ∀ (srcs : List Str) (i : Nat) (e : CompileResult), parseAll i srcs = .error e →
    ∃ b s, e = .syntaxError (i + b) ∧ srcs[b]? = some s ∧ parse s = .syntaxError ∧
      ∀ j, j < b → ∀ s', srcs[j]? = some s' → ∃ stmts, parse s' = .ok stmts
  | [], i, e, h => by rw [parseAll_nil] at h; cases h
  | s :: ss, i, e, h => by
    rw [parseAll_cons] at h
    cases hp : parse s with
    | syntaxError =>
      rw [hp] at h
      cases h
      exact ⟨0, s, rfl, rfl, hp, fun j hj => absurd hj (Nat.not_lt_zero j)⟩
    | zeroDivision => exact absurd hp (C07.parse_never_zeroDivision s)
    | ok stmts =>
      rw [hp] at h
      simp only [] at h
      cases hr : parseAll (i + 1) ss with
      | error e' =>
        rw [hr] at h
        cases h
        obtain ⟨b, s', hb, hs', hps, hfirst⟩ := parseAll_error_first ss (i + 1) _ hr
        refine ⟨b + 1, s', by rw [hb]; congr 1; omega, by simpa using hs', hps, ?_⟩
        intro j hj s'' hs''
        cases j with
        | zero =>
          simp at hs''
          subst hs''
          exact ⟨stmts, hp⟩
        | succ j => exact hfirst j (by omega) s'' (by simpa using hs'')
      | ok rest =>
        rw [hr] at h
        cases h

/-- **the outcome of `compile`**: the error of parsing; else the error of elaboration; else what the inlining loop
    leaves, which never fails and passes the validity check -/
theorem compile_cases (srcs : List Str) :
    (∃ e, parseAll 0 srcs = .error e ∧ compile srcs = e) ∨
    (∃ asts e, parseAll 0 srcs = .ok asts ∧ compileBlocks 0 {} asts = .error e ∧ compile srcs = e) ∨
    (∃ asts bs st bs' outs', parseAll 0 srcs = .ok asts ∧ compileBlocks 0 {} asts = .ok (bs, st) ∧
      elabBlocks srcs = .ok (bs, st) ∧ foldAll st.outputs.length 0 bs st.outputs = .ok (bs', outs') ∧
      compile srcs = .ok bs') := by
  cases hp : parseAll 0 srcs with
  | error e => exact Or.inl ⟨e, rfl, by unfold compile elabBlocks; rw [hp]; rfl⟩
  | ok asts =>
    have he : elabBlocks srcs = compileBlocks 0 {} asts := by unfold elabBlocks; rw [hp]; rfl
    cases hc : compileBlocks 0 {} asts with
    | error e => exact Or.inr (Or.inl ⟨asts, e, rfl, hc, by unfold compile; rw [he, hc]⟩)
    | ok p =>
      obtain ⟨bs, st⟩ := p
      rw [hc] at he
      obtain ⟨bs', outs', hf⟩ := fold_total asts bs st hc st.outputs.length
      refine Or.inr (Or.inr ⟨asts, bs, st, bs', outs', rfl, hc, he, hf, ?_⟩)
      unfold compile
      simp only [he, hf]
      exact if_pos (checkBlocks_of_scoped bs' (fold_reachable asts bs st hc _ bs' outs' hf).1.wf)

theorem compile_ok_phases {srcs : List Str} {bs' : List Block} (h : compile srcs = .ok bs') :
    ∃ asts bs st outs', parseAll 0 srcs = .ok asts ∧ compileBlocks 0 {} asts = .ok (bs, st) ∧
      elabBlocks srcs = .ok (bs, st) ∧ foldAll st.outputs.length 0 bs st.outputs = .ok (bs', outs') := by
  rcases compile_cases srcs with ⟨e, hp, hc⟩ | ⟨asts, e, _, hb, hc⟩ | ⟨asts, bs, st, bs2, outs', hp, hb, he, hf, hc⟩
  · rw [h] at hc
    obtain ⟨b, _, hb, _⟩ := parseAll_error_first srcs 0 e hp
    rw [hb] at hc
    cases hc
  · rw [h] at hc
    exact absurd (hc ▸ hb) ((C01.elab_no_other_error asts).2.2.2 bs')
  · rw [h] at hc
    cases hc
    exact ⟨asts, bs, st, outs', hp, hb, he, hf⟩

end RG
