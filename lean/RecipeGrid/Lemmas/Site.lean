import RecipeGrid.Lemmas.Fmt
import RecipeGrid.Model.SiteSources
import RecipeGrid.Lemmas.Href
import RecipeGrid.Lemmas.Sorted
/-! Lemmas about `Model/Site.lean`. The site as an explicit set of pages: a page's links use its
    breadcrumb chain only through the *paths* in it, and those are a function of the page's place in the tree
    (`crumbsBelow`), so every page is a function of the hierarchy, the directory names leading to its directory, and that
    directory (`catPageOf`, `recipePageAt`). `categoryPages_eq` is one level of the model in these terms;
    `mem_categoryPages_iff` / `mem_sitePages_iff` say that the pages of the site are exactly these (the one induction
    over the source tree for membership); which pages exist, what they link to and what is reachable is read off the
    explicit pages in `Props/C15.lean`, `Props/C14*.lean`. The comparators of the model's sorts are core Lean's
    lexicographic order on lists (`strLe_iff`, and `keyLe_iff` for pairs of keys); the order facts of `RG.C17` about `strLe`
    are read off it here. The file also declares into `RG.C15` (`DirAt`, `InTree`, `Hierarchy`: how the property files speak
    of a source tree) and `RG.C14` (`recipeListTarget`, `SegOK`), because the lemmas below need them. -/
namespace RG

theorem strLe_cons_iff (x y : Char) (xs ys : Str) :
    strLe (x :: xs) (y :: ys) = true ↔ x.toNat < y.toNat ∨ (x.toNat = y.toNat ∧ strLe xs ys = true) := by
  simp only [strLe]
  split
  · simp [*]
  · split
    · constructor
      · intro h; cases h
      · rintro (h | ⟨h, _⟩) <;> omega
    · constructor
      · intro h; exact .inr ⟨by omega, h⟩
      · rintro (h | ⟨_, h⟩)
        · omega
        · exact h

/-- `strLe` is the lexicographic order on lists of characters, characters compared by code point (Python's `<=` on `str`) -/
theorem strLe_iff : ∀ a b : Str, strLe a b = true ↔ a ≤ b
  | [], b => by simp [strLe]
  | x :: xs, [] => by simp [strLe]
  | x :: xs, y :: ys => by
    rw [strLe_cons_iff, strLe_iff xs ys, List.cons_le_cons_iff, Char.lt_def, UInt32.lt_iff_toNat_lt, ← Char.toNat_inj]
    rfl

namespace C17
/-- titles are compared as Python compares strings: `strLe` is reflexive, so the stable sort keeps listing order among equal titles -/
theorem strLe_refl (s : Str) : strLe s s = true := (strLe_iff s s).mpr (List.le_refl s)

theorem strLe_total (a b : Str) : strLe a b = true ∨ strLe b a = true := by
  rw [strLe_iff, strLe_iff]
  exact List.le_total a b

theorem strLe_trans (a b c : Str) (h1 : strLe a b = true) (h2 : strLe b c = true) : strLe a c = true :=
  (strLe_iff a c).mpr (List.le_trans ((strLe_iff a b).mp h1) ((strLe_iff b c).mp h2))

theorem strLe_antisymm (a b : Str) (h1 : strLe a b = true) (h2 : strLe b a = true) : a = b :=
  List.le_antisymm ((strLe_iff a b).mp h1) ((strLe_iff b a).mp h2)
end C17

/-- lexicographic order on two string keys, as the model's sort comparators are written -/
def keyLe {α} (k1 k2 : α → Str) (a b : α) : Bool :=
  if k1 a == k1 b then strLe (k2 a) (k2 b) else strLe (k1 a) (k1 b)

/-- `keyLe` compares the pairs of keys as Python compares tuples: a pair is written as a two-element list, whose order in
    core Lean is the lexicographic one -/
theorem keyLe_iff {α} (k1 k2 : α → Str) (a b : α) : keyLe k1 k2 a b = true ↔ [k1 a, k2 a] ≤ [k1 b, k2 b] := by
  rw [List.cons_le_cons_iff, List.cons_le_cons_iff, keyLe]
  by_cases h : k1 a = k1 b
  · simp [h, strLe_iff, List.lt_irrefl, List.le_iff_lt_or_eq (l₁ := k2 a)]
  · simp [h, strLe_iff, List.le_iff_lt_or_eq (l₁ := k1 a)]

theorem keyLe_total {α} (k1 k2 : α → Str) (a b : α) : keyLe k1 k2 a b = true ∨ keyLe k1 k2 b a = true := by
  rw [keyLe_iff, keyLe_iff]
  exact List.le_total _ _

theorem keyLe_antisymm {α} (k1 k2 : α → Str) (a b : α) (h1 : keyLe k1 k2 a b = true) (h2 : keyLe k1 k2 b a = true) :
    k1 a = k1 b ∧ k2 a = k2 b := by
  have := List.le_antisymm ((keyLe_iff ..).mp h1) ((keyLe_iff ..).mp h2)
  simpa using this

theorem keyLe_trans {α} (k1 k2 : α → Str) (a b c : α) (h1 : keyLe k1 k2 a b = true) (h2 : keyLe k1 k2 b c = true) :
    keyLe k1 k2 a c = true :=
  (keyLe_iff ..).mpr (List.le_trans ((keyLe_iff ..).mp h1) ((keyLe_iff ..).mp h2))

theorem insertionSort_keyLe_perm {α} (k1 k2 : α → Str) (l₁ l₂ : List α) (h : l₁.Perm l₂)
    (hinj : ∀ a ∈ l₁, ∀ b ∈ l₁, k1 a = k1 b → k2 a = k2 b → a = b) :
    insertionSort (keyLe k1 k2) l₁ = insertionSort (keyLe k1 k2) l₂ := by
  apply insertionSort_eq_of_perm _ _ _ _ _ _ h
  · intro a _ b _; exact keyLe_total k1 k2 a b
  · intro a _ b _ c _; exact keyLe_trans k1 k2 a b c
  · intro a ha b hb h1 h2
    have := keyLe_antisymm k1 k2 a b h1 h2
    exact hinj a ha b hb this.1 this.2

/-! ## The pages. The model's pieces by name (`scaledPage`, `unscaledPage`, `recEntry`, `unscaledPages`, `catPage`) serve only
    to state the one-level unfolding `categoryPages_eq`; everything after it speaks of the explicit pages `catPageOf` and
    `recipePageAt` -/

def catTitle (sv : Option Nat) (isRoot : Bool) (d : Dir) : Str :=
  if isRoot then (match sv with | some n => "Recipes for ".toList ++ natDigits n | none => "Categories".toList) else d.title
def catDirs (dirs : List Str) (isRoot : Bool) (d : Dir) : List Str := if isRoot then [] else dirs ++ [d.name]

def subLe (a b : Str × Str × Str) : Bool := if a.1 == b.1 then strLe a.2.2 b.2.2 else strLe a.1 b.1
def recLe (a b : Str × Str × List Page × Str) : Bool := if a.1 == b.1 then strLe a.2.2.2 b.2.2.2 else strLe a.1 b.1

def scaledPage (M n native : Nat) (chain : List (Str × Str)) (dirs : List Str) (r : RecipeFile) : Page :=
  let rp := recipePath (some n) dirs r.file
  Page.mk rp r.title (breadcrumbs (chain ++ [(r.title, rp)]) rp ++ [hrefRelative rp cssPath] ++
    (['#'] :: (List.range M).map fun m => hrefRelative rp (recipePath (some (m + 1)) dirs r.file)) ++
    (if n != native then [hrefRelative rp (recipePath (some native) dirs r.file)] else []))

def unscaledPage (chain : List (Str × Str)) (dirs : List Str) (r : RecipeFile) : Page :=
  let rp := recipePath none dirs r.file
  Page.mk rp r.title (breadcrumbs (chain ++ [(r.title, rp)]) rp ++ [hrefRelative rp cssPath])

/-- a recipe's entry in its category: (title, link target, its page in this hierarchy if any, file name) -/
def recEntry (M : Nat) (sv : Option Nat) (chain : List (Str × Str)) (dirs : List Str) (r : RecipeFile) : Str × Str × List Page × Str :=
  match r.servings with
  | none => (r.title, recipePath none dirs r.file, [], r.file)
  | some native =>
    match sv with
    | some n => (r.title, recipePath (some n) dirs r.file, [scaledPage M n native chain dirs r], r.file)
    | none => (r.title, recipePath (some native) dirs r.file, [], r.file)

def unscaledPages (sv : Option Nat) (chain : List (Str × Str)) (dirs : List Str) (recipes : List RecipeFile) : List Page :=
  if sv.isNone then recipes.filterMap fun r => if r.servings.isNone then some (unscaledPage chain dirs r) else none else []

def catPage (sv : Option Nat) (chain : List (Str × Str)) (dirs : List Str) (title : Str)
    (subs : List (Str × Str × Str)) (recs : List (Str × Str × List Page × Str)) : Page :=
  let path := catPath sv dirs
  Page.mk path title (breadcrumbs chain path ++ [hrefRelative path cssPath]
    ++ (insertionSort subLe subs).map (fun s => hrefRelative path s.2.1)
    ++ (insertionSort recLe recs).map (fun r => hrefRelative path r.2.1))

theorem catPage_path (sv : Option Nat) (chain : List (Str × Str)) (dirs : List Str) (title : Str)
    (subs : List (Str × Str × Str)) (recs : List (Str × Str × List Page × Str)) :
    (catPage sv chain dirs title subs recs).path = catPath sv dirs := rfl

namespace C14
/-- the page a category's recipe list points to for recipe `r`: the recipe's page in the same hierarchy if it has one
    there; the unscaled page for an unscalable recipe listed in a `serves<n>` hierarchy; the native-servings page for a
    scalable recipe listed under `categories` -/
def recipeListTarget (sv : Option Nat) (dirs : List Str) (r : RecipeFile) : Str :=
  match r.servings, sv with
  | none, _ => recipePath none dirs r.file
  | some _, some n => recipePath (some n) dirs r.file
  | some native, none => recipePath (some native) dirs r.file
end C14
open C14 (recipeListTarget)

theorem recipeListTarget_same {sv : Option Nat} {r : RecipeFile} (dirs : List Str) (h : r.servings.isSome = sv.isSome) :
    recipeListTarget sv dirs r = recipePath sv dirs r.file := by
  unfold recipeListTarget
  cases hr : r.servings with
  | none =>
    cases sv with
    | none => rfl
    | some n =>
      rw [hr] at h
      cases h
  | some k =>
    cases sv with
    | none =>
      rw [hr] at h
      cases h
    | some n => rfl

def dirLe : Dir → Dir → Bool := keyLe (fun d => d.title) Dir.name
theorem srcRecLe_eq_keyLe : srcRecLe = keyLe (·.title) (·.file) := rfl

def crumbsBelow (sv : Option Nat) (base : List Str) : List Str → List Str
  | [] => [catPath sv base]
  | x :: rel => catPath sv base :: crumbsBelow sv (base ++ [x]) rel

theorem mem_crumbsBelow {sv : Option Nat} {c : Str} : ∀ {rel base : List Str},
    c ∈ crumbsBelow sv base rel ↔ ∃ pre, pre <+: rel ∧ c = catPath sv (base ++ pre)
  | [], base => by simp [crumbsBelow]
  | x :: rel, base => by
    rw [crumbsBelow, List.mem_cons, mem_crumbsBelow]
    constructor
    · rintro (rfl | ⟨pre, hp, rfl⟩)
      · exact ⟨[], List.nil_prefix, by rw [List.append_nil]⟩
      · exact ⟨x :: pre, List.cons_prefix_cons.mpr ⟨rfl, hp⟩, by rw [List.append_assoc]; rfl⟩
    · rintro ⟨pre, hp, rfl⟩
      cases pre with
      | nil => exact .inl (by rw [List.append_nil])
      | cons y pre =>
        obtain ⟨rfl, hp'⟩ := List.cons_prefix_cons.mp hp
        exact .inr ⟨pre, hp', by rw [List.append_assoc]; rfl⟩

def catPageOf (sv : Option Nat) (crumbs : List Str) (dirs : List Str) (title : Str) (d : Dir) : Page :=
  let path := catPath sv dirs
  ⟨path, title, crumbs.map (hrefRelative path) ++ [hrefRelative path cssPath]
    ++ (insertionSort dirLe d.subdirs).map (fun s => hrefRelative path (catPath sv (dirs ++ [s.name])))
    ++ (insertionSort srcRecLe d.recipes).map (fun r => hrefRelative path (recipeListTarget sv dirs r))⟩

def recipePageAt (M : Nat) (sv : Option Nat) (crumbs : List Str) (dirs : List Str) (r : RecipeFile) : Option Page :=
  let rp := recipePath sv dirs r.file
  match sv, r.servings with
  | some n, some native => some ⟨rp, r.title, (crumbs ++ [rp]).map (hrefRelative rp) ++ [hrefRelative rp cssPath] ++
      (['#'] :: (List.range M).map fun m => hrefRelative rp (recipePath (some (m + 1)) dirs r.file)) ++
      (if n != native then [hrefRelative rp (recipePath (some native) dirs r.file)] else [])⟩
  | none, none => some ⟨rp, r.title, (crumbs ++ [rp]).map (hrefRelative rp) ++ [hrefRelative rp cssPath]⟩
  | _, _ => none

def dirPages (M : Nat) (sv : Option Nat) (crumbs : List Str) (dirs : List Str) (title : Str) (d : Dir) : List Page :=
  catPageOf sv crumbs dirs title d :: d.recipes.filterMap (recipePageAt M sv crumbs dirs)

theorem mem_catPageOf_links {sv : Option Nat} {crumbs dirs : List Str} {title : Str} {d : Dir} {l : Str} :
    l ∈ (catPageOf sv crumbs dirs title d).links ↔ ∃ t, l = hrefRelative (catPath sv dirs) t ∧
      (t ∈ crumbs ∨ t = cssPath ∨ (∃ s ∈ d.subdirs, t = catPath sv (dirs ++ [s.name])) ∨
        ∃ r ∈ d.recipes, t = recipeListTarget sv dirs r) := by
  simp only [catPageOf, List.mem_append, List.mem_map, mem_insertionSort, List.mem_singleton]
  constructor
  -- the equations are passed on as they are: substituting a link makes the unifier evaluate `hrefRelative` later
  · rintro (((⟨t, h, e⟩ | e) | ⟨s, h, e⟩) | ⟨r, h, e⟩)
    · exact ⟨t, e.symm, .inl h⟩
    · exact ⟨_, e, .inr (.inl rfl)⟩
    · exact ⟨_, e.symm, .inr (.inr (.inl ⟨s, h, rfl⟩))⟩
    · exact ⟨_, e.symm, .inr (.inr (.inr ⟨r, h, rfl⟩))⟩
  · rintro ⟨t, e, h | e' | ⟨s, h, e'⟩ | ⟨r, h, e'⟩⟩
    · exact .inl (.inl (.inl ⟨t, h, e.symm⟩))
    · exact .inl (.inl (.inr (e' ▸ e)))
    · exact .inl (.inr ⟨s, h, e' ▸ e.symm⟩)
    · exact .inr ⟨r, h, e' ▸ e.symm⟩

theorem recipePageAt_some {M : Nat} {sv : Option Nat} {crumbs dirs : List Str} {r : RecipeFile} {p : Page}
    (h : recipePageAt M sv crumbs dirs r = some p) :
    r.servings.isSome = sv.isSome ∧ p.path = recipePath sv dirs r.file ∧ p.title = r.title ∧
    ∀ l ∈ p.links, l = ['#'] ∨ ∃ t, l = hrefRelative p.path t ∧
      (t ∈ crumbs ∨ t = p.path ∨ t = cssPath ∨
        ∃ native, r.servings = some native ∧ (t = recipePath (some native) dirs r.file ∨
          ∃ m, m < M ∧ t = recipePath (some (m + 1)) dirs r.file)) := by
  unfold recipePageAt at h
  split at h
  · rename_i n native hr
    cases h
    refine ⟨by simp [hr], rfl, rfl, fun l hl => ?_⟩
    simp only [List.mem_append, List.mem_cons, List.mem_map, List.mem_range, List.not_mem_nil, or_false,
      List.mem_ite_nil_right] at hl
    rcases hl with ((⟨t, ht | ht, e⟩ | e) | e | ⟨m, hm, e⟩) | ⟨_, e⟩
    · exact .inr ⟨t, e.symm, .inl ht⟩
    · exact .inr ⟨t, e.symm, .inr (.inl ht)⟩
    · exact .inr ⟨_, e, .inr (.inr (.inl rfl))⟩
    · exact .inl e
    · exact .inr ⟨_, e.symm, .inr (.inr (.inr ⟨native, hr, .inr ⟨m, hm, rfl⟩⟩))⟩
    · exact .inr ⟨_, e, .inr (.inr (.inr ⟨native, hr, .inl rfl⟩))⟩
  · rename_i hr
    cases h
    refine ⟨by simp [hr], rfl, rfl, fun l hl => ?_⟩
    simp only [List.mem_append, List.mem_cons, List.mem_map, List.not_mem_nil, or_false] at hl
    rcases hl with ⟨t, ht | ht, e⟩ | e
    · exact .inr ⟨t, e.symm, .inl ht⟩
    · exact .inr ⟨t, e.symm, .inr (.inl ht)⟩
    · exact .inr ⟨_, e, .inr (.inr (.inl rfl))⟩
  · cases h

theorem recipePageAt_isSome {M : Nat} {sv : Option Nat} {crumbs dirs : List Str} {r : RecipeFile}
    (h : r.servings.isSome = sv.isSome) : ∃ p, recipePageAt M sv crumbs dirs r = some p := by
  unfold recipePageAt
  cases sv with
  | none =>
    cases hr : r.servings with
    | none => exact ⟨_, rfl⟩
    | some k =>
      rw [hr] at h
      cases h
  | some n =>
    cases hr : r.servings with
    | none =>
      rw [hr] at h
      cases h
    | some k => exact ⟨_, rfl⟩

/-! ## Source trees as the property files speak of them: `DirAt`, `InTree`, `Hierarchy`; induction over a tree and along a path -/

theorem Dir.ind {P : Dir → Prop} (h : ∀ d, (∀ s ∈ d.subdirs, P s) → P d) : ∀ d, P d := by
  intro d
  exact Dir.rec (motive_1 := P) (motive_2 := fun l => ∀ s ∈ l, P s)
    (fun n r recs subs ih => h (.mk n r recs subs) ih)
    (by intro s hs; cases hs)
    (fun d ds hd hds s hs => by
      rcases List.mem_cons.mp hs with rfl | hs
      · exact hd
      · exact hds s hs) d

namespace C15
/-- `DirAt root dirs d`: following the directory names `dirs` down from `root` reaches the directory `d` -/
inductive DirAt : Dir → List Str → Dir → Prop
  | here (d : Dir) : DirAt d [] d
  | sub {d s d' : Dir} {dirs : List Str} : s ∈ d.subdirs → DirAt s dirs d' → DirAt d (s.name :: dirs) d'

/-- `InTree root dirs r`: recipe file `r` lies in the directory reached from `root` by the names `dirs` -/
inductive InTree : Dir → List Str → RecipeFile → Prop
  | here {d : Dir} {r : RecipeFile} : r ∈ d.recipes → InTree d [] r
  | sub {d s : Dir} {dirs : List Str} {r : RecipeFile} : s ∈ d.subdirs → InTree s dirs r → InTree d (s.name :: dirs) r

/-- the hierarchies of a site with maximum `M`: `none` = `categories`, `some n` = `serves<n>` for 1 ≤ n ≤ M -/
def Hierarchy (M : Nat) : Option Nat → Prop
  | none => True
  | some n => 1 ≤ n ∧ n ≤ M

theorem inTree_iff (root : Dir) (dirs : List Str) (r : RecipeFile) :
    InTree root dirs r ↔ ∃ d, DirAt root dirs d ∧ r ∈ d.recipes := by
  constructor
  · intro h
    induction h with
    | here hr => exact ⟨_, DirAt.here _, hr⟩
    | sub hs _ ih =>
      obtain ⟨d, hd, hr⟩ := ih
      exact ⟨d, DirAt.sub hs hd, hr⟩
  · rintro ⟨d, hd, hr⟩
    induction hd with
    | here d => exact InTree.here hr
    | sub hs _ ih => exact InTree.sub hs (ih hr)

theorem dirAt_append {root d : Dir} {a b : List Str} : DirAt root (a ++ b) d ↔ ∃ m, DirAt root a m ∧ DirAt m b d := by
  induction a generalizing root with
  | nil => exact ⟨fun h => ⟨root, .here root, h⟩, fun ⟨m, hm, h⟩ => by cases hm; exact h⟩
  | cons y a ih =>
    rw [List.cons_append]
    constructor
    · intro h
      cases h with
      | sub hs hd =>
        obtain ⟨m, hm, h'⟩ := ih.mp hd
        exact ⟨m, .sub hs hm, h'⟩
    · rintro ⟨m, hm, h'⟩
      cases hm with
      | sub hs hm => exact .sub hs (ih.mpr ⟨m, hm, h'⟩)

theorem DirAt.snoc_ind {root d : Dir} {dirs : List Str} (h : DirAt root dirs d) :
    ∀ {P : List Str → Dir → Prop}, P [] root →
      (∀ dirs d s, DirAt root dirs d → s ∈ d.subdirs → P dirs d → P (dirs ++ [s.name]) s) → P dirs d := by
  induction h with
  | here d => exact fun h0 _ => h0
  | @sub d s d' dirs hs _ ih =>
    intro P h0 hstep
    exact ih (P := fun ds x => P (s.name :: ds) x) (hstep [] d s (.here d) hs h0)
      (fun ds x t hx ht => hstep (s.name :: ds) x t (.sub hs hx) ht)

theorem DirAt.snoc {root d s : Dir} {dirs : List Str} (h : DirAt root dirs d) (hs : s ∈ d.subdirs) :
    DirAt root (dirs ++ [s.name]) s :=
  dirAt_append.mpr ⟨d, h, .sub hs (.here s)⟩

theorem DirAt.of_prefix {root d : Dir} {dirs pre : List Str} (h : DirAt root dirs d) (hp : pre <+: dirs) :
    ∃ m, DirAt root pre m := by
  obtain ⟨t, rfl⟩ := hp
  obtain ⟨m, hm, _⟩ := dirAt_append.mp h
  exact ⟨m, hm⟩
end C15
open C15 (DirAt InTree Hierarchy)

variable (M : Nat) (sv : Option Nat) (chain : List (Str × Str)) (dirs : List Str)

theorem subcategoryPages_eq (ds : List Dir) :
    subcategoryPages M sv chain dirs ds =
      (ds.flatMap (fun d => (categoryPages M sv chain dirs false d).1),
       ds.map (fun d => ((categoryPages M sv chain dirs false d).2.1, (categoryPages M sv chain dirs false d).2.2, d.name))) := by
  induction ds with
  | nil => simp [subcategoryPages]
  | cons d ds ih =>
    rw [subcategoryPages, ih]
    simp

theorem categoryPages_snd (isRoot : Bool) (d : Dir) :
    (categoryPages M sv chain dirs isRoot d).2 = (catTitle sv isRoot d, catPath sv (catDirs dirs isRoot d)) := by
  cases d
  cases sv <;> (rw [categoryPages]; rfl)

theorem recipe_pages_eq (recipes : List RecipeFile) :
    (recipes.map (recEntry M sv chain dirs)).flatMap (·.2.2.1) ++ unscaledPages sv chain dirs recipes
      = recipes.filterMap (recipePageAt M sv (chain.map (·.2)) dirs) := by
  cases sv with
  | none =>
    have h1 : (recipes.map (recEntry M none chain dirs)).flatMap (·.2.2.1) = [] := by
      induction recipes with
      | nil => rfl
      | cons r rs ih =>
        rw [List.map_cons, List.flatMap_cons, ih]
        cases hr : r.servings <;> simp [recEntry, hr]
    rw [h1, List.nil_append]
    simp only [unscaledPages, Option.isNone_none, if_true]
    congr 1
    funext r
    cases hr : r.servings <;> simp [recipePageAt, unscaledPage, breadcrumbs, Function.comp_def, hr]
  | some n =>
    have h2 : ∀ rs, unscaledPages (some n) chain dirs rs = [] := by intro rs; simp [unscaledPages]
    rw [h2, List.append_nil]
    induction recipes with
    | nil => rfl
    | cons r rs ih =>
      rw [List.map_cons, List.flatMap_cons, ih]
      cases hr : r.servings <;> simp [recEntry, recipePageAt, scaledPage, breadcrumbs, Function.comp_def, hr]

theorem recEntry_title (r : RecipeFile) : (recEntry M sv chain dirs r).1 = r.title := by
  unfold recEntry
  cases r.servings <;> cases sv <;> rfl

theorem recEntry_file (r : RecipeFile) : (recEntry M sv chain dirs r).2.2.2 = r.file := by
  unfold recEntry
  cases r.servings <;> cases sv <;> rfl

theorem recEntry_target_eq (r : RecipeFile) : (recEntry M sv chain dirs r).2.1 = recipeListTarget sv dirs r := by
  unfold recEntry recipeListTarget
  cases r.servings <;> cases sv <;> rfl

theorem catPage_eq_catPageOf (title : Str) (d : Dir) :
    catPage sv chain dirs title (d.subdirs.map fun s => (s.title, catPath sv (dirs ++ [s.name]), s.name))
        (d.recipes.map (recEntry M sv chain dirs))
      = catPageOf sv (chain.map (·.2)) dirs title d := by
  have hs := map_insertionSort (fun s : Dir => (s.title, catPath sv (dirs ++ [s.name]), s.name)) dirLe subLe
    (fun _ _ => rfl) d.subdirs
  have hr := map_insertionSort (recEntry M sv chain dirs) srcRecLe recLe
    (fun a b => by simp only [recLe, srcRecLe, recEntry_title, recEntry_file]) d.recipes
  -- rewritten to the same term on both sides: `congr` would compare the link lists by evaluating `hrefRelative … cssPath`
  simp only [catPage, catPageOf, ← hs, ← hr, breadcrumbs, List.map_map, Function.comp_def, recEntry_target_eq]

theorem categoryPages_eq (isRoot : Bool) (d : Dir) :
    categoryPages M sv chain dirs isRoot d =
      (catPageOf sv (chain.map (·.2) ++ [catPath sv (catDirs dirs isRoot d)]) (catDirs dirs isRoot d) (catTitle sv isRoot d) d
        :: (d.subdirs.flatMap (fun s =>
              (categoryPages M sv (chain ++ [(catTitle sv isRoot d, catPath sv (catDirs dirs isRoot d))])
                (catDirs dirs isRoot d) false s).1)
        ++ d.recipes.filterMap
            (recipePageAt M sv (chain.map (·.2) ++ [catPath sv (catDirs dirs isRoot d)]) (catDirs dirs isRoot d))),
       (catTitle sv isRoot d, catPath sv (catDirs dirs isRoot d))) := by
  have h1 := catPage_eq_catPageOf M sv (chain ++ [(catTitle sv isRoot d, catPath sv (catDirs dirs isRoot d))])
    (catDirs dirs isRoot d) (catTitle sv isRoot d) d
  have h2 := recipe_pages_eq M sv (chain ++ [(catTitle sv isRoot d, catPath sv (catDirs dirs isRoot d))])
    (catDirs dirs isRoot d) d.recipes
  rw [List.map_append, List.map_singleton] at h1 h2
  rw [← h1, ← h2, ← List.append_assoc]
  cases d
  cases sv <;>
  · rw [categoryPages, subcategoryPages_eq]
    simp only [categoryPages_snd]
    rfl

theorem mem_categoryPages (isRoot : Bool) (d : Dir) (p : Page) :
    p ∈ (categoryPages M sv chain dirs isRoot d).1 ↔
      p ∈ dirPages M sv (chain.map (·.2) ++ [catPath sv (catDirs dirs isRoot d)]) (catDirs dirs isRoot d)
          (catTitle sv isRoot d) d
      ∨ ∃ s ∈ d.subdirs, p ∈ (categoryPages M sv (chain ++ [(catTitle sv isRoot d, catPath sv (catDirs dirs isRoot d))])
          (catDirs dirs isRoot d) false s).1 := by
  rw [categoryPages_eq]
  simp only [dirPages, List.mem_cons, List.mem_append, List.mem_flatMap]
  exact ⟨fun h => h.elim (.inl ∘ .inl) (·.elim .inr (.inl ∘ .inr)),
    fun h => h.elim (·.elim .inl (.inr ∘ .inr)) (.inr ∘ .inl)⟩

theorem mem_categoryPages_iff (p : Page) : ∀ (d : Dir) (chain : List (Str × Str)) (dirs : List Str) (isRoot : Bool),
    p ∈ (categoryPages M sv chain dirs isRoot d).1 ↔ ∃ rel d', DirAt d rel d' ∧
      p ∈ dirPages M sv (chain.map (·.2) ++ crumbsBelow sv (catDirs dirs isRoot d) rel) (catDirs dirs isRoot d ++ rel)
        (catTitle sv (isRoot && rel.isEmpty) d') d' := by
  intro d
  induction d using Dir.ind with
  | h d ih =>
    intro chain dirs isRoot
    rw [mem_categoryPages]
    -- the place `rel` below a sub-directory `s` is the place `s.name :: rel` below this directory
    constructor
    · rintro (hp | ⟨s, hs, hp⟩)
      · exact ⟨[], d, .here d, by simpa [crumbsBelow] using hp⟩
      · obtain ⟨rel, d', hd, hp⟩ := (ih s hs _ _ _).mp hp
        exact ⟨s.name :: rel, d', .sub hs hd, by simpa [crumbsBelow, catDirs] using hp⟩
    · rintro ⟨rel, d', hd, hp⟩
      cases hd with
      | here => exact .inl (by simpa [crumbsBelow] using hp)
      | sub hs hd => exact .inr ⟨_, hs, (ih _ hs _ _ _).mpr ⟨_, d', hd, by simpa [crumbsBelow, catDirs] using hp⟩⟩

def homeChain (root : Dir) (rootName : Str) : List (Str × Str) := [(root.title (some rootName), "/index.html".toList)]
def homePage (root : Dir) (rootName : Str) (M : Nat) : Page :=
  Page.mk "/index.html".toList (root.title (some rootName))
    ([hrefRelative "/index.html".toList cssPath]
      ++ (List.range M).map (fun m => hrefRelative "/index.html".toList (catPath (some (m + 1)) []))
      ++ [hrefRelative "/index.html".toList (catPath none [])])

theorem sitePages_ok (root : Dir) (rootName : Str) (M : Nat) (ps : List Page) :
    sitePages root rootName M = .ok ps ↔
      maxNativeServings root ≤ M ∧
      ps = homePage root rootName M ::
        ((List.range M).flatMap (fun m => (categoryPages M (some (m + 1)) (homeChain root rootName) [] true root).1)
          ++ (categoryPages M none (homeChain root rootName) [] true root).1) := by
  unfold sitePages
  split
  · constructor
    · intro h; cases h
    · intro h; omega
  · constructor
    · intro h
      refine ⟨by omega, ?_⟩
      cases h
      rfl
    · intro h
      rw [h.2]
      rfl

theorem sitePages_error (root : Dir) (rootName : Str) (M : Nat) (e : SiteErr) :
    sitePages root rootName M = .error e ↔ M < maxNativeServings root ∧ e = .maxServingsTooLow (maxNativeServings root) := by
  unfold sitePages
  split
  · rename_i hgt
    exact ⟨fun h => ⟨hgt, (by cases h; rfl)⟩, fun h => by rw [h.2]⟩
  · rename_i hle
    exact ⟨fun h => (by cases h), fun h => absurd h.1 hle⟩

theorem sitePages_head {root : Dir} {rootName : Str} {M : Nat} {ps : List Page} (h : sitePages root rootName M = .ok ps) :
    ps.head? = some (homePage root rootName M) := by
  rw [((sitePages_ok ..).mp h).2]
  rfl

/-- when the maximum covers every stated count the site builds; its pages, as a concrete tree's examples name them -/
theorem sitePages_of_le (root : Dir) (rootName : Str) (M : Nat) (h : maxNativeServings root ≤ M) :
    sitePages root rootName M = .ok (match sitePages root rootName M with | .ok ps => ps | .error _ => []) := by
  rw [(sitePages_ok root rootName M _).mpr ⟨h, rfl⟩]

def crumbsAt (sv : Option Nat) (dirs : List Str) : List Str := "/index.html".toList :: crumbsBelow sv [] dirs

theorem mem_crumbsAt {sv : Option Nat} {dirs : List Str} {c : Str} :
    c ∈ crumbsAt sv dirs ↔ c = "/index.html".toList ∨ ∃ pre, pre <+: dirs ∧ c = catPath sv pre := by
  simp only [crumbsAt, List.mem_cons, mem_crumbsBelow, List.nil_append]

def siteCatPage (sv : Option Nat) (dirs : List Str) (d : Dir) : Page :=
  catPageOf sv (crumbsAt sv dirs) dirs (catTitle sv dirs.isEmpty d) d

def sitePagesAt (M : Nat) (sv : Option Nat) (dirs : List Str) (d : Dir) : List Page :=
  siteCatPage sv dirs d :: d.recipes.filterMap (recipePageAt M sv (crumbsAt sv dirs) dirs)

theorem mem_sitePagesAt {M : Nat} {sv : Option Nat} {dirs : List Str} {d : Dir} {p : Page} :
    p ∈ sitePagesAt M sv dirs d ↔
      p = siteCatPage sv dirs d ∨ ∃ r ∈ d.recipes, recipePageAt M sv (crumbsAt sv dirs) dirs r = some p := by
  simp only [sitePagesAt, List.mem_cons, List.mem_filterMap]

/-- the counts `1..M`, as the model enumerates them: `m + 1` for `m < M` -/
theorem exists_range_succ_iff {M : Nat} {P : Nat → Prop} : (∃ m, m < M ∧ P (m + 1)) ↔ ∃ n, 1 ≤ n ∧ n ≤ M ∧ P n :=
  ⟨fun ⟨m, hm, h⟩ => ⟨m + 1, by omega, by omega, h⟩,
   fun ⟨n, h1, h2, h⟩ => ⟨n - 1, by omega, by rwa [Nat.sub_add_cancel h1]⟩⟩

theorem mem_homePage_links (root : Dir) (rootName : Str) (M : Nat) (l : Str) :
    l ∈ (homePage root rootName M).links ↔ l = hrefRelative (homePage root rootName M).path cssPath ∨
      ∃ sv, Hierarchy M sv ∧ l = hrefRelative (homePage root rootName M).path (catPath sv []) := by
  -- for any link texts, so that `simp` meets no `hrefRelative … cssPath` to evaluate
  have key : ∀ (a : Str) (f : Option Nat → Str), l ∈ [a] ++ (List.range M).map (fun m => f (some (m + 1))) ++ [f none] ↔
      l = a ∨ ∃ sv, Hierarchy M sv ∧ l = f sv := by
    intro a f
    simp only [List.mem_append, List.mem_singleton, List.mem_map, List.mem_range, Option.exists, Hierarchy, true_and,
      and_assoc, ← exists_range_succ_iff, or_assoc, eq_comm (b := l), or_comm (a := l = f none)]
  exact key _ fun sv => hrefRelative _ (catPath sv [])

theorem mem_sitePages_iff {root : Dir} {rootName : Str} {M : Nat} {ps : List Page} (h : sitePages root rootName M = .ok ps)
    (p : Page) : p ∈ ps ↔ p = homePage root rootName M ∨
      ∃ sv, Hierarchy M sv ∧ ∃ dirs d, DirAt root dirs d ∧ p ∈ sitePagesAt M sv dirs d := by
  have hier : ∀ sv, (∃ dirs d, DirAt root dirs d ∧ p ∈ sitePagesAt M sv dirs d) ↔
      p ∈ (categoryPages M sv (homeChain root rootName) [] true root).1 := fun sv => by
    simp only [mem_categoryPages_iff, catDirs, ↓reduceIte, List.nil_append, Bool.true_and]
    rfl
  rw [((sitePages_ok ..).mp h).2]
  simp only [hier, Option.exists, Hierarchy, true_and, and_assoc, ← exists_range_succ_iff, List.mem_cons, List.mem_append,
    List.mem_flatMap, List.mem_range, or_comm (a := p ∈ (categoryPages M none (homeChain root rootName) [] true root).1)]

theorem foldl_max_le_iff (l : List Nat) (a b : Nat) : l.foldl max a ≤ b ↔ a ≤ b ∧ ∀ x ∈ l, x ≤ b := by
  induction l generalizing a with
  | nil => simp
  | cons y ys ih =>
    rw [List.foldl_cons, ih, Nat.max_le]
    simp only [List.mem_cons, forall_eq_or_imp, and_assoc]

theorem maxNativeServingsList_le_iff (ds : List Dir) (b : Nat) :
    maxNativeServingsList ds ≤ b ↔ ∀ d ∈ ds, maxNativeServings d ≤ b := by
  induction ds with
  | nil => simp [maxNativeServingsList]
  | cons d ds ih =>
    rw [maxNativeServingsList]
    simp only [List.mem_cons, forall_eq_or_imp, ← ih]
    omega

theorem maxNativeServings_le_iff (d : Dir) (b : Nat) :
    maxNativeServings d ≤ b ↔
      (∀ r ∈ d.recipes, r.servings.getD 0 ≤ b) ∧ ∀ s ∈ d.subdirs, maxNativeServings s ≤ b := by
  cases d
  rw [maxNativeServings, Nat.max_le, foldl_max_le_iff, maxNativeServingsList_le_iff]
  simp [Dir.recipes, Dir.subdirs]

theorem servings_le_max {d : Dir} {rel : List Str} {r : RecipeFile} (h : InTree d rel r)
    (k : Nat) (hk : r.servings = some k) : k ≤ maxNativeServings d := by
  induction h with
  | @here d r hr =>
    have := ((maxNativeServings_le_iff d _).mp (Nat.le_refl _)).1 r hr
    rwa [hk] at this
  | @sub d s rel r hs _ ih => exact Nat.le_trans (ih hk) (((maxNativeServings_le_iff d _).mp (Nat.le_refl _)).2 s hs)

theorem catPath_segs (dirs : List Str) :
    catPath sv dirs = '/' :: joinSlash (scaleRoot sv :: dirs ++ ["index".toList ++ ".html".toList]) := by
  rw [joinSlash_append_singleton _ _ (by simp), catPath,
    show "/index.html".toList = '/' :: ("index".toList ++ ".html".toList) by decide +kernel]
  rfl

theorem slash_not_mem_index : '/' ∉ "index".toList := by decide +kernel

theorem recipePath_segs (dirs : List Str) (file : Str) :
    recipePath sv dirs file = '/' :: joinSlash (scaleRoot sv :: dirs ++ [stemOf file ++ ".html".toList]) := by
  rw [joinSlash_append_singleton _ _ (by simp)]
  simp [recipePath, catDir]

def slashes (s : Str) : Nat := s.count '/'

theorem slashes_append (a b : Str) : slashes (a ++ b) = slashes a + slashes b := List.count_append
theorem slashes_cons_slash (a : Str) : slashes ('/' :: a) = slashes a + 1 := by simp [slashes]
theorem slashes_of_not_mem (a : Str) (h : '/' ∉ a) : slashes a = 0 := List.count_eq_zero.mpr h

theorem slashes_abs (segs : List Str) (hne : segs ≠ []) (h : ∀ s ∈ segs, '/' ∉ s) :
    slashes ('/' :: joinSlash segs) = segs.length := by
  induction segs with
  | nil => exact absurd rfl hne
  | cons a t ih =>
    cases t with
    | nil => rw [joinSlash_singleton, slashes_cons_slash, slashes_of_not_mem a (h a (by simp))]; rfl
    | cons b t =>
      have := ih (by simp) (fun s hs => h s (by simp [hs]))
      rw [joinSlash_cons_cons, slashes_cons_slash, slashes_append, slashes_of_not_mem a (h a (by simp)), this]
      simp

theorem slashes_home : slashes "/index.html".toList = 1 := by decide +kernel

theorem catDir_snoc (dirs : List Str) (x : Str) : catDir sv (dirs ++ [x]) = catDir sv dirs ++ '/' :: x := by
  unfold catDir
  rw [← List.cons_append, joinSlash_append_singleton _ _ (by simp)]
  rfl

theorem slashes_catPath (dirs : List Str) : slashes (catPath sv dirs) = slashes (catDir sv dirs) + 1 := by
  unfold catPath
  rw [slashes_append]
  rfl

theorem slashes_catPath_le_sub (dirs : List Str) (x : Str) :
    slashes (catPath sv dirs) ≤ slashes (catPath sv (dirs ++ [x])) := by
  rw [slashes_catPath, slashes_catPath, catDir_snoc, slashes_append, slashes_cons_slash]
  omega

theorem slashes_catPath_le_recipe (dirs : List Str) (file : Str) :
    slashes (catPath sv dirs) ≤ slashes (recipePath sv dirs file) := by
  unfold recipePath
  rw [slashes_catPath, slashes_append, slashes_append, slashes_cons_slash]
  omega

theorem scaleRoot_none : scaleRoot none = ['c', 'a', 't', 'e', 'g', 'o', 'r', 'i', 'e', 's'] := toList_lit rfl
theorem scaleRoot_some (n : Nat) : scaleRoot (some n) = ['s', 'e', 'r', 'v', 'e', 's'] ++ natDigits n :=
  congrArg (· ++ natDigits n) (toList_lit rfl)

theorem not_mem_scaleRoot : '/' ∉ scaleRoot sv ∧ '.' ∉ scaleRoot sv := by
  cases sv with
  | none => rw [scaleRoot_none]; decide
  | some n =>
    rw [scaleRoot_some]
    constructor <;>
    · intro h
      rcases List.mem_append.mp h with h | h
      · revert h; decide
      · exact absurd (natDigits_isDigit _ _ h) (by decide)

namespace C14
/-- a proper path segment: not empty, not a dot segment, without `/` -/
def SegOK (s : Str) : Prop := s ≠ [] ∧ s ≠ ".".toList ∧ s ≠ "..".toList ∧ '/' ∉ s
end C14
open C14 (SegOK)

theorem scaleRoot_ok : SegOK (scaleRoot sv) := by
  have hdot := (not_mem_scaleRoot sv).2
  refine ⟨?_, fun e => ?_, fun e => ?_, (not_mem_scaleRoot sv).1⟩
  · cases sv with
    | none => rw [scaleRoot_none]; simp
    | some n => rw [scaleRoot_some]; simp
  · rw [e, dot_lit] at hdot; exact hdot List.mem_cons_self
  · rw [e, dotdot_lit] at hdot; exact hdot List.mem_cons_self

theorem scaleRoot_ne_css : scaleRoot sv ≠ "css".toList := by
  rw [toList_lit rfl]
  cases sv with
  | none => rw [scaleRoot_none]; decide
  | some n => rw [scaleRoot_some]; simp

theorem append_slash_inj (a b r t : Str) (ha : '/' ∉ a) (hb : '/' ∉ b) (h : a ++ '/' :: r = b ++ '/' :: t) : a = b := by
  -- both are the run before the first `/`
  have key : ∀ (a r : Str), '/' ∉ a → (a ++ '/' :: r).takeWhile (· != '/') = a := fun a r ha =>
    takeWhile_run (fun c hc => bne_iff_ne.mpr fun e => ha (e ▸ hc)) (by simp)
  rw [← key a r ha, h, key b t hb]

theorem scaleRoot_inj (sv sv' : Option Nat) (h : scaleRoot sv = scaleRoot sv') : sv = sv' := by
  cases sv <;> cases sv' <;> simp only [scaleRoot_none, scaleRoot_some] at h
  · rfl
  · simp at h
  · simp at h
  · rename_i n m
    rw [natDigits_inj (List.append_cancel_left h)]

theorem htmlSeg_ok (stem : Str) (h : '/' ∉ stem) : SegOK (stem ++ ".html".toList) := by
  have hl : (stem ++ ".html".toList).length ≥ 5 := by
    rw [List.length_append]
    have : ".html".toList.length = 5 := by decide
    omega
  refine ⟨?_, ?_, ?_, ?_⟩
  · intro e; rw [e] at hl; simp at hl
  · intro e; rw [e] at hl; revert hl; decide
  · intro e; rw [e] at hl; revert hl; decide
  · intro hm
    rcases List.mem_append.mp hm with hm | hm
    · exact h hm
    · revert hm; decide

/-! ## Re-listing a directory (for `Props/C17.lean`) -/

theorem inj_on_of_nodup_map {α β} (f : α → β) (l : List α) (h : (l.map f).Nodup) :
    ∀ a ∈ l, ∀ b ∈ l, f a = f b → a = b := by
  induction l with
  | nil => intro a ha; cases ha
  | cons x xs ih =>
    rw [List.map_cons, List.nodup_cons] at h
    intro a ha b hb hab
    rcases List.mem_cons.mp ha with e1 | ha' <;> rcases List.mem_cons.mp hb with e2 | hb'
    · rw [e1, e2]
    · subst e1
      exact absurd (List.mem_map.mpr ⟨b, hb', hab.symm⟩) h.1
    · subst e2
      have : f b ∈ List.map f xs := List.mem_map.mpr ⟨a, ha', hab⟩
      exact absurd this h.1
    · exact ih h.2 a ha' b hb' hab

/-- two listings of a hierarchy agree: the same category page first, the same pages up to order, the same (title, path)
    reported to the parent -/
def SamePages (a b : List Page × (Str × Str)) : Prop := a.1.head? = b.1.head? ∧ a.1.Perm b.1 ∧ a.2 = b.2

theorem SamePages.refl (a : List Page × (Str × Str)) : SamePages a a := ⟨rfl, .refl _, rfl⟩
theorem SamePages.trans {a b c : List Page × (Str × Str)} (h1 : SamePages a b) (h2 : SamePages b c) : SamePages a c :=
  ⟨h1.1.trans h2.1, h1.2.1.trans h2.2.1, h1.2.2.trans h2.2.2⟩

theorem catPageOf_congr_sub (crumbs dirs : List Str) (title : Str) (n : Str) (r : Option Str) (recs : List RecipeFile)
    (pre post : List Dir) (s s' : Dir) (hname : s.name = s'.name) (htitle : s.title = s'.title) :
    catPageOf sv crumbs dirs title (.mk n r recs (pre ++ s :: post))
      = catPageOf sv crumbs dirs title (.mk n r recs (pre ++ s' :: post)) := by
  have key : ∀ l : List Dir,
      (insertionSort dirLe l).map (fun s => hrefRelative (catPath sv dirs) (catPath sv (dirs ++ [s.name])))
      = (insertionSort (keyLe (·.1) (·.2)) (l.map fun s => (s.title, s.name))).map
          (fun e => hrefRelative (catPath sv dirs) (catPath sv (dirs ++ [e.2]))) := fun l => by
    rw [← map_insertionSort (fun s : Dir => (s.title, s.name)) dirLe _ (fun _ _ => rfl), List.map_map, Function.comp_def]
  simp only [catPageOf, Dir.subdirs, Dir.recipes, key, List.map_append, List.map_cons, hname, htitle]

theorem categoryPages_perm_here (isRoot : Bool)
    (n : Str) (r : Option Str) (recipes recipes' : List RecipeFile) (subdirs subdirs' : List Dir)
    (hr : recipes.Perm recipes') (hs : subdirs.Perm subdirs')
    (hnr : (recipes.map (·.file)).Nodup) (hns : (subdirs.map Dir.name).Nodup) :
    SamePages (categoryPages M sv chain dirs isRoot (.mk n r recipes subdirs))
      (categoryPages M sv chain dirs isRoot (.mk n r recipes' subdirs')) := by
  -- the sorted lists of the category page do not depend on the listing order, sibling names being distinct
  have hcat : ∀ crumbs dirs title, catPageOf sv crumbs dirs title (.mk n r recipes subdirs)
      = catPageOf sv crumbs dirs title (.mk n r recipes' subdirs') := fun crumbs dirs title => by
    simp only [catPageOf, Dir.subdirs, Dir.recipes, dirLe, srcRecLe_eq_keyLe]
    rw [insertionSort_keyLe_perm _ _ _ _ hs fun a ha b hb _ h2 => inj_on_of_nodup_map Dir.name subdirs hns a ha b hb h2,
      insertionSort_keyLe_perm _ _ _ _ hr fun a ha b hb _ h2 => inj_on_of_nodup_map (·.file) recipes hnr a ha b hb h2]
  rw [SamePages, categoryPages_eq, categoryPages_eq, hcat]
  exact ⟨rfl, .cons _ (.append (hs.flatMap_right _) (hr.filterMap _)), rfl⟩

theorem flatMap_perm_pointwise {α β} (l : List α) (f g : α → List β) (h : ∀ x ∈ l, (f x).Perm (g x)) :
    (l.flatMap f).Perm (l.flatMap g) := by
  induction l with
  | nil => exact List.Perm.refl _
  | cons x xs ih =>
    rw [List.flatMap_cons, List.flatMap_cons]
    exact List.Perm.append (h x (by simp)) (ih (fun y hy => h y (by simp [hy])))

theorem categoryPages_perm_sub (n : Str) (r : Option Str) (recs : List RecipeFile)
    (pre post : List Dir) (s s' : Dir) (hname : s.name = s'.name) (hreadme : s.readmeTitle = s'.readmeTitle)
    (hp : ∀ chain dirs, SamePages (categoryPages M sv chain dirs false s) (categoryPages M sv chain dirs false s'))
    (chain : List (Str × Str)) (dirs : List Str) (isRoot : Bool) :
    SamePages (categoryPages M sv chain dirs isRoot (.mk n r recs (pre ++ s :: post)))
      (categoryPages M sv chain dirs isRoot (.mk n r recs (pre ++ s' :: post))) := by
  have htitle : s.title = s'.title := by
    unfold Dir.title
    rw [hreadme, hname]
  rw [SamePages, categoryPages_eq, categoryPages_eq,
    catPageOf_congr_sub sv _ _ _ n r recs pre post s s' hname htitle]
  refine ⟨rfl, .cons _ (.append_right _ ?_), rfl⟩
  simp only [Dir.subdirs, List.flatMap_append, List.flatMap_cons]
  exact .append_left _ (.append_right _ (hp _ _).2.1)

theorem eq_of_le_iff {a b : Nat} (h : ∀ c, a ≤ c ↔ b ≤ c) : a = b :=
  Nat.le_antisymm ((h b).mpr (Nat.le_refl _)) ((h a).mp (Nat.le_refl _))

theorem maxNativeServings_perm_here (n : Str) (r : Option Str) (recipes recipes' : List RecipeFile) (subdirs subdirs' : List Dir)
    (hr : recipes.Perm recipes') (hs : subdirs.Perm subdirs') :
    maxNativeServings (.mk n r recipes subdirs) = maxNativeServings (.mk n r recipes' subdirs') :=
  eq_of_le_iff fun c => by
    rw [maxNativeServings_le_iff, maxNativeServings_le_iff]
    simp only [Dir.recipes, Dir.subdirs, hr.mem_iff, hs.mem_iff]

theorem maxNativeServings_perm_sub (n : Str) (r : Option Str) (recs : List RecipeFile) (pre post : List Dir) (s s' : Dir)
    (h : maxNativeServings s = maxNativeServings s') :
    maxNativeServings (.mk n r recs (pre ++ s :: post)) = maxNativeServings (.mk n r recs (pre ++ s' :: post)) :=
  eq_of_le_iff fun c => by
    rw [maxNativeServings_le_iff, maxNativeServings_le_iff]
    simp only [Dir.recipes, Dir.subdirs, List.forall_mem_append, List.forall_mem_cons, h]

/-! ## Numbers of pages (for `C15.page_count`) -/

theorem length_recipePages (crumbs : List Str) (recipes : List RecipeFile) :
    (recipes.filterMap (recipePageAt M sv crumbs dirs)).length
      = (recipes.filter (fun r => r.servings.isSome == sv.isSome)).length := by
  induction recipes with
  | nil => rfl
  | cons r rs ih =>
    rw [List.filterMap_cons, List.filter_cons]
    cases hs : r.servings <;> cases sv <;> simp [recipePageAt, hs, ih]

theorem length_categoryPages (isRoot : Bool) (d : Dir) :
    (categoryPages M sv chain dirs isRoot d).1.length =
      1 + (d.subdirs.map fun s => (categoryPages M sv (chain ++ [(catTitle sv isRoot d, catPath sv (catDirs dirs isRoot d))])
          (catDirs dirs isRoot d) false s).1.length).sum
        + (d.recipes.filter (fun r => r.servings.isSome == sv.isSome)).length := by
  rw [categoryPages_eq]
  simp only [List.length_cons, List.length_append, length_recipePages, List.length_flatMap]
  omega

end RG
