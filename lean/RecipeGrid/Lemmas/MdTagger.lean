import RecipeGrid.Model.MdContainers
import RecipeGrid.Lemmas.MdLines
/-! The line taggers `step` (container-free) and `step2` (one level of block quote / list item): what one line does
    (`StepSpec`, `Step2`), what the tags guarantee (`TagSound`, `TagSound2`), the indentation of fence bodies, that `step2` is
    `step` on a document of **D** (`tagLines2_of_ok`, `assemble2_lift`, `inDoc2_of_inDoc`), and `Tags`: what the block
    assembly needs to know of the tagged lines it is given. -/
namespace RG

theorem tagLines_text (st : ScanSt) (ls : List Str) : (tagLines st ls).map (·.text) = ls := by
  induction ls generalizing st with
  | nil => rfl
  | cons l ls ih => simp [tagLines, ih]

theorem tagDoc_text (doc : Str) : (tagDoc doc).map (·.text) = mdLines (normaliseCrLf doc) := tagLines_text _ _

/-- what a tag says of the text of its line: a code line is indented by at least 4 spaces (and the first one is not blank), an
    opening fence line matches `fenceOpen?` with the recorded fence -/
def TagSound (t : TLine) : Prop :=
  match t.tag with
  | .codeStart => 4 ≤ leadSpaces t.text ∧ isBlankLine t.text = false
  | .codeCont => 4 ≤ leadSpaces t.text
  | .fenceOpen f => fenceOpen? t.text = some f
  | _ => True

theorem TagSound.fenceOpen {t : TLine} {f : FenceInfo} (h : TagSound t) (ht : t.tag = .fenceOpen f) :
    fenceOpen? t.text = some f := by
  simpa only [TagSound, ht] using h

theorem TagSound.codeStart {t : TLine} (h : TagSound t) (ht : t.tag = .codeStart) :
    4 ≤ leadSpaces t.text ∧ isBlankLine t.text = false := by
  simpa only [TagSound, ht] using h

def StepSpec (st : ScanSt) (l : Str) (t : LineTag) (st' : ScanSt) : Prop :=
  TagSound ⟨t, l⟩ ∧ match t with
    | .fenceOpen f => st' = .fence f
    | .fenceBody n => ∃ f, st = .fence f ∧ n = f.indent ∧ st' = .fence f
    | _ => True

theorem stepOutside_spec (st : ScanSt) (p : Bool) (l : Str) : StepSpec st l (stepOutside p l).1 (stepOutside p l).2 := by
  unfold stepOutside
  split
  · exact ⟨trivial, trivial⟩
  · rename_i hb
    split
    · rename_i h4
      split
      · exact ⟨trivial, trivial⟩
      · exact ⟨⟨h4, by simpa using hb⟩, trivial⟩
    · split
      · rename_i f hf
        exact ⟨hf, rfl⟩
      · split <;> exact ⟨trivial, trivial⟩

theorem step_spec (st : ScanSt) (l : Str) : StepSpec st l (step st l).1 (step st l).2 := by
  cases st with
  | top => exact stepOutside_spec _ _ l
  | para => exact stepOutside_spec _ _ l
  | fence f =>
    simp only [step]
    split
    · exact ⟨trivial, trivial⟩
    · exact ⟨trivial, f, rfl, rfl, rfl⟩
  | code =>
    simp only [step]
    split
    · exact ⟨trivial, trivial⟩
    · split
      · rename_i h4
        exact ⟨h4, trivial⟩
      · exact stepOutside_spec _ _ l

theorem step_sound (st : ScanSt) (l : Str) : TagSound ⟨(step st l).1, l⟩ := (step_spec st l).1

theorem step_fenceOpen (st : ScanSt) (l : Str) (f : FenceInfo) (h : (step st l).1 = .fenceOpen f) :
    (step st l).2 = .fence f := by
  have h' := (step_spec st l).2
  rwa [h] at h'

theorem step_top_not_body (l : Str) : (step .top l).1.isFenceBody = false := by
  have h := (step_spec .top l).2
  generalize (step .top l).1 = t at h ⊢
  cases t with
  | fenceBody n => exact nomatch h
  | _ => rfl

theorem step_in_fence (st : ScanSt) (f : FenceInfo) (l : Str) (hst : st = .fence f ∨ st = .top) :
    ((step st l).1 = .fenceBody f.indent ∧ (step st l).2 = .fence f) ∨ (step st l).1.isFenceBody = false := by
  have h := (step_spec st l).2
  generalize (step st l).1 = t, (step st l).2 = s' at h ⊢
  cases t with
  | fenceBody n =>
    obtain ⟨_, rfl, rfl, rfl⟩ := h
    rcases hst with ⟨⟨⟩⟩ | ⟨⟨⟩⟩
    exact .inl ⟨rfl, rfl⟩
  | _ => exact .inr rfl

theorem tagLines_sound (st : ScanSt) (ls : List Str) : ∀ t ∈ tagLines st ls, TagSound t := by
  induction ls generalizing st with
  | nil => simp [tagLines]
  | cons l ls ih =>
    intro t ht
    simp only [tagLines, List.mem_cons] at ht
    rcases ht with rfl | ht
    · exact step_sound st l
    · exact ih _ t ht

theorem fenceOpen?_indent (l : Str) (f : FenceInfo) (h : fenceOpen? l = some f) :
    f.indent = leadSpaces l ∧ f.indent ≤ 3 ∧ l.drop (leadSpaces l) ≠ [] := by
  unfold fenceOpen? at h
  simp only at h
  split at h
  · cases h
  · rename_i hk
    split at h
    · cases h
    · rename_i c r heq
      split at h
      · split at h
        · cases h
        · split at h
          · cases h
          · cases h; exact ⟨rfl, by simp at hk ⊢; omega, by rw [heq]; simp⟩
      · cases h

theorem inDoc_ok (doc : Str) (hD : inDoc doc = true) : ∀ t ∈ tagDoc doc, t.ok = true := by
  simp only [inDoc, Bool.and_eq_true, List.all_eq_true] at hD
  exact hD.2

/-- a line of the container-free tagger, seen as a top-level line of the container-aware one -/
def TLine.lift (t : TLine) : TLine2 := ⟨t.tag, t.text, 0, .none, true⟩

theorem TLine.lift_inner (t : TLine) : t.lift.inner = t := by
  cases t; simp [TLine.lift, TLine2.inner]

theorem TLine.lift_tag (t : TLine) : t.lift.tag = t.tag := rfl
theorem TLine.lift_text (t : TLine) : t.lift.text = t.text := rfl
theorem TLine.lift_ctx (t : TLine) : t.lift.ctx = .none := rfl
theorem TLine.lift_reg (t : TLine) : t.lift.reg = true := rfl

theorem plainLine_no_container (first : Bool) (l : Str) (h : plainLine first l = true) :
    quotePrefix? l = none ∧ startsListMarker (l.drop (leadSpaces l)) = false := by
  unfold plainLine at h
  simp only at h
  split at h
  · cases h
  · rename_i c r heq
    simp only [Bool.and_eq_true, bne_iff_ne, ne_eq, Bool.not_eq_true'] at h
    -- of the conjuncts of `plainLine` two are needed: the first character is not `>` (`hc`), no list marker (`hm`)
    obtain ⟨⟨⟨⟨⟨hc, _⟩, hm⟩, _⟩, _⟩, _⟩ := h
    refine ⟨?_, hm⟩
    unfold quotePrefix?
    split
    · rfl
    · rw [heq]
      split
      · rename_i c' r' e
        exact absurd (List.cons.inj e).1 hc
      · rename_i e
        exact absurd (List.cons.inj e).1 hc
      · rfl

theorem stepNone_of_ok (st : ScanSt) (l : Str) (h : TLine.ok ⟨(step st l).1, l⟩ = true) :
    stepNone st l = plainT (step st l).1 l (step st l).2 true := by
  unfold stepNone
  split
  · rename_i first htag
    rw [htag] at h ⊢
    simp only [TLine.ok] at h
    obtain ⟨h1, h2⟩ := plainLine_no_container first l h
    simp only [h1, h2, Bool.false_eq_true, if_false]
  · rfl

theorem step2_none (st : ScanSt) (l : Str) : step2 ⟨.none, st⟩ l = stepNone st l := rfl

theorem tagLines2_of_ok (st : ScanSt) (ls : List Str) (h : ∀ t ∈ tagLines st ls, t.ok = true) :
    tagLines2 ⟨.none, st⟩ ls = (tagLines st ls).map TLine.lift := by
  induction ls generalizing st with
  | nil => rfl
  | cons l ls ih =>
    simp only [tagLines, tagLines2, List.map_cons, step2_none]
    have h1 := h ⟨(step st l).1, l⟩ (by simp [tagLines])
    rw [stepNone_of_ok st l h1]
    simp only [plainT, TLine.lift]
    rw [ih]
    intro t ht
    exact h t (by simp [tagLines, ht])

theorem takeWhile_map_lift (p : LineTag → Bool) (ts : List TLine) :
    (ts.map TLine.lift).takeWhile (fun x => p x.tag) = (ts.takeWhile (fun x => p x.tag)).map TLine.lift := by
  induction ts with
  | nil => rfl
  | cons t ts ih =>
    simp only [List.map_cons, List.takeWhile_cons]
    rw [TLine.lift_tag]
    split
    · rw [List.map_cons, ih]
    · rfl

theorem map_inner_lift (ts : List TLine) : (ts.map TLine.lift).map TLine2.inner = ts := by
  induction ts with
  | nil => rfl
  | cons t ts ih => simp only [List.map_cons, TLine.lift_inner, ih]

theorem assemble2_lift (pos line : Nat) (ts : List TLine) :
    assemble2 pos line (ts.map TLine.lift) = assemble pos line ts := by
  induction ts generalizing pos line with
  | nil => rfl
  | cons t ts ih =>
    simp only [List.map_cons, assemble2, assemble]
    rw [TLine.lift_tag, TLine.lift_text, ih]
    congr 1
    cases ht : t.tag with
    | fenceOpen f => simp only [takeWhile_map_lift LineTag.isFenceBody, map_inner_lift]
    | codeStart =>
      simp only [takeWhile_map_lift LineTag.isCodeMore, TLine.lift_inner, map_inner_lift]
    | _ => rfl

theorem TLine.lift_ok (t : TLine) (h : t.ok = true) : t.lift.ok = true := by
  unfold TLine2.ok
  rw [TLine.lift_inner, h, TLine.lift_tag, TLine.lift_text, TLine.lift_ctx, TLine.lift_reg]
  simp only [Bool.true_and, beq_self_eq_true, Bool.true_or]
  split
  · rename_i f hf
    simp only [TLine.ok, hf] at h
    exact h
  · rfl
  · rfl

theorem tagDoc2_of_inDoc (doc : Str) (hD : inDoc doc = true) : tagDoc2 doc = (tagDoc doc).map TLine.lift :=
  tagLines2_of_ok _ _ (inDoc_ok doc hD)

theorem scanBlocks2_of_inDoc (doc : Str) (hD : inDoc doc = true) : scanBlocks2 doc = scanBlocks doc := by
  rw [scanBlocks2, tagDoc2_of_inDoc doc hD, assemble2_lift]; rfl

theorem inDoc2_of_inDoc (doc : Str) (hD : inDoc doc = true) : inDoc2 doc = true := by
  have hall := inDoc_ok doc hD
  simp only [inDoc, Bool.and_eq_true] at hD
  simp only [inDoc2, Bool.and_eq_true, hD.1, true_and, tagDoc2_of_inDoc doc (by simp only [inDoc, Bool.and_eq_true]; exact hD),
    List.all_map, List.all_eq_true]
  intro t ht
  exact TLine.lift_ok t (hall t ht)

theorem isCPrefix_nil : isCPrefix [] = true := by decide

theorem isCPrefix_spaces (p : Nat) : isCPrefix (List.replicate p ' ') = true := by
  simp [isCPrefix]

theorem isCPrefix_quote (i : Nat) (hi : i ≤ 3) :
    isCPrefix (List.replicate i ' ' ++ ['>']) = true ∧ isCPrefix (List.replicate i ' ' ++ ['>', ' ']) = true := by
  have h := fun r : Str => span_run (· == ' ') (List.replicate i ' ') ('>' :: r) (by simp) (by simp)
  constructor
  · simp only [isCPrefix, (h []).1, (h []).2, List.length_replicate]
    simp [hi]
  · simp only [isCPrefix, (h [' ']).1, (h [' ']).2, List.length_replicate]
    simp [hi]

theorem take_replicate_append (i n : Nat) (r : Str) :
    (List.replicate i ' ' ++ r).take (i + n) = List.replicate i ' ' ++ r.take n := by
  induction i with
  | zero => simp
  | succ i ih => rw [List.replicate_succ, List.cons_append, show i + 1 + n = (i + n) + 1 by omega, List.take_succ_cons, ih]; rfl

theorem quotePrefix_cprefix (l : Str) (p : Nat) (h : quotePrefix? l = some p) (hr : quoteReg l = true) :
    isCPrefix (l.take p) = true := by
  unfold quotePrefix? at h
  unfold quoteReg at hr
  have hsplit := leadSpaces_split l (leadSpaces l) (Nat.le_refl _)
  generalize leadSpaces l = i at h hr hsplit
  split at h
  · cases h
  · rename_i h3
    split at h
    · rename_i c r heq
      rw [heq] at hsplit hr
      simp only [Option.some.injEq] at h
      simp only [Bool.or_eq_true, Bool.not_eq_true', beq_iff_eq] at hr
      by_cases hq : isQuoteWs c = true
      · have hc : c = ' ' := by
          rcases hr with hr | hr
          · rw [hr] at hq; cases hq
          · exact hr
        subst hc
        simp only [hq, if_true] at h
        rw [← h, hsplit, take_replicate_append]
        exact (isCPrefix_quote _ (by omega)).2
      · simp only [hq, Bool.false_eq_true, if_false] at h
        rw [← h, hsplit, take_replicate_append]
        exact (isCPrefix_quote _ (by omega)).1
    · rename_i heq
      rw [heq] at hsplit
      simp only [Option.some.injEq] at h
      rw [← h, hsplit, take_replicate_append]
      exact (isCPrefix_quote _ (by omega)).1
    · cases h

theorem itemPrefix_cprefix (k : Nat) (l : Str) (p : Nat) (h : itemPrefix? k l = some p) :
    isCPrefix (l.take p) = true := by
  have key : p ≤ leadSpaces l := by
    unfold itemPrefix? at h
    split at h
    · simp only [Option.some.injEq] at h; omega
    · split at h
      · simp only [Option.some.injEq] at h; omega
      · cases h
  have hsplit := leadSpaces_split l p key
  have : l.take p = List.replicate p ' ' := by
    conv => lhs; rw [hsplit]
    rw [List.take_left' (by simp)]
  rw [this]
  exact isCPrefix_spaces p

structure TagSound2 (t : TLine2) : Prop where
  inner : TagSound t.inner
  pfx_zero : t.ctx = .none → t.pfx = 0
  /-- the prefix of a regular line of a code block is one of the container prefixes of **D2** -/
  cprefix : t.reg = true → (t.tag.isFenceBody || t.tag.isCode) = true → isCPrefix (t.text.take t.pfx) = true
  /-- a regular line inside a container is not its prefix alone -/
  inner_ne : t.reg = true → t.ctx ≠ .none → t.text.drop t.pfx ≠ []

/-- what `step2 s l` can be; `st'`: the inner tagger runs in the current state, or (a container was left or opened) afresh -/
inductive Step2 (s : St2) (l : Str) : TLine2 × St2 → Prop
  | plain (st' : ScanSt) (reg : Bool) (hst : st' = s.st ∨ st' = .top) :
      Step2 s l (⟨(step st' l).1, l, 0, .none, reg⟩, ⟨.none, (step st' l).2⟩)
  /-- a line behind the prefix (of length `p`) of a container: its first line, or a later one -/
  | behind (st' : ScanSt) (ctx : Ctx) (p : Nat) (reg : Bool) (hst : st' = s.st ∨ st' = .top) (hc : ctx ≠ .none)
      (hreg : reg = true → ((step st' (l.drop p)).1.isFenceBody || (step st' (l.drop p)).1.isCode) = true →
        isCPrefix (l.take p) = true) :
      Step2 s l (⟨(step st' (l.drop p)).1, l, p, ctx, reg && !(l.drop p).isEmpty⟩, ⟨ctx, (step st' (l.drop p)).2⟩)
  | lazy (hc : s.ctx ≠ .none) : Step2 s l (⟨.lazy, l, 0, s.ctx, lazyReg l⟩, s)

theorem stepNone_spec (s : St2) (st : ScanSt) (l : Str) (hst : st = s.st ∨ st = .top) : Step2 s l (stepNone st l) := by
  unfold stepNone
  split
  · rename_i first htag
    rw [← htag]
    split
    · rename_i p hp
      exact .behind _ _ _ _ (.inr rfl) (by simp) fun hr _ => quotePrefix_cprefix l p hp hr
    · split
      · split
        · split
          · exact .plain _ _ hst
          · -- a regular first line of a list item is no code line, and no line tagged from `.top` is a fence body
            refine .behind _ _ _ _ (.inr rfl) (by simp) fun hr hb => ?_
            simp [step_top_not_body] at hb
            simp [hb] at hr
        · exact .plain _ _ hst
      · exact .plain _ _ hst
  · exact .plain _ _ hst

theorem step2_spec (s : St2) (l : Str) : Step2 s l (step2 s l) := by
  unfold step2
  split
  · exact stepNone_spec s _ l (.inl rfl)
  · rename_i hc
    unfold stepIn
    split
    · rename_i p hp
      refine .behind _ _ p _ (.inl rfl) hc fun hr _ => ?_
      cases hs : s.ctx with
      | none => exact absurd hs hc
      | quote => rw [hs] at hp hr; exact quotePrefix_cprefix l p hp hr
      | item k => rw [hs] at hp; exact itemPrefix_cprefix k l p hp
    · split
      · exact .lazy hc
      · exact stepNone_spec s _ l (.inr rfl)

theorem lazyReg_ne_nil (l : Str) (h : lazyReg l = true) : l ≠ [] := by
  rintro rfl
  revert h
  decide

theorem step2_sound (s : St2) (l : Str) : TagSound2 (step2 s l).1 := by
  have h := step2_spec s l
  generalize step2 s l = r at h ⊢
  cases h with
  | plain st' reg hst => exact ⟨step_sound st' l, fun _ => rfl, fun _ _ => isCPrefix_nil, fun _ h => absurd rfl h⟩
  | behind st' ctx p reg hst hc hreg =>
    exact ⟨step_sound st' (l.drop p), fun h => absurd h hc, fun hr => hreg (Bool.and_eq_true_iff.1 hr).1,
      fun hr _ => by simpa using (Bool.and_eq_true_iff.1 hr).2⟩
  | lazy hc => exact ⟨trivial, fun h => absurd h hc, (fun _ hb => by cases hb), fun hr _ => lazyReg_ne_nil l hr⟩

theorem step2_text (s : St2) (l : Str) : (step2 s l).1.text = l := by
  have h := step2_spec s l
  generalize step2 s l = r at h ⊢
  cases h <;> rfl

theorem tagLines2_text (s : St2) (ls : List Str) : (tagLines2 s ls).map (·.text) = ls := by
  induction ls generalizing s with
  | nil => rfl
  | cons l ls ih => simp [tagLines2, ih, step2_text]

theorem tagDoc2_text (doc : Str) : (tagDoc2 doc).map (·.text) = mdLines (normaliseCrLf doc) := tagLines2_text _ _

theorem tagLines2_sound (s : St2) (ls : List Str) : ∀ t ∈ tagLines2 s ls, TagSound2 t := by
  induction ls generalizing s with
  | nil => simp [tagLines2]
  | cons l ls ih =>
    intro t ht
    simp only [tagLines2, List.mem_cons] at ht
    rcases ht with rfl | ht
    · exact step2_sound s l
    · exact ih _ t ht

theorem step2_fenceOpen (s : St2) (l : Str) (f : FenceInfo) (h : (step2 s l).1.tag = .fenceOpen f) :
    (step2 s l).2.st = .fence f := by
  have h' := step2_spec s l
  generalize step2 s l = r at h h' ⊢
  cases h' with
  | lazy => cases h
  | _ => exact step_fenceOpen _ _ f h

theorem step2_in_fence (c : Ctx) (f : FenceInfo) (l : Str) :
    ((step2 ⟨c, .fence f⟩ l).1.tag = .fenceBody f.indent ∧ (step2 ⟨c, .fence f⟩ l).2.st = .fence f) ∨
      (step2 ⟨c, .fence f⟩ l).1.tag.isFenceBody = false := by
  have h := step2_spec ⟨c, .fence f⟩ l
  generalize step2 ⟨c, .fence f⟩ l = r at h ⊢
  cases h with
  | lazy => exact .inr rfl
  | _ => exact step_in_fence _ f _ ‹_›

theorem St2.eq_of_st {s : St2} {x : ScanSt} (h : s.st = x) : s = ⟨s.ctx, x⟩ := by
  cases s
  rw [← h]

theorem tagLines2_fence_body (c : Ctx) (f : FenceInfo) (ls : List Str) :
    ∀ x ∈ (tagLines2 ⟨c, .fence f⟩ ls).takeWhile (·.tag.isFenceBody), x.tag = .fenceBody f.indent := by
  induction ls generalizing c with
  | nil => simp [tagLines2]
  | cons l ls ih =>
    simp only [tagLines2]
    rcases step2_in_fence c f l with ⟨h1, h2⟩ | h
    · rw [St2.eq_of_st h2]
      simp only [List.takeWhile_cons, h1, LineTag.isFenceBody, if_true]
      intro x hx
      rcases List.mem_cons.1 hx with rfl | hx
      · exact h1
      · exact ih _ x hx
    · simp [h]

theorem tagLines2_body_indent (s : St2) (ls : List Str) (pre : List TLine2) (t : TLine2) (rest : List TLine2)
    (f : FenceInfo) (h : tagLines2 s ls = pre ++ t :: rest) (ht : t.tag = .fenceOpen f) :
    ∀ x ∈ rest.takeWhile (·.tag.isFenceBody), x.tag = .fenceBody f.indent := by
  induction ls generalizing s pre with
  | nil => simp [tagLines2] at h
  | cons l ls ih =>
    simp only [tagLines2] at h
    cases pre with
    | nil =>
      simp only [List.nil_append, List.cons.injEq] at h
      obtain ⟨h1, h2⟩ := h
      rw [← h1] at ht
      rw [St2.eq_of_st (step2_fenceOpen s l f ht)] at h2
      rw [← h2]
      exact tagLines2_fence_body _ f ls
    | cons p pre =>
      simp only [List.cons_append, List.cons.injEq] at h
      exact ih _ pre h.2

/-- the length of the text of the lines `ts`: the offset of the line that follows them -/
def lenSum2 (ts : List TLine2) : Nat := (ts.map (·.text.length)).sum
/-- the number of lines Python sees in the lines `ts`: one less than the number of the line that follows them -/
def lineSum2 (ts : List TLine2) : Nat := (ts.map (fun t => pyLineCount t.text)).sum

theorem lenSum2_eq (ts : List TLine2) : lenSum2 ts = ((ts.map (·.text)).flatten).length := by
  induction ts with
  | nil => rfl
  | cons t ts ih => simp [lenSum2] at ih ⊢; omega

theorem lineSum2_eq (ts : List TLine2) : lineSum2 ts = ((ts.map (·.text)).map pyLineCount).sum := by
  simp [lineSum2, List.map_map, Function.comp_def]

theorem inDoc2_ok (doc : Str) (hD : inDoc2 doc = true) : ∀ t ∈ tagDoc2 doc, t.ok = true := by
  simp only [inDoc2, Bool.and_eq_true, List.all_eq_true] at hD
  exact hD.2

theorem tagDoc2_mem (doc : Str) (hD : inDoc2 doc = true) (x : TLine2) (hx : x ∈ tagDoc2 doc) :
    TagSound2 x ∧ MdLine x.text ∧ x.ok = true :=
  ⟨tagLines2_sound _ _ x hx,
    (mdLines_ok (normaliseCrLf doc)).mdLine x.text (by rw [← tagDoc2_text]; exact List.mem_map_of_mem hx),
    inDoc2_ok doc hD x hx⟩

/-- `ts` tags the marko lines of `doc`, soundly: all that the block assembly needs to know of the lines it is given.  The
    two instances are the container-aware tagger's lines and the container-free tagger's, read as top-level lines. -/
structure Tags (doc : Str) (ts : List TLine2) : Prop where
  text : ts.map (·.text) = mdLines (normaliseCrLf doc)
  sound : ∀ t ∈ ts, TagSound t.inner

theorem Tags.doc2 (doc : Str) : Tags doc (tagDoc2 doc) :=
  ⟨tagDoc2_text doc, fun t ht => (tagLines2_sound _ _ t ht).inner⟩

theorem Tags.doc (doc : Str) : Tags doc ((tagDoc doc).map TLine.lift) :=
  ⟨by rw [List.map_map]; exact tagDoc_text doc,
    List.forall_mem_map.2 fun t ht => by rw [TLine.lift_inner]; exact tagLines_sound _ _ t ht⟩

section
variable {doc : Str} {pre : List TLine2} {t : TLine2} {rest : List TLine2}

theorem Tags.mdLines_eq (h : Tags doc (pre ++ t :: rest)) :
    mdLines (normaliseCrLf doc) = pre.map (·.text) ++ t.text :: rest.map (·.text) := by
  rw [← h.text]; simp

theorem Tags.linesOk (h : Tags doc (pre ++ t :: rest)) : LinesOk (pre.map (·.text) ++ t.text :: rest.map (·.text)) := by
  rw [← h.mdLines_eq]; exact mdLines_ok _

theorem Tags.norm (h : Tags doc (pre ++ t :: rest)) :
    normaliseCrLf doc = (pre.map (·.text)).flatten ++ (t.text ++ (rest.map (·.text)).flatten) := by
  conv => lhs; rw [← mdLines_flatten (normaliseCrLf doc), h.mdLines_eq]
  simp

theorem Tags.drop_start (h : Tags doc (pre ++ t :: rest)) :
    (normaliseCrLf doc).drop (lenSum2 pre) = t.text ++ (rest.map (·.text)).flatten := by
  rw [h.norm, lenSum2_eq, List.drop_left' rfl]

theorem Tags.line_of_start (h : Tags doc (pre ++ t :: rest)) :
    (offsetToLineCol (crToLf (normaliseCrLf doc)) (lenSum2 pre)).1 = lineSum2 pre + 1 := by
  rw [lenSum2_eq, lineSum2_eq]
  exact RG.line_of_start _ _ _ _ h.mdLines_eq

end

theorem Tags.mdLine {doc : Str} {ts : List TLine2} (h : Tags doc ts) : ∀ t ∈ ts, MdLine t.text := fun t ht =>
  (mdLines_ok (normaliseCrLf doc)).mdLine t.text (by rw [← h.text]; exact List.mem_map_of_mem ht)

end RG
