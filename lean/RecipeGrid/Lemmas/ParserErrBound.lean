import RecipeGrid.Lemmas.ParserErr
import RecipeGrid.Lemmas.PosBound
import RecipeGrid.Lemmas.PegMono
/-! Invariants of the furthest failure recorded by `Model/ParserErr.lean` (`Good`): started inside the
    text, a rule ends inside the text and not before its start; every failure it records lies between its start and the
    end of the text; and a rule that fails has recorded a failure.  Here the combinators and the terminals; the rules
    are walked in `Lemmas/BuiltSh.lean`.  Because a good rule ends at or after its start, two rules that agree from a
    position on (`EqFrom`) stay so under the combinators: that is how the fuel of `string` and `expr` is shown not to matter. -/
namespace RG
namespace ParserE
open Parser (P PState Mono Adv)
open Parser.PosBound (Bd Top)

theorem fmax_some {a b : Far} {f : Nat} (h : fmax a b = some f) : a = some f ∨ b = some f := by
  cases a with
  | none => right; simpa using h
  | some x =>
    cases b with
    | none => left; simpa using h
    | some y =>
      simp only [fmax, Option.some.injEq] at h
      by_cases hxy : x ≤ y
      · right; rw [← h, Nat.max_eq_right hxy]
      · left; rw [← h, Nat.max_eq_left (by omega)]

theorem fmax_ne_none_left {a : Far} (b : Far) (h : a ≠ none) : fmax a b ≠ none := by
  cases a with
  | none => exact absurd rfl h
  | some x => cases b <;> simp [fmax]

theorem fmax_ne_none_right (a : Far) {b : Far} (h : b ≠ none) : fmax a b ≠ none := by
  cases b with
  | none => exact absurd rfl h
  | some x => cases a <;> simp [fmax]

theorem le_fmax_left {a b : Far} {x : Nat} (h : a = some x) : ∃ f, fmax a b = some f ∧ x ≤ f := by
  subst h
  cases b with
  | none => exact ⟨x, rfl, Nat.le_refl _⟩
  | some y => exact ⟨max x y, rfl, Nat.le_max_left _ _⟩

theorem le_fmax_right {a b : Far} {y : Nat} (h : b = some y) : ∃ f, fmax a b = some f ∧ y ≤ f := by
  subst h
  cases a with
  | none => exact ⟨y, rfl, Nat.le_refl _⟩
  | some x => exact ⟨max x y, rfl, Nat.le_max_right _ _⟩

def Good {α} (pe : PE α) : Prop := ∀ (t : Array Char) (s : PState), s.pos ≤ t.size →
  (∀ a s', (pe t s).1 = some (a, s') → s.pos ≤ s'.pos ∧ s'.pos ≤ t.size) ∧
  (∀ f, (pe t s).2 = some f → s.pos ≤ f ∧ f ≤ t.size) ∧
  ((pe t s).1 = none → (pe t s).2 ≠ none)

theorem Good.fail_far {α} {pe : PE α} (h : Good pe) {t : Array Char} {s : PState} (hs : s.pos ≤ t.size)
    (hf : (pe t s).1 = none) : ∃ f, (pe t s).2 = some f ∧ s.pos ≤ f ∧ f ≤ t.size := by
  obtain ⟨_, h2, h3⟩ := h t s hs
  cases hfar : (pe t s).2 with
  | none => exact absurd hfar (h3 hf)
  | some f => exact ⟨f, rfl, h2 f hfar⟩

theorem Good.ends {α : Type} {m : PE α} (hg : Good m) {t : Array Char} {s s1 : PState} {x : α} (hs : s.pos ≤ t.size)
    (hr : (m t s).1 = some (x, s1)) : s.pos ≤ s1.pos ∧ s1.pos ≤ t.size :=
  (hg t s hs).1 x s1 hr

/-- `p` is no expression of the grammar: it records nothing and has nothing to record -/
theorem Good.lift {α} {p : P α}
    (h : ∀ t s, s.pos ≤ t.size → ∃ a s', p t s = some (a, s') ∧ s.pos ≤ s'.pos ∧ s'.pos ≤ t.size) : Good (lift p) := by
  intro t s hs
  obtain ⟨a, s', e, h1, h2⟩ := h t s hs
  unfold ParserE.lift
  rw [e]
  refine ⟨?_, ?_, ?_⟩
  · intro a' s'' e'; cases e'; exact ⟨h1, h2⟩
  · intro f e'; cases e'
  · intro e'; cases e'

theorem Good.pure {α} (a : α) : Good (pure a : PE α) :=
  Good.lift (p := Pure.pure a) fun _ s hs => ⟨a, s, rfl, Nat.le_refl _, hs⟩

theorem Good.term {α} {p : P α} (hm : Mono p) (hb : ∀ t, Bd t p Top) : Good (term p) := by
  intro t s hs
  rw [term_apply]
  cases hp : p t s with
  | none =>
    refine ⟨?_, ?_, ?_⟩
    · intro a s' e; cases e
    · intro f e; cases e; exact ⟨Nat.le_refl _, hs⟩
    · intro _ e; cases e
  | some r =>
    obtain ⟨a, s1⟩ := r
    refine ⟨?_, ?_, ?_⟩
    · intro a' s' e; cases e; exact ⟨hm t s a s1 hp, (hb t s a s1 hs hp).1⟩
    · intro f e; cases e
    · intro e; cases e

theorem Good.fail {α} : Good (fail : PE α) :=
  Good.term Parser.adv_fail.mono fun _ => Bd.fail

theorem Good.bind {α β} {m : PE α} {f : α → PE β} (hm : Good m) (hf : ∀ a, Good (f a)) : Good (m >>= f) := by
  intro t s hs
  obtain ⟨h1, h2, h3⟩ := hm t s hs
  rw [bind_apply]
  cases hr : (m t s).1 with
  | none =>
    refine ⟨?_, h2, fun _ => h3 hr⟩
    intro a s' e; cases e
  | some r =>
    obtain ⟨a, s1⟩ := r
    obtain ⟨hle, hsz⟩ := h1 a s1 hr
    obtain ⟨g1, g2, g3⟩ := hf a t s1 hsz
    refine ⟨?_, ?_, ?_⟩
    · intro b s' e
      obtain ⟨k1, k2⟩ := g1 b s' e
      exact ⟨Nat.le_trans hle k1, k2⟩
    · intro x e
      rcases fmax_some e with e | e
      · exact h2 x e
      · obtain ⟨k1, k2⟩ := g2 x e
        exact ⟨Nat.le_trans hle k1, k2⟩
    · intro e
      exact fmax_ne_none_right _ (g3 e)

theorem Good.orElse {α} {p q : PE α} (hp : Good p) (hq : Good q) : Good (p <|> q) := by
  intro t s hs
  obtain ⟨h1, h2, h3⟩ := hp t s hs
  obtain ⟨g1, g2, g3⟩ := hq t s hs
  rw [orElse_apply]
  cases hr : (p t s).1 with
  | some r =>
    refine ⟨?_, h2, ?_⟩
    · intro a s' e; cases e; exact h1 _ _ hr
    · intro e; cases e
  | none =>
    refine ⟨g1, ?_, fun e => fmax_ne_none_right _ (g3 e)⟩
    intro x e
    rcases fmax_some e with e | e
    · exact h2 x e
    · exact g2 x e

theorem Good.getPos : Good getPos := Good.lift fun _ s hs => ⟨s.pos, s, rfl, Nat.le_refl _, hs⟩

theorem Good.remaining : Good remaining := Good.lift fun t s hs => ⟨t.size - s.pos, s, rfl, Nat.le_refl _, hs⟩

theorem Good.manyF {α} {p : PE α} (hp : Good p) : ∀ fuel, Good (manyF p fuel)
  | 0 => Good.pure _
  | fuel + 1 => by
    unfold ParserE.manyF
    exact Good.orElse (Good.bind hp fun _ => Good.bind (Good.manyF hp fuel) fun _ => Good.pure _) (Good.pure _)

theorem Good.many {α} {p : PE α} (hp : Good p) : Good (many p) :=
  Good.bind Good.remaining fun fuel => Good.manyF hp fuel

theorem Good.withText {α} {p : PE α} (hp : Good p) : Good (withText p) := by
  intro t s hs
  obtain ⟨h1, h2, h3⟩ := hp t s hs
  unfold ParserE.withText
  cases hr : (p t s).1 with
  | none =>
    refine ⟨?_, h2, fun _ => h3 hr⟩
    intro a s' e; cases e
  | some r =>
    obtain ⟨a, s1⟩ := r
    refine ⟨?_, h2, ?_⟩
    · intro a' s' e; cases e; exact h1 a s1 hr
    · intro e; cases e

theorem Good.textOf {p : PE Unit} (hp : Good p) : Good (textOf p) :=
  Good.bind (Good.withText hp) fun _ => Good.pure _

theorem Good.skipManyOpt (p : Char → Bool) : Good (skipManyOpt p) := by
  intro t s hs
  unfold ParserE.skipManyOpt
  refine ⟨?_, ?_, ?_⟩
  · intro a s' e
    cases e
    exact ⟨Parser.spanEnd_go_ge p t _ _, Parser.spanEnd_le p hs⟩
  · intro f e
    simp only at e
    split at e
    · cases e; exact ⟨Nat.le_refl _, hs⟩
    · cases e
  · intro e; cases e

/-- `r"[ \t]*"` in `eol`: always matches -/
theorem Good.liftOhsp : Good (ParserE.lift Parser.ohsp) :=
  Good.lift fun t s hs => ⟨(), ⟨Parser.spanEnd isHsp t s.pos, s.zero⟩, rfl, Parser.spanEnd_go_ge _ t _ _,
    Parser.spanEnd_le _ hs⟩

theorem Good.of_endsRx {α} {p : P α} {r : Rx} (h : Rx.EndsRx p r) : Good (ParserE.term p) :=
  Good.term h.mono fun _ => Parser.PosBound.Bd.of_endsRx h

theorem Good.lit (c : Char) : Good (lit c) := Good.term (Parser.adv_lit c).mono fun _ => Parser.PosBound.lit_bd c
theorem Good.hsp : Good hsp := Good.term Parser.mono_hsp fun _ => Parser.PosBound.hsp_bd
theorem Good.ohsp : Good ohsp := Good.skipManyOpt _
theorem Good.osp : Good osp := Good.skipManyOpt _
theorem Good.eof : Good eof := Good.term Parser.mono_eof fun _ => Parser.PosBound.eof_bd
theorem Good.digits : Good digits := Good.of_endsRx (Rx.EndsRx.of_void Rx.scanIs_digits)
theorem Good.decimal : Good decimal := Good.of_endsRx (Rx.EndsRx.of_void Rx.scanIs_decimal)
theorem Good.nakedString : Good nakedString := Good.of_endsRx (Rx.EndsRx.of_void Rx.scanIs_nakedString)
theorem Good.sat (p : Char → Bool) : Good (ParserE.term (Parser.sat p)) :=
  Good.term (Parser.adv_sat p).mono fun _ => Parser.PosBound.sat_bd p
theorem Good.preposition : Good preposition := Good.of_endsRx Rx.scanIs_preposition.endsRx
theorem Good.remainder : Good remainder := Good.of_endsRx Rx.scanIs_remainder.endsRx
theorem Good.knownUnit : Good knownUnit := Good.of_endsRx Rx.scanIs_knownUnit.endsRx
theorem Good.assign : Good assign := Good.of_endsRx (Rx.EndsRx.of_void Rx.scanIs_assign)

theorem mono_denominator : Mono denominator := by
  unfold denominator
  refine Parser.mono_bind Parser.adv_digits.mono fun ds => ?_
  split
  · exact Parser.adv_fail.mono
  · exact Parser.mono_pure _

theorem denominator_bd {t : Array Char} : Bd t denominator Top := by
  unfold denominator
  refine Bd.bind Parser.PosBound.digits_bd fun ds _ => ?_
  split
  · exact Bd.fail
  · exact Bd.pure trivial

theorem Good.denominator : Good (ParserE.term ParserE.denominator) := Good.term mono_denominator fun _ => denominator_bd
theorem Good.eolBreak : Good (ParserE.term ParserE.eolBreak) := Good.of_endsRx Rx.scanIs_eolBreak.endsRx

theorem far_bind_ge {α β} {m : PE α} {f : α → PE β} {t : Array Char} {s s1 : PState} {a : α} {y : Nat}
    (hm : (m t s).1 = some (a, s1)) (h : ∃ x, (f a t s1).2 = some x ∧ y ≤ x) :
    ∃ x, ((m >>= f) t s).2 = some x ∧ y ≤ x := by
  obtain ⟨x, hx, hle⟩ := h
  obtain ⟨z, hz, hxz⟩ := le_fmax_right (a := (m t s).2) hx
  rw [bind_apply, hm]
  exact ⟨z, hz, Nat.le_trans hle hxz⟩

theorem far_bind_left {α β} {m : PE α} {f : α → PE β} {t : Array Char} {s : PState} {x : Nat}
    (h : (m t s).2 = some x) : ∃ z, ((m >>= f) t s).2 = some z ∧ x ≤ z := by
  rw [bind_apply]
  cases (m t s).1 with
  | none => exact ⟨x, h, Nat.le_refl _⟩
  | some r => exact le_fmax_left h

theorem bind_fst {α β} (m : PE α) (f : α → PE β) {t : Array Char} {s s1 : PState} {a : α}
    (hm : (m t s).1 = some (a, s1)) : ((m >>= f) t s).1 = (f a t s1).1 := by
  rw [bind_apply, hm]

def AdvE {α : Type} (pe : PE α) : Prop :=
  ∀ (t : Array Char) (s : PState) x s1, s.pos ≤ t.size → (pe t s).1 = some (x, s1) → s.pos < s1.pos

theorem AdvE.of_sim {α : Type} {pe : PE α} {p : P α} (h : Sim pe p) (ha : Adv p) : AdvE pe := by
  intro t s x s1 _ e
  rw [h t s] at e
  exact ha t s x s1 e

/-- `p'` does on `t` what `p` does, from every position between `lo` and the end of the text -/
def EqFrom {α : Type} (t : Array Char) (lo : Nat) (p' p : PE α) : Prop :=
  ∀ s : PState, lo ≤ s.pos → s.pos ≤ t.size → p' t s = p t s

section
variable {α β : Type} {t : Array Char} {lo : Nat}

theorem EqFrom.refl (p : PE α) : EqFrom t lo p p := fun _ _ _ => rfl

theorem EqFrom.bind_left {m' m : PE α} (hm : EqFrom t lo m' m) (f : α → PE β) : EqFrom t lo (m' >>= f) (m >>= f) :=
  fun s h1 h2 => by rw [bind_apply, bind_apply, hm s h1 h2]

/-- the continuations have to agree only from `lo1` on, before which `m` does not end -/
theorem EqFrom.bind_of {m' m : PE α} {f' f : α → PE β} {lo1 : Nat} (hm : EqFrom t lo m' m)
    (hf : ∀ x, EqFrom t lo1 (f' x) (f x))
    (hend : ∀ (s : PState) x s1, lo ≤ s.pos → s.pos ≤ t.size → (m t s).1 = some (x, s1) →
      lo1 ≤ s1.pos ∧ s1.pos ≤ t.size) : EqFrom t lo (m' >>= f') (m >>= f) := by
  intro s h1 h2
  rw [bind_apply, bind_apply, hm s h1 h2]
  cases hr : (m t s).1 with
  | none => rfl
  | some r =>
    obtain ⟨e1, e2⟩ := hend s r.1 r.2 h1 h2 hr
    exact congrArg (fun z => (z.1, fmax (m t s).2 z.2)) (hf r.1 r.2 e1 e2)

theorem EqFrom.bind {m' m : PE α} {f' f : α → PE β} (hg : Good m) (hm : EqFrom t lo m' m)
    (hf : ∀ x, EqFrom t lo (f' x) (f x)) : EqFrom t lo (m' >>= f') (m >>= f) :=
  hm.bind_of hf fun _ _ _ h1 h2 hr => ⟨Nat.le_trans h1 (hg.ends h2 hr).1, (hg.ends h2 hr).2⟩

theorem EqFrom.bind_adv {m : PE α} {f' f : α → PE β} (hg : Good m) (ha : AdvE m)
    (hf : ∀ x, EqFrom t (lo + 1) (f' x) (f x)) : EqFrom t lo (m >>= f') (m >>= f) :=
  (EqFrom.refl m).bind_of hf fun s x s1 h1 h2 hr => ⟨Nat.lt_of_le_of_lt h1 (ha t s x s1 h2 hr), (hg.ends h2 hr).2⟩

theorem EqFrom.orElse {p' p q' q : PE α} (hp : EqFrom t lo p' p) (hq : EqFrom t lo q' q) :
    EqFrom t lo (p' <|> q') (p <|> q) :=
  fun s h1 h2 => by rw [orElse_apply, orElse_apply, hp s h1 h2, hq s h1 h2]

theorem EqFrom.manyF {p' p : PE α} (hg : Good p) (h : EqFrom t lo p' p) : ∀ fuel, EqFrom t lo (manyF p' fuel) (manyF p fuel)
  | 0 => .refl _
  | fuel + 1 => by
    unfold ParserE.manyF
    exact .orElse (.bind hg h fun _ => (EqFrom.manyF hg h fuel).bind_left _) (.refl _)

theorem EqFrom.many {p' p : PE α} (hg : Good p) (h : EqFrom t lo p' p) : EqFrom t lo (many p') (many p) :=
  .bind Good.remaining (.refl _) fun fuel => .manyF hg h fuel

end

end ParserE
end RG
