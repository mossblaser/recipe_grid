import RecipeGrid.Lemmas.ReTerm
/-! The engine in direct style.  `Rx.run` is written with continuations; `Rx.ends` lists where the matches of an expression
    from a position end, in the order in which the backtracking engine finds them, and a run is the first answer of its
    continuation over that list (`run_eq_findSome`).  What the engine asks of its continuation, and what it answers, is then
    read off the list: its members lie between the start and the end of the text, and after the start when the expression
    is not nullable. -/
namespace RG
namespace Rx
variable {α : Type}

theorem findSome?_flatMap {β γ : Type} (g : β → List γ) (f : γ → Option α) :
    ∀ l : List β, (l.flatMap g).findSome? f = l.findSome? fun b => (g b).findSome? f
  | [] => rfl
  | b :: l => by
    rw [List.flatMap_cons, List.findSome?_append, findSome?_flatMap g f l, List.findSome?_cons]
    cases (g b).findSome? f <;> rfl

def stepEnds (t : Array Char) (p : Char → Bool) (i : Nat) : List Nat :=
  match t[i]? with
  | some c => if p c then [i + 1] else []
  | none => []

/-- the greedy loop: another round first, leaving the loop last -/
def starEnds (e : Nat → List Nat) : Nat → Nat → List Nat
  | 0, i => [i]
  | fuel + 1, i => (e i).flatMap (starEnds e fuel) ++ [i]

def ends (t : Array Char) (base : Nat) : Rx → Nat → List Nat
  | eps, i => [i]
  | chr c, i => stepEnds t (· == c) i
  | ichr c, i => stepEnds t (ciMatches · c) i
  | any, i => stepEnds t (fun _ => true) i
  | cls neg items, i => stepEnds t (clsTest neg items) i
  | seq a b, i => (ends t base a i).flatMap (ends t base b)
  | alt a b, i => ends t base a i ++ ends t base b i
  | star a, i => starEnds (ends t base a) (t.size - i) i
  | plus a, i => (ends t base a i).flatMap fun j => starEnds (ends t base a) (t.size - j) j
  | opt a, i => ends t base a i ++ [i]
  | grp _ a, i => ends t base a i
  | bound, i => if boundaryAt t base i then [i] else []

theorem step_eq_findSome (t : Array Char) (p : Char → Bool) (i : Nat) (k : K α) :
    step t p i k = (stepEnds t p i).findSome? k := by
  simp only [step, stepEnds]
  cases t[i]? with
  | none => rfl
  | some c => cases hp : p c <;> simp [hp]

theorem starK_eq_findSome {ma : Nat → K α → Option α} {e : Nat → List Nat}
    (h : ∀ i k, ma i k = (e i).findSome? k) : ∀ fuel i (k : K α), starK ma fuel i k = (starEnds e fuel i).findSome? k
  | 0, i, k => by simp [starK, starEnds]
  | fuel + 1, i, k => by
    rw [starK, starEnds, List.findSome?_append, findSome?_flatMap, h]
    simp only [starK_eq_findSome h fuel]
    cases (e i).findSome? _ <;> simp

/-- **the engine in direct style**: the first answer of the continuation over the ends of the matches -/
theorem run_eq_findSome (t : Array Char) (base : Nat) : ∀ (r : Rx) (i : Nat) (k : K α),
    run t base r i k = (ends t base r i).findSome? k
  | eps, i, k => by simp [run, ends]
  | chr _, i, k | ichr _, i, k | any, i, k | cls _ _, i, k => by simp only [run, ends]; exact step_eq_findSome ..
  | seq x y, i, k => by
    simp only [run, ends, findSome?_flatMap, run_eq_findSome t base x, run_eq_findSome t base y]
  | alt x y, i, k => by
    simp only [run, ends, List.findSome?_append, run_eq_findSome t base x, run_eq_findSome t base y]
    cases (ends t base x i).findSome? k <;> rfl
  | star x, i, k => by
    simp only [run, ends]
    exact starK_eq_findSome (run_eq_findSome t base x) _ i k
  | plus x, i, k => by
    simp only [run, ends, findSome?_flatMap, run_eq_findSome t base x]
    exact findSome?_congr fun j _ => starK_eq_findSome (run_eq_findSome t base x) _ j k
  | opt x, i, k => by
    simp only [run, ends, List.findSome?_append, run_eq_findSome t base x]
    cases (ends t base x i).findSome? k <;> simp
  | grp _ x, i, k => by simp only [run, ends]; exact run_eq_findSome t base x i k
  | bound, i, k => by simp only [run, ends]; split <;> simp

theorem mem_stepEnds {t : Array Char} {p : Char → Bool} {i j : Nat} (h : j ∈ stepEnds t p i) :
    j = i + 1 ∧ j ≤ t.size := by
  unfold stepEnds at h
  cases hc : t[i]? with
  | none => rw [hc] at h; cases h
  | some c =>
    rw [hc] at h
    by_cases hp : p c = true
    · simp only [if_pos hp] at h
      cases List.mem_singleton.1 h
      exact ⟨rfl, lt_size_of_getElem? hc⟩
    · simp only [if_neg hp] at h; cases h

theorem mem_starEnds {e : Nat → List Nat} {size : Nat} (h : ∀ i j, i ≤ size → j ∈ e i → i ≤ j ∧ j ≤ size) :
    ∀ fuel i j, i ≤ size → j ∈ starEnds e fuel i → i ≤ j ∧ j ≤ size
  | 0, i, j, hi, hj => by cases List.mem_singleton.1 hj; exact ⟨Nat.le_refl _, hi⟩
  | fuel + 1, i, j, hi, hj => by
    rw [starEnds, List.mem_append, List.mem_flatMap] at hj
    rcases hj with ⟨m, hm, hj⟩ | hj
    · have h1 := h i m hi hm
      have h2 := mem_starEnds h fuel m j h1.2 hj
      exact ⟨Nat.le_trans h1.1 h2.1, h2.2⟩
    · cases List.mem_singleton.1 hj; exact ⟨Nat.le_refl _, hi⟩

theorem mem_ends (t : Array Char) (base : Nat) : ∀ (r : Rx) (i j : Nat), i ≤ t.size → j ∈ ends t base r i →
    (i ≤ j ∧ j ≤ t.size) ∧ (nullable r = false → i < j)
  | eps, i, j, hi, h => by cases List.mem_singleton.1 h; exact ⟨⟨Nat.le_refl _, hi⟩, fun hn => by cases hn⟩
  | chr _, i, j, _, h | ichr _, i, j, _, h | any, i, j, _, h | cls _ _, i, j, _, h => by
    obtain ⟨rfl, h2⟩ := mem_stepEnds h; exact ⟨⟨Nat.le_succ _, h2⟩, fun _ => Nat.lt_succ_self _⟩
  | seq x y, i, j, hi, h => by
    obtain ⟨m, hm, hj⟩ := List.mem_flatMap.1 h
    have h1 := mem_ends t base x i m hi hm
    have h2 := mem_ends t base y m j h1.1.2 hj
    refine ⟨⟨Nat.le_trans h1.1.1 h2.1.1, h2.1.2⟩, fun hn => ?_⟩
    cases hx : nullable x with
    | false => exact Nat.lt_of_lt_of_le (h1.2 hx) h2.1.1
    | true => exact Nat.lt_of_le_of_lt h1.1.1 (h2.2 (by simpa [nullable, hx] using hn))
  | alt x y, i, j, hi, h => by
    simp only [nullable, Bool.or_eq_false_iff]
    rcases List.mem_append.1 h with h | h
    · exact ⟨(mem_ends t base x i j hi h).1, fun hn => (mem_ends t base x i j hi h).2 hn.1⟩
    · exact ⟨(mem_ends t base y i j hi h).1, fun hn => (mem_ends t base y i j hi h).2 hn.2⟩
  | star x, i, j, hi, h => ⟨mem_starEnds (fun i j hi hj => (mem_ends t base x i j hi hj).1) _ i j hi h, fun hn => by cases hn⟩
  | plus x, i, j, hi, h => by
    obtain ⟨m, hm, hj⟩ := List.mem_flatMap.1 h
    have h1 := mem_ends t base x i m hi hm
    have h2 := mem_starEnds (fun i j hi hj => (mem_ends t base x i j hi hj).1) _ m j h1.1.2 hj
    exact ⟨⟨Nat.le_trans h1.1.1 h2.1, h2.2⟩, fun hn => Nat.lt_of_lt_of_le (h1.2 hn) h2.1⟩
  | opt x, i, j, hi, h => by
    rcases List.mem_append.1 h with h | h
    · exact ⟨(mem_ends t base x i j hi h).1, fun hn => by cases hn⟩
    · cases List.mem_singleton.1 h; exact ⟨⟨Nat.le_refl _, hi⟩, fun hn => by cases hn⟩
  | grp _ x, i, j, hi, h => mem_ends t base x i j hi h
  | bound, i, j, hi, h => by
    unfold ends at h
    split at h
    · cases List.mem_singleton.1 h; exact ⟨⟨Nat.le_refl _, hi⟩, fun hn => by cases hn⟩
    · cases h

theorem run_answer (t : Array Char) (base : Nat) (r : Rx) (i : Nat) (k : K α) (a : α) (hi : i ≤ t.size)
    (h : run t base r i k = some a) : ∃ j, i ≤ j ∧ j ≤ t.size ∧ k j = some a := by
  rw [run_eq_findSome] at h
  obtain ⟨j, hj, hk⟩ := List.exists_of_findSome?_eq_some h
  exact ⟨j, (mem_ends t base r i j hi hj).1.1, (mem_ends t base r i j hi hj).1.2, hk⟩

theorem run_congr_ge (t : Array Char) (base : Nat) (r : Rx) (i : Nat) (k k' : K α) (hi : i ≤ t.size)
    (h : ∀ j, i ≤ j → j ≤ t.size → k j = k' j) : run t base r i k = run t base r i k' := by
  rw [run_eq_findSome, run_eq_findSome]
  exact findSome?_congr fun j hj => h j (mem_ends t base r i j hi hj).1.1 (mem_ends t base r i j hi hj).1.2

theorem run_congr_gt (t : Array Char) (base : Nat) (r : Rx) (hn : nullable r = false) (i : Nat) (k k' : K α) (hi : i ≤ t.size)
    (h : ∀ j, i < j → j ≤ t.size → k j = k' j) : run t base r i k = run t base r i k' := by
  rw [run_eq_findSome, run_eq_findSome]
  exact findSome?_congr fun j hj => h j ((mem_ends t base r i j hi hj).2 hn) (mem_ends t base r i j hi hj).1.2

theorem run_map {β : Type} (t : Array Char) (base : Nat) (f : α → β) (r : Rx) (i : Nat) (k : K α) :
    run t base r i (fun m => (k m).map f) = (run t base r i k).map f := by
  rw [run_eq_findSome, run_eq_findSome]
  exact List.map_findSome?.symm

theorem mem_ends_of_matchEnd {r : Rx} {t : Array Char} {i j : Nat} (h : r.matchEnd t i = some j) : j ∈ ends t i r i := by
  rw [matchEnd, run_eq_findSome] at h
  obtain ⟨j', hj, e⟩ := List.exists_of_findSome?_eq_some h
  cases e
  exact hj

theorem matchEnd_bounds {r : Rx} {t : Array Char} {i j : Nat} (hi : i ≤ t.size) (h : r.matchEnd t i = some j) :
    i ≤ j ∧ j ≤ t.size :=
  (mem_ends t i r i j hi (mem_ends_of_matchEnd h)).1

end Rx
end RG
