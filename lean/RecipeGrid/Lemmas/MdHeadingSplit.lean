import RecipeGrid.Lemmas.MdHeading
import RecipeGrid.Lemmas.ServingSplit
/-! For `Props/C18c.lean`: blanks inside a line (`Blank`, `BlankRun`), quiet lines in front of a
    heading (`QuietDocLine`), and the link between the first-heading model (`Model/MdHeading.lean`) and the serving-split
    characterisation of `Lemmas/ServingSplit.lean` (`headingInfo_of_decoded`: what `render_heading` records for the text marko renders
    for a decoded title followed by a documented serving suffix). -/
namespace RG
open RG.C18

/-- white space that can stand inside a line -/
def Blank (c : Char) : Prop := isReSpace c = true ∧ c ≠ '\n' ∧ c ≠ '\r'
def BlankRun (s : Str) : Prop := s ≠ [] ∧ ∀ c ∈ s, Blank c

instance (c : Char) : Decidable (Blank c) := inferInstanceAs (Decidable (_ ∧ _))
instance (s : Str) : Decidable (BlankRun s) := inferInstanceAs (Decidable (_ ∧ _))

theorem BlankRun.spaceRun {s : Str} (h : BlankRun s) : SpaceRun s := ⟨h.1, fun c hc => (h.2 c hc).1⟩
theorem BlankRun.oneLine {s : Str} (h : BlankRun s) : OneLine s := fun c hc => (h.2 c hc).2
theorem BlankRun.inert {s : Str} (h : BlankRun s) : ∀ c ∈ s, Inert c :=
  fun c hc => isReSpace_inert (h.2 c hc).1 (h.2 c hc).2.1

theorem digits_oneLine {ds : Str} (h : ∀ c ∈ ds, isDigit c = true) : OneLine ds := by
  intro c hc
  have := h c hc
  constructor <;> (intro e; subst e; simp [isDigit] at this)

theorem phraseText_inert {p : List String} (hp : WfPhrase p) {s : Str} (h : PhraseText p s) (hl : OneLine s) :
    ∀ c ∈ s, Inert c := by
  intro c hc
  rcases (PhraseText_chars hp h).2 c hc with h1 | h1
  · exact letterLike_inert h1
  · exact isReSpace_inert h1 (hl c hc).1

/-- where "to <phrase>" is accepted too, `D` does not end in the word "to" behind white space: it would belong to the phrase.
    (The theorems of `Props/C18c.lean` spell this hypothesis out.) -/
def NoFinalTo (ph : List String) (D : Str) : Prop :=
  "to" :: ph ∈ Gen.servingPhrases → ¬ ∃ D₀ w z, D = D₀ ++ [w] ++ z ∧ isReSpace w = true ∧ CiWord "to".toList z

theorem leftmost_of_decoded {t D s1 phText s2 ds ws₃ : Str} {p : List String}
    (hsplit : ServingSplit t (mkEscape D) s1 phText s2 ds ws₃) (hp : p ∈ Gen.servingPhrases) (hph : PhraseText p phText)
    (hDlast : EndsNoWs D) (hDto : NoFinalTo p D) : Leftmost t (mkEscape D) := by
  rw [leftmost_iff_explicit_to hsplit hp hph]
  refine ⟨mkEscape_getLast_not_space D hDlast, ?_⟩
  rintro ⟨hto, pre₀, ws₀, z, he, hws, hz⟩
  apply hDto hto
  -- `z` is two letters, `ws₀` ends in a white-space character
  obtain ⟨t, z₁, rfl, hmt, hz₁⟩ := CiWord_cons (show CiWord ['t', 'o'] z from hz)
  obtain ⟨o, z₂, rfl, hmo, hz₂⟩ := CiWord_cons hz₁
  cases CiWord_nil hz₂
  have ht : letterLike t.toNat = true := ciMatches_letterLike (by decide) hmt
  have ho : letterLike o.toNat = true := ciMatches_letterLike (by decide) hmo
  rcases List.eq_nil_or_concat ws₀ with rfl | ⟨W, w, rfl⟩
  · exact absurd rfl hws.1
  · rw [List.concat_eq_append] at he hws
    have hw : isReSpace w = true := hws.2 w (by simp)
    have e1 : mkEscape D = (pre₀ ++ W ++ [w] ++ [t]) ++ [o] := by
      rw [he]
      simp
    obtain ⟨D1, rfl, e2⟩ := mkEscape_snoc_inv D _ o e1 (fun e => by subst e; exact absurd ho (by decide))
    obtain ⟨D2, rfl, e3⟩ := mkEscape_snoc_inv D1 _ t e2 (fun e => by subst e; exact absurd ht (by decide))
    obtain ⟨D3, rfl, _⟩ := mkEscape_snoc_inv D2 _ w e3 (fun e => by subst e; exact absurd hw (by decide))
    exact ⟨D3, w, [t, o], by simp, hw, hz⟩

theorem not_ends_in_to {D : Str} {c : Char} (hl : D.getLast? = some c) (hc : ciMatches c 'o' = false) :
    ¬ ∃ D₀ w z, D = D₀ ++ [w] ++ z ∧ isReSpace w = true ∧ CiWord "to".toList z := by
  rintro ⟨D₀, w, z, rfl, -, hz⟩
  obtain ⟨t, z₁, rfl, -, hz₁⟩ := CiWord_cons (show CiWord ['t', 'o'] z from hz)
  obtain ⟨o, z₂, rfl, ho, hz₂⟩ := CiWord_cons hz₁
  cases CiWord_nil hz₂
  rw [show D₀ ++ [w] ++ [t, o] = (D₀ ++ [w, t]) ++ [o] by simp, List.getLast?_concat, Option.some.injEq] at hl
  rw [← hl, ho] at hc
  cases hc

theorem documented_suffix_inert {s1 phText s2 : Str} {ph : List String} (N : Nat) (hp : ph ∈ Gen.servingPhrases)
    (hpt : PhraseText ph phText) (hphline : OneLine phText) (hs1 : BlankRun s1) (hs2 : BlankRun s2) :
    ∀ c ∈ s1 ++ phText ++ s2 ++ natDigits N, Inert c := by
  intro c hc
  simp only [List.mem_append] at hc
  rcases hc with ((h | h) | h) | h
  · exact hs1.inert c h
  · exact phraseText_inert (servingPhrases_wf ph hp).2 hpt hphline c h
  · exact hs2.inert c h
  · exact isDigit_inert (natDigits_all_digit N c h)

theorem documented_suffix_oneLine {s1 phText s2 : Str} (N : Nat) (hphline : OneLine phText) (hs1 : BlankRun s1)
    (hs2 : BlankRun s2) : OneLine (s1 ++ phText ++ s2 ++ natDigits N) :=
  ((hs1.oneLine.append hphline).append hs2.oneLine).append (digits_oneLine (natDigits_all_digit N))

theorem getLast?_append_natDigits (T s : Str) (N : Nat) (c : Char) (h : (T ++ (s ++ natDigits N)).getLast? = some c) :
    isDigit c = true := by
  rw [← List.append_assoc, getLast?_append_ne _ (natDigits_ne_nil N)] at h
  exact natDigits_all_digit N c (List.mem_of_getLast? h)

theorem headingInfo_of_decoded (D s1 phText s2 : Str) (ph : List String) (N : Nat)
    (hDhead : C06.NextNot isReSpace D)
    (hDlast : EndsNoWs D)
    (hDto : NoFinalTo ph D)
    (hp : ph ∈ Gen.servingPhrases) (hpt : PhraseText ph phText) (hphline : OneLine phText)
    (hs1 : BlankRun s1) (hs2 : BlankRun s2) :
    headingInfo true 1 (mkEscape (D ++ (s1 ++ phText ++ s2 ++ natDigits N))) [] =
      .scalable D N (mkEscape D ++ s1) (phText ++ s2) := by
  have hdig := natDigits_all_digit N
  have hdne := natDigits_ne_nil N
  have hsuf := documented_suffix_inert N hp hpt hphline hs1 hs2
  have hesc : mkEscape (D ++ (s1 ++ phText ++ s2 ++ natDigits N)) = mkEscape D ++ s1 ++ phText ++ s2 ++ natDigits N ++ [] := by
    rw [mkEscape_append, mkEscape_of_none _ (fun c hc => (hsuf c hc).not_escaped)]
    simp
  have hsplit : ServingSplit (mkEscape D ++ s1 ++ phText ++ s2 ++ natDigits N ++ []) (mkEscape D) s1 phText s2 (natDigits N) [] :=
    ⟨rfl, hs1.spaceRun, ⟨ph, hp, hpt⟩, hs2.spaceRun, hdne, hdig, by intro c hc; cases hc⟩
  have hleft := leftmost_of_decoded hsplit hp hpt hDlast hDto
  have hsearch := (searchServings_eq_some_iff _ _ _ _ _).mpr ⟨phText, s2, [], rfl, hsplit, hleft⟩
  have hplain : Plain (mkEscape D ++ s1 ++ phText ++ s2 ++ natDigits N ++ []) [] := by
    refine ⟨?_, by intro q hq; cases hq⟩
    rw [← hesc]
    exact lt_not_mem_mkEscape _
  rw [hesc, headingInfo_plain hplain, hsearch]
  simp only [natOfDigitChars_eq_digitsVal, digitsVal_natDigits]
  rw [hsplit.strip_pre, stripStr_of_ends (mkEscape_head_not_space D hDhead) (mkEscape_getLast_not_space D hDlast),
    unescapeEntities_mkEscape]

/-- a line of the document in front of the heading: on one line, and quiet (blank, plain paragraph text, or indented by
    four or more spaces) -/
def QuietDocLine (l : Str) : Prop := ('\n' ∉ l ∧ '\r' ∉ l) ∧ QuietLine (l ++ ['\n'])
instance (l : Str) : Decidable (QuietDocLine l) := inferInstanceAs (Decidable (_ ∧ _))

end RG
