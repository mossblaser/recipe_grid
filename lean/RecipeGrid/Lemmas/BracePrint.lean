import RecipeGrid.Lemmas.BraceRound
import RecipeGrid.Model.BracePrint
import RecipeGrid.Lemmas.Fmt
import RecipeGrid.Lemmas.Recipe
/-! Writing a scaled value string in the `{…}` syntax (`printBrace`) and reading it back. -/
namespace RG.Brace
open Re Parser
open C06 (isDigits_natDigits)

/-- numbers that the syntax can express: not negative; an `int` is whole; a `float` is a double.  That the denominator of a
    double is a power of two is asked for beside it, not derived: it is what makes the decimal expansion that `printFloat`
    writes finite (`den_dvd_pow`). -/
def NumOK (n : Num) : Prop :=
  0 ≤ n.val ∧ (n.kind = .int → n.val.den = 1) ∧
  (n.kind = .flt → toDouble n.val = n.val ∧ ∃ e, n.val.den = 2 ^ e)

def NumFollow (n : Num) (rest : Str) : Prop :=
  match n.kind with
  | .int => IntFollow rest
  | _ => ∀ ch, rest.head? = some ch → isDigit ch = false

def Printable : SVS → Prop
  | [] => True
  | .text _ :: rest => Printable rest
  | .num n :: rest => NumOK n ∧ NumFollow n (printBrace rest) ∧ Printable rest

/-- the parts one character at a time: what `finditer` delivers before `ScaledValueString` merges text -/
def explode (s : SVS) : List Part :=
  s.flatMap fun p => match p with
    | .text t => t.map fun c => .text [c]
    | .num n => [.num n]

theorem printText_cons (c : Char) (t : Str) : printText (c :: t) = printChar c ++ printText t := List.flatMap_cons

theorem printBrace_cons (p : Part) (s : SVS) : printBrace (p :: s) = printPart p ++ printBrace s := List.flatMap_cons

theorem printChar_cases (c : Char) :
    (printChar c = ['\\', c] ∧ c ≠ '\n') ∨
    (printChar c = [c] ∧ isDigit c = false ∧ c ≠ '{' ∧ c ≠ '}' ∧ c ≠ '\\') := by
  unfold printChar
  cases h : needsEscape c with
  | true => exact Or.inl ⟨rfl, fun hc => by subst hc; revert h; decide⟩
  | false =>
    simp only [needsEscape, Bool.or_eq_false_iff, beq_eq_false_iff_ne, ne_eq] at h
    exact Or.inr ⟨rfl, h.1.1.1, h.1.1.2, h.1.2, h.2⟩

theorem lexTok_printChar (c : Char) (rest : Str) : lexTok (printChar c ++ rest) = some (.text [c], rest) := by
  rcases printChar_cases c with ⟨e, hnl⟩ | ⟨e, hd, ho, hc, hb⟩
  · rw [e]
    simp [lexTok, hnl, show isDigit '\\' = false by decide]
  · rw [e]
    simp [lexTok, hd, ho, hc, hb]

theorem printChar_ne_nil (c : Char) : printChar c ≠ [] := by
  rcases printChar_cases c with ⟨e, -⟩ | ⟨e, -⟩ <;> simp [e]

theorem lexTokens_printText (t rest : Str) :
    lexTokens (printText t ++ rest) = t.map (fun c => Part.text [c]) ++ lexTokens rest := by
  induction t with
  | nil => rfl
  | cons c t ih =>
    rw [printText_cons, List.append_assoc, lexTokens_step (lexTok_printChar c _), ih]
    rfl

theorem num_toNat_cast {q : Rat} (h : 0 ≤ q) : ((q.num.toNat : Nat) : Int) = q.num :=
  Int.toNat_of_nonneg (Rat.num_nonneg.2 h)

theorem fracValue_simple (q : Rat) (h : 0 ≤ q) :
    fracValue none (natDigits q.num.toNat) (natDigits q.den) = ⟨q, .frac⟩ := by
  unfold fracValue
  simp only [natOfDigits_natDigits]
  congr 1
  rw [num_toNat_cast h, Rat.mkRat_self]
  show (0 : Rat) + q = q
  exact Rat.zero_add q

theorem fracValue_mixed (q : Rat) (h : 0 ≤ q) :
    fracValue (some (natDigits (q.num.toNat / q.den))) (natDigits (q.num.toNat % q.den)) (natDigits q.den)
      = ⟨q, .frac⟩ := by
  unfold fracValue
  simp only [natOfDigits_natDigits]
  congr 1
  have hd : q.den ≠ 0 := q.den_nz
  rw [← Rat.intCast_natCast, ← Rat.mkRat_one, Rat.mkRat_add_mkRat _ _ (by decide) hd]
  have e : ((q.num.toNat / q.den : Nat) : Int) * (q.den : Int) + ((q.num.toNat % q.den : Nat) : Int) * ((1 : Nat) : Int)
      = q.num := by
    rw [← num_toNat_cast h]
    have := Nat.div_add_mod q.num.toNat q.den
    rw [Nat.mul_comm] at this
    simp only [Int.toNat_natCast]
    exact_mod_cast congrArg (fun x : Nat => (x : Int)) (by simpa using this)
  rw [e, Nat.one_mul, Rat.mkRat_self]

theorem intValue_natDigits (q : Rat) (h : 0 ≤ q) (hden : q.den = 1) : intValue (natDigits q.num.toNat) = ⟨q, .int⟩ := by
  unfold intValue
  rw [natOfDigits_natDigits]
  congr 1
  apply Rat.ext
  · rw [Rat.num_natCast, num_toNat_cast h]
  · rw [Rat.den_natCast, hden]

theorem padLeftZeros_digits (w n : Nat) : ∀ ch ∈ padLeftZeros w (natDigits n), isDigit ch = true :=
  fun ch hch => isDigit_of_charIsDigit (padLeftZeros_isDigit (natDigits_isDigit n) ch hch)

theorem floatPlaces_pos (q : Rat) : 0 < floatPlaces q := by
  unfold floatPlaces; omega

theorem den_dvd_pow (q : Rat) (h : ∃ e, q.den = 2 ^ e) : q.den ∣ 10 ^ floatPlaces q := by
  obtain ⟨e, he⟩ := h
  unfold floatPlaces
  rw [he, Nat.log2_two_pow]
  have : (10 : Nat) ^ max 1 e = 2 ^ max 1 e * 5 ^ max 1 e := by
    rw [← Nat.mul_pow]
  rw [this]
  exact Nat.dvd_trans (Nat.pow_dvd_pow 2 (by omega)) (Nat.dvd_mul_right _ _)

theorem floatValue_print (q : Rat) (h : 0 ≤ q) (hdbl : toDouble q = q) (hden : ∃ e, q.den = 2 ^ e) :
    floatValue (natDigits (q.num.toNat * 10 ^ floatPlaces q / q.den / 10 ^ floatPlaces q))
      (padLeftZeros (floatPlaces q) (natDigits (q.num.toNat * 10 ^ floatPlaces q / q.den % 10 ^ floatPlaces q)))
      = ⟨q, .flt⟩ := by
  have hpos := floatPlaces_pos q
  generalize hk : floatPlaces q = k at *
  generalize hsc : q.num.toNat * 10 ^ k / q.den = sc
  have hp10 : 0 < 10 ^ k := Nat.pow_pos (by decide)
  have hlen : (padLeftZeros k (natDigits (sc % 10 ^ k))).length = k :=
    padLeftZeros_length (natDigits_length_le hpos (Nat.mod_lt _ hp10))
  unfold floatValue
  rw [hlen, natOfDigits_eq, digitsVal_append, hlen, digitsVal_padLeftZeros, digitsVal_natDigits, digitsVal_natDigits,
    Nat.div_add_mod']
  congr 1
  rw [← hdbl]
  congr 1
  have hdvd : q.den ∣ q.num.toNat * 10 ^ k := by
    have := den_dvd_pow q hden
    rw [hk] at this
    exact Nat.dvd_trans this (Nat.dvd_mul_left _ _)
  have hmul : sc * q.den = q.num.toNat * 10 ^ k := by
    rw [← hsc]; exact Nat.div_mul_cancel hdvd
  conv => rhs; rw [← Rat.mkRat_self q]
  rw [Rat.mkRat_eq_iff (Nat.ne_of_gt hp10) q.den_nz, ← num_toNat_cast h]
  exact_mod_cast congrArg (fun x : Nat => (x : Int)) hmul

theorem lexTok_printNum (n : Num) (rest : Str) (hn : NumOK n) (hf : NumFollow n rest) :
    lexTok (printNum n ++ rest) = some (.num n, rest) := by
  obtain ⟨hpos, hint, hflt⟩ := hn
  obtain ⟨q, kind⟩ := n
  unfold NumFollow at hf
  unfold printNum
  cases kind with
  | int =>
    simp only at hf hint ⊢
    rw [lexTok_int (isDigits_natDigits _) hf, intValue_natDigits q hpos (hint trivial)]
  | frac =>
    simp only at hf ⊢
    have hden : natOfDigits (natDigits q.den) ≠ 0 := by rw [natOfDigits_natDigits]; exact q.den_nz
    unfold printFrac
    split
    · have e : (natDigits (q.num.toNat / q.den) ++ ' ' :: (natDigits (q.num.toNat % q.den) ++ '/' :: natDigits q.den)) ++ rest
          = natDigits (q.num.toNat / q.den) ++ ([' '] ++ (natDigits (q.num.toNat % q.den) ++
              ([] ++ '/' :: ([] ++ (natDigits q.den ++ rest))))) := by simp
      rw [e, lexTok_mixed (isDigits_natDigits _) (by simp) isBlanks_space
        ⟨isDigits_natDigits _, isBlanks_nil, isBlanks_nil, isDigits_natDigits _, hden⟩ hf, fracValue_mixed q hpos]
    · have e : (natDigits q.num.toNat ++ '/' :: natDigits q.den) ++ rest
          = natDigits q.num.toNat ++ ([] ++ '/' :: ([] ++ (natDigits q.den ++ rest))) := by simp
      rw [e, lexTok_frac ⟨isDigits_natDigits _, isBlanks_nil, isBlanks_nil, isDigits_natDigits _, hden⟩ hf,
        fracValue_simple q hpos]
  | flt =>
    simp only at hf hflt ⊢
    unfold printFloat
    simp only [List.append_assoc, List.cons_append]
    rw [lexTok_float (isDigits_natDigits _) (padLeftZeros_digits _ _) hf,
      floatValue_print q hpos (hflt trivial).1 (hflt trivial).2]

theorem lexTokens_printBrace : ∀ (s : SVS), Printable s → lexTokens (printBrace s) = explode s
  | [], _ => rfl
  | .text t :: rest, hp => by
    rw [printBrace_cons, printPart, lexTokens_printText, lexTokens_printBrace rest hp]
    rfl
  | .num n :: rest, ⟨hok, hfol, hrest⟩ => by
    rw [printBrace_cons, printPart, lexTokens_step (lexTok_printNum n _ hok hfol), lexTokens_printBrace rest hrest]
    rfl

theorem merge_chars (tail : List Part) (htail : Svs.startsText (Svs.merge tail) = false) :
    ∀ (a : Str), a ≠ [] → Svs.merge (a.map (fun c => Part.text [c]) ++ tail) = .text a :: Svs.merge tail
  | [], h => absurd rfl h
  | [c], _ => by
    simp only [List.map_cons, List.map_nil, List.cons_append, List.nil_append, Svs.merge]
    cases hm : Svs.merge tail with
    | nil => rfl
    | cons p r =>
      cases p with
      | num n => rfl
      | text b => rw [hm] at htail; simp [Svs.startsText, Svs.isText] at htail
  | c :: c' :: a, _ => by
    have ih := merge_chars tail htail (c' :: a) (by simp)
    simp only [List.map_cons, List.cons_append] at ih ⊢
    simp only [Svs.merge] at ih ⊢
    rw [ih]
    rfl

theorem merge_explode : ∀ (s : SVS), Svs.Normal s → Svs.merge (explode s) = s
  | [], _ => rfl
  | .num n :: rest, h => by
    simp only [explode, List.flatMap_cons, List.singleton_append, Svs.merge]
    congr 1
    exact merge_explode rest h
  | .text a :: rest, h => by
    obtain ⟨h1, h2, h3⟩ := h
    have ih := merge_explode rest h3
    simp only [explode, List.flatMap_cons] at ih ⊢
    rw [merge_chars _ (by rw [ih]; exact h2) a h1, ih]

theorem normalise_explode (s : SVS) (h : Svs.Normal s) : Svs.normalise (explode s) = s := by
  rw [Svs.normalise_eq, merge_explode s h, Svs.filter_keep_of_normal s h]

/-- **reading back what was written** -/
theorem braceParts_printBrace (s : SVS) (hn : Svs.Normal s) (hp : Printable s) : braceParts (printBrace s) = s := by
  unfold braceParts
  rw [braceTokens_eq_lexTokens, lexTokens_printBrace s hp, normalise_explode s hn]

theorem closeAt_printChar (c : Char) (tail r : Str) (h : closeAt tail = some r) : closeAt (printChar c ++ tail) = some r := by
  rcases printChar_cases c with ⟨e, hnl⟩ | ⟨e, -, ho, hc, hb⟩
  · rw [e, List.cons_append, List.cons_append, List.nil_append, closeAt_backslash c tail hnl, h]
  · rw [e, List.cons_append, List.nil_append, closeAt_plain_cons c tail (by simp [isPlain, ho, hc, hb])]
    exact h

theorem closeAt_printText (tail r : Str) (h : closeAt tail = some r) : ∀ (t : Str), closeAt (printText t ++ tail) = some r
  | [] => h
  | c :: t => by
    simp only [printText_cons, List.append_assoc]
    exact closeAt_printChar c _ r (closeAt_printText tail r h t)

theorem isPlain_of_digit {ch : Char} (h : isDigit ch = true) : isPlain ch = true := by
  simp only [isDigit, Bool.and_eq_true, decide_eq_true_eq] at h
  simp only [isPlain, Bool.and_eq_true, bne_iff_ne, ne_eq]
  refine ⟨⟨?_, ?_⟩, ?_⟩ <;> (intro hc; subst hc; revert h; decide)

theorem printNum_plain (n : Num) : ∀ ch ∈ printNum n, isPlain ch = true := by
  have hd : ∀ m, ∀ ch ∈ natDigits m, isPlain ch = true := fun m ch hch => isPlain_of_digit (natDigits_all_digit m ch hch)
  intro ch hch
  unfold printNum at hch
  cases hk : n.kind with
  | int => rw [hk] at hch; exact hd _ ch hch
  | frac =>
    rw [hk] at hch
    simp only [printFrac] at hch
    split at hch
    · simp only [List.mem_append, List.mem_cons] at hch
      rcases hch with h | rfl | h | rfl | h
      · exact hd _ _ h
      · decide
      · exact hd _ _ h
      · decide
      · exact hd _ _ h
    · simp only [List.mem_append, List.mem_cons] at hch
      rcases hch with h | rfl | h
      · exact hd _ _ h
      · decide
      · exact hd _ _ h
  | flt =>
    rw [hk] at hch
    simp only [printFloat, List.mem_append, List.mem_cons] at hch
    rcases hch with h | rfl | h
    · exact hd _ _ h
    · decide
    · exact isPlain_of_digit (padLeftZeros_digits _ _ ch h)

theorem closeAt_printBrace (rest : Str) : ∀ (s : SVS), closeAt (printBrace s ++ '}' :: rest) = some rest
  | [] => closeAt_close rest
  | .text t :: s => by
    simp only [printBrace_cons, printPart, List.append_assoc]
    exact closeAt_printText _ _ (closeAt_printBrace rest s) t
  | .num n :: s => by
    simp only [printBrace_cons, printPart, List.append_assoc]
    rw [closeAt_plain_append _ _ (printNum_plain n)]
    exact closeAt_printBrace rest s

end RG.Brace

namespace RG
open Brace

/-- **the written expression is matched as a whole** -/
theorem braceMatch_printBrace (s : SVS) (rest : Str) :
    braceMatch ('{' :: (printBrace s ++ '}' :: rest)) = some (printBrace s, rest) := by
  rw [braceMatch_eq_closeAt, closeAt_printBrace rest s]
  simp

end RG
