import RecipeGrid.Lemmas.Table
/-! The layout in closed form.  `layoutAt` builds a table bottom-up and then rewrites the cells of its subtables (`pad`
    widens the right-most cells, `vcat` moves cells down, `setBorder` overwrites borders on the rim).  `cellsAt t p r W B`
    says top-down where every cell ends up: the subtree `t` at path `p` occupies the rows from `r` and the columns
    `[0, W)`, and the enclosing outlines put the borders `B` on the four sides of that box.  The three rewritings commute
    with `cellsAt` (`cellsAt_down`, `cellsAt_pad`, `cellsAt_border`), so one induction over `layoutAt` gives
    `layoutAt_eq_cellsAt`: the layout of a well-formed tree *is* `cellsAt`.  Read off `cellsAt`, which has no combinators:
    it tiles its box (`cellsAt_tiles`, C02.1), its cells are those of the drawn nodes (`cellsAt_pk`), the cells below a node
    are `cellsAt` of that node (`cellsAt_at`, `node_box`; C02.3, C02.4), and `Lemmas/Readback.lean` maps it to the normal
    form (`vis_cellsAt`, C02.6).  Not read off it: which nodes get a cell (`layoutAt_pk`, C02.2, holds without
    well-formedness) and the borders (C02.5): that a side has the sub-recipe border exactly on an outline relates a cell
    to the regions of all outlined nodes above it, and `Lemmas/Borders.lean` carries that relation (`BOK`) through the
    combinators of `layoutAt`. -/
namespace RG

mutual
/-- the number of rows of the layout of a tree -/
def Tree.ht : Tree → Nat
  | .ingredient .. => 1
  | .reference .. => 1
  | .step _ ins => hts ins
  | .sub b ns sh => if ns.length = 1 then (if sh then 1 + b.ht else b.ht) else b.ht
def hts : List Tree → Nat
  | [] => 0
  | t :: ts => t.ht + hts ts
end

mutual
/-- the number of columns of the layout of a tree before it is widened: the widest input of a step and the step's own
    column, the body of a sub recipe and its outputs column -/
def Tree.wd : Tree → Nat
  | .ingredient .. => 1
  | .reference .. => 1
  | .step _ ins => wds ins + 1
  | .sub b ns _ => if ns.length = 1 then b.wd else b.wd + 1
def wds : List Tree → Nat
  | [] => 0
  | t :: ts => max t.wd (wds ts)
end

theorem Tree.ht_titled (b : Tree) {ns : List SVS} (h1 : ns.length = 1) : (Tree.sub b ns true).ht = 1 + b.ht := by
  simp [Tree.ht, h1]
theorem Tree.ht_untitled (b : Tree) {ns : List SVS} (h1 : ns.length = 1) : (Tree.sub b ns false).ht = b.ht := by
  simp [Tree.ht, h1]
theorem Tree.ht_multi (b : Tree) {ns : List SVS} (sh : Bool) (h1 : ns.length ≠ 1) : (Tree.sub b ns sh).ht = b.ht := by
  simp [Tree.ht, h1]
theorem Tree.wd_single (b : Tree) {ns : List SVS} (sh : Bool) (h1 : ns.length = 1) : (Tree.sub b ns sh).wd = b.wd := by
  simp [Tree.wd, h1]
theorem Tree.wd_multi (b : Tree) {ns : List SVS} (sh : Bool) (h1 : ns.length ≠ 1) : (Tree.sub b ns sh).wd = b.wd + 1 := by
  simp [Tree.wd, h1]

/-- the borders a context puts on the four sides of a region -/
structure Ctx where
  bl : Border
  br : Border
  bt : Border
  bb : Border
deriving DecidableEq, Repr

def Ctx.top : Ctx := ⟨.subRecipe, .subRecipe, .subRecipe, .subRecipe⟩
def Ctx.bot : Ctx := ⟨.normal, .normal, .normal, .normal⟩

def cellAt (r c h w : Nat) (p : List Nat) (k : CellKind) (B : Ctx) : PCell :=
  { row := r, col := c, rows := h, cols := w, path := p, kind := k, bl := B.bl, br := B.br, bt := B.bt, bb := B.bb }

/-- a side of the outputs column has no border unless an outline runs along it -/
def outB (b : Border) : Border := if b = .subRecipe then .subRecipe else .none

mutual
def cellsAt : Tree → List Nat → Nat → Nat → Ctx → List PCell
  | .ingredient .., p, r, W, B => [cellAt r 0 1 W p .ingredient B]
  | .reference .., p, r, W, B => [cellAt r 0 1 W p .reference B]
  | .step _ ins, p, r, W, B =>
    cellsAtStack ins p 0 r (wds ins) B.bl B.bt B.bb ++
      [cellAt r (wds ins) (hts ins) (W - wds ins) p .step ⟨.normal, B.br, B.bt, B.bb⟩]
  | .sub b ns sh, p, r, W, B =>
    if ns.length = 1 then
      if sh then cellAt r 0 1 W p .header ⟨.subRecipe, .subRecipe, .subRecipe, .normal⟩ ::
        cellsAt b (p ++ [0]) (r + 1) W ⟨.subRecipe, .subRecipe, .normal, .subRecipe⟩
      else cellsAt b (p ++ [0]) r W .top
    else cellsAt b (p ++ [0]) r b.wd .top ++
      [cellAt r b.wd b.ht (W - b.wd) p .outputs ⟨.normal, outB B.br, outB B.bt, outB B.bb⟩]
def cellsAtStack : List Tree → List Nat → Nat → Nat → Nat → Border → Border → Border → List PCell
  | [], _, _, _, _, _, _, _ => []
  | t :: ts, p, i, r, w, bl, bt, bb =>
    cellsAt t (p ++ [i]) r w ⟨bl, .normal, bt, if ts.isEmpty then bb else .normal⟩ ++
      cellsAtStack ts p (i + 1) (r + t.ht) w bl .normal bb
end

/-- the three kinds of sub recipe the layout tells apart: one output with a title, one output without, several outputs -/
theorem Tree.sub_cases (ns : List SVS) (sh : Bool) :
    (ns.length = 1 ∧ sh = true) ∨ (ns.length = 1 ∧ sh = false) ∨ ns.length ≠ 1 := by
  by_cases hn : ns.length = 1
  · cases sh
    · exact Or.inr (Or.inl ⟨hn, rfl⟩)
    · exact Or.inl ⟨hn, rfl⟩
  · exact Or.inr (Or.inr hn)

theorem cellsAt_step (d : SVS) (ins : List Tree) (p : List Nat) (r W : Nat) (B : Ctx) :
    cellsAt (.step d ins) p r W B = cellsAtStack ins p 0 r (wds ins) B.bl B.bt B.bb ++
      [cellAt r (wds ins) (hts ins) (W - wds ins) p .step ⟨.normal, B.br, B.bt, B.bb⟩] := by
  simp only [cellsAt]
theorem cellsAt_titled (b : Tree) {ns : List SVS} (h1 : ns.length = 1) (p : List Nat) (r W : Nat) (B : Ctx) :
    cellsAt (.sub b ns true) p r W B = cellAt r 0 1 W p .header ⟨.subRecipe, .subRecipe, .subRecipe, .normal⟩ ::
      cellsAt b (p ++ [0]) (r + 1) W ⟨.subRecipe, .subRecipe, .normal, .subRecipe⟩ := by
  simp [cellsAt, h1]
theorem cellsAt_untitled (b : Tree) {ns : List SVS} (h1 : ns.length = 1) (p : List Nat) (r W : Nat) (B : Ctx) :
    cellsAt (.sub b ns false) p r W B = cellsAt b (p ++ [0]) r W .top := by
  simp [cellsAt, h1]
theorem cellsAt_multi (b : Tree) {ns : List SVS} (sh : Bool) (h1 : ns.length ≠ 1) (p : List Nat) (r W : Nat) (B : Ctx) :
    cellsAt (.sub b ns sh) p r W B = cellsAt b (p ++ [0]) r b.wd .top ++
      [cellAt r b.wd b.ht (W - b.wd) p .outputs ⟨.normal, outB B.br, outB B.bt, outB B.bb⟩] := by
  simp [cellsAt, h1]

theorem shiftDown_cellAt (d r c h w : Nat) (p : List Nat) (k : CellKind) (B : Ctx) :
    shiftDown d (cellAt r c h w p k B) = cellAt (r + d) c h w p k B := rfl

mutual
theorem cellsAt_down : ∀ (t : Tree) (p : List Nat) (r W : Nat) (B : Ctx) (d : Nat),
    (cellsAt t p r W B).map (shiftDown d) = cellsAt t p (r + d) W B
  | .ingredient .., _, _, _, _, _ => rfl
  | .reference .., _, _, _, _, _ => rfl
  | .step _ ins, p, r, W, B, d => by
    simp only [cellsAt, List.map_append, cellsAtStack_down ins, List.map_cons, List.map_nil, shiftDown_cellAt]
  | .sub b ns sh, p, r, W, B, d => by
    simp only [cellsAt]
    split
    · split
      · simp only [List.map_cons, shiftDown_cellAt, cellsAt_down b, Nat.add_right_comm]
      · exact cellsAt_down b _ _ _ _ _
    · simp only [List.map_append, cellsAt_down b, List.map_cons, List.map_nil, shiftDown_cellAt]
theorem cellsAtStack_down : ∀ (ts : List Tree) (p : List Nat) (i r w : Nat) (bl bt bb : Border) (d : Nat),
    (cellsAtStack ts p i r w bl bt bb).map (shiftDown d) = cellsAtStack ts p i (r + d) w bl bt bb
  | [], _, _, _, _, _, _, _, _ => rfl
  | t :: ts, p, i, r, w, bl, bt, bb, d => by
    simp only [cellsAtStack, List.map_append, cellsAt_down t, cellsAtStack_down ts, Nat.add_right_comm]
end

theorem Tree.wd_pos : ∀ t : Tree, 0 < t.wd
  | .ingredient .. => by simp [Tree.wd]
  | .reference .. => by simp [Tree.wd]
  | .step .. => by simp [Tree.wd]
  | .sub b ns _ => by have := Tree.wd_pos b; simp only [Tree.wd]; split <;> omega

theorem RTiles.cell {r c h w : Nat} (p : List Nat) (k : CellKind) (B : Ctx) (hh : 0 < h) (hw : 0 < w) :
    RTiles [cellAt r c h w p k B] ⟨r, c, r + h, c + w⟩ := RTiles.single _ _ hh hw rfl

theorem RTiles.cast {cs : List PCell} {R R' : Rect} (h : RTiles cs R) (e : R = R') : RTiles cs R' := e ▸ h

theorem RTiles.height_pos {cs : List PCell} {r c h w : Nat} (hs : RTiles cs ⟨r, c, r + h, w⟩) : 0 < h := by
  have := hs.ne.1; simp only at this; omega

mutual
theorem cellsAt_tiles : ∀ (t : Tree) (p : List Nat) (r W : Nat) (B : Ctx), wf t = true → t.wd ≤ W →
    RTiles (cellsAt t p r W B) ⟨r, 0, r + t.ht, W⟩
  | .ingredient .., p, r, W, B, _, hW => by
    simp only [Tree.wd] at hW
    exact (RTiles.cell p _ B (by omega) (by omega)).cast (by simp [Tree.ht])
  | .reference .., p, r, W, B, _, hW => by
    simp only [Tree.wd] at hW
    exact (RTiles.cell p _ B (by omega) (by omega)).cast (by simp [Tree.ht])
  | .step _ ins, p, r, W, B, h, hW => by
    rw [wf_step] at h
    simp only [Tree.wd] at hW
    have hs := cellsAtStack_tiles ins p 0 r (wds ins) B.bl B.bt B.bb h.1 h.2 (Nat.le_refl _)
    exact hs.happend (RTiles.cell p .step _ hs.height_pos (by omega)) rfl (by simp) rfl
      (by simp only [Tree.ht, Rect.mk.injEq, true_and]; omega)
  | .sub b ns sh, p, r, W, B, h, hW => by
    rw [wf_sub] at h
    have hp := Tree.wd_pos b
    rcases Tree.sub_cases ns sh with ⟨hn, rfl⟩ | ⟨hn, rfl⟩ | hn
    · rw [Tree.wd_single b _ hn] at hW
      rw [cellsAt_titled b hn, Tree.ht_titled b hn]
      exact ((RTiles.cell p .header _ (by omega) (by omega)).vappend (cellsAt_tiles b (p ++ [0]) (r + 1) W _ h hW)
        rfl (by simp) rfl rfl).cast (by simp only [Rect.mk.injEq, true_and]; omega)
    · rw [Tree.wd_single b _ hn] at hW
      rw [cellsAt_untitled b hn, Tree.ht_untitled b hn]
      exact cellsAt_tiles b (p ++ [0]) r W _ h hW
    · rw [Tree.wd_multi b sh hn] at hW
      rw [cellsAt_multi b sh hn, Tree.ht_multi b sh hn]
      have hb := cellsAt_tiles b (p ++ [0]) r b.wd .top h (Nat.le_refl _)
      exact hb.happend (RTiles.cell p .outputs _ hb.height_pos (by omega)) rfl (by simp) rfl
        (by simp only [Rect.mk.injEq, true_and]; omega)
theorem cellsAtStack_tiles : ∀ (ts : List Tree) (p : List Nat) (i r w : Nat) (bl bt bb : Border), ts ≠ [] →
    wfList ts = true → wds ts ≤ w → RTiles (cellsAtStack ts p i r w bl bt bb) ⟨r, 0, r + hts ts, w⟩
  | [], _, _, _, _, _, _, _, hne, _, _ => absurd rfl hne
  | t :: ts, p, i, r, w, bl, bt, bb, _, h, hw => by
    rw [wfList_cons] at h
    simp only [wds] at hw
    have ht := cellsAt_tiles t (p ++ [i]) r w ⟨bl, .normal, bt, if ts.isEmpty then bb else .normal⟩ h.1 (by omega)
    cases ts with
    | nil => simpa [cellsAtStack, hts] using ht
    | cons a as =>
      exact ht.vappend (cellsAtStack_tiles (a :: as) p (i + 1) (r + t.ht) w _ _ _ (by simp) h.2 (by omega)) rfl rfl rfl
        (by simp only [hts, Rect.mk.injEq, true_and, and_true]; omega)
end

theorem map_eq_self {α} {f : α → α} {l : List α} (h : ∀ x ∈ l, f x = x) : l.map f = l := by
  conv => rhs; rw [← List.map_id l]
  exact List.map_congr_left h

theorem padCell_of_lt (w0 w : Nat) (x : PCell) (h : x.col + x.cols < w0) : padCell w0 w x = x := by
  unfold padCell; rw [if_neg (by omega)]

theorem padCell_cellAt (w0 w r c h k : Nat) (p : List Nat) (kd : CellKind) (B : Ctx) (e : c + k = w0) :
    padCell w0 w (cellAt r c h k p kd B) = cellAt r c h (w - c) p kd B := by
  simp [padCell, cellAt, e]

theorem cellsAt_pad : ∀ (t : Tree) (p : List Nat) (r w W : Nat) (B : Ctx), wf t = true → t.wd ≤ w →
    (cellsAt t p r w B).map (padCell w W) = cellsAt t p r W B
  | .ingredient .., p, r, w, W, B, _, _ => by simp [cellsAt, padCell_cellAt]
  | .reference .., p, r, w, W, B, _, _ => by simp [cellsAt, padCell_cellAt]
  | .step _ ins, p, r, w, W, B, h, hw => by
    rw [wf_step] at h
    simp only [Tree.wd] at hw
    have hs := cellsAtStack_tiles ins p 0 r (wds ins) B.bl B.bt B.bb h.1 h.2 (Nat.le_refl _)
    simp only [cellsAt, List.map_append, List.map_cons, List.map_nil]
    rw [map_eq_self fun x hx => padCell_of_lt _ _ _ (by have := hs.ok x hx; simp only at this; omega),
      padCell_cellAt _ _ _ _ _ _ _ _ _ (by omega)]
  | .sub b ns sh, p, r, w, W, B, h, hw => by
    rw [wf_sub] at h
    rcases Tree.sub_cases ns sh with ⟨hn, rfl⟩ | ⟨hn, rfl⟩ | hn
    · rw [Tree.wd_single b _ hn] at hw
      simp only [cellsAt_titled b hn, List.map_cons, cellsAt_pad b _ _ _ _ _ h hw,
        padCell_cellAt _ _ _ _ _ _ _ _ _ (Nat.zero_add _), Nat.sub_zero]
    · rw [Tree.wd_single b _ hn] at hw
      rw [cellsAt_untitled b hn, cellsAt_untitled b hn]
      exact cellsAt_pad b _ _ _ _ _ h hw
    · rw [Tree.wd_multi b sh hn] at hw
      have hb := cellsAt_tiles b (p ++ [0]) r b.wd .top h (Nat.le_refl _)
      simp only [cellsAt_multi b sh hn, List.map_append, List.map_cons, List.map_nil]
      rw [map_eq_self fun x hx => padCell_of_lt _ _ _ (by have := hb.ok x hx; simp only at this; omega),
        padCell_cellAt _ _ _ _ _ _ _ _ _ (by omega)]

theorem Tree.ht_pos (t : Tree) (h : wf t = true) : 0 < t.ht :=
  (cellsAt_tiles t [] 0 t.wd .bot h (Nat.le_refl _)).height_pos

theorem wds_pos : ∀ ts : List Tree, ts ≠ [] → 0 < wds ts
  | [], h => absurd rfl h
  | t :: ts, _ => by have := Tree.wd_pos t; simp only [wds]; omega

/-- the context after an enclosing `setBorder` of an `H × W'` table -/
def Ctx.bordered (B : Ctx) (r0 h W W' H : Nat) : Ctx :=
  ⟨.subRecipe, if W = W' then .subRecipe else B.br, if r0 = 0 then .subRecipe else B.bt,
   if r0 + h = H then .subRecipe else B.bb⟩

theorem borderCell_cellAt (H W' r c h w : Nat) (p : List Nat) (k : CellKind) (B : Ctx) :
    borderCell H W' .subRecipe (cellAt r c h w p k B) = cellAt r c h w p k
      ⟨if c = 0 then .subRecipe else B.bl, if c + w = W' then .subRecipe else B.br,
       if r = 0 then .subRecipe else B.bt, if r + h = H then .subRecipe else B.bb⟩ := rfl

theorem outB_ite (c : Prop) [Decidable c] (x : Border) :
    outB (if c then .subRecipe else x) = if c then .subRecipe else outB x := by split <;> rfl

mutual
theorem cellsAt_border : ∀ (t : Tree) (p : List Nat) (r W W' H : Nat) (B : Ctx), wf t = true → t.wd ≤ W → W ≤ W' →
    r + t.ht ≤ H →
    (cellsAt t p r W B).map (borderCell H W' .subRecipe) = cellsAt t p r W (B.bordered r t.ht W W' H)
  | .ingredient .., p, r, W, W', H, B, _, _, _, _ => by
    simp [cellsAt, borderCell_cellAt, Ctx.bordered, Tree.ht]; rfl
  | .reference .., p, r, W, W', H, B, _, _, _, _ => by
    simp [cellsAt, borderCell_cellAt, Ctx.bordered, Tree.ht]; rfl
  | .step _ ins, p, r, W, W', H, B, hg, hw, hW, hH => by
    rw [wf_step] at hg
    simp only [Tree.wd] at hw
    simp only [Tree.ht] at hH
    have hp := wds_pos ins hg.1
    simp only [cellsAt, List.map_append, List.map_cons, List.map_nil, borderCell_cellAt,
      cellsAtStack_border ins p 0 r (wds ins) W' H _ _ _ hg.2 (Nat.le_refl _) (by omega) hH]
    have e1 : wds ins + (W - wds ins) = W := by omega
    have e2 : wds ins ≠ 0 := by omega
    simp [Ctx.bordered, Tree.ht, e1, e2]; exact ⟨rfl, rfl⟩
  | .sub b ns sh, p, r, W, W', H, B, hg, hw, hW, hH => by
    rw [wf_sub] at hg
    have hp := Tree.ht_pos b hg
    have hq := Tree.wd_pos b
    rcases Tree.sub_cases ns sh with ⟨hn, rfl⟩ | ⟨hn, rfl⟩ | hn
    · rw [Tree.wd_single b _ hn] at hw
      rw [Tree.ht_titled b hn] at hH ⊢
      simp only [cellsAt_titled b hn, List.map_cons, borderCell_cellAt,
        cellsAt_border b _ (r + 1) W W' H _ hg hw hW (by omega)]
      have e2 : ¬ r + 1 = H := by omega
      simp [Ctx.bordered, e2]
    · rw [Tree.wd_single b _ hn] at hw
      rw [Tree.ht_untitled b hn] at hH ⊢
      rw [cellsAt_untitled b hn, cellsAt_untitled b hn, cellsAt_border b _ r W W' H _ hg hw hW hH]
      simp [Ctx.bordered, Ctx.top]
    · rw [Tree.wd_multi b sh hn] at hw
      rw [Tree.ht_multi b sh hn] at hH ⊢
      simp only [cellsAt_multi b sh hn, List.map_append, List.map_cons, List.map_nil, borderCell_cellAt,
        cellsAt_border b _ r b.wd W' H _ hg (Nat.le_refl _) (by omega) hH]
      have e1 : b.wd + (W - b.wd) = W := by omega
      have e2 : b.wd ≠ 0 := by omega
      simp [Ctx.bordered, Ctx.top, e1, e2, outB_ite]
theorem cellsAtStack_border : ∀ (ts : List Tree) (p : List Nat) (i r w W' H : Nat) (bl bt bb : Border),
    wfList ts = true → wds ts ≤ w → w < W' → r + hts ts ≤ H →
    (cellsAtStack ts p i r w bl bt bb).map (borderCell H W' .subRecipe) =
      cellsAtStack ts p i r w .subRecipe (if r = 0 then .subRecipe else bt)
        (if r + hts ts = H then .subRecipe else bb)
  | [], _, _, _, _, _, _, _, _, _, _, _, _, _ => by simp [cellsAtStack]
  | t :: ts, p, i, r, w, W', H, bl, bt, bb, hg, hw, hW, hH => by
    rw [wfList_cons] at hg
    simp only [wds] at hw
    simp only [hts] at hH
    have hp := Tree.ht_pos t hg.1
    simp only [cellsAtStack, List.map_append,
      cellsAt_border t _ r w W' H _ hg.1 (by omega) (by omega) (by omega),
      cellsAtStack_border ts p (i + 1) (r + t.ht) w W' H _ _ _ hg.2 (by omega) hW (by omega)]
    have e1 : ¬ r + t.ht = 0 := by omega
    have e2 : ¬ w = W' := by omega
    have e3 : r + t.ht + hts ts = H ↔ r + (t.ht + hts ts) = H := by omega
    congr 1
    · congr 1
      simp only [Ctx.bordered, e2, if_false, hts]
      cases ts with
      | nil => simp [hts]; rfl
      | cons m ms =>
        rw [wfList_cons] at hg
        have hm := Tree.ht_pos m hg.2.1
        have : ¬ r + t.ht = H := by simp only [hts] at hH; omega
        simp [this]
    · simp only [e1, if_false, hts, e3]; rfl
end

theorem Tbl.eq_mk {T : Tbl} {h w : Nat} {cs : List PCell} (e1 : T.h = h) (e2 : T.w = w) (e3 : T.cells = cs) :
    T = ⟨h, w, cs⟩ := by cases T; simp_all

mutual
theorem layoutAt_eq_cellsAt : ∀ (t : Tree) (p : List Nat), wf t = true →
    layoutAt p false t = ⟨t.ht, t.wd, cellsAt t p 0 t.wd .bot⟩
  | .ingredient .., p, _ => rfl
  | .reference .., p, _ => rfl
  | .step d ins, p, hw => by
    rw [wf_step] at hw
    obtain ⟨h1, h2⟩ := stack_eq_cellsAt ins p 0 (wds ins) hw.2
    obtain ⟨h3, h4⟩ := h2 (Nat.le_refl _)
    rw [← h1] at h3 h4
    have hwd : (stackOf p ins).w = wds ins := by rw [stackOf_w p ins hw.1, h1]
    rw [layoutAt_step]
    refine Tbl.eq_mk h3 (by simp only [rootBorder, hcat, hwd, stepCol, Tree.wd]; rfl) ?_
    simp only [rootBorder, Bool.false_eq_true, if_false, hcat, stepCol, List.map_cons, List.map_nil, cellsAt, hwd]
    rw [show (stackOf p ins).cells = _ from h4, show (stackOf p ins).h = _ from h3, h1]
    simp [shiftRight, cellAt, Tree.wd, Ctx.bot]
  | .sub b ns sh, p, hw => by
    rw [wf_sub] at hw
    have hb := layoutAt_eq_cellsAt b (p ++ [0]) hw
    have hp := Tree.ht_pos b hw
    simp only [layoutAt, hb, Tree.ht, Tree.wd, cellsAt]
    split
    · split
      · refine Tbl.eq_mk rfl rfl ?_
        simp only [setBorder, vcat, List.cons_append, List.nil_append, List.map_cons, cellsAt_down,
          cellsAt_border b _ _ _ _ _ _ hw (Nat.le_refl _) (Nat.le_refl _) (Nat.le_refl _)]
        have e2 : ¬ b.ht = 0 := by omega
        simp [borderCell, cellAt, Ctx.bordered, Ctx.bot, e2]
      · refine Tbl.eq_mk rfl rfl ?_
        simp only [setBorder, cellsAt_border b _ _ _ _ _ _ hw (Nat.le_refl _) (Nat.le_refl _) (Nat.le_of_eq (Nat.zero_add _))]
        simp [Ctx.bordered, Ctx.top]
    · refine Tbl.eq_mk rfl rfl ?_
      simp only [hcat, setBorder, List.map_cons, List.map_nil,
        cellsAt_border b _ _ _ _ _ _ hw (Nat.le_refl _) (Nat.le_refl _) (Nat.le_of_eq (Nat.zero_add _))]
      simp [Ctx.bordered, Ctx.top, Ctx.bot, shiftRight, cellAt, outB]
theorem stack_eq_cellsAt : ∀ (ts : List Tree) (p : List Nat) (i w : Nat), wfList ts = true →
    maxWidth (layoutInputs p i ts) = wds ts ∧
    (wds ts ≤ w → (vstack ((layoutInputs p i ts).map (pad · w))).h = hts ts ∧
      (vstack ((layoutInputs p i ts).map (pad · w))).cells = cellsAtStack ts p i 0 w .normal .normal .normal)
  | [], p, i, w, _ => by simp [layoutInputs, maxWidth, wds, hts, vstack, cellsAtStack]
  | t :: ts, p, i, w, hw => by
    rw [wfList_cons] at hw
    have ht := layoutAt_eq_cellsAt t (p ++ [i]) hw.1
    obtain ⟨h4, h5⟩ := stack_eq_cellsAt ts p (i + 1) w hw.2
    simp only [layoutInputs, maxWidth, wds, ht, h4, List.map_cons, vstack_cons, vcat, pad_h, hts, cellsAtStack]
    refine ⟨trivial, fun hle => ?_⟩
    obtain ⟨h6, h7⟩ := h5 (by omega)
    refine ⟨by rw [h6], ?_⟩
    rw [pad_cells _ _ (by simp only; omega), cellsAt_pad _ _ _ _ _ _ hw.1 (Nat.le_refl _), h7, cellsAtStack_down,
      Nat.zero_add]
    simp [Ctx.bot]
end

mutual
theorem cellsAt_pk : ∀ (t : Tree) (p : List Nat) (r W : Nat) (B : Ctx), (cellsAt t p r W B).map pk = drawn p t
  | .ingredient .., _, _, _, _ => rfl
  | .reference .., _, _, _, _ => rfl
  | .step _ ins, p, r, W, B => by
    simp only [cellsAt, drawn, List.map_append, cellsAtStack_pk ins]; rfl
  | .sub b ns sh, p, r, W, B => by
    simp only [cellsAt, drawn]
    split
    · split
      · rw [List.map_cons, cellsAt_pk b]; rfl
      · exact cellsAt_pk b _ _ _ _
    · rw [List.map_append, cellsAt_pk b]; rfl
theorem cellsAtStack_pk : ∀ (ts : List Tree) (p : List Nat) (i r w : Nat) (bl bt bb : Border),
    (cellsAtStack ts p i r w bl bt bb).map pk = drawnInputs p i ts
  | [], _, _, _, _, _, _, _ => rfl
  | t :: ts, p, i, r, w, bl, bt, bb => by
    simp only [cellsAtStack, drawnInputs, List.map_append, cellsAt_pk t, cellsAtStack_pk ts]
end

theorem cellsAt_under (t : Tree) (p : List Nat) (r W : Nat) (B : Ctx) : ∀ x ∈ cellsAt t p r W B, p <+: x.path :=
  path_of_pk (cellsAt_pk t p r W B) (drawn_prefix t p)

theorem cellsAtStack_under (ts : List Tree) (p : List Nat) (i r w : Nat) (bl bt bb : Border) :
    ∀ x ∈ cellsAtStack ts p i r w bl bt bb, ∃ j, i ≤ j ∧ p ++ [j] <+: x.path :=
  path_of_pk (cellsAtStack_pk ts p i r w bl bt bb) (drawnInputs_prefix ts p i)

theorem cellsAtStack_filter : ∀ (ts : List Tree) (p : List Nat) (i r w : Nat) (bl bt bb : Border) (j : Nat) (c : Tree),
    ts[j]? = some c → ∃ B', (cellsAtStack ts p i r w bl bt bb).filter (under (p ++ [i + j])) =
      cellsAt c (p ++ [i + j]) (r + hts (ts.take j)) w B'
  | [], _, _, _, _, _, _, _, _, _, h => by simp at h
  | t :: ts, p, i, r, w, bl, bt, bb, 0, c, h => by
    simp only [List.getElem?_cons_zero, Option.some.injEq] at h; subst h
    refine ⟨⟨bl, .normal, bt, if ts.isEmpty then bb else .normal⟩, ?_⟩
    simp only [cellsAtStack, List.filter_append, Nat.add_zero, List.take_zero, hts]
    rw [filter_under_eq_self (cellsAt_under _ _ _ _ _), filter_under_eq_nil, List.append_nil]
    intro x hx
    obtain ⟨k, hk1, hk2⟩ := cellsAtStack_under ts p (i + 1) _ _ _ _ _ x hx
    exact not_prefix_of_snoc_ne (List.prefix_refl _) hk2 (by omega)
  | t :: ts, p, i, r, w, bl, bt, bb, j + 1, c, h => by
    simp only [List.getElem?_cons_succ] at h
    obtain ⟨B', ih⟩ := cellsAtStack_filter ts p (i + 1) (r + t.ht) w bl .normal bb j c h
    refine ⟨B', ?_⟩
    simp only [cellsAtStack, List.filter_append, List.take_succ_cons, hts]
    rw [filter_under_eq_nil fun x hx =>
        not_prefix_of_snoc_ne (List.prefix_refl _) (cellsAt_under t _ _ _ _ x hx) (by omega),
      List.nil_append, show i + (j + 1) = i + 1 + j by omega, ih, Nat.add_assoc r]

theorem not_under_own (p : List Nat) (j : Nat) {x : PCell} (hx : x.path = p) : ¬ under (p ++ [j]) x = true := fun h' => by
  rw [under_iff, hx] at h'; exact prefix_snoc_ne h' rfl

theorem cellsAt_child_step (d : SVS) (ins : List Tree) (p : List Nat) (r W : Nat) (B : Ctx) (i : Nat) (c : Tree)
    (h : ins[i]? = some c) : ∃ B', (cellsAt (.step d ins) p r W B).filter (under (p ++ [i])) =
      cellsAt c (p ++ [i]) (r + hts (ins.take i)) (wds ins) B' := by
  obtain ⟨B', ih⟩ := cellsAtStack_filter ins p 0 r (wds ins) B.bl B.bt B.bb i c h
  refine ⟨B', ?_⟩
  rw [Nat.zero_add] at ih
  rw [cellsAt_step, List.filter_append, ih, List.filter_cons_of_neg (not_under_own p i rfl), List.filter_nil, List.append_nil]

theorem cellsAt_child_titled (b : Tree) {ns : List SVS} (h1 : ns.length = 1) (p : List Nat) (r W : Nat) (B : Ctx) :
    (cellsAt (.sub b ns true) p r W B).filter (under (p ++ [0])) =
      cellsAt b (p ++ [0]) (r + 1) W ⟨.subRecipe, .subRecipe, .normal, .subRecipe⟩ := by
  rw [cellsAt_titled b h1, List.filter_cons_of_neg (not_under_own p 0 rfl), filter_under_eq_self (cellsAt_under _ _ _ _ _)]

theorem cellsAt_child_untitled (b : Tree) {ns : List SVS} (h1 : ns.length = 1) (p : List Nat) (r W : Nat) (B : Ctx) :
    (cellsAt (.sub b ns false) p r W B).filter (under (p ++ [0])) = cellsAt b (p ++ [0]) r W .top := by
  rw [cellsAt_untitled b h1, filter_under_eq_self (cellsAt_under _ _ _ _ _)]

theorem cellsAt_child_multi (b : Tree) {ns : List SVS} (sh : Bool) (h1 : ns.length ≠ 1) (p : List Nat) (r W : Nat) (B : Ctx) :
    (cellsAt (.sub b ns sh) p r W B).filter (under (p ++ [0])) = cellsAt b (p ++ [0]) r b.wd .top := by
  rw [cellsAt_multi b sh h1, List.filter_append, List.filter_cons_of_neg (not_under_own p 0 rfl), List.filter_nil,
    filter_under_eq_self (cellsAt_under _ _ _ _ _), List.append_nil]

theorem hts_take_succ : ∀ (ins : List Tree) (i : Nat) (c : Tree), ins[i]? = some c →
    hts (ins.take (i + 1)) = hts (ins.take i) + c.ht
  | [], _, _, h => by simp at h
  | a :: as, 0, c, h => by simp at h; subst h; simp [hts]
  | a :: as, i + 1, c, h => by
    simp only [List.getElem?_cons_succ] at h
    simp only [List.take_succ_cons, hts, hts_take_succ as i c h]; omega

theorem hts_take_le : ∀ (ins : List Tree) (k : Nat), hts (ins.take k) ≤ hts ins
  | [], _ => by simp [hts]
  | a :: as, 0 => by simp [hts]
  | a :: as, k + 1 => by have := hts_take_le as k; simp only [List.take_succ_cons, hts]; omega

theorem wd_le_wds : ∀ (ins : List Tree) (i : Nat) (c : Tree), ins[i]? = some c → c.wd ≤ wds ins
  | [], _, _, h => by simp at h
  | a :: as, 0, c, h => by simp at h; subst h; simp only [wds]; omega
  | a :: as, i + 1, c, h => by
    simp only [List.getElem?_cons_succ] at h
    have := wd_le_wds as i c h; simp only [wds]; omega

theorem cellsAt_at : ∀ (q : List Nat) (t : Tree) (p : List Nat) (r W : Nat) (B : Ctx) (n : Tree), wf t = true →
    t.wd ≤ W → t.at? q = some n →
    ∃ r' W' B', (cellsAt t p r W B).filter (under (p ++ q)) = cellsAt n (p ++ q) r' W' B' ∧
      n.wd ≤ W' ∧ W' ≤ W ∧ r' + n.ht ≤ r + t.ht ∧ (q = [] → r' = r ∧ W' = W)
  | [], t, p, r, W, B, n, _, hW, h => by
    simp only [at?_nil, Option.some.injEq] at h; subst h
    exact ⟨r, W, B, by rw [List.append_nil, filter_under_eq_self (cellsAt_under _ _ _ _ _)], hW, Nat.le_refl _, Nat.le_refl _,
      fun _ => ⟨rfl, rfl⟩⟩
  | i :: rest, t, p, r, W, B, n, hw, hW, h => by
    have e : p ++ i :: rest = p ++ [i] ++ rest := by simp
    have hpre : p ++ [i] <+: p ++ i :: rest := e ▸ List.prefix_append _ _
    rw [← filter_under_of_prefix hpre]
    rcases at?_cons t i rest n h with ⟨d, ins, c, rfl, hc, hr⟩ | ⟨b, ns, sh, rfl, rfl, hr⟩
    · rw [wf_step] at hw
      simp only [Tree.wd] at hW
      obtain ⟨B1, e1⟩ := cellsAt_child_step d ins p r W B i c hc
      have hcw := wd_le_wds ins i c hc
      obtain ⟨r', W', B', e2, a1, a2, a3, -⟩ := cellsAt_at rest c (p ++ [i]) (r + hts (ins.take i)) (wds ins) B1 n
        (wfList_getElem? ins i c hw.2 hc) hcw hr
      have := hts_take_succ ins i c hc
      have := hts_take_le ins (i + 1)
      exact ⟨r', W', B', by rw [e1, e, e2], a1, by omega, by simp only [Tree.ht]; omega, by simp⟩
    · rw [wf_sub] at hw
      rcases Tree.sub_cases ns sh with ⟨hn, rfl⟩ | ⟨hn, rfl⟩ | hn
      · rw [Tree.wd_single b _ hn] at hW
        obtain ⟨r', W', B', e2, a1, a2, a3, -⟩ := cellsAt_at rest b (p ++ [0]) (r + 1) W _ n hw hW hr
        exact ⟨r', W', B', by rw [cellsAt_child_titled b hn, e, e2], a1, a2, by rw [Tree.ht_titled b hn]; omega, by simp⟩
      · rw [Tree.wd_single b _ hn] at hW
        obtain ⟨r', W', B', e2, a1, a2, a3, -⟩ := cellsAt_at rest b (p ++ [0]) r W _ n hw hW hr
        exact ⟨r', W', B', by rw [cellsAt_child_untitled b hn, e, e2], a1, a2, by rw [Tree.ht_untitled b hn]; exact a3,
          by simp⟩
      · rw [Tree.wd_multi b sh hn] at hW
        obtain ⟨r', W', B', e2, a1, a2, a3, -⟩ := cellsAt_at rest b (p ++ [0]) r b.wd _ n hw (Nat.le_refl _) hr
        exact ⟨r', W', B', by rw [cellsAt_child_multi b sh hn, e, e2], a1, by omega, by rw [Tree.ht_multi b sh hn]; exact a3,
          by simp⟩

/-- the context of a table laid out with the root flag: an outline of its own unless it is a sub recipe, which draws its
    own -/
def rootCtx : Bool → Tree → Ctx
  | true, .sub .. => .bot
  | true, _ => .top
  | false, _ => .bot

theorem setBorder_cellsAt (t : Tree) (p : List Nat) (hw : wf t = true) :
    setBorder ⟨t.ht, t.wd, cellsAt t p 0 t.wd .bot⟩ .subRecipe = ⟨t.ht, t.wd, cellsAt t p 0 t.wd .top⟩ := by
  simp only [setBorder, cellsAt_border t p 0 _ _ _ _ hw (Nat.le_refl _) (Nat.le_refl _) (Nat.le_of_eq (Nat.zero_add _))]
  simp [Ctx.bordered, Ctx.top]

theorem layoutAt_eq (t : Tree) (p : List Nat) (root : Bool) (hw : wf t = true) :
    layoutAt p root t = ⟨t.ht, t.wd, cellsAt t p 0 t.wd (rootCtx root t)⟩ := by
  cases root with
  | false => rw [layoutAt_eq_cellsAt t p hw]; cases t <;> rfl
  | true =>
    cases t with
    | sub b ns sh =>
      exact (show layoutAt p true (.sub b ns sh) = layoutAt p false (.sub b ns sh) by simp only [layoutAt]).trans
        (layoutAt_eq_cellsAt _ p hw)
    | ingredient d q => exact (congrArg (setBorder · .subRecipe) (layoutAt_eq_cellsAt _ p hw)).trans (setBorder_cellsAt _ p hw)
    | reference s i a => exact (congrArg (setBorder · .subRecipe) (layoutAt_eq_cellsAt _ p hw)).trans (setBorder_cellsAt _ p hw)
    | step d ins =>
      refine Eq.trans ?_ ((congrArg (setBorder · .subRecipe) (layoutAt_eq_cellsAt _ p hw)).trans (setBorder_cellsAt _ p hw))
      rw [layoutAt_step, layoutAt_step]; rfl

theorem layoutAt_good (t : Tree) (p : List Nat) (root : Bool) (hw : wf t = true) : Good (layoutAt p root t) := by
  rw [layoutAt_eq t p root hw]
  exact (cellsAt_tiles t p 0 t.wd _ hw (Nat.le_refl _)).cast (by simp)

theorem layoutInputs_good : ∀ (ts : List Tree) (p : List Nat) (i : Nat), wfList ts = true →
    ∀ t ∈ layoutInputs p i ts, Good t
  | [], _, _, _ => by simp [layoutInputs]
  | a :: as, p, i, h => by
    rw [wfList_cons] at h
    simp only [layoutInputs, List.mem_cons, forall_eq_or_imp]
    exact ⟨layoutAt_good a _ false h.1, layoutInputs_good as p (i + 1) h.2⟩

theorem reg_root (t : Tree) (hw : wf t = true) :
    reg (layout t).cells [] = ⟨0, 0, (layout t).h, (layout t).w⟩ := by
  simp only [reg, layout]
  rw [filter_under_eq_self (layoutAt_under t [] true)]
  exact (layoutAt_good t [] true hw).bbox_eq

theorem reg_of_cellsAt {cs : List PCell} {q : List Nat} {n : Tree} {r W : Nat} {B : Ctx}
    (e : cs.filter (under q) = cellsAt n q r W B) (hw : wf n = true) (hW : n.wd ≤ W) :
    reg cs q = ⟨r, 0, r + n.ht, W⟩ := by
  rw [reg, e]; exact (cellsAt_tiles n q r W B hw hW).bbox_eq

theorem reg_child {cs : List PCell} {q : List Nat} {n c : Tree} {r W r' W' i : Nat} {B B' : Ctx}
    (e : cs.filter (under q) = cellsAt n q r W B)
    (e' : (cellsAt n q r W B).filter (under (q ++ [i])) = cellsAt c (q ++ [i]) r' W' B') (hw : wf c = true) (hW : c.wd ≤ W') :
    reg cs (q ++ [i]) = ⟨r', 0, r' + c.ht, W'⟩ :=
  reg_of_cellsAt (by rw [← filter_under_of_prefix (List.prefix_append q [i]), e, e']) hw hW

/-- the box of a node.  For the node `n` at `q` of a well-formed tree there are a row `r`, a width `W` and a context `B` such
    that the cells of the layout below `q` are `cellsAt n q r W B`, inside the table.  So the region of `q` is the box
    `[r, r + n.ht) × [0, W)`; at the root the width is the tree's own -/
theorem node_box (t : Tree) (hw : wf t = true) (q : List Nat) (n : Tree) (hq : t.at? q = some n) :
    ∃ r W B, (layout t).cells.filter (under q) = cellsAt n q r W B ∧ wf n = true ∧ n.wd ≤ W ∧ (q = [] → W = n.wd) ∧
      W ≤ (layout t).w ∧ r + n.ht ≤ (layout t).h ∧ reg (layout t).cells q = ⟨r, 0, r + n.ht, W⟩ := by
  obtain ⟨r, W, B, e, a1, a2, a3, a4⟩ := cellsAt_at q t [] 0 t.wd (rootCtx true t) n hw (Nat.le_refl _) hq
  have hwn := wf_at _ _ _ hw hq
  rw [layout, layoutAt_eq t [] true hw]
  rw [List.nil_append] at e
  refine ⟨r, W, B, e, hwn, a1, fun h0 => ?_, a2, by simpa using a3, reg_of_cellsAt e hwn a1⟩
  subst h0
  rw [at?_nil, Option.some.injEq] at hq
  rw [(a4 rfl).2, hq]

theorem own_cell {cs P rest : List PCell} {q : List Nat} {c : PCell} (hf : cs.filter (under q) = P) (hP : P.Perm (c :: rest))
    (hc : c.path = q) (hrest : ∀ y ∈ rest, ∃ j, q ++ [j] <+: y.path) :
    (∃ x ∈ cs, x.path = q) ∧ ∀ x ∈ cs, x.path = q → x = c := by
  have hmem : ∀ x, x = c ∨ x ∈ rest ↔ x ∈ cs ∧ q <+: x.path := fun x => by
    rw [← List.mem_cons, ← hP.mem_iff, ← hf, List.mem_filter, under_iff]
  refine ⟨⟨c, ((hmem c).1 (Or.inl rfl)).1, hc⟩, fun x hx hpx => ?_⟩
  rcases (hmem x).2 ⟨hx, hpx ▸ List.prefix_refl _⟩ with h | h
  · exact h
  · obtain ⟨j, hj⟩ := hrest x h
    exact absurd hpx (prefix_snoc_ne hj)

end RG
