import RecipeGrid.Lemmas.ParserErrPrefix
/-! Position independence of the parser: on `pre ++ s` from position `i + pre.length` a rule does what it does on `s`
    from `i`, with every position, every recorded source offset and the furthest failure moved by `pre.length`.
    (`Sh` and `ShE` ask that no character of `pre` is a word character.  The bare combinator `wordBoundary` looks back and
    would need that; no terminal of the grammar does: its `\b` stands after at least one character of the same terminal, and a
    regular expression is matched on the text from its start on, `Rx.ScanIs.sh`.)  Here the value maps, the scanners of
    `Model/Parser.lean` (`Parser.Sh`, "shift"), which are the terminals of the instrumented parser, and the combinators of
    `Model/ParserErr.lean` (`ShE`).  The rules are in `Lemmas/BuiltSh.lean`, `parseE_pad` in `Lemmas/ParserErrPrefixRules.lean`,
    the plain parser in `Lemmas/Shift.lean`. -/
namespace RG

/-! ## the value maps: padding the text with `k` characters moves every recorded offset by `k`, and no text -/

def SubStr.shift (k : Nat) : SubStr → SubStr
  | .sub off s => .sub (off + k) s
  | .num off n => .num (off + k) n

def shiftString (k : Nat) (s : AString) : AString := s.map (SubStr.shift k)

def shiftAmount (k : Nat) : AAmount → AAmount
  | .qty off v u sp p => .qty (off + k) v (u.map (shiftString k)) sp p
  | .prop off v pct w p => .prop (off + k) v pct w p

mutual
def shiftExpr (k : Nat) : AExpr → AExpr
  | .step name inputs => .step (shiftString k name) (shiftExprs k inputs)
  | .ref name amount => .ref (shiftString k name) (amount.map (shiftAmount k))
def shiftExprs (k : Nat) : List AExpr → List AExpr
  | [] => []
  | e :: es => shiftExpr k e :: shiftExprs k es
end

theorem shiftExprs_eq_map (k : Nat) : ∀ es : List AExpr, shiftExprs k es = es.map (shiftExpr k)
  | [] => rfl
  | e :: es => by rw [shiftExprs, shiftExprs_eq_map k es]; rfl

def shiftStmt (k : Nat) (s : AStmt) : AStmt :=
  { expr := shiftExpr k s.expr, outputs := s.outputs.map (List.map (shiftString k)), named := s.named }

namespace Parser

def shSt (k : Nat) (st : PState) : PState := ⟨st.pos + k, st.zero⟩

@[simp] theorem shSt_pos (k : Nat) (st : PState) : (shSt k st).pos = st.pos + k := rfl
@[simp] theorem shSt_zero (k : Nat) (st : PState) : (shSt k st).zero = st.zero := rfl

def NonWord (pre : Str) : Prop := ∀ c ∈ pre, isReWord c = false

def Sh {α α' : Type} (pre : Str) (g : α → α') (p' : P α') (p : P α) : Prop :=
  NonWord pre → ∀ (s : Str) (st : PState),
    p' (pre ++ s).toArray (shSt pre.length st) =
      (p s.toArray st).map (fun r => (g r.1, shSt pre.length r.2))

variable {pre : Str}

theorem Sh.pure {α α' : Type} {g : α → α'} {a : α} {b : α'} (h : b = g a) :
    Sh pre g (pure b) (pure a) := by
  intro _ s st; subst h; rfl

theorem Sh.fail {α α' : Type} {g : α → α'} : Sh pre g (fail : P α') (fail : P α) := by
  intro _ s st; rfl

theorem Sh.bind {α α' β β' : Type} {f : α → α'} {g : β → β'} {m' : P α'} {m : P α}
    {h' : α' → P β'} {h : α → P β} (hm : Sh pre f m' m) (hh : ∀ a, Sh pre g (h' (f a)) (h a)) :
    Sh pre g (m' >>= h') (m >>= h) := by
  intro hw s st
  rw [bind_apply, bind_apply, hm hw s st]
  cases m s.toArray st with
  | none => rfl
  | some r => obtain ⟨a, s1⟩ := r; exact hh a hw s s1

theorem Sh.orElse {α α' : Type} {g : α → α'} {p' q' : P α'} {p q : P α}
    (hp : Sh pre g p' p) (hq : Sh pre g q' q) : Sh pre g (p' <|> q') (p <|> q) := by
  intro hw s st
  rw [orElse_apply, orElse_apply, hp hw s st]
  cases p s.toArray st with
  | none => exact hq hw s st
  | some r => rfl

theorem Sh.map {α α' β β' : Type} {f : α → α'} {g : β → β'} {u' : α' → β'} {u : α → β} {p' : P α'} {p : P α}
    (hp : Sh pre f p' p) (hu : ∀ a, u' (f a) = g (u a)) : Sh pre g (u' <$> p') (u <$> p) := by
  intro hw s st
  rw [map_apply, map_apply, hp hw s st]
  cases p s.toArray st with
  | none => rfl
  | some r => obtain ⟨a, s1⟩ := r; simp [hu]

theorem Sh.opt {α α' : Type} {g : α → α'} {p' : P α'} {p : P α} (hp : Sh pre g p' p) :
    Sh pre (Option.map g) (opt p') (opt p) :=
  Sh.orElse (Sh.map hp fun _ => rfl) (Sh.pure rfl)

theorem Sh.getPos : Sh pre (· + pre.length) getPos getPos := by
  intro _ s st; rfl

theorem Sh.remaining : Sh pre id remaining remaining := by
  intro _ s st
  simp only [remaining_apply, Option.map_some, shSt_pos, List.size_toArray, List.length_append, id]
  congr 2
  omega

theorem getElem?_pad (pre s : Str) (i : Nat) : (pre ++ s).toArray[i + pre.length]? = s.toArray[i]? := by
  simp [List.getElem?_append_right]

theorem size_pad (pre s : Str) : (pre ++ s).toArray.size = s.toArray.size + pre.length := by
  simp; omega

theorem Sh.sat (p : Char → Bool) : Sh pre id (sat p) (sat p) := by
  intro _ s st
  simp only [Parser.sat, shSt_pos, getElem?_pad]
  cases s.toArray[st.pos]? with
  | none => rfl
  | some c =>
    by_cases h : p c = true
    · simp only [h, if_true, Option.map_some, id]
      simp only [shSt, Nat.add_right_comm]
    · simp only [h]; rfl

theorem Sh.lit (c : Char) : Sh pre id (lit c) (lit c) :=
  Sh.bind (Sh.sat _) fun _ => Sh.pure rfl

theorem spanEnd_pad (p : Char → Bool) (pre s : Str) (i : Nat) :
    spanEnd p (pre ++ s).toArray (i + pre.length) = spanEnd p s.toArray i + pre.length := by
  rw [spanEnd_eq_takeWhile, spanEnd_eq_takeWhile, List.drop_append, List.drop_eq_nil_of_le (Nat.le_add_left _ _),
    Nat.add_sub_cancel, List.nil_append, Nat.add_right_comm]

theorem Sh.skipMany (p : Char → Bool) : Sh pre id (skipMany p) (skipMany p) := by
  intro _ s st
  simp only [Parser.skipMany, shSt_pos, spanEnd_pad, Option.map_some, id]
  rfl

theorem Sh.skipMany1 (p : Char → Bool) : Sh pre id (skipMany1 p) (skipMany1 p) :=
  Sh.bind (Sh.sat _) fun _ => Sh.skipMany p

theorem Sh.hsp : Sh pre id hsp hsp := Sh.skipMany1 _
theorem Sh.ohsp : Sh pre id ohsp ohsp := Sh.skipMany _
theorem Sh.eof : Sh pre id eof eof := by
  intro _ s st
  simp only [Parser.eof, size_pad, shSt_pos]
  by_cases h : s.toArray.size ≤ st.pos
  · rw [if_pos h, if_pos (by omega)]; rfl
  · rw [if_neg h, if_neg (by omega)]; rfl

theorem extract_pad (pre s : Str) (i j : Nat) :
    (pre ++ s).toArray.extract (i + pre.length) (j + pre.length) = s.toArray.extract i j := by
  apply Array.ext'
  simp only [Array.toList_extract, List.extract_eq_take_drop, List.drop_append, List.take_append,
    List.length_drop]
  rw [List.drop_eq_nil_of_le (by omega), show j + pre.length - (i + pre.length) = j - i by omega,
    show i + pre.length - pre.length = i by omega]
  simp

theorem Sh.withText {α α' : Type} {g : α → α'} {p' : P α'} {p : P α} (hp : Sh pre g p' p) :
    Sh pre (fun x => (g x.1, x.2)) (withText p') (withText p) := by
  intro hw s st
  simp only [Parser.withText, hp hw s st]
  cases p s.toArray st with
  | none => rfl
  | some r => simp only [Option.map_some, shSt_pos, extract_pad]

theorem Sh.textOf {p' p : P Unit} (hp : Sh pre id p' p) : Sh pre id (textOf p') (textOf p) :=
  Sh.bind (Sh.withText hp) fun _ => Sh.pure rfl

theorem Sh.digits : Sh pre id digits digits := Sh.textOf (Sh.skipMany1 _)

/-- a regular expression is matched against the text from its start on (`Rx.matchEnd_slice`): nothing in front of it
    matters to a terminal without a value, not even word characters (there is nothing before the start for `\b`) -/
theorem _root_.RG.Rx.ScanIs.sh {scan : P Unit} {r : Rx} (h : Rx.ScanIs scan r) : Sh pre id scan scan := by
  intro _ s st
  obtain ⟨i, z⟩ := st
  rw [show shSt pre.length ⟨i, z⟩ = ⟨i + pre.length, z⟩ from rfl, h, h, Rx.matchEnd_slice, Rx.matchEnd_slice r s.toArray,
    size_pad, extract_pad]
  cases r.matchEnd (s.toArray.extract i s.toArray.size) 0 with
  | none => rfl
  | some j => simp [shSt, Nat.add_assoc]

theorem Sh.preposition : Sh pre id preposition preposition := Rx.scanIs_preposition.sh
theorem Sh.remainder : Sh pre id remainder remainder := Rx.scanIs_remainder.sh
theorem Sh.knownUnit : Sh pre id knownUnit knownUnit := Rx.scanIs_knownUnit.sh
theorem Sh.eolBreak : Sh pre id ParserE.eolBreak ParserE.eolBreak := Rx.scanIs_eolBreak.sh

def shNum (k : Nat) (x : Nat × Num) : Nat × Num := (x.1 + k, x.2)

theorem Sh.decimal : Sh pre (shNum pre.length) decimal decimal := by
  unfold Parser.decimal
  refine Sh.bind Sh.getPos fun off => ?_
  refine Sh.bind Sh.digits fun whole => ?_
  refine Sh.bind (Sh.opt (g := id) (Sh.bind (Sh.lit _) fun _ => Sh.textOf (Sh.skipMany _))) fun frac => ?_
  cases frac with
  | none => exact Sh.pure rfl
  | some frac => exact Sh.pure rfl

theorem trimBack_pad (p : Char → Bool) (pre s : Str) (lo : Nat) : ∀ hi,
    trimBack p (pre ++ s).toArray (lo + pre.length) (hi + pre.length) = trimBack p s.toArray lo hi + pre.length
  | 0 => by rw [trimBack_of_le _ _ _ _ (by omega)]; rfl
  | hi + 1 => by
    rw [show hi + 1 + pre.length = (hi + pre.length) + 1 by omega, trimBack, trimBack, getElem?_pad]
    by_cases h : hi + 1 ≤ lo
    · rw [if_pos h, if_pos (by omega)]
    · rw [if_neg h, if_neg (by omega)]
      cases s.toArray[hi]? with
      | none => exact trimBack_pad p pre s lo hi
      | some c =>
        by_cases hc : p c = true
        · simp only [hc, if_true]; omega
        · simp only [hc]; exact trimBack_pad p pre s lo hi

theorem Sh.nakedTail : Sh pre id nakedTail nakedTail := by
  intro _ s st
  simp only [Parser.nakedTail, shSt_pos, spanEnd_pad, trimBack_pad, Option.map_some, id]
  rfl

theorem Sh.nakedString : Sh pre (shiftString pre.length) nakedString nakedString := by
  rw [nakedString_eq]
  refine Sh.bind Sh.getPos fun off => ?_
  refine Sh.bind (Sh.withText (g := id) (Sh.bind (Sh.sat _) fun _ => Sh.nakedTail)) fun x => ?_
  obtain ⟨u, text⟩ := x
  exact Sh.pure rfl

def shItem (k : Nat) : BracketedItem → BracketedItem
  | .num off n => .num (off + k) n
  | .chr off c => .chr (off + k) c

def shAcc (k : Nat) (a : BracketedAcc) : BracketedAcc :=
  ⟨shiftString k a.out, a.segment, a.segmentOff.map (· + k)⟩

def AccInv (a : BracketedAcc) : Prop := a.segment ≠ [] → a.segmentOff.isSome = true

theorem push_shift (k : Nat) (a : BracketedAcc) (ha : AccInv a) (i : BracketedItem) :
    (shAcc k a).push (shItem k i) = shAcc k (a.push i) ∧ AccInv (a.push i) := by
  obtain ⟨out, seg, so⟩ := a
  cases i with
  | num off n =>
    refine ⟨?_, fun h => absurd rfl h⟩
    cases seg with
    | nil => simp [BracketedAcc.push, shAcc, shItem, shiftString, SubStr.shift]
    | cons c cs =>
      have := ha (by simp)
      cases so with
      | none => cases this
      | some o => simp [BracketedAcc.push, shAcc, shItem, shiftString, SubStr.shift]
  | chr off c =>
    refine ⟨?_, fun _ => rfl⟩
    cases so <;> simp [BracketedAcc.push, shAcc, shItem]

theorem foldl_push_shift (k : Nat) : ∀ (body : List BracketedItem) (a : BracketedAcc), AccInv a →
    (body.map (shItem k)).foldl BracketedAcc.push (shAcc k a) = shAcc k (body.foldl BracketedAcc.push a)
  | [], _, _ => rfl
  | i :: body, a, ha => by
    rw [List.map_cons, List.foldl_cons, List.foldl_cons, (push_shift k a ha i).1]
    exact foldl_push_shift k body _ (push_shift k a ha i).2

theorem finish_shift (k : Nat) (a : BracketedAcc) : (shAcc k a).finish = shiftString k a.finish := by
  obtain ⟨out, seg, so⟩ := a
  cases so <;> simp [BracketedAcc.finish, shAcc, shiftString, SubStr.shift]

theorem foldl_step_shift (k : Nat) : ∀ (actions : List AString) (first : AExpr),
    (actions.map (shiftString k)).foldl (fun e action => AExpr.step action [e]) (shiftExpr k first) =
      shiftExpr k (actions.foldl (fun e action => AExpr.step action [e]) first)
  | [], _ => rfl
  | a :: actions, first => by
    rw [List.map_cons, List.foldl_cons, List.foldl_cons, ← foldl_step_shift k actions]
    rfl

theorem Sh.denominator : Sh pre id ParserE.denominator ParserE.denominator := by
  unfold ParserE.denominator
  refine Sh.bind Sh.digits fun ds => ?_
  simp only [id]
  split
  · exact Sh.fail
  · exact Sh.pure rfl

theorem Sh.assign : Sh pre id assign assign :=
  Sh.orElse (Sh.bind (Sh.lit _) fun _ => Sh.bind (Sh.lit _) fun _ => Sh.pure rfl)
    (Sh.bind (Sh.lit _) fun _ => Sh.pure rfl)

/-! ## the leading `sp?` swallows a padding of white space -/

theorem spanEnd_zero_pad (p : Char → Bool) (pre s : Str) (hp : ∀ c ∈ pre, p c = true) :
    spanEnd p (pre ++ s).toArray 0 = spanEnd p s.toArray 0 + pre.length := by
  rw [spanEnd_eq_takeWhile, spanEnd_eq_takeWhile]
  simp only [List.drop_zero, Nat.zero_add]
  rw [List.takeWhile_append_of_pos hp, List.length_append, Nat.add_comm]

theorem nonWord_of_space {pre : Str} (hsp : ∀ c ∈ pre, isReSpace c = true) : NonWord pre :=
  fun c hc => isReWord_false_of_isReSpace (hsp c hc)

end Parser

namespace ParserE
open Parser (P PState Sh NonWord shSt)

def shFar (k : Nat) (f : Far) : Far := f.map (· + k)

theorem shFar_fmax (k : Nat) (a b : Far) : shFar k (fmax a b) = fmax (shFar k a) (shFar k b) := by
  cases a with
  | none => cases b <;> rfl
  | some x =>
    cases b with
    | none => rfl
    | some y =>
      simp only [shFar, fmax, Option.map_some, Option.some.injEq]
      omega

def shOut {α α' : Type} (k : Nat) (g : α → α') (r : Option (α × PState) × Far) : Option (α' × PState) × Far :=
  (r.1.map (fun x => (g x.1, shSt k x.2)), shFar k r.2)

def ShE {α α' : Type} (pre : Str) (g : α → α') (pe' : PE α') (pe : PE α) : Prop :=
  NonWord pre → ∀ (s : Str) (st : PState),
    pe' (pre ++ s).toArray (shSt pre.length st) = shOut pre.length g (pe s.toArray st)

variable {pre : Str}

theorem ShE.pure {α α' : Type} {g : α → α'} {a : α} {b : α'} (h : b = g a) : ShE pre g (pure b) (pure a) := by
  intro _ s st; subst h; rfl

theorem ShE.term {α α' : Type} {g : α → α'} {p' : P α'} {p : P α} (h : Sh pre g p' p) : ShE pre g (term p') (term p) := by
  intro hw s st
  rw [term_apply, term_apply, h hw s st]
  cases p s.toArray st <;> rfl

theorem ShE.lift {α α' : Type} {g : α → α'} {p' : P α'} {p : P α} (h : Sh pre g p' p) : ShE pre g (lift p') (lift p) := by
  intro hw s st
  unfold ParserE.lift
  rw [h hw s st]
  rfl

theorem ShE.bind {α α' β β' : Type} {f : α → α'} {g : β → β'} {m' : PE α'} {m : PE α}
    {h' : α' → PE β'} {h : α → PE β} (hm : ShE pre f m' m) (hh : ∀ a, ShE pre g (h' (f a)) (h a)) :
    ShE pre g (m' >>= h') (m >>= h) := by
  intro hw s st
  rw [bind_apply, bind_apply, hm hw s st]
  cases hr : (m s.toArray st).1 with
  | none => simp only [shOut, hr, Option.map_none]
  | some r =>
    obtain ⟨a, s1⟩ := r
    simp only [shOut, hr, Option.map_some]
    rw [hh a hw s s1]
    simp only [shOut, shFar_fmax]

theorem ShE.orElse {α α' : Type} {g : α → α'} {p' q' : PE α'} {p q : PE α}
    (hp : ShE pre g p' p) (hq : ShE pre g q' q) : ShE pre g (p' <|> q') (p <|> q) := by
  intro hw s st
  rw [orElse_apply, orElse_apply, hp hw s st]
  cases hr : (p s.toArray st).1 with
  | none =>
    simp only [shOut, hr, Option.map_none]
    rw [hq hw s st]
    simp only [shOut, shFar_fmax]
  | some r => simp only [shOut, hr, Option.map_some]

theorem ShE.getPos : ShE pre (· + pre.length) getPos getPos := ShE.lift Sh.getPos
theorem ShE.remaining : ShE pre id remaining remaining := ShE.lift Sh.remaining

theorem ShE.manyF {α α' : Type} {g : α → α'} {p' : PE α'} {p : PE α} (hp : ShE pre g p' p) :
    ∀ fuel, ShE pre (List.map g) (manyF p' fuel) (manyF p fuel)
  | 0 => ShE.pure rfl
  | fuel + 1 => by
    unfold ParserE.manyF
    exact ShE.orElse (ShE.bind hp fun a => ShE.bind (ShE.manyF hp fuel) fun rest => ShE.pure rfl) (ShE.pure rfl)

theorem ShE.many {α α' : Type} {g : α → α'} {p' : PE α'} {p : PE α} (hp : ShE pre g p' p) :
    ShE pre (List.map g) (many p') (many p) :=
  ShE.bind ShE.remaining fun fuel => ShE.manyF hp fuel

theorem ShE.of_eq {α α' : Type} {g g' : α → α'} {p' : PE α'} {p : PE α} (h : ShE pre g p' p) (e : g = g') :
    ShE pre g' p' p := e ▸ h

theorem ShE.withText {α α' : Type} {g : α → α'} {p' : PE α'} {p : PE α} (hp : ShE pre g p' p) :
    ShE pre (fun x => (g x.1, x.2)) (withText p') (withText p) := by
  intro hw s st
  unfold ParserE.withText
  rw [hp hw s st]
  cases hr : (p s.toArray st).1 with
  | none => simp only [shOut, hr, Option.map_none]
  | some r => simp only [shOut, hr, Option.map_some, Parser.shSt_pos, Parser.extract_pad]

theorem ShE.skipManyOpt (p : Char → Bool) : ShE pre id (skipManyOpt p) (skipManyOpt p) := by
  intro _ s st
  unfold ParserE.skipManyOpt
  simp only [Parser.shSt_pos, Parser.spanEnd_pad, shOut, Option.map_some, id]
  by_cases h : Parser.spanEnd p s.toArray st.pos = st.pos
  · rw [if_pos h, if_pos (by omega)]; rfl
  · rw [if_neg h, if_neg (by omega)]; rfl

end ParserE
end RG
