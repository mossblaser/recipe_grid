import RecipeGrid.Model.Text
import RecipeGrid.Lemmas.Run
/-! `Model/Text.lean`: `splitLinesKeep` / `splitLines` (Python's `str.splitlines`), `offsetToLineCol`, `extractLine`.
    The lines of a compound text (`splitLines_append` for a first part of complete lines), the structural equations of
    `splitLines`, and offsets and quoted lines behind a prefix of complete lines (`offsetToLineCol_append`,
    `extractLine_append`). -/
namespace RG

/-! ## facts about the generated line-break table (re-checked when the table is regenerated) -/
theorem isLineBreak_lf : isLineBreak '\n' = true := by decide
theorem isLineBreak_cr : isLineBreak '\r' = true := by decide
theorem isLineBreak_space : isLineBreak ' ' = false := by decide
theorem isLineBreak_a : isLineBreak 'a' = false := by decide

theorem splitLinesKeepAux_cons_noCR (cur : Str) (c : Char) (rest : Str) (hc : c ≠ '\r') :
    splitLinesKeepAux cur (c :: rest) =
      if isLineBreak c then (c :: cur).reverse :: splitLinesKeepAux [] rest else splitLinesKeepAux (c :: cur) rest := by
  rw [splitLinesKeepAux.eq_3 _ _ _ (by intro r h _; exact hc h)]

theorem splitLinesKeepAux_lf (cur rest : Str) :
    splitLinesKeepAux cur ('\n' :: rest) = ('\n' :: cur).reverse :: splitLinesKeepAux [] rest := by
  rw [splitLinesKeepAux_cons_noCR _ _ _ (by decide), if_pos isLineBreak_lf]

theorem splitLinesKeepAux_plain (cur : Str) (c : Char) (rest : Str) (hc : isLineBreak c = false) :
    splitLinesKeepAux cur (c :: rest) = splitLinesKeepAux (c :: cur) rest := by
  rw [splitLinesKeepAux_cons_noCR _ _ _ (by rintro rfl; rw [isLineBreak_cr] at hc; cases hc), if_neg (by simp [hc])]

theorem splitLinesKeepAux_flatten (cur s : Str) :
    (splitLinesKeepAux cur s).flatten = cur.reverse ++ s := by
  fun_induction splitLinesKeepAux cur s <;> simp_all

theorem splitLinesKeepAux_ne_nil (cur s : Str) : ∀ l ∈ splitLinesKeepAux cur s, l ≠ [] := by
  fun_induction splitLinesKeepAux cur s <;> simp_all

theorem splitLinesKeepAux_eq_nil (cur s : Str) : splitLinesKeepAux cur s = [] ↔ cur = [] ∧ s = [] := by
  fun_induction splitLinesKeepAux cur s <;> simp_all

theorem splitLinesKeep_eq_nil (s : Str) : splitLinesKeep s = [] ↔ s = [] := by
  simp [splitLinesKeep, splitLinesKeepAux_eq_nil]

theorem splitLinesKeep_flatten (s : Str) : (splitLinesKeep s).flatten = s := by
  simp [splitLinesKeep, splitLinesKeepAux_flatten]

def LineShape (l body : Str) : Prop :=
  (∀ c ∈ body, isLineBreak c = false) ∧
  (l = body ∨ l = body ++ ['\r', '\n'] ∨ ∃ c, isLineBreak c = true ∧ l = body ++ [c])

theorem dropTerminator_of_shape (l body : Str) (h : LineShape l body) : dropTerminator l = body := by
  obtain ⟨hb, h | h | ⟨c, hc, h⟩⟩ := h
  · subst h
    unfold dropTerminator
    split
    · rename_i r e
      have : '\n' ∈ l := by rw [← List.mem_reverse, e]; simp
      have := hb _ this
      simp [isLineBreak_lf] at this
    · rename_i c r _ e
      have : c ∈ l := by rw [← List.mem_reverse, e]; simp
      simp [hb _ this]
    · rfl
  · subst h
    simp [dropTerminator]
  · subst h
    unfold dropTerminator
    split
    · rename_i r e
      simp only [List.reverse_append, List.reverse_cons, List.reverse_nil, List.nil_append,
        List.cons_append, List.cons.injEq] at e
      have : '\r' ∈ body := by rw [← List.mem_reverse, e.2]; simp
      have := hb _ this
      simp [isLineBreak_cr] at this
    · rename_i c' r _ e
      simp only [List.reverse_append, List.reverse_cons, List.reverse_nil, List.nil_append,
        List.cons_append, List.cons.injEq] at e
      obtain ⟨rfl, rfl⟩ := e
      simp [hc]
    · rename_i e
      simp at e

theorem splitLinesKeepAux_shape (cur s : Str) (hcur : ∀ c ∈ cur, isLineBreak c = false) :
    ∀ l ∈ splitLinesKeepAux cur s, ∃ body, LineShape l body := by
  fun_induction splitLinesKeepAux cur s with
  | case1 => simp
  | case2 cur h =>
    intro l hl
    simp only [List.mem_singleton] at hl
    exact ⟨cur.reverse, by simpa using hcur, Or.inl hl⟩
  | case3 cur rest ih =>
    intro l hl
    rcases List.mem_cons.1 hl with rfl | hl
    · exact ⟨cur.reverse, by simpa using hcur, Or.inr (Or.inl (by simp))⟩
    · exact ih (by simp) l hl
  | case4 cur c rest _ hc ih =>
    intro l hl
    rcases List.mem_cons.1 hl with rfl | hl
    · exact ⟨cur.reverse, by simpa using hcur, Or.inr (Or.inr ⟨c, hc, by simp⟩)⟩
    · exact ih (by simp) l hl
  | case5 cur c rest _ hc ih =>
    refine ih fun c' h' => ?_
    rcases List.mem_cons.1 h' with rfl | h'
    · simpa using hc
    · exact hcur _ h'

theorem splitLinesKeep_shape (s : Str) : ∀ l ∈ splitLinesKeep s, ∃ body, LineShape l body :=
  splitLinesKeepAux_shape [] s (by simp)

theorem offsetToLineColAux_found (ls : List Str) (rem n last : Nat) (h : rem < ls.flatten.length) :
    let r := offsetToLineColAux ls rem n last
    n + 1 ≤ r.1 ∧ r.1 ≤ n + ls.length ∧
    ((ls.take (r.1 - n - 1)).flatten).length + (r.2 - 1) = rem ∧
    1 ≤ r.2 ∧ r.2 ≤ (ls[r.1 - n - 1]?.getD []).length := by
  induction ls generalizing rem n last with
  | nil => simp at h
  | cons l ls ih =>
    simp only [offsetToLineColAux]
    split
    · simp; omega
    · rename_i hlt
      simp only [List.flatten_cons, List.length_append] at h
      have := ih (rem - l.length) (n + 1) l.length (by omega)
      simp only at this
      obtain ⟨h1, h2, h3, h4, h5⟩ := this
      generalize offsetToLineColAux ls (rem - l.length) (n + 1) l.length = r at *
      have e : r.1 - n - 1 = (r.1 - (n + 1) - 1) + 1 := by omega
      refine ⟨by omega, by simp; omega, ?_, h4, ?_⟩
      · rw [e]; simp only [List.take_succ_cons, List.flatten_cons, List.length_append]; omega
      · rw [e]; simpa using h5

theorem offsetToLineColAux_past (ls : List Str) (rem n last : Nat) (h : ls.flatten.length ≤ rem) :
    offsetToLineColAux ls rem n last = (n + ls.length, ((ls.getLast?.map List.length).getD last) + 1) := by
  induction ls generalizing rem n last with
  | nil => simp [offsetToLineColAux]
  | cons l ls ih =>
    simp only [List.flatten_cons, List.length_append] at h
    simp only [offsetToLineColAux]
    rw [if_neg (by omega), ih _ _ _ (by omega)]
    cases ls with
    | nil => simp
    | cons l' ls' =>
      rw [List.getLast?_cons_cons, List.getLast?_eq_some_getLast (by simp)]
      simp; omega

theorem offsetToLineColAux_shift (ls : List Str) (hls : ls ≠ []) (rem n k last last' : Nat) :
    offsetToLineColAux ls rem (n + k) last =
      ((offsetToLineColAux ls rem n last').1 + k, (offsetToLineColAux ls rem n last').2) := by
  induction ls generalizing rem n last last' with
  | nil => contradiction
  | cons l ls ih =>
    simp only [offsetToLineColAux]
    split
    · simp; omega
    · cases ls with
      | nil => simp [offsetToLineColAux]; omega
      | cons l' ls' =>
        have := ih (by simp) (rem - l.length) (n + 1) l.length l.length
        rw [show n + k + 1 = n + 1 + k by omega]
        exact this

/-- the length of the line consumed last is only reported when no line is left, so with `l :: ls` to come it may be
    anything (here `0`) -/
theorem offsetToLineColAux_skip (A : List Str) (l : Str) (ls : List Str) (r n last : Nat) :
    offsetToLineColAux (A ++ l :: ls) (A.flatten.length + r) n last =
      offsetToLineColAux (l :: ls) r (n + A.length) 0 := by
  induction A generalizing n last with
  | nil => simp [offsetToLineColAux]
  | cons a A ih =>
    rw [List.cons_append, List.flatten_cons, List.length_append, offsetToLineColAux]
    rw [if_neg (by omega), show a.length + A.flatten.length + r - a.length = A.flatten.length + r by omega, ih]
    rw [List.length_cons, show n + 1 + A.length = n + (A.length + 1) by omega]

theorem offsetToLineCol_of_ne_nil (s : Str) (o : Nat) (h : s ≠ []) :
    offsetToLineCol s o = offsetToLineColAux (splitLinesKeep s) o 0 0 := by
  have hne : splitLinesKeep s ≠ [] := by rwa [Ne, splitLinesKeep_eq_nil]
  unfold offsetToLineCol
  split
  · contradiction
  · rfl

/-! ## the lines of a compound text

    `splitLinesKeep` / `splitLines` by structural equations instead of the accumulator: a break-free prefix joins the
    first line (`attachPre`), a prefix of complete lines contributes its own lines (`Complete`, the append law). -/

def attachPre (pre : Str) : List Str → List Str
  | [] => if pre.isEmpty then [] else [pre]
  | x :: xs => (pre ++ x) :: xs

theorem attachPre_nil (xs : List Str) : attachPre [] xs = xs := by
  cases xs <;> simp [attachPre]

theorem attachPre_attachPre (a b : Str) (xs : List Str) : attachPre a (attachPre b xs) = attachPre (a ++ b) xs := by
  cases xs with
  | nil =>
    by_cases hb : b = []
    · subst hb; simp [attachPre]
    · simp [attachPre, hb]
  | cons x xs => simp [attachPre]

theorem attachPre_append (a : Str) (xs ys : List Str) (h : xs ≠ []) : attachPre a (xs ++ ys) = attachPre a xs ++ ys := by
  cases xs with
  | nil => contradiction
  | cons x xs => simp [attachPre]

theorem attachPre_ne_nil (a : Str) (xs : List Str) (h : a ≠ []) : attachPre a xs ≠ [] := by
  cases xs <;> simp [attachPre, h]

theorem attachPre_length (a : Str) (xs : List Str) (h : xs ≠ []) : (attachPre a xs).length = xs.length := by
  cases xs with
  | nil => contradiction
  | cons x xs => simp [attachPre]

theorem splitLinesKeepAux_eq (cur s : Str) : splitLinesKeepAux cur s = attachPre cur.reverse (splitLinesKeep s) := by
  induction s generalizing cur with
  | nil => cases cur <;> simp [splitLinesKeepAux, splitLinesKeep, attachPre]
  | cons c rest ih =>
    by_cases hb : isLineBreak c = true
    · -- a line end closes the line begun in the accumulator; on the right the accumulator is empty
      by_cases hpat : ∃ r, c = '\r' ∧ rest = '\n' :: r
      · obtain ⟨r, rfl, rfl⟩ := hpat
        rw [splitLinesKeep, splitLinesKeepAux, splitLinesKeepAux]
        simp [attachPre]
      · have hside : ∀ r, c = '\r' → rest = '\n' :: r → False := fun r h1 h2 => hpat ⟨r, h1, h2⟩
        rw [splitLinesKeep, splitLinesKeepAux.eq_3 _ _ _ hside, splitLinesKeepAux.eq_3 _ _ _ hside, if_pos hb, if_pos hb]
        simp [attachPre]
    · have hb' : isLineBreak c = false := by simpa using hb
      rw [splitLinesKeep, splitLinesKeepAux_plain _ _ _ hb', splitLinesKeepAux_plain _ _ _ hb', ih, ih [c], attachPre_attachPre]
      simp

theorem splitLinesKeep_nobreak_prefix (pre m : Str) (h : ∀ c ∈ pre, isLineBreak c = false) :
    splitLinesKeep (pre ++ m) = attachPre pre (splitLinesKeep m) := by
  have : ∀ cur, splitLinesKeepAux cur (pre ++ m) = splitLinesKeepAux (pre.reverse ++ cur) m := by
    induction pre with
    | nil => simp
    | cons c pre ih =>
      intro cur
      rw [List.cons_append, splitLinesKeepAux_plain _ _ _ (h c (by simp)), ih (fun x hx => h x (List.mem_cons_of_mem _ hx))]
      simp
  rw [splitLinesKeep, this, splitLinesKeepAux_eq]; simp

theorem lineShape_append (pre x y : Str) (hp : ∀ c ∈ pre, isLineBreak c = false) (h : LineShape x y) :
    LineShape (pre ++ x) (pre ++ y) := by
  obtain ⟨hb, h⟩ := h
  refine ⟨fun c hc => (List.mem_append.1 hc).elim (hp c) (hb c), ?_⟩
  rcases h with h | h | ⟨t, ht, h⟩
  · exact Or.inl (by rw [h])
  · exact Or.inr (Or.inl (by rw [h]; simp))
  · exact Or.inr (Or.inr ⟨t, ht, by rw [h]; simp⟩)

theorem splitLines_nobreak_prefix (pre m : Str) (h : ∀ c ∈ pre, isLineBreak c = false) :
    splitLines (pre ++ m) = attachPre pre (splitLines m) := by
  rw [splitLines, splitLinesKeep_nobreak_prefix pre m h, splitLines]
  have hs := splitLinesKeep_shape m
  generalize splitLinesKeep m = ls at hs
  cases ls with
  | nil =>
    by_cases hp : pre = []
    · simp [attachPre, hp]
    · simp [attachPre, hp, dropTerminator_of_shape pre pre ⟨h, Or.inl rfl⟩]
  | cons x xs =>
    obtain ⟨y, hy⟩ := hs x (by simp)
    simp [attachPre, dropTerminator_of_shape _ _ hy, dropTerminator_of_shape _ _ (lineShape_append pre x y h hy)]

/-- `a` is made of complete lines when followed by `b`: it is empty, or it ends in a line-break character that does not
    fuse with the start of `b` into `"\r\n"` -/
def Complete (a b : Str) : Prop :=
  ∀ c, a.getLast? = some c → isLineBreak c = true ∧ ¬ (c = '\r' ∧ b.head? = some '\n')

theorem Complete.tail {c : Char} {a b : Str} (h : Complete (c :: a) b) : Complete a b := by
  cases a with
  | nil => simp [Complete]
  | cons d a => simpa [Complete, List.getLast?_cons_cons] using h

theorem complete_nl (a b : Str) : Complete (a ++ ['\n']) b := by
  simp [Complete, isLineBreak_lf]

/-- `ha`: were `a` empty, the line begun in `cur` would go on into `b` -/
theorem splitLinesKeepAux_append (cur a b : Str) (h : Complete a b) (ha : a ≠ [] ∨ cur = []) :
    splitLinesKeepAux cur (a ++ b) = splitLinesKeepAux cur a ++ splitLinesKeep b := by
  fun_induction splitLinesKeepAux cur a with
  | case1 | case2 => simp_all [splitLinesKeep]
  | case3 cur rest ih =>
    rw [List.cons_append, List.cons_append, splitLinesKeepAux, ih h.tail.tail (Or.inr rfl)]; simp
  | case4 cur c rest hp hc ih =>
    -- `c` ends a line of `a`; it ends the same line of `a ++ b` unless it is a `"\r"` that `b` completes to `"\r\n"`
    have hside : ∀ r, c = '\r' → rest ++ b = '\n' :: r → False := by
      intro r e1 e2
      cases rest with
      | nil =>
        rw [List.nil_append] at e2
        exact (h c rfl).2 ⟨e1, by rw [e2]; rfl⟩
      | cons d rest' =>
        rw [List.cons_append] at e2
        exact hp rest' e1 (by rw [(List.cons.inj e2).1])
    rw [List.cons_append, splitLinesKeepAux.eq_3 _ _ _ hside, if_pos hc, ih h.tail (Or.inr rfl)]
    simp
  | case5 cur c rest hp hc ih =>
    have hr : rest ≠ [] := by rintro rfl; exact hc (h c (by simp)).1
    rw [List.cons_append, splitLinesKeepAux_plain _ _ _ (by simpa using hc), ih h.tail (Or.inl hr)]

/-- **the append law**: a prefix of complete lines contributes its own lines -/
theorem splitLinesKeep_append (a b : Str) (h : Complete a b) :
    splitLinesKeep (a ++ b) = splitLinesKeep a ++ splitLinesKeep b :=
  splitLinesKeepAux_append [] a b h (Or.inr rfl)

theorem splitLines_append (a b : Str) (h : Complete a b) : splitLines (a ++ b) = splitLines a ++ splitLines b := by
  simp [splitLines, splitLinesKeep_append a b h]

theorem splitLines_nil : splitLines [] = [] := rfl
theorem splitLines_nl : splitLines ['\n'] = [[]] := by decide

theorem splitLines_eq_nil (s : Str) : splitLines s = [] ↔ s = [] := by
  simp [splitLines, splitLinesKeep_eq_nil]

theorem extractLine_pos (s : Str) (l : Nat) (hs : s ≠ []) (hl : 1 ≤ l) : extractLine s l = (splitLines s)[l - 1]? := by
  unfold extractLine
  rw [if_neg (by simpa using hs), if_neg (by omega)]

theorem extractLine_past (s : Str) (l : Nat) (hs : s ≠ []) (hl : l = (splitLines s).length + 1) : extractLine s l = none := by
  rw [extractLine_pos s l hs (by omega), List.getElem?_eq_none (by omega)]

theorem splitLines_cons_break (c : Char) (rest : Str) (hc : isLineBreak c = true)
    (h : c = '\r' → rest.head? ≠ some '\n') : splitLines (c :: rest) = [] :: splitLines rest := by
  have hC : Complete [c] rest := by
    intro d hd
    simp only [List.getLast?_singleton, Option.some.injEq] at hd
    subst hd
    exact ⟨hc, fun e => h e.1 e.2⟩
  have h1 : splitLines [c] = [[]] := by
    have hs : splitLinesKeep [c] = [[c]] := by
      by_cases hcr : c = '\r'
      · subst hcr; decide
      · simp [splitLinesKeep, splitLinesKeepAux_cons_noCR _ _ _ hcr, hc, splitLinesKeepAux]
    simp [splitLines, hs, dropTerminator_of_shape [c] [] ⟨by simp, Or.inr (Or.inr ⟨c, hc, rfl⟩)⟩]
  rw [← List.singleton_append, splitLines_append _ _ hC, h1]; rfl

theorem splitLines_cons_nl (rest : Str) : splitLines ('\n' :: rest) = [] :: splitLines rest :=
  splitLines_cons_break _ _ isLineBreak_lf fun e => absurd e (by decide)

theorem splitLines_crlf (rest : Str) : splitLines ('\r' :: '\n' :: rest) = [] :: splitLines rest := by
  have h : splitLinesKeep ('\r' :: '\n' :: rest) = ['\r', '\n'] :: splitLinesKeep rest := by
    simp [splitLinesKeep, splitLinesKeepAux]
  rw [splitLines, h]; rfl

theorem splitLines_cons_plain (c : Char) (rest : Str) (hc : isLineBreak c = false) :
    splitLines (c :: rest) = attachPre [c] (splitLines rest) :=
  splitLines_nobreak_prefix [c] rest (by simpa using hc)

theorem complete_replicate_nl (k : Nat) (s : Str) : Complete (List.replicate k '\n') s := by
  simp [Complete, List.getLast?_replicate, isLineBreak_lf]

theorem splitLinesKeep_replicate_nl (k : Nat) : splitLinesKeep (List.replicate k '\n') = List.replicate k ['\n'] := by
  induction k with
  | zero => rfl
  | succ k ih => rw [List.replicate_succ, splitLinesKeep, splitLinesKeepAux_lf, ← splitLinesKeep, ih]; rfl

theorem splitLines_replicate_nl (k : Nat) (s : Str) :
    splitLines (List.replicate k '\n' ++ s) = List.replicate k [] ++ splitLines s := by
  rw [splitLines_append _ _ (complete_replicate_nl k s), splitLines, splitLinesKeep_replicate_nl, List.map_replicate]
  rfl

def endsBreak (s : Str) : Bool :=
  match s.getLast? with
  | none => true
  | some c => isLineBreak c

theorem endsBreak_cons (c : Char) (s : Str) (h : s ≠ []) : endsBreak (c :: s) = endsBreak s := by
  cases s with
  | nil => contradiction
  | cons d s => simp [endsBreak, List.getLast?_cons_cons]

/-- `hr`: behind a final `"\r"` the newline would complete `"\r\n"` instead -/
theorem splitLines_snoc_nl (x : Str) (hr : '\r' ∉ x) :
    splitLines (x ++ ['\n']) = splitLines x ++ (if endsBreak x then [[]] else []) := by
  induction x with
  | nil => exact splitLines_nl
  | cons c x ih =>
    have ih := ih (fun h => hr (List.mem_cons_of_mem _ h))
    rw [List.cons_append]
    by_cases hc : isLineBreak c = true
    · have hcr : c ≠ '\r' := by rintro rfl; exact hr (by simp)
      rw [splitLines_cons_break _ _ hc (fun e => absurd e hcr), splitLines_cons_break _ _ hc (fun e => absurd e hcr), ih]
      by_cases hx : x = []
      · subst hx; simp [endsBreak, hc, splitLines, splitLinesKeep, splitLinesKeepAux]
      · rw [endsBreak_cons _ _ hx]; simp
    · have hc' : isLineBreak c = false := by simpa using hc
      rw [splitLines_cons_plain _ _ hc', splitLines_cons_plain _ _ hc', ih]
      by_cases hx : x = []
      · subst hx; simp [endsBreak, hc', splitLines, splitLinesKeep, splitLinesKeepAux, attachPre]
      · rw [endsBreak_cons _ _ hx, attachPre_append]
        rwa [Ne, splitLines_eq_nil]

theorem offsetToLineCol_append (a b : Str) (o : Nat) (h : Complete a b) (hb : b ≠ []) :
    offsetToLineCol (a ++ b) (a.length + o) =
      ((offsetToLineCol b o).1 + (splitLinesKeep a).length, (offsetToLineCol b o).2) := by
  rw [offsetToLineCol_of_ne_nil _ _ (by simp [hb]), offsetToLineCol_of_ne_nil _ _ hb, splitLinesKeep_append a b h]
  cases hks : splitLinesKeep b with
  | nil => exact absurd ((splitLinesKeep_eq_nil b).1 hks) hb
  | cons l ls =>
    have := offsetToLineColAux_skip (splitLinesKeep a) l ls o 0 0
    rw [splitLinesKeep_flatten, Nat.zero_add] at this
    rw [this, ← offsetToLineColAux_shift _ (by simp) o 0 _ 0 0, Nat.zero_add]

theorem extractLine_append (a b : Str) (l : Nat) (h : Complete a b) (hb : b ≠ []) (hl : 1 ≤ l) :
    extractLine (a ++ b) (l + (splitLinesKeep a).length) = extractLine b l := by
  rw [extractLine_pos _ _ (by simp [hb]) (by omega), extractLine_pos _ _ hb hl, splitLines_append a b h,
    List.getElem?_append_right (by simp [splitLines]; omega)]
  congr 1
  simp [splitLines]; omega

theorem offsetToLineCol_zero (s : Str) : offsetToLineCol s 0 = (1, 1) := by
  unfold offsetToLineCol
  split
  · rfl
  · cases h : splitLinesKeep s with
    | nil => exact absurd h ‹_›
    | cons l ls =>
      have := splitLinesKeepAux_ne_nil [] s l (by rw [← splitLinesKeep, h]; simp)
      simp [offsetToLineColAux, List.length_pos_iff.2 this]

theorem offsetToLineCol_line_start (P Q : Str) (h : Complete P Q) (hQ : Q ≠ []) :
    (offsetToLineCol (P ++ Q) P.length).1 = (splitLinesKeep P).length + 1 := by
  have := offsetToLineCol_append P Q 0 h hQ
  rw [Nat.add_zero] at this
  rw [this, offsetToLineCol_zero, Nat.add_comm]

end RG
