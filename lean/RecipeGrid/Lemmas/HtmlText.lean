import RecipeGrid.Lemmas.Html
import RecipeGrid.Lemmas.Text
/-! About `Model/Html.lean` at the level of the written string (for `Props/C10b`, `C04b`, `C04c`, `C09b`, `C15d`): the
    shape of a tag written by `tagBody` (`openTag`, `attrsText`, `closeTag`; the names the renderer uses), where newlines
    and where line breaks can occur, the shape of number text, how `tagBody` re-indents a body of several lines, the
    text of a rendered table cell by cell. -/
namespace RG

theorem exists_concat_of_ne_nil {α} {l : List α} (h : l ≠ []) : ∃ init a, l = init ++ [a] :=
  ⟨l.dropLast, l.getLast h, (List.dropLast_concat_getLast h).symm⟩

theorem sp_intercalate_eq_flatMap (xs : List Str) (h : xs ≠ []) :
    ' ' :: (S " ").intercalate xs = xs.flatMap (fun x => ' ' :: x) := by
  induction xs with
  | nil => exact absurd rfl h
  | cons a t ih =>
    cases t with
    | nil => simp
    | cons b t =>
      have := ih (by simp)
      rw [List.intercalate_cons_cons, List.flatMap_cons, ← this]
      simp [S]

theorem rstripStr_append_singleton (s : Str) (c : Char) (h : isStripSpace c = false) :
    rstripStr (s ++ [c]) = s ++ [c] := by
  simp [rstripStr, h]

def attrsText (attrs : List (String × Str)) : Str := attrs.flatMap fun (n, v) => ' ' :: S n ++ '=' :: quoteattr v
def openTag (tag : String) (attrs : List (String × Str)) : Str := '<' :: S tag ++ attrsText attrs ++ ['>']
def closeTag (tag : String) : Str := '<' :: '/' :: S tag ++ ['>']

theorem quoteattr_ends (v : Str) : ∃ b q, quoteattr v = b ++ [q] ∧ (q = '"' ∨ q = '\'') := by
  obtain ⟨q, body, hq, he, -⟩ := quoteattr_shape v
  exact ⟨q :: body, q, by simpa using he, hq⟩

theorem attrs_written (attrs : List (String × Str)) :
    rstripStr (' ' :: (S " ").intercalate (attrs.map fun (n, v) => S n ++ '=' :: quoteattr v)) = attrsText attrs := by
  by_cases h : attrs = []
  · subst h; decide +kernel
  · have hne : (attrs.map fun (n, v) => S n ++ '=' :: quoteattr v) ≠ [] := by simpa using h
    rw [sp_intercalate_eq_flatMap _ hne, List.flatMap_map]
    have e : (attrs.flatMap fun a => ' ' :: (S a.1 ++ '=' :: quoteattr a.2)) = attrsText attrs := rfl
    rw [e]
    -- the last attribute ends in a quote
    obtain ⟨init, last, rfl⟩ := exists_concat_of_ne_nil h
    obtain ⟨b, q, hb, hq⟩ := quoteattr_ends last.2
    have : attrsText (init ++ [last]) = (attrsText init ++ ' ' :: S last.1 ++ '=' :: b) ++ [q] := by
      simp [attrsText, hb]
    rw [this]
    apply rstripStr_append_singleton
    rcases hq with rfl | rfl <;> decide

/-- the body of a multi-line tag as written -/
def reindent (body : Str) : Str := '\n' :: rstripStr (indent2 body) ++ ['\n']

theorem tagBody_eq_if (tag : String) (attrs : List (String × Str)) (body : Str) :
    tagBody tag attrs body =
      openTag tag attrs ++ (if '\n' ∈ body then reindent body else body) ++ closeTag tag := by
  unfold tagBody
  dsimp only
  rw [attrs_written]
  by_cases h : '\n' ∈ body <;> simp [h, openTag, closeTag, reindent, S]

theorem tagBody_eq (tag : String) (attrs : List (String × Str)) (body : Str) (h : '\n' ∉ body) :
    tagBody tag attrs body = openTag tag attrs ++ body ++ closeTag tag := by
  rw [tagBody_eq_if, if_neg h]

theorem tagBody_eq_nl (tag : String) (attrs : List (String × Str)) (body : Str) (h : '\n' ∈ body) :
    tagBody tag attrs body = openTag tag attrs ++ reindent body ++ closeTag tag := by
  rw [tagBody_eq_if, if_pos h]

/-! Beside the `NoBreak` facts further down: the facts about `'\n'` alone hold under weaker hypotheses (`quoteattr`
    encodes a newline, so an attribute value may contain one; the one-line predicates of `Props/C10b.lean` and
    `Props/C04b.lean` speak of `'\n'` only, because a one-line element is not re-indented, whatever other line-break
    characters it holds). -/

theorem nl_not_mem_escapeChar (c : Char) (h : c ≠ '\n') : '\n' ∉ escapeChar c :=
  escapeChar_cases (P := fun c s => c ≠ '\n' → '\n' ∉ s) (by decide +kernel)
    (fun _ _ _ _ _ _ h hm => h (List.mem_singleton.1 hm).symm) c h

theorem nl_not_mem_htmlEscape {s : Str} (h : '\n' ∉ s) : '\n' ∉ htmlEscape s := by
  intro hm
  obtain ⟨c, hc, hm⟩ := List.mem_flatMap.1 hm
  exact nl_not_mem_escapeChar c (fun e => h (e ▸ hc)) hm

theorem nl_not_mem_quoteattrChar (c : Char) : '\n' ∉ quoteattrChar c :=
  quoteattrChar_cases (P := fun _ s => '\n' ∉ s) (by decide +kernel)
    (fun _ _ _ _ h4 _ _ hm => h4 (List.mem_singleton.1 hm).symm) c

theorem nl_not_mem_quoteattr (v : Str) : '\n' ∉ quoteattr v := fun hm =>
  forall_mem_quoteattr (Q := (· ≠ '\n')) (by decide) (by decide)
    (fun d hd e => by
      obtain ⟨c, _, hd⟩ := List.mem_flatMap.1 hd
      exact nl_not_mem_quoteattrChar c (e ▸ hd)) _ hm rfl

/-- a tag or attribute name as the tokenizer reads it: ASCII letters, digits, '-'; not empty -/
def IsName (n : String) : Prop := n.toList ≠ [] ∧ ∀ c ∈ n.toList, (c.isAlphanum || c == '-') = true

instance (n : String) : Decidable (IsName n) := by unfold IsName; infer_instance

theorem isName_span : IsName "span" := by decide +kernel
theorem isName_sup : IsName "sup" := by decide +kernel
theorem isName_sub : IsName "sub" := by decide +kernel
theorem isName_a : IsName "a" := by decide +kernel
theorem isName_ul : IsName "ul" := by decide +kernel
theorem isName_li : IsName "li" := by decide +kernel
theorem isName_class : IsName "class" := by decide +kernel
theorem isName_href : IsName "href" := by decide +kernel
theorem isName_id : IsName "id" := by decide +kernel

theorem IsName.nl {n : String} (h : IsName n) : '\n' ∉ S n := by
  intro hm; have := h.2 _ hm; revert this; decide

theorem nl_not_mem_attrsText (attrs : List (String × Str)) (h : ∀ a ∈ attrs, IsName a.1) :
    '\n' ∉ attrsText attrs := by
  intro hm
  obtain ⟨⟨n, v⟩, ha, hm⟩ := List.mem_flatMap.1 hm
  have h1 := (h _ ha).nl
  have h2 := nl_not_mem_quoteattr v
  simp [h1, h2] at hm

theorem nl_not_mem_tagBody (tag : String) (attrs : List (String × Str)) (body : Str) (ht : IsName tag)
    (ha : ∀ a ∈ attrs, IsName a.1) (h : '\n' ∉ body) : '\n' ∉ tagBody tag attrs body := by
  rw [tagBody_eq _ _ _ h]
  have h1 := ht.nl
  have h2 := nl_not_mem_attrsText attrs ha
  simp only [openTag, closeTag, List.mem_append, List.mem_cons, not_or]
  simp [h1, h2, h]

def isNumChar (c : Char) : Bool := c.isDigit || c == '.' || c == '-' || c == ' '

theorem isNumChar_of_isDigit {c : Char} (h : c.isDigit = true) : isNumChar c = true := by simp [isNumChar, h]

theorem natDigits_numChars (n : Nat) : ∀ c ∈ natDigits n, isNumChar c = true :=
  fun c hc => isNumChar_of_isDigit (natDigits_isDigit n c hc)

theorem intStr_numChars (n : Int) : ∀ c ∈ intStr n, isNumChar c = true := by
  intro c hc
  unfold intStr at hc
  split at hc
  · rcases List.mem_cons.1 hc with rfl | hc
    · decide
    · exact natDigits_numChars _ c hc
  · exact natDigits_numChars _ c hc

theorem formatFloatSig_numChars (sig : Nat) (x : Rat) : ∀ c ∈ formatFloatSig sig x, isNumChar c = true := by
  have key : ∀ s : Str, (∀ c ∈ s, c.isDigit = true) →
      ∀ c ∈ (if s.isEmpty then intStr (roundHalfEven x) else natDigits x.floor.toNat ++ '.' :: s),
        isNumChar c = true := by
    intro s hs c hc
    split at hc
    · exact intStr_numChars _ c hc
    · rcases List.mem_append.1 hc with hc | hc
      · exact natDigits_numChars _ c hc
      · rcases List.mem_cons.1 hc with rfl | hc
        · decide
        · exact isNumChar_of_isDigit (hs c hc)
  intro c hc
  unfold formatFloatSig at hc
  dsimp only at hc
  refine key _ ?_ c hc
  intro c hc
  split at hc
  · simp at hc
  · split at hc
    · simp at hc
    · exact padLeftZeros_isDigit (natDigits_isDigit _) c (rstripZeros_sublist _ c hc)

theorem formatNumber_shape (n : Num) :
    (∀ c ∈ formatNumber n, isNumChar c = true) ∨
    ∃ a b, formatNumber n = a ++ '/' :: b ∧ (∀ c ∈ a, isNumChar c = true) ∧ (∀ c ∈ b, isNumChar c = true) := by
  unfold formatNumber
  split
  · exact Or.inl (formatFloatSig_numChars _ _)
  · unfold formatFraction
    split
    · exact Or.inl (intStr_numChars _)
    · split
      · exact Or.inl (formatFloatSig_numChars _ _)
      · split
        · refine Or.inr ⟨natDigits (n.val.num.natAbs / n.val.den) ++ ' ' :: natDigits (n.val.num.natAbs % n.val.den),
            natDigits n.val.den, by simp, ?_, natDigits_numChars _⟩
          intro c hc
          rcases List.mem_append.1 hc with hc | hc
          · exact natDigits_numChars _ c hc
          · rcases List.mem_cons.1 hc with rfl | hc
            · decide
            · exact natDigits_numChars _ c hc
        · exact Or.inr ⟨intStr n.val.num, natDigits n.val.den, rfl, intStr_numChars _, natDigits_numChars _⟩

theorem slash_not_numChar {s : Str} (h : ∀ c ∈ s, isNumChar c = true) : '/' ∉ s :=
  fun hm => absurd (h _ hm) (by decide)

theorem renderNumberStr_plain (s : Str) (h : '/' ∉ s) : renderNumberStr s = s := by
  simp [renderNumberStr, List.splitOn_eq_singleton h]

theorem renderNumberStr_frac (a b : Str) (ha : '/' ∉ a) (hb : '/' ∉ b) :
    ∃ i n, i ++ n = a ∧
      renderNumberStr (a ++ '/' :: b) = i ++ S "<sup>" ++ n ++ S "</sup>&frasl;<sub>" ++ b ++ S "</sub>" := by
  have e : (a ++ '/' :: b).splitOn '/' = [a, b] := by
    rw [List.splitOn_append_cons_self_of_not_mem ha, List.splitOn_eq_singleton hb]
  have hj := List.intercalate_splitOn (xs := a) ' '
  simp only [renderNumberStr, e]
  generalize a.splitOn ' ' = l at hj
  match l, hj with
  | [i, n], hj =>
    refine ⟨i ++ [' '], n, by simpa using hj, ?_⟩
    simp [S]
  | [], _ => exact ⟨[], a, rfl, by simp [S]⟩
  | [_], _ => exact ⟨[], a, rfl, by simp [S]⟩
  | _ :: _ :: _ :: _, _ => exact ⟨[], a, rfl, by simp [S]⟩

/-- the two forms of a rendered number: the plain text, or `i<sup>n</sup>&frasl;<sub>d</sub>` -/
theorem renderNumber_cases (n : Num) :
    (renderNumber n = formatNumber n ∧ ∀ c ∈ formatNumber n, isNumChar c = true) ∨
    ∃ i m d, formatNumber n = i ++ m ++ '/' :: d ∧ (∀ c ∈ i, isNumChar c = true) ∧ (∀ c ∈ m, isNumChar c = true) ∧
      (∀ c ∈ d, isNumChar c = true) ∧
      renderNumber n = i ++ S "<sup>" ++ m ++ S "</sup>&frasl;<sub>" ++ d ++ S "</sub>" := by
  rcases formatNumber_shape n with h | ⟨a, b, e, ha, hb⟩
  · exact Or.inl ⟨renderNumberStr_plain _ (slash_not_numChar h), h⟩
  · obtain ⟨i, m, him, hr⟩ := renderNumberStr_frac a b (slash_not_numChar ha) (slash_not_numChar hb)
    refine Or.inr ⟨i, m, b, by rw [him, e], ?_, ?_, hb, by rw [renderNumber, e, hr]⟩
    · intro c hc; exact ha c (by rw [← him]; exact List.mem_append_left _ hc)
    · intro c hc; exact ha c (by rw [← him]; exact List.mem_append_right _ hc)

/-- no character at which `str.splitlines` splits -/
def NoBreak (s : Str) : Prop := ∀ c ∈ s, isLineBreak c = false
instance (s : Str) : Decidable (NoBreak s) := by unfold NoBreak; infer_instance

theorem isLineBreak_of_ascii {c : Char} (h1 : 32 ≤ c.toNat) (h2 : c.toNat ≤ 126) : isLineBreak c = false := by
  simp [isLineBreak, inRanges, Gen.lineBreakRanges, Gen.lineBreakRanges_0]
  omega

theorem ascii_of_between {c lo hi : Char} (h : lo.toNat ≤ c.toNat ∧ c.toNat ≤ hi.toNat) (hlo : 32 ≤ lo.toNat)
    (hhi : hi.toNat ≤ 126) : 32 ≤ c.toNat ∧ c.toNat ≤ 126 :=
  ⟨Nat.le_trans hlo h.1, Nat.le_trans h.2 hhi⟩

theorem ascii_of_nameChar {c : Char} (h : (c.isAlphanum || c == '-') = true) : 32 ≤ c.toNat ∧ c.toNat ≤ 126 := by
  simp only [Char.isAlphanum, Char.isAlpha, Char.isUpper, Char.isLower, Char.isDigit, Bool.or_eq_true,
    Bool.and_eq_true, decide_eq_true_eq, beq_iff_eq, UInt32.le_iff_toNat_le, ge_iff_le] at h
  rcases h with ((h | h) | h) | h
  · exact ascii_of_between (lo := 'A') (hi := 'Z') h (by decide) (by decide)
  · exact ascii_of_between (lo := 'a') (hi := 'z') h (by decide) (by decide)
  · exact ascii_of_between (lo := '0') (hi := '9') h (by decide) (by decide)
  · subst h; decide

theorem ascii_of_numChar {c : Char} (h : isNumChar c = true) : 32 ≤ c.toNat ∧ c.toNat ≤ 126 := by
  simp only [isNumChar, Bool.or_eq_true, beq_iff_eq] at h
  rcases h with ((h | h) | h) | h
  · exact ascii_of_nameChar (by simp [Char.isAlphanum, h])
  · subst h; decide
  · subst h; decide
  · subst h; decide

theorem ascii_of_idChar {c : Char} (h : isIdChar c = true) : 32 ≤ c.toNat ∧ c.toNat ≤ 126 := by
  have e : ∀ a b : Char, a ≤ b ↔ a.toNat ≤ b.toNat := fun a b => by rw [Char.le_def, UInt32.le_iff_toNat_le]; rfl
  simp only [isIdChar, Bool.or_eq_true, Bool.and_eq_true, decide_eq_true_eq, beq_iff_eq, e] at h
  rcases h with ((((h | h) | h) | h) | h) | h
  · exact ascii_of_between h (by decide) (by decide)
  · exact ascii_of_between h (by decide) (by decide)
  · exact ascii_of_between h (by decide) (by decide)
  · subst h; decide
  · subst h; decide
  · subst h; decide

theorem NoBreak.nl {s : Str} (h : NoBreak s) : '\n' ∉ s := fun hm => absurd (h _ hm) (by decide)
theorem NoBreak.nil : NoBreak [] := by simp [NoBreak]
theorem NoBreak.append {a b : Str} (ha : NoBreak a) (hb : NoBreak b) : NoBreak (a ++ b) := by
  intro c hc; rcases List.mem_append.1 hc with h | h
  · exact ha c h
  · exact hb c h
theorem NoBreak.cons {c : Char} {s : Str} (hc : isLineBreak c = false) (hs : NoBreak s) : NoBreak (c :: s) := by
  intro d hd; rcases List.mem_cons.1 hd with rfl | h
  · exact hc
  · exact hs d h
theorem NoBreak.of_append_left {a b : Str} (h : NoBreak (a ++ b)) : NoBreak a :=
  fun c hc => h c (List.mem_append_left _ hc)
theorem NoBreak.of_append_right {a b : Str} (h : NoBreak (a ++ b)) : NoBreak b :=
  fun c hc => h c (List.mem_append_right _ hc)

theorem noBreak_name {n : String} (h : IsName n) : NoBreak (S n) :=
  fun c hc => have := ascii_of_nameChar (h.2 c hc); isLineBreak_of_ascii this.1 this.2

theorem noBreak_numChars {s : Str} (h : ∀ c ∈ s, isNumChar c = true) : NoBreak s :=
  fun c hc => have := ascii_of_numChar (h c hc); isLineBreak_of_ascii this.1 this.2

theorem anchorId_noBreak (pre : Str) (n : SVS) (h : NoBreak pre) : NoBreak (anchorId pre n) :=
  h.append fun c hc => have := ascii_of_idChar (anchorTail_idChars n c hc); isLineBreak_of_ascii this.1 this.2

theorem noBreak_escapeChar (c : Char) (h : isLineBreak c = false) : NoBreak (escapeChar c) :=
  escapeChar_cases (P := fun c s => isLineBreak c = false → NoBreak s) (by decide +kernel)
    (fun _ _ _ _ _ _ h => NoBreak.cons h NoBreak.nil) c h

theorem noBreak_htmlEscape {s : Str} (h : NoBreak s) : NoBreak (htmlEscape s) := by
  intro d hd
  obtain ⟨c, hc, hd⟩ := List.mem_flatMap.1 hd
  exact noBreak_escapeChar c (h c hc) d hd

theorem noBreak_renderNumber (n : Num) : NoBreak (renderNumber n) := by
  rcases renderNumber_cases n with ⟨e, h⟩ | ⟨i, m, d, -, hi, hm, hd, e⟩
  · rw [e]; exact noBreak_numChars h
  · rw [e]
    exact ((((noBreak_numChars hi).append (by decide +kernel)).append (noBreak_numChars hm)).append (by decide +kernel)).append
      (noBreak_numChars hd) |>.append (by decide +kernel)

theorem nl_not_mem_renderNumber (n : Num) : '\n' ∉ renderNumber n := (noBreak_renderNumber n).nl

theorem noBreak_quoteattrChar (c : Char) (h : isLineBreak c = false) : NoBreak (quoteattrChar c) :=
  quoteattrChar_cases (P := fun c s => isLineBreak c = false → NoBreak s) (by decide +kernel)
    (fun _ _ _ _ _ _ _ h => NoBreak.cons h NoBreak.nil) c h

theorem noBreak_quoteattr {v : Str} (h : NoBreak v) : NoBreak (quoteattr v) :=
  forall_mem_quoteattr (by decide) (by decide) fun d hd => by
    obtain ⟨c, hc, hd⟩ := List.mem_flatMap.1 hd
    exact noBreak_quoteattrChar c (h c hc) d hd

theorem noBreak_attrsText (attrs : List (String × Str)) (h : ∀ a ∈ attrs, IsName a.1 ∧ NoBreak a.2) :
    NoBreak (attrsText attrs) := by
  intro d hd
  obtain ⟨⟨n, v⟩, ha, hd⟩ := List.mem_flatMap.1 hd
  have := h _ ha
  exact (NoBreak.cons (by decide) ((noBreak_name this.1).append
    (NoBreak.cons (by decide) (noBreak_quoteattr this.2)))) d hd

theorem noBreak_openTag (tag : String) (attrs : List (String × Str)) (ht : IsName tag)
    (h : ∀ a ∈ attrs, IsName a.1 ∧ NoBreak a.2) : NoBreak (openTag tag attrs) :=
  NoBreak.cons (by decide) (((noBreak_name ht).append (noBreak_attrsText attrs h)).append (by decide))

theorem noBreak_closeTag (tag : String) (ht : IsName tag) : NoBreak (closeTag tag) :=
  NoBreak.cons (by decide) (NoBreak.cons (by decide) ((noBreak_name ht).append (by decide)))

theorem noBreak_tagBody (tag : String) (attrs : List (String × Str)) (body : Str) (ht : IsName tag)
    (h : ∀ a ∈ attrs, IsName a.1 ∧ NoBreak a.2) (hb : NoBreak body) : NoBreak (tagBody tag attrs body) := by
  rw [tagBody_eq _ _ _ hb.nl]
  exact ((noBreak_openTag tag attrs ht h).append hb).append (noBreak_closeTag tag ht)

theorem noBreak_renderSvs {s : SVS} (h : ∀ t, Part.text t ∈ s → NoBreak t) : NoBreak (renderSvs s) := by
  intro d hd
  obtain ⟨p, hp, hd⟩ := List.mem_flatMap.1 hd
  cases p with
  | text t => exact noBreak_htmlEscape (h t hp) d hd
  | num n =>
    exact noBreak_tagBody "span" [("class", S "rg-scaled-value")] _ (by decide +kernel)
      (by intro a ha; simp only [List.mem_singleton] at ha; subst ha; exact ⟨by decide +kernel, by decide +kernel⟩)
      (noBreak_renderNumber n) d hd

def EndsSolid (l : Str) : Prop := ∃ b c, l = b ++ [c] ∧ isStripSpace c = false

theorem EndsSolid.ne_nil {l : Str} (h : EndsSolid l) : l ≠ [] := by
  obtain ⟨b, c, rfl, -⟩ := h; simp

theorem EndsSolid.not_all {l : Str} (h : EndsSolid l) (t : Str) : (l ++ t).all isStripSpace = false := by
  obtain ⟨b, c, rfl, hc⟩ := h
  simp [hc]

theorem EndsSolid.prepend {l : Str} (h : EndsSolid l) (p : Str) : EndsSolid (p ++ l) := by
  obtain ⟨b, c, rfl, hc⟩ := h
  exact ⟨p ++ b, c, by simp, hc⟩

theorem endsSolid_openTag (tag : String) (attrs : List (String × Str)) : EndsSolid (openTag tag attrs) :=
  ⟨'<' :: S tag ++ attrsText attrs, '>', by simp [openTag], by decide +kernel⟩
theorem endsSolid_closeTag (tag : String) : EndsSolid (closeTag tag) :=
  ⟨'<' :: '/' :: S tag, '>', by simp [closeTag], by decide +kernel⟩

theorem joinNl_cons_cons (a b : Str) (ls : List Str) : joinNl (a :: b :: ls) = a ++ '\n' :: joinNl (b :: ls) := by
  simp [joinNl, S]

theorem joinNl_singleton (a : Str) : joinNl [a] = a := by simp [joinNl]

theorem joinNl_append (a b : List Str) (ha : a ≠ []) (hb : b ≠ []) :
    joinNl (a ++ b) = joinNl a ++ '\n' :: joinNl b := by
  induction a with
  | nil => exact absurd rfl ha
  | cons x a ih =>
    cases a with
    | nil =>
      cases b with
      | nil => exact absurd rfl hb
      | cons y b => simp [joinNl_cons_cons, joinNl_singleton]
    | cons x' a =>
      have := ih (by simp)
      rw [List.cons_append, List.cons_append, joinNl_cons_cons, ← List.cons_append, this, joinNl_cons_cons]
      simp

theorem indent2_append (a b : Str) (h : Complete a b) : indent2 (a ++ b) = indent2 a ++ indent2 b := by
  simp only [indent2, splitLinesKeep_append a b h, List.flatMap_append]

theorem indent2_solid {l : Str} (hl : NoBreak l) (he : EndsSolid l) (t : Str) (ht : t = [] ∨ t = ['\n']) :
    indent2 (l ++ t) = ' ' :: ' ' :: l ++ t := by
  have e : splitLinesKeep (l ++ t) = [l ++ t] := by
    rw [splitLinesKeep_nobreak_prefix l t hl]
    rcases ht with rfl | rfl
    · simp [attachPre, splitLinesKeep, splitLinesKeepAux, he.ne_nil]
    · rfl
  rw [indent2, e, List.flatMap_singleton, he.not_all t]
  rfl

theorem indent2_joinNl (lines : List Str) (hb : ∀ l ∈ lines, NoBreak l) (he : ∀ l ∈ lines, EndsSolid l) :
    indent2 (joinNl lines) = joinNl (lines.map fun l => ' ' :: ' ' :: l) := by
  induction lines with
  | nil => rfl
  | cons a ls ih =>
    have ha := indent2_solid (hb a (List.mem_cons_self ..)) (he a (List.mem_cons_self ..))
    cases ls with
    | nil => simpa [joinNl_singleton] using ha [] (Or.inl rfl)
    | cons b ls =>
      have ih' := ih (fun l hl => hb l (List.mem_cons_of_mem _ hl)) (fun l hl => he l (List.mem_cons_of_mem _ hl))
      have e : a ++ '\n' :: joinNl (b :: ls) = (a ++ ['\n']) ++ joinNl (b :: ls) := by simp
      rw [joinNl_cons_cons, e, indent2_append _ _ (complete_nl a _), ha _ (Or.inr rfl), ih', List.map_cons, List.map_cons,
        List.map_cons, joinNl_cons_cons]
      simp

theorem joinNl_wrap (a z : Str) (mid : List Str) (h : mid ≠ []) :
    joinNl (a :: (mid ++ [z])) = a ++ '\n' :: joinNl mid ++ '\n' :: z := by
  rw [← List.singleton_append, joinNl_append _ _ (by simp) (by simp), joinNl_append _ _ h (by simp), joinNl_singleton,
    joinNl_singleton]
  simp

theorem joinNl_endsSolid (lines : List Str) (hne : lines ≠ []) (he : ∀ l ∈ lines, EndsSolid l) :
    EndsSolid (joinNl lines) := by
  induction lines with
  | nil => exact absurd rfl hne
  | cons a ls ih =>
    cases ls with
    | nil => rw [joinNl_singleton]; exact he a (List.mem_cons_self ..)
    | cons b ls =>
      rw [joinNl_cons_cons]
      have := ih (by simp) (fun l hl => he l (List.mem_cons_of_mem _ hl))
      simpa using this.prepend (a ++ ['\n'])

theorem reindent_joinNl (lines : List Str) (hne : lines ≠ []) (hb : ∀ l ∈ lines, NoBreak l)
    (he : ∀ l ∈ lines, EndsSolid l) :
    reindent (joinNl lines) = '\n' :: joinNl (lines.map fun l => ' ' :: ' ' :: l) ++ ['\n'] := by
  rw [reindent, indent2_joinNl lines hb he]
  have : EndsSolid (joinNl (lines.map fun l => ' ' :: ' ' :: l)) := by
    apply joinNl_endsSolid _ (by simpa using hne)
    intro l hl
    obtain ⟨l', hl', rfl⟩ := List.mem_map.1 hl
    exact (he l' hl').prepend [' ', ' ']
  obtain ⟨b, c, e, hc⟩ := this
  rw [e, rstripStr_append_singleton _ _ hc]

theorem nl_mem_joinNl (a b : Str) (ls : List Str) : '\n' ∈ joinNl (a :: b :: ls) := by
  rw [joinNl_cons_cons]; simp

theorem tagBody_joinNl_map {α} (tag : String) (attrs : List (String × Str)) (xs : List α) (f : α → Str)
    (h2 : 2 ≤ xs.length) (hb : ∀ x ∈ xs, NoBreak (f x)) (he : ∀ x ∈ xs, EndsSolid (f x)) :
    tagBody tag attrs (joinNl (xs.map f)) =
      openTag tag attrs ++ ('\n' :: joinNl (xs.map fun x => ' ' :: ' ' :: f x) ++ ['\n']) ++ closeTag tag := by
  have hnl : '\n' ∈ joinNl (xs.map f) := by
    match xs, h2 with
    | a :: b :: t, _ => exact nl_mem_joinNl _ _ _
  have hne : xs.map f ≠ [] := by
    intro e; rw [e] at hnl; simp [joinNl] at hnl
  rw [tagBody_eq_nl _ _ _ hnl, reindent_joinNl _ hne
    (by intro l hl; obtain ⟨x, hx, rfl⟩ := List.mem_map.1 hl; exact hb x hx)
    (by intro l hl; obtain ⟨x, hx, rfl⟩ := List.mem_map.1 hl; exact he x hx), List.map_map]
  rfl

theorem noBreak_joinNl_singleton {a : Str} (h : NoBreak a) : '\n' ∉ joinNl [a] := by
  rw [joinNl_singleton]; exact h.nl

theorem conversionsFromAux_names (set : List Gen.UnitDef) (spec : Bool) (fuel : Nat) (queue : List (Num × Nat))
    (visited : List Nat) :
    ∀ c ∈ conversionsFromAux set spec fuel queue visited, ∃ u ∈ set, c.2 = unitPrimaryName u := by
  fun_induction conversionsFromAux set spec fuel queue visited with
  | case1 => simp
  | case2 => simp
  | case3 fuel scale i queue visited hv ih => exact ih
  | case4 fuel scale i queue visited hv hi ih => exact ih
  | case5 fuel scale i queue visited hv u hi mulN divN w up down ih =>
    intro c hc
    rcases List.mem_cons.1 hc with rfl | hc
    · exact ⟨u, List.mem_of_getElem? hi, rfl⟩
    · exact ih c hc

theorem unitTable_names : ∀ ks ∈ Gen.unitSets, ∀ u ∈ ks.2, NoBreak (unitPrimaryName u) := by decide +kernel

theorem conversionsFrom_names {spec : Bool} {name : Str} {convs : List (Num × Str)}
    (h : conversionsFrom spec name = some convs) : ∀ c ∈ convs, NoBreak c.2 := by
  simp only [conversionsFrom, bind, Option.bind_eq_some_iff, pure, Option.some.injEq] at h
  obtain ⟨set, hfs, i, -, rfl⟩ := h
  intro c hc
  obtain ⟨u, hu, hn⟩ := conversionsFromAux_names _ _ _ _ _ _ hc
  simp only [findUnitSet, Option.map_eq_some_iff] at hfs
  obtain ⟨ks, hks, rfl⟩ := hfs
  rw [hn]
  exact unitTable_names ks (List.mem_of_find?_eq_some hks) u hu

theorem altUnits_names {name : Str} {l : List (Num × Str)} (h : altUnits name = some l) : ∀ c ∈ l, NoBreak c.2 := by
  simp only [altUnits, bind, Option.bind_eq_some_iff, pure, Option.some.injEq] at h
  obtain ⟨convs, hcf, rfl⟩ := h
  intro c hc
  exact conversionsFrom_names hcf c ((insertionSort_perm _ convs).mem_iff.1 hc)

/-- the node a cell shows -/
def nodeAt (root : Tree) (path : List Nat) : Tree := (root.at? path).getD root

/-- the `id` attribute of the `<table>` -/
def rootId (pre : Str) : Tree → Option Str
  | .sub _ [n] _ => some (anchorId pre n)
  | _ => none

theorem renderRecipeTree_eq (pre : Str) (t : Tree) :
    renderRecipeTree pre t = renderTable pre t (layout t) (rootId pre t) := by
  cases t with
  | sub b ns sh =>
    match ns with
    | [] => rfl
    | [n] => rfl
    | _ :: _ :: _ => rfl
  | _ => rfl

theorem renderTable_eq (pre : Str) (tree : Tree) (t : Tbl) (id : Option Str) :
    renderTable pre tree t id =
      tagBody "table" (("class", S "rg-table") :: id.toList.map fun i => ("id", i))
        (joinNl ((emitRows t).map fun row => tagBody "tr" []
          (joinNl (row.map fun c => tagBody "td" (cellAttrs c) (renderCellBody pre (nodeAt tree c.path)))))) := by
  cases id <;> rfl

end RG
