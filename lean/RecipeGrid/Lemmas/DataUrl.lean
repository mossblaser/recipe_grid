import RecipeGrid.Model.DataUrl
/-! Base64 digits (`b64char` and `b64val` are inverse on the alphabet, checked entry by entry), three bytes as four sextets and back,
    and what `stripPrefix?`, `stripSuffix?`, `splitComma` of `Model/DataUrl.lean` do on a concatenation and which input gave a
    result; for `Props/C16c`. -/
namespace RG

def isB64Out (c : Char) : Bool :=
  let n := c.toNat
  (65 ≤ n && n ≤ 90) || (97 ≤ n && n ≤ 122) || (48 ≤ n && n ≤ 57) || c == '+' || c == '/' || c == '='

theorem b64char_table : ∀ n, n < 64 →
    b64val (b64char n) = some n ∧ b64char n ≠ '=' ∧ isB64Out (b64char n) = true := by decide +kernel

theorem b64val_b64char (n : Nat) (h : n < 64) : b64val (b64char n) = some n := (b64char_table n h).1

theorem b64char_ge (n : Nat) (h : 64 ≤ n) : b64char n = '/' := by
  unfold b64char
  have h1 : ¬ n < 26 := by omega
  have h2 : ¬ n < 52 := by omega
  have h3 : ¬ n < 62 := by omega
  have h4 : ¬ n = 62 := by omega
  simp only [h1, h2, h3, h4, if_false]

theorem b64char_out (n : Nat) : b64char n ≠ '=' ∧ isB64Out (b64char n) = true := by
  by_cases h : n < 64
  · exact (b64char_table n h).2
  · rw [b64char_ge n (by omega)]; decide

theorem b64char_ne_pad (n : Nat) : b64char n ≠ '=' := (b64char_out n).1

theorem isB64Out_b64char (n : Nat) : isB64Out (b64char n) = true := (b64char_out n).2

theorem b64val_table : ∀ n, n < 123 →
    (b64val (Char.ofNat n)).all (fun v => decide (v < 64) && Char.ofNat n == b64char v) = true := by decide +kernel

theorem b64val_eq_some {c : Char} {v : Nat} (h : b64val c = some v) : v < 64 ∧ c = b64char v := by
  -- only characters below `{` have a value, and for those the table is checked entry by entry
  have hc : c.toNat < 123 := by
    refine Nat.lt_of_not_le fun hge => ?_
    simp only [b64val] at h
    rw [if_neg (by omega), if_neg (by omega), if_neg (by omega), if_neg (by omega), if_neg (by omega)] at h
    cases h
  have := b64val_table c.toNat hc
  rw [Char.ofNat_toNat, h] at this
  simpa using this

theorem b64val_pad : b64val '=' = none := by decide

theorem isBytes_cons {a : Nat} {bs : List Nat} : isBytes (a :: bs) = true ↔ a < 256 ∧ isBytes bs = true := by
  simp [isBytes]

theorem isBytes_nil : isBytes [] = true := rfl

theorem sextets {a b c : Nat} (ha : a < 256) (hb : b < 256) (hc : c < 256) :
    (a / 4 < 64 ∧ a % 4 * 16 + b / 16 < 64 ∧ b % 16 * 4 + c / 64 < 64 ∧ c % 64 < 64) ∧
    a / 4 * 4 + (a % 4 * 16 + b / 16) / 16 = a ∧
    (a % 4 * 16 + b / 16) % 16 * 16 + (b % 16 * 4 + c / 64) / 4 = b ∧
    (b % 16 * 4 + c / 64) % 4 * 64 + c % 64 = c := by omega

theorem bytes_of_sextets {v0 v1 v2 v3 : Nat} (l0 : v0 < 64) (l1 : v1 < 64) (l2 : v2 < 64) (l3 : v3 < 64) :
    (v0 * 4 + v1 / 16 < 256 ∧ v1 % 16 * 16 + v2 / 4 < 256 ∧ v2 % 4 * 64 + v3 < 256) ∧
    (v0 * 4 + v1 / 16) / 4 = v0 ∧
    (v0 * 4 + v1 / 16) % 4 * 16 + (v1 % 16 * 16 + v2 / 4) / 16 = v1 ∧
    (v1 % 16 * 16 + v2 / 4) % 16 * 4 + (v2 % 4 * 64 + v3) / 64 = v2 ∧
    (v2 % 4 * 64 + v3) % 64 = v3 := by omega

theorem stripPrefix?_append (p s : List Char) : stripPrefix? p (p ++ s) = some s := by
  induction p with
  | nil => cases s <;> rfl
  | cons a p ih => simp [stripPrefix?, ih]

theorem stripSuffix?_append (suf m : List Char) : stripSuffix? suf (m ++ suf) = some m := by
  simp [stripSuffix?, List.reverse_append, stripPrefix?_append]

theorem splitComma_append (a b : List Char) (h : ',' ∉ a) : splitComma (a ++ ',' :: b) = some (a, b) := by
  induction a with
  | nil => simp [splitComma]
  | cons c a ih =>
    have hc : c ≠ ',' := fun e => h (by simp [e])
    have ha : ',' ∉ a := fun e => h (by simp [e])
    simp [splitComma, hc, ih ha]

theorem stripPrefix?_eq_some {p s r : List Char} (h : stripPrefix? p s = some r) : s = p ++ r := by
  fun_induction stripPrefix? p s <;> simp_all

theorem stripSuffix?_eq_some {suf s m : List Char} (h : stripSuffix? suf s = some m) : s = m ++ suf := by
  obtain ⟨r, hp, rfl⟩ := Option.map_eq_some_iff.mp h
  rw [← List.reverse_reverse s, stripPrefix?_eq_some hp, List.reverse_append, List.reverse_reverse]

theorem splitComma_eq_some {s a b : List Char} (h : splitComma s = some (a, b)) : s = a ++ ',' :: b ∧ ',' ∉ a := by
  fun_induction splitComma s generalizing a b with
  | case1 => cases h
  | case2 rest => cases h; simp
  | case3 c rest hc ih =>
    obtain ⟨⟨a', b'⟩, hr, h⟩ := Option.map_eq_some_iff.mp h
    cases h
    obtain ⟨e, hn⟩ := ih hr
    exact ⟨by rw [e]; rfl, by simp [hn, Ne.symm hc]⟩


end RG
