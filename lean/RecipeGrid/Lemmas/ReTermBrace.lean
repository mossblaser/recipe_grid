import RecipeGrid.Model.BraceExpr
import RecipeGrid.Lemmas.ReTerm
/-! The engine of `Model/ReExt.lean` extends the engine of `Model/BraceExpr.lean` (`RG.Re`, compared with CPython's `re` on the
    patterns of `ScaledValueExpression` over millions of inputs): a regular expression without `\b`, read in the syntax of `RG.Re`
    (`Rx.toRe`), gives the same answers in that engine (whatever its capture groups hold). -/
namespace RG
namespace Rx

/-- the expression in the syntax of the engine of `Model/BraceExpr.lean` (`\b` has no counterpart there) -/
def toRe : Rx → Re
  | eps => .eps
  | chr c => .cls (· == c)
  | ichr c => .cls (ciMatches · c)
  | any => .cls (fun _ => true)
  | cls neg items => .cls (clsTest neg items)
  | seq a b => .seq (toRe a) (toRe b)
  | alt a b => .alt (toRe a) (toRe b)
  | star a => .star (toRe a)
  | plus a => Re.plus (toRe a)
  | opt a => Re.opt (toRe a)
  | grp n a => .grp n (toRe a)
  | bound => .eps

def hasBound : Rx → Bool
  | bound => true
  | seq a b | alt a b => hasBound a || hasBound b
  | star a | plus a | opt a | grp _ a => hasBound a
  | _ => false

variable {α : Type}

def KRel (t : Array Char) (k : K α) (k' : Re.Cont α) : Prop := ∀ j c, j ≤ t.size → k' (t.toList.drop j) c = k j

theorem drop_eq_nil {t : Array Char} {i : Nat} (h : t[i]? = none) : t.toList.drop i = [] := by
  rw [Array.getElem?_eq_none_iff] at h
  exact List.drop_eq_nil_of_le (by simpa using h)

theorem cls_agree (t : Array Char) (p : Char → Bool) (i : Nat) (c : Re.Caps) {k : K α} {k' : Re.Cont α} (hk : KRel t k k') :
    step t p i k = Re.run (.cls p) (t.toList.drop i) c k' := by
  rw [step]
  cases hc : t[i]? with
  | none => rw [drop_eq_nil hc]; rfl
  | some ch =>
    rw [Parser.drop_of_getElem? hc]
    have hlt : i + 1 ≤ t.size := lt_size_of_getElem? hc
    simp only [Re.run]
    cases p ch with
    | false => rfl
    | true => simp only [if_true]; exact (hk (i + 1) c hlt).symm

theorem starK_agree {t : Array Char} {ma : Nat → K α → Option α} {ma' : Str → Re.Caps → Re.Cont α → Option α}
    (h : ∀ i c k k', i ≤ t.size → KRel t k k' → ma i k = ma' (t.toList.drop i) c k') :
    ∀ fuel i c (k : K α) (k' : Re.Cont α), i ≤ t.size → KRel t k k' →
      starK ma fuel i k = Re.starK ma' fuel (t.toList.drop i) c k'
  | 0, i, c, k, k', hi, hk => (hk i c hi).symm
  | fuel + 1, i, c, k, k', hi, hk => by
    rw [starK, Re.starK]
    rw [h i c _ (fun s' c' => Re.starK ma' fuel s' c' k') hi (fun j c' hj => (starK_agree h fuel j c' k k' hj hk).symm)]
    cases ma' (t.toList.drop i) c (fun s' c' => Re.starK ma' fuel s' c' k') with
    | some a => rfl
    | none => exact (hk i c hi).symm

theorem run_agree (t : Array Char) (base : Nat) : ∀ (r : Rx), hasBound r = false → ∀ (i : Nat) (c : Re.Caps) (k : K α)
    (k' : Re.Cont α), i ≤ t.size → KRel t k k' → run t base r i k = Re.run (toRe r) (t.toList.drop i) c k'
  | eps, _, i, c, k, k', hi, hk => by simp only [run, toRe, Re.run]; exact (hk i c hi).symm
  | chr _, _, i, c, k, k', _, hk | ichr _, _, i, c, k, k', _, hk | any, _, i, c, k, k', _, hk
  | cls _ _, _, i, c, k, k', _, hk => by simp only [run, toRe]; exact cls_agree t _ i c hk
  | seq x y, hb, i, c, k, k', hi, hk => by
    simp only [hasBound, Bool.or_eq_false_iff] at hb
    simp only [run, toRe, Re.run]
    exact run_agree t base x hb.1 i c _ _ hi fun j c' hj => (run_agree t base y hb.2 j c' k k' hj hk).symm
  | alt x y, hb, i, c, k, k', hi, hk => by
    simp only [hasBound, Bool.or_eq_false_iff] at hb
    simp only [run, toRe, Re.run]
    rw [run_agree t base x hb.1 i c k k' hi hk, run_agree t base y hb.2 i c k k' hi hk]
    cases Re.run (toRe x) (t.toList.drop i) c k' <;> rfl
  | star x, hb, i, c, k, k', hi, hk => by
    simp only [hasBound] at hb
    simp only [run, toRe, Re.run]
    rw [show (t.toList.drop i).length = t.size - i by simp]
    exact starK_agree (fun i c k k' hi hk => run_agree t base x hb i c k k' hi hk) _ i c k k' hi hk
  | plus x, hb, i, c, k, k', hi, hk => by
    simp only [hasBound] at hb
    simp only [run, toRe, Re.plus, Re.run]
    refine run_agree t base x hb i c _ _ hi fun j c' hj => ?_
    rw [show (t.toList.drop j).length = t.size - j by simp]
    exact (starK_agree (fun i c k k' hi hk => run_agree t base x hb i c k k' hi hk) _ j c' k k' hj hk).symm
  | opt x, hb, i, c, k, k', hi, hk => by
    simp only [hasBound] at hb
    simp only [run, toRe, Re.opt, Re.run]
    rw [run_agree t base x hb i c k k' hi hk, hk i c hi]
    cases Re.run (toRe x) (t.toList.drop i) c k' <;> rfl
  | grp n x, hb, i, c, k, k', hi, hk => by
    simp only [hasBound] at hb
    simp only [run, toRe, Re.run]
    exact run_agree t base x hb i c k _ hi fun j c' hj => hk j _ hj
  | bound, hb, _, _, _, _, _, _ => by simp [hasBound] at hb

/-- **`match` in the two engines**: an expression without `\b` ends in the engine of `Model/ReExt.lean` where the engine of
    `Model/BraceExpr.lean`, on the rest of the text, leaves off -/
theorem matchEnd_eq_brace (r : Rx) (hb : hasBound r = false) (t : Array Char) (i : Nat) (hi : i ≤ t.size) :
    r.matchEnd t i = Re.run (toRe r) (t.toList.drop i) [] (fun rest _ => some (t.size - rest.length)) := by
  refine run_agree t i r hb i [] some _ hi fun j c hj => ?_
  simp only [List.length_drop, Array.length_toList]
  congr 1; omega

end Rx
end RG
