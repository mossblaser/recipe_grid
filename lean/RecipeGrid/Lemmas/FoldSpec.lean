import RecipeGrid.Lemmas.Fold
import RecipeGrid.Lemmas.PosBound
/-! Where an error of `compile` lies, for `Props/C07b.lean`: a syntax error at a block of the input, an error of
    elaboration at a proportion or a written output name of the reported block, every such offset inside the text
    (`parse_ok_bd`: the positions come from `Lemmas/PosBound.lean`).  `parseAll_ok` says what a successful parse of all
    blocks is. -/
namespace RG

theorem parseAll_error_syntax (srcs : List Str) (i : Nat) (e : CompileResult) (h : parseAll i srcs = .error e) :
    ∃ b, e = .syntaxError b ∧ i ≤ b ∧ b < i + srcs.length := by
  obtain ⟨b, s, rfl, hs, _⟩ := parseAll_error_first srcs i e h
  exact ⟨i + b, rfl, Nat.le_add_right i b, Nat.add_lt_add_left (List.getElem?_eq_some_iff.mp hs).1 i⟩

theorem parseAll_ok : ∀ (srcs : List Str) (i : Nat) (asts : List (List AStmt)), parseAll i srcs = .ok asts →
    asts.length = srcs.length ∧
      ∀ (k : Nat) (s : Str), srcs[k]? = some s → ∃ a, asts[k]? = some a ∧ parse s = .ok a := by
  intro srcs
  induction srcs with
  | nil => intro i asts h; rw [parseAll_nil] at h; cases h; exact ⟨rfl, fun k s hs => by cases hs⟩
  | cons s ss ih =>
    intro i asts h
    rw [parseAll_cons] at h
    cases hp : parse s with
    | syntaxError =>
      rw [hp] at h
      cases h
    | zeroDivision =>
      rw [hp] at h
      cases h
    | ok stmts =>
      rw [hp] at h
      obtain ⟨rest, hr, h⟩ := bind_eq_ok h
      cases h
      obtain ⟨hl, hk⟩ := ih (i + 1) rest hr
      exact ⟨congrArg (· + 1) hl, List.forall_getElem?_cons.2 ⟨⟨stmts, rfl, hp⟩, hk⟩⟩

mutual
theorem compileExpr_error (block : Nat) : ∀ (e : AExpr) (st : CState) (err : StmtErr),
    compileExpr block st e = .error err → ∃ off ∈ e.propOffsets, err = .proportion off
  | .step name inputs, st, err, h => by
    rw [compileExpr] at h
    rcases bind_eq_error h with hs | ⟨_, _, h⟩
    · rw [AExpr.propOffsets]
      exact compileExprs_error block inputs st _ hs
    · cases h
  | .ref name amount, st, err, h => by
    simp only [compileExpr] at h
    split at h
    · cases h
    · split at h
      · cases h
        exact ⟨_, List.mem_singleton_self _, rfl⟩
      · cases h
      · cases h
theorem compileExprs_error (block : Nat) : ∀ (es : List AExpr) (st : CState) (err : StmtErr),
    compileExprs block st es = .error err → ∃ off ∈ AExpr.propOffsetsList es, err = .proportion off
  | [], st, err, h => by rw [compileExprs] at h; cases h
  | e :: es, st, err, h => by
    rw [compileExprs] at h
    rw [AExpr.propOffsetsList]
    rcases bind_eq_error h with h1 | ⟨p, _, h⟩
    · obtain ⟨off, ho, he⟩ := compileExpr_error block e st _ h1
      exact ⟨off, List.mem_append_left _ ho, he⟩
    · rcases bind_eq_error h with h2 | ⟨_, _, h⟩
      · obtain ⟨off, ho, he⟩ := compileExprs_error block es p.2 _ h2
        exact ⟨off, List.mem_append_right _ ho, he⟩
      · cases h
end

theorem registerOutputs_error {block : Nat} {sub : Tree} {unwrap : Bool} {asts : Option (List AString)}
    {names : List SVS} {st : CState} {i : Nat} {err : StmtErr}
    (h : registerOutputs block sub unwrap asts st i names = .error err) :
    (∃ a ∈ asts.getD [], err = .redefined a.offset) ∨ ∃ why, err = .internal why := by
  induction names generalizing st i with
  | nil =>
    rw [registerOutputs] at h
    cases h
  | cons n ns ih =>
    simp only [registerOutputs] at h
    split at h
    · split at h
      · split at h
        · rename_i l a ha
          cases h
          exact Or.inl ⟨a, List.mem_of_getElem? ha, rfl⟩
        · cases h
          exact Or.inr ⟨_, rfl⟩
      · cases h
        exact Or.inr ⟨_, rfl⟩
    · exact ih h

theorem compileStmt_error (block : Nat) (st : CState) (s : AStmt) (err : StmtErr)
    (h : compileStmt block st s = .error err) :
    (∃ off ∈ s.errOffsets, err = .proportion off ∨ err = .redefined off) ∨ ∃ why, err = .internal why := by
  rw [compileStmt_eq] at h
  rcases bind_eq_error h with he | ⟨p, _, h⟩
  · obtain ⟨off, ho, hp⟩ := compileExpr_error block _ st _ he
    exact Or.inl ⟨off, List.mem_append_left _ ho, Or.inl hp⟩
  · rw [nameStmt_eq] at h
    split at h
    · cases h
    · rcases bind_eq_error h with hreg | ⟨_, _, h⟩
      · rcases registerOutputs_error hreg with ⟨a, ha, hx⟩ | hx
        · exact Or.inl ⟨a.offset, List.mem_append_right _ (List.mem_map_of_mem ha), Or.inr hx⟩
        · exact Or.inr hx
      · cases h

theorem compileStmts_error {block : Nat} {ss : List AStmt} {st : CState} {err : StmtErr}
    (h : compileStmts block st ss = .error err) :
    (∃ s ∈ ss, ∃ off ∈ s.errOffsets, err = .proportion off ∨ err = .redefined off) ∨
      ∃ why, err = .internal why := by
  induction ss generalizing st with
  | nil =>
    rw [compileStmts] at h
    cases h
  | cons s ss ih =>
    rw [compileStmts] at h
    rcases bind_eq_error h with h1 | ⟨p, _, h⟩
    · exact (compileStmt_error block st s _ h1).imp (fun ⟨off, ho, hx⟩ => ⟨s, List.mem_cons_self, off, ho, hx⟩) id
    · rcases bind_eq_error h with h2 | ⟨_, _, h⟩
      · exact (ih h2).imp (fun ⟨s', hs', hx⟩ => ⟨s', List.mem_cons_of_mem _ hs', hx⟩) id
      · cases h

theorem compileBlocks_error : ∀ (bs : List (List AStmt)) (i : Nat) (st : CState) (e : CompileResult),
    compileBlocks i st bs = .error e →
    (∃ b off, (e = .proportion b off ∨ e = .redefined b off) ∧ i ≤ b ∧
        ∃ ss, bs[b - i]? = some ss ∧ ∃ s ∈ ss, off ∈ s.errOffsets) ∨ ∃ why, e = .internal why := by
  intro bs
  induction bs with
  | nil =>
    intro i st e h
    rw [compileBlocks] at h
    cases h
  | cons b bs ih =>
    intro i st e h
    rw [compileBlocks_cons] at h
    cases h1 : compileStmts i st b with
    | error e' =>
      rw [h1] at h
      cases h
      rcases compileStmts_error h1 with ⟨s, hs, off, ho, hx⟩ | ⟨why, hx⟩
      · refine Or.inl ⟨i, off, ?_, Nat.le_refl _, b, by rw [Nat.sub_self]; rfl, s, hs, ho⟩
        exact hx.imp (congrArg (liftErr i)) (congrArg (liftErr i))
      · exact Or.inr ⟨why, congrArg (liftErr i) hx⟩
    | ok p =>
      obtain ⟨trees, st1⟩ := p
      rw [h1] at h
      simp only at h
      cases h2 : compileBlocks (i + 1) st1 bs with
      | error e' =>
        rw [h2] at h
        cases h
        refine (ih (i + 1) st1 _ h2).imp (fun ⟨b', off, hx, hle, ss, hss, hs⟩ =>
          ⟨b', off, hx, Nat.le_of_succ_le hle, ss, ?_, hs⟩) id
        rw [show b' - i = b' - (i + 1) + 1 by omega, List.getElem?_cons_succ]
        exact hss
      | ok q =>
        rw [h2] at h
        cases h

/-- what the parser guarantees of every statement of a parsed text (`Parser.PosBound.StOk`): its error offsets lie in the
    text, its written output names have a part, every step has an input -/
theorem parse_ok_bd (s : Str) (stmts : List AStmt) (h : parse s = .ok stmts) :
    ∀ st ∈ stmts, Parser.PosBound.StOk s.toArray st := by
  unfold parse at h
  split at h
  · cases h
  · rename_i _ s' hr
    cases h
    exact (Parser.PosBound.recipe_bd ⟨0, false⟩ _ s' (Nat.zero_le _) hr).2

/-- **every position reported for a statement of a parsed text lies in the text** -/
theorem parse_offsets_in_source (s : Str) (stmts : List AStmt) (h : parse s = .ok stmts) :
    ∀ st ∈ stmts, ∀ off ∈ st.errOffsets, off ≤ s.length :=
  fun st hst => (parse_ok_bd s stmts h st hst).1

end RG
