import RecipeGrid.Model.SiteSources
import RecipeGrid.Lemmas.Site
import RecipeGrid.Model.Links
/-! Lemmas about the source → page table (`Model/SiteSources.lean`): Python dict semantics and the entries met
    while iterating over all pages. -/
namespace RG

theorem mem_dictInsert (k : List Str) (v : Str × Bool) (l : List SrcEntry) (e : SrcEntry) (h : e ∈ dictInsert k v l) :
    e = (k, v) ∨ e ∈ l := by
  induction l with
  | nil => simp [dictInsert] at h; exact .inl h
  | cons x xs ih =>
    simp only [dictInsert] at h
    split at h
    · rename_i hk
      have hk : x.1 = k := by simpa using hk
      rcases List.mem_cons.mp h with h | h
      · left; rw [h, hk]
      · right; exact List.mem_cons_of_mem _ h
    · rcases List.mem_cons.mp h with h | h
      · right; rw [h]; exact List.mem_cons_self
      · rcases ih h with h | h
        · exact .inl h
        · exact .inr (List.mem_cons_of_mem _ h)

theorem keys_dictInsert (k : List Str) (v : Str × Bool) (l : List SrcEntry) :
    (dictInsert k v l).map (·.1) = if k ∈ l.map (·.1) then l.map (·.1) else l.map (·.1) ++ [k] := by
  induction l with
  | nil => simp [dictInsert]
  | cons x xs ih =>
    simp only [dictInsert]
    by_cases hk : x.1 = k
    · simp [hk]
    · have hk' : (x.1 == k) = false := by simpa using hk
      have hk2 : ¬ k = x.1 := fun h => hk h.symm
      rw [hk']
      simp only [Bool.false_eq_true, if_false, List.map_cons, ih, List.mem_cons, hk2, false_or]
      split <;> simp

theorem dictFold_sub (l acc : List SrcEntry) (e : SrcEntry)
    (h : e ∈ l.foldl (fun acc e => dictInsert e.1 e.2 acc) acc) : e ∈ acc ∨ e ∈ l := by
  induction l generalizing acc with
  | nil => exact .inl h
  | cons x xs ih =>
    rw [List.foldl_cons] at h
    rcases ih _ h with h | h
    · rcases mem_dictInsert _ _ _ _ h with h | h
      · right; rw [h]; exact List.mem_cons_self
      · exact .inl h
    · exact .inr (List.mem_cons_of_mem _ h)

theorem mem_dictOfList_sub (l : List SrcEntry) (e : SrcEntry) (h : e ∈ dictOfList l) : e ∈ l := by
  rcases dictFold_sub l [] e h with h | h
  · cases h
  · exact h

theorem dictFold_keys (l acc : List SrcEntry) (hacc : (acc.map (·.1)).Nodup) :
    ((l.foldl (fun acc e => dictInsert e.1 e.2 acc) acc).map (·.1)).Nodup ∧
    ∀ k, k ∈ (l.foldl (fun acc e => dictInsert e.1 e.2 acc) acc).map (·.1) ↔ k ∈ acc.map (·.1) ∨ k ∈ l.map (·.1) := by
  induction l generalizing acc with
  | nil => simp [hacc]
  | cons x xs ih =>
    rw [List.foldl_cons]
    have hk := keys_dictInsert x.1 x.2 acc
    have hnd : ((dictInsert x.1 x.2 acc).map (·.1)).Nodup := by
      rw [hk]
      split
      · exact hacc
      · rename_i hx
        exact List.nodup_append.mpr ⟨hacc, by simp, fun a ha b hb hab => hx (by rwa [hab, List.mem_singleton.mp hb] at ha)⟩
    obtain ⟨h1, h2⟩ := ih _ hnd
    refine ⟨h1, fun k => ?_⟩
    rw [h2, hk]
    split
    · rename_i hx
      simp only [List.map_cons, List.mem_cons]
      exact ⟨fun h => h.imp_right .inr, fun h => h.elim .inl (·.elim (fun e => .inl (e ▸ hx)) .inr)⟩
    · simp only [List.map_cons, List.mem_cons, List.mem_append, List.not_mem_nil, or_false, or_assoc]

theorem nodup_keys_dictOfList (l : List SrcEntry) : ((dictOfList l).map (·.1)).Nodup :=
  (dictFold_keys l [] (by simp)).1

theorem mem_keys_dictOfList (l : List SrcEntry) (k : List Str) : k ∈ (dictOfList l).map (·.1) ↔ k ∈ l.map (·.1) := by
  have := (dictFold_keys l [] (by simp)).2 k
  rw [List.map_nil] at this
  unfold dictOfList
  rw [this]; simp

theorem mem_dictOfList_of_functional (l : List SrcEntry) (k : List Str) (v : Str × Bool)
    (hk : k ∈ l.map (·.1)) (hv : ∀ e ∈ l, e.1 = k → e.2 = v) : (k, v) ∈ dictOfList l := by
  obtain ⟨e, he, hek⟩ := List.mem_map.mp ((mem_keys_dictOfList l k).mpr hk)
  have := hv e (mem_dictOfList_sub l e he) hek
  have he' : e = (k, v) := by rw [← hek, ← this]
  rw [← he']; exact he

theorem dictLookup_of_mem (l : List SrcEntry) (hnd : (l.map (·.1)).Nodup) (k : List Str) (v : Str × Bool) (h : (k, v) ∈ l) :
    dictLookup k l = some v := by
  induction l with
  | nil => cases h
  | cons x xs ih =>
    simp only [dictLookup]
    rw [List.map_cons, List.nodup_cons] at hnd
    rcases List.mem_cons.mp h with h | h
    · rw [← h]; simp
    · have hne : x.1 ≠ k := by
        intro hx
        exact hnd.1 (hx ▸ List.mem_map.mpr ⟨(k, v), h, rfl⟩)
      have : (x.1 == k) = false := by simpa using hne
      rw [this]
      exact ih hnd.2 h

theorem mem_of_dictLookup (l : List SrcEntry) (k : List Str) (v : Str × Bool) (h : dictLookup k l = some v) : (k, v) ∈ l := by
  induction l with
  | nil => cases h
  | cons x xs ih =>
    simp only [dictLookup] at h
    split at h
    · rename_i hx
      have hx : x.1 = k := by simpa using hx
      have : x.2 = v := by simpa using h
      rw [← hx, ← this]; exact List.mem_cons_self
    · exact List.mem_cons_of_mem _ (ih h)

theorem scaledSourcesList_eq (n : Nat) (dirs : List Str) (ds : List Dir) :
    scaledSourcesList n dirs ds = ds.map fun d => (d.title, d.name, scaledSources n (dirs ++ [d.name]) d) := by
  induction ds with
  | nil => simp [scaledSourcesList]
  | cons d ds ih => simp [scaledSourcesList, ih]

theorem unscaledSourcesList_eq (rn : List Str → Str) (dirs : List Str) (ds : List Dir) :
    unscaledSourcesList rn dirs ds = ds.map fun d => (d.title, d.name, unscaledSources rn (dirs ++ [d.name]) false d) := by
  induction ds with
  | nil => simp [unscaledSourcesList]
  | cons d ds ih => simp [unscaledSourcesList, ih]

theorem mem_scaledSources_here (n : Nat) (dirs : List Str) (d : Dir) (e : SrcEntry) :
    e ∈ scaledSources n dirs d ↔
      (∃ s ∈ d.subdirs, e ∈ scaledSources n (dirs ++ [s.name]) s) ∨ (∃ r ∈ d.recipes, recipeSource n dirs r = some e) := by
  cases d
  simp only [scaledSources, scaledSourcesList_eq, List.mem_append, mem_flatMap_insertionSort_map, List.mem_filterMap,
    mem_insertionSort, Dir.subdirs, Dir.recipes]

theorem mem_unscaledSources_here (rn : List Str → Str) (dirs : List Str) (isRoot : Bool) (d : Dir) (e : SrcEntry) :
    e ∈ unscaledSources rn dirs isRoot d ↔
      (isRoot = false ∧ d.readmeTitle.isSome = true ∧ e = (dirs ++ [rn dirs], (catPath none dirs, true))) ∨
      e = (dirs, (catPath none dirs, true)) ∨
      (∃ s ∈ d.subdirs, e ∈ unscaledSources rn (dirs ++ [s.name]) false s) := by
  cases d
  simp only [unscaledSources, unscaledSourcesList_eq, List.mem_append, List.mem_cons, mem_flatMap_insertionSort_map,
    List.mem_ite_nil_right, List.not_mem_nil, or_false, Bool.and_eq_true, Bool.not_eq_true', and_assoc, Dir.subdirs,
    Dir.readmeTitle]

theorem mem_scaledSources (n : Nat) (e : SrcEntry) : ∀ (d : Dir) (dirs : List Str),
    e ∈ scaledSources n dirs d ↔ ∃ rel r, C15.InTree d rel r ∧ recipeSource n (dirs ++ rel) r = some e := by
  intro d
  induction d using Dir.ind with
  | h d ih =>
    intro dirs
    rw [mem_scaledSources_here]
    constructor
    · rintro (⟨s, hs, he⟩ | ⟨r, hr, he⟩)
      · obtain ⟨rel, r, hr, he⟩ := (ih s hs _).mp he
        exact ⟨s.name :: rel, r, .sub hs hr, by simpa using he⟩
      · exact ⟨[], r, .here hr, by simpa using he⟩
    · rintro ⟨rel, r, hr, he⟩
      cases hr with
      | here hr => exact .inr ⟨r, hr, by simpa using he⟩
      | sub hs hr => exact .inl ⟨_, hs, (ih _ hs _).mpr ⟨_, r, hr, by simpa using he⟩⟩

theorem mem_unscaledSources (rn : List Str → Str) (e : SrcEntry) : ∀ (d : Dir) (dirs : List Str) (isRoot : Bool),
    e ∈ unscaledSources rn dirs isRoot d ↔ ∃ rel d', C15.DirAt d rel d' ∧
      (e = (dirs ++ rel, (catPath none (dirs ++ rel), true)) ∨
       ((isRoot = false ∨ rel ≠ []) ∧ d'.readmeTitle.isSome = true ∧
          e = (dirs ++ rel ++ [rn (dirs ++ rel)], (catPath none (dirs ++ rel), true)))) := by
  intro d
  induction d using Dir.ind with
  | h d ih =>
    intro dirs isRoot
    rw [mem_unscaledSources_here]
    constructor
    · rintro (⟨h1, h2, h3⟩ | h | ⟨s, hs, he⟩)
      · exact ⟨[], _, .here _, .inr ⟨.inl h1, h2, by simpa using h3⟩⟩
      · exact ⟨[], _, .here _, .inl (by simpa using h)⟩
      · obtain ⟨rel, d', hsub, hcase⟩ := (ih s hs _ _).mp he
        refine ⟨s.name :: rel, d', .sub hs hsub, ?_⟩
        rcases hcase with h | ⟨_, h2, h3⟩
        · exact .inl (by simpa using h)
        · exact .inr ⟨.inr (by simp), h2, by simpa using h3⟩
    · rintro ⟨rel, d', hsub, hcase⟩
      cases hsub with
      | here =>
        rcases hcase with h | ⟨h1, h2, h3⟩
        · exact .inr (.inl (by simpa using h))
        · rcases h1 with h1 | h1
          · exact .inl ⟨h1, h2, by simpa using h3⟩
          · exact absurd rfl h1
      | sub hs hsub =>
        refine .inr (.inr ⟨_, hs, (ih _ hs _ _).mpr ⟨_, d', hsub, ?_⟩⟩)
        rcases hcase with h | ⟨_, h2, h3⟩
        · exact .inl (by simpa using h)
        · exact .inr ⟨.inl rfl, h2, by simpa using h3⟩

theorem mem_scaledSources_root (n : Nat) (e : SrcEntry) (root : Dir) :
    e ∈ scaledSources n [] root ↔ ∃ dirs r, C15.InTree root dirs r ∧ recipeSource n dirs r = some e := by
  simpa only [List.nil_append] using mem_scaledSources n e root []

theorem mem_unscaledSources_root (rn : List Str → Str) (e : SrcEntry) (root : Dir) :
    e ∈ unscaledSources rn [] true root ↔ ∃ dirs d, C15.DirAt root dirs d ∧
      (e = (dirs, (catPath none dirs, true)) ∨
       (dirs ≠ [] ∧ d.readmeTitle.isSome = true ∧ e = (dirs ++ [rn dirs], (catPath none dirs, true)))) := by
  simpa only [List.nil_append, Bool.true_eq_false, false_or] using mem_unscaledSources rn e root [] true

/-- the website path `resolve_local_links` aims at, for a link in the page `frm` to a source whose table entry is
    `(w, sc)`: `w` with its first segment replaced by the first segment of `frm` if `frm` lies below `/serves…`, the
    target is scalable and `w` is not directly in the site root (the home page); `w` itself otherwise -/
def authoredTarget (frm w : Str) (sc : Bool) : Str :=
  if rewriteDecision.isPrefixOfList "/serves".toList frm && sc && (w.filter (· == '/')).length > 1 then
    joinSlash ((splitSlash frm).take 2 ++ (splitSlash w).drop 2)
  else w

/-- a local link: no scheme, no network location, non-empty path -/
theorem rewrite_page (path : Str) (hpath : path ≠ []) (canon rootParts : List Str) (isFile : Bool) (w : Str) (sc : Bool)
    (frm assets : Str) :
    rewriteDecision [] [] path canon rootParts isFile (some (w, sc)) frm assets = .page (hrefRelative frm (authoredTarget frm w sc)) := by
  have : path.isEmpty = false := by cases path with
    | nil => exact absurd rfl hpath
    | cons c cs => rfl
  simp [rewriteDecision, authoredTarget, this]

theorem serves_prefix (sv : Option Nat) (A : List Str) :
    rewriteDecision.isPrefixOfList "/serves".toList ('/' :: joinSlash (scaleRoot sv :: A)) = sv.isSome := by
  obtain ⟨t, ht⟩ := joinSlash_cons_prefix (scaleRoot sv) A
  rw [ht, toList_lit rfl]
  cases sv with
  | none => rw [scaleRoot_none]; simp [rewriteDecision.isPrefixOfList]
  | some n => rw [scaleRoot_some]; simp [rewriteDecision.isPrefixOfList]

/-- replacing the first segment: `"/".join(from.split("/")[:2] + to.split("/")[2:])` -/
theorem swap_root (x y : Str) (A B : List Str) (hx : '/' ∉ x) (hy : '/' ∉ y) (hA : ∀ a ∈ A, '/' ∉ a) (hB : ∀ b ∈ B, '/' ∉ b) :
    joinSlash ((splitSlash ('/' :: joinSlash (x :: A))).take 2 ++ (splitSlash ('/' :: joinSlash (y :: B))).drop 2)
      = '/' :: joinSlash (x :: B) := by
  rw [splitSlash_abs (x :: A) (by simp) (by
        intro s hs
        rcases List.mem_cons.mp hs with rfl | hs
        · exact hx
        · exact hA s hs),
      splitSlash_abs (y :: B) (by simp) (by
        intro s hs
        rcases List.mem_cons.mp hs with rfl | hs
        · exact hy
        · exact hB s hs)]
  show joinSlash ([] :: x :: B) = _
  rw [joinSlash_cons_of_ne_nil _ _ (by simp)]
  rfl

theorem authoredTarget_home (w : Str) (sc : Bool) : authoredTarget "/index.html".toList w sc = w := by
  unfold authoredTarget
  rw [show rewriteDecision.isPrefixOfList "/serves".toList "/index.html".toList = false by decide +kernel]; rfl

theorem authoredTarget_categories (A : List Str) (w : Str) (sc : Bool) :
    authoredTarget ('/' :: joinSlash (scaleRoot none :: A)) w sc = w := by
  unfold authoredTarget
  rw [serves_prefix]; rfl

theorem authoredTarget_unscalable (frm w : Str) : authoredTarget frm w false = w := by
  unfold authoredTarget
  simp

theorem authoredTarget_to_home (frm : Str) (sc : Bool) : authoredTarget frm "/index.html".toList sc = "/index.html".toList := by
  unfold authoredTarget
  have : (("/index.html".toList).filter (· == '/')).length = 1 := by decide +kernel
  rw [this]
  simp

theorem authoredTarget_serves (n : Nat) (sv : Option Nat) (A B : List Str) (hA : ∀ a ∈ A, '/' ∉ a) (hB : ∀ b ∈ B, '/' ∉ b)
    (hBne : B ≠ []) :
    authoredTarget ('/' :: joinSlash (scaleRoot (some n) :: A)) ('/' :: joinSlash (scaleRoot sv :: B)) true
      = '/' :: joinSlash (scaleRoot (some n) :: B) := by
  unfold authoredTarget
  have hsl : ∀ s ∈ scaleRoot sv :: B, '/' ∉ s := by
    intro s hs
    rcases List.mem_cons.mp hs with rfl | hs
    · exact (scaleRoot_ok sv).2.2.2
    · exact hB s hs
  have hcount : (('/' :: joinSlash (scaleRoot sv :: B)).filter (· == '/')).length > 1 := by
    rw [← List.count_eq_length_filter, ← slashes, slashes_abs _ (by simp) hsl]
    have : B.length ≠ 0 := by simpa using hBne
    simp only [List.length_cons]; omega
  rw [serves_prefix, Option.isSome_some, swap_root _ _ A B (scaleRoot_ok (some n)).2.2.2 (scaleRoot_ok sv).2.2.2 hA hB]
  rw [if_pos]
  simp only [Bool.and_self, Bool.true_and, decide_eq_true_eq]
  exact hcount

end RG
