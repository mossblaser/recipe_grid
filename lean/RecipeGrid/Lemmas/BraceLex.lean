import RecipeGrid.Lemmas.BraceMatch
import RecipeGrid.Lemmas.NumberScan
/-! One step of `any_part_pattern.finditer` (`Brace.partAt`, a backtracking search) equals a deterministic
    lexer (`Brace.lexTok`) that works with maximal runs of digits and blanks.
    The number patterns never make the engine give anything back: each loop over a character class is followed by something that
    cannot start in that class, or cannot fail (`Re.run_star_cls_commit`), so `run` on them is computed by rewriting - what it
    finds and where it finds nothing alike. -/
namespace RG.Brace
open Re Parser

variable {α : Type}

/-- the number at the start of `s` (which starts with a digit): a mixed fraction if there is one, else a
    fraction, else a decimal (`lexMixed`, `lexFracTail`, `lexDecimal`: Lemmas/NumberScan.lean) -/
def lexNumber (s : Str) : Num × Str :=
  match lexMixed s with
  | some (i, n, d, r) => (fracValue (some i) n d, r)
  | none =>
    match lexFracTail s with
    | some (n, d, r) => (fracValue none n d, r)
    | none => lexDecimal s

/-- one token: its value and the rest; `none`: nothing matches here (an unescaped brace, or the end) -/
def lexTok : Str → Option (Part × Str)
  | [] => none
  | ch :: rest =>
    if isDigit ch then some (.num (lexNumber (ch :: rest)).1, (lexNumber (ch :: rest)).2)
    else if ch = '\\' then
      match rest with
      | e :: rest' => if e = '\n' then some (.text ['\\'], rest) else some (.text [e], rest')
      | [] => some (.text ['\\'], [])
    else if ch = '{' ∨ ch = '}' then none
    else some (.text [ch], rest)

/-- the continuation of `partAt` -/
def acc : Cont (Str × Caps) := fun rest c => some (rest, c)

theorem beq_dot_of_digit {c : Char} (h : isDigit c = true) : (c == '.') = false := by
  cases hc : (c == '.') with
  | false => rfl
  | true => rw [beq_iff_eq.1 hc] at h; exact absurd h (by decide)

theorem splitDot_digits (w : Str) (hw : ∀ ch ∈ w, isDigit ch = true) : splitDot w = (w, none) := by
  induction w with
  | nil => rfl
  | cons c w ih =>
    simp [splitDot, beq_dot_of_digit (hw _ (List.mem_cons_self ..)), ih (fun ch hch => hw ch (List.mem_cons_of_mem _ hch))]

theorem splitDot_digits_dot (w f : Str) (hw : ∀ ch ∈ w, isDigit ch = true) :
    splitDot (w ++ '.' :: f) = (w, some f) := by
  induction w with
  | nil => simp [splitDot]
  | cons c w ih =>
    simp [splitDot, beq_dot_of_digit (hw _ (List.mem_cons_self ..)), ih (fun ch hch => hw ch (List.mem_cons_of_mem _ hch))]

/-- the deterministic lexer with the groups of the match: rest of the text and groups, exactly as
    `any_part_pattern.match` leaves them -/
def lexCaps : Str → Option (Str × Caps)
  | [] => none
  | ch :: rest =>
    if isDigit ch then
      match lexMixed (ch :: rest) with
      | some (i, n, d, r) =>
        some (r, [(gDenominator, d), (gNumerator, n),
                  (gAnon1, i ++ ((ch :: rest).dropWhile isDigit).takeWhile isHsp), (gInteger, i)])
      | none =>
        match lexFracTail (ch :: rest) with
        | some (n, d, r) => some (r, [(gDenominator, d), (gNumerator, n)])
        | none =>
          match (ch :: rest).dropWhile isDigit with
          | x :: r =>
            if x = '.' then
              some (r.dropWhile isDigit,
                [(gDecimal, (ch :: rest).takeWhile isDigit ++ '.' :: r.takeWhile isDigit),
                 (gAnon2, '.' :: r.takeWhile isDigit)])
            else some (x :: r, [(gDecimal, (ch :: rest).takeWhile isDigit)])
          | [] => some ([], [(gDecimal, (ch :: rest).takeWhile isDigit)])
    else if ch = '\\' then
      match rest with
      | e :: rest' => if e = '\n' then some (rest, [(gChar, ['\\'])]) else some (rest', [(gEscaped, [e])])
      | [] => some ([], [(gChar, ['\\'])])
    else if ch = '{' ∨ ch = '}' then none
    else some (rest, [(gChar, [ch])])

theorem lexCaps_spec (s : Str) :
    match lexCaps s with
    | none => lexTok s = none
    | some (s', c) => lexTok s = some (partValue c, s') ∧
      ((∃ i n d, lexMixed s = some (i, n, d, s') ∧
        c = [(gDenominator, d), (gNumerator, n), (gAnon1, i ++ (s.dropWhile isDigit).takeWhile isHsp), (gInteger, i)]) ∨
      (∃ n d, lexFracTail s = some (n, d, s') ∧ c = [(gDenominator, d), (gNumerator, n)]) ∨
      (∃ f, s = s.takeWhile isDigit ++ '.' :: (f ++ s') ∧
        c = [(gDecimal, s.takeWhile isDigit ++ '.' :: f), (gAnon2, '.' :: f)]) ∨
      (s = s.takeWhile isDigit ++ s' ∧ c = [(gDecimal, s.takeWhile isDigit)]) ∨
      (∃ x, c = [(gChar, [x])] ∨ c = [(gEscaped, [x])])) := by
  cases s with
  | nil => rfl
  | cons ch rest =>
    cases hd : isDigit ch with
    | true =>
      have hw : ∀ x ∈ (ch :: rest).takeWhile isDigit, isDigit x = true := fun x hx => mem_takeWhile_imp hx
      have hsplit := (List.takeWhile_append_dropWhile (p := isDigit) (l := ch :: rest)).symm
      -- a decimal: `partValue` splits the text of the group at the point again
      have hv : ∀ w' : Str, partValue [(gDecimal, w')] = match splitDot w' with
          | (whole, none) => .num (intValue whole)
          | (whole, some frac) => .num (floatValue whole frac) := fun _ => rfl
      simp only [lexCaps, lexTok, lexNumber, hd, if_true]
      cases hm : lexMixed (ch :: rest) with
      | some t => exact ⟨rfl, Or.inl ⟨_, _, _, rfl, rfl⟩⟩
      | none =>
        cases ht : lexFracTail (ch :: rest) with
        | some t => exact ⟨rfl, Or.inr (Or.inl ⟨_, _, rfl, rfl⟩)⟩
        | none =>
          simp only [lexDecimal]
          cases hdw : (ch :: rest).dropWhile isDigit with
          | nil =>
            rw [hdw] at hsplit
            exact ⟨by simp only [hv, splitDot_digits _ hw], Or.inr (Or.inr (Or.inr (Or.inl ⟨hsplit, rfl⟩)))⟩
          | cons x r =>
            rw [hdw] at hsplit
            by_cases hx : x = '.'
            · subst hx
              refine ⟨?_, Or.inr (Or.inr (Or.inl ⟨r.takeWhile isDigit, ?_, rfl⟩))⟩
              · simp only [if_true]
                rw [show partValue [(gDecimal, (ch :: rest).takeWhile isDigit ++ '.' :: r.takeWhile isDigit),
                    (gAnon2, '.' :: r.takeWhile isDigit)]
                  = partValue [(gDecimal, (ch :: rest).takeWhile isDigit ++ '.' :: r.takeWhile isDigit)] from rfl,
                  hv, splitDot_digits_dot _ _ hw]
              · rw [List.takeWhile_append_dropWhile]; exact hsplit
            · simp only [hx, if_false]
              exact ⟨by simp only [hv, splitDot_digits _ hw], Or.inr (Or.inr (Or.inr (Or.inl ⟨hsplit, trivial⟩)))⟩
    | false =>
      simp only [lexCaps, lexTok, hd, Bool.false_eq_true, if_false]
      by_cases hbs : ch = '\\'
      · subst hbs
        cases rest with
        | nil => exact ⟨rfl, Or.inr (Or.inr (Or.inr (Or.inr ⟨_, Or.inl rfl⟩)))⟩
        | cons e rest' =>
          by_cases he : e = '\n'
          · simp only [he, if_true]; exact ⟨rfl, Or.inr (Or.inr (Or.inr (Or.inr ⟨_, Or.inl rfl⟩)))⟩
          · simp only [he, if_true, if_false]; exact ⟨rfl, Or.inr (Or.inr (Or.inr (Or.inr ⟨_, Or.inr rfl⟩)))⟩
      · by_cases hb : ch = '{' ∨ ch = '}'
        · simp only [hbs, hb, if_true, if_false]
        · simp only [hbs, hb, if_false]; exact ⟨rfl, Or.inr (Or.inr (Or.inr (Or.inr ⟨_, Or.inl rfl⟩)))⟩

/-- the values that `__init__` builds from the groups are those of the deterministic lexer -/
theorem lexCaps_value (s : Str) : (lexCaps s).map (fun r => (partValue r.2, r.1)) = lexTok s := by
  have := lexCaps_spec s
  cases h : lexCaps s with
  | none => rw [h] at this; exact this.symm
  | some r => rw [h] at this; exact this.1.symm

theorem acc_total : ∀ s c, acc s c ≠ none := fun _ _ h => by cases h

/-- skipping zeros and then asking for a non-zero digit, seen from the whole digit run -/
theorem denom_scan {β : Type} (X : Str → Option β) : ∀ s : Str,
    (match s.dropWhile (· == '0') with
      | x :: r => if isNonZeroDigit x then X (r.dropWhile isDigit) else none
      | [] => none) = if hasNonZero (s.takeWhile isDigit) then X (s.dropWhile isDigit) else none
  | [] => by simp [hasNonZero]
  | c0 :: t => by
    by_cases h0 : c0 = '0'
    · subst h0
      have := denom_scan X t
      simpa [hasNonZero, isDigit, isNonZeroDigit] using this
    · have hb : (c0 == '0') = false := by simpa using h0
      simp only [List.dropWhile_cons, hb]
      cases hnz : isNonZeroDigit c0 with
      | true => simp [isDigit_of_nonZero hnz, hasNonZero, hnz]
      | false =>
        have hd : isDigit c0 = false := by
          cases hd : isDigit c0 with
          | false => rfl
          | true => rw [nonZero_of_digit_ne_zero hd h0] at hnz; cases hnz
        simp [hd, hasNonZero, hnz]

/-- `0*[1-9][0-9]*` in front of something that cannot fail: the whole digit run, if it has a non-zero digit -/
theorem run_denomRe_eq {k : Cont α} (hk : ∀ s c, k s c ≠ none) (s : Str) (c : Caps) :
    run denomRe s c k = if hasNonZero (s.takeWhile isDigit) then k (s.dropWhile isDigit) c else none := by
  rw [denomRe, run_seq, chr, run_star_cls_commit _ (.rejects ?rej), ← denom_scan (fun r => k r c)]
  case rej =>
    intro ch rest c hc
    rw [beq_iff_eq.1 hc]; rfl
  rw [run_seq]
  cases s.dropWhile (· == '0') with
  | nil => rfl
  | cons x r =>
    rw [run_cls_cons]
    cases hx : isNonZeroDigit x with
    | false => simp [hx]
    | true => simp only [hx, if_true]; exact run_star_cls_commit isDigit (.total hk) r c

theorem take_takeWhile (p : Char → Bool) (s : Str) : s.take (s.length - (s.dropWhile p).length) = s.takeWhile p := by
  have h := take_length_sub_append (s.takeWhile p) (s.dropWhile p)
  rwa [List.takeWhile_append_dropWhile] at h

/-- `/[ \t]*(?P<denominator>0*[1-9][0-9]*)` in front of something that cannot fail -/
theorem run_slashDenom_eq {k : Cont α} (hk : ∀ s c, k s c ≠ none) (s : Str) (c : Caps) :
    run (seq (chr '/') (seq (star hspc) (grp gDenominator denomRe))) s c k =
      match s with
      | x :: r =>
        if x = '/' then
          if hasNonZero ((r.dropWhile isHsp).takeWhile isDigit) then
            k ((r.dropWhile isHsp).dropWhile isDigit) ((gDenominator, (r.dropWhile isHsp).takeWhile isDigit) :: c)
          else none
        else none
      | [] => none := by
  have hk' : ∀ (s0 : Str) s c, (fun s' c' => k s' ((gDenominator, s0.take (s0.length - s'.length)) :: c')) s c ≠ none :=
    fun _ _ _ => hk _ _
  cases s with
  | nil => rfl
  | cons x r =>
    rw [run_seq]
    by_cases hx : x = '/'
    · subst hx
      rw [run_chr_cons, run_seq]
      refine (run_star_cls_commit isHsp (.rejects ?rej) _ _).trans ?_
      · intro ch rest c hc
        rw [run_grp, run_denomRe_eq (hk' _)]
        simp [isDigit_of_isHsp hc, hasNonZero]
      · rw [run_grp, run_denomRe_eq (hk' _), take_takeWhile]
        rfl
    · rw [run_chr_ne _ _ _ _ (by simpa using hx)]; simp [hx]

/-- **the fraction pattern from the numerator on, in front of something that cannot fail, is `lexFracTail`** -/
theorem run_fracTailRe_eq {k : Cont α} (hk : ∀ s c, k s c ≠ none) (s : Str) (c : Caps) :
    run fracTailRe s c k = match lexFracTail s with
      | some (n, d, r) => k r ((gDenominator, d) :: (gNumerator, n) :: c)
      | none => none := by
  have rej2 : ∀ ch rest c, isHsp ch = true →
      run (seq (chr '/') (seq (star hspc) (grp gDenominator denomRe))) (ch :: rest) c k = none := by
    intro ch rest c hc
    have hslash : ch ≠ '/' := fun h => by rw [h] at hc; cases hc
    rw [run_seq, run_chr_ne _ _ _ _ (fun x hx => by cases hx; exact hslash)]
  rw [fracTailRe, run_seq, run_grp, digit, run_plus_cls_commit isDigit (.rejects ?rej1)]
  case rej1 =>
    intro ch rest c hc
    show run (seq (star hspc) _) (ch :: rest) _ k = none
    rw [run_seq]
    refine (run_star_cls_commit isHsp (.rejects rej2) _ _).trans ?_
    simp only [List.dropWhile_cons, isHsp_of_isDigit hc]
    have hslash : ch ≠ '/' := fun h => by rw [h] at hc; cases hc
    rw [run_seq, run_chr_ne _ _ _ _ (fun x hx => by cases hx; exact hslash)]
  unfold lexFracTail
  by_cases h0 : s.takeWhile isDigit = []
  · simp [h0]
  · simp only [h0, if_false]
    show run (seq (star hspc) _) (s.dropWhile isDigit) _ k = _
    rw [run_seq]
    refine (run_star_cls_commit isHsp (.rejects rej2) _ _).trans ?_
    rw [run_slashDenom_eq hk, take_takeWhile]
    cases (s.dropWhile isDigit).dropWhile isHsp with
    | nil => rfl
    | cons x r =>
      by_cases hx : x = '/'
      · simp only [hx, if_true]; split <;> rfl
      · simp [hx]

/-- `((?P<integer>[0-9]+)[ \t]+)` in front of something that cannot start with a blank is `lexFracInt` -/
theorem run_fracIntRe_eq {k : Cont α} (hk : ∀ ch rest c, isHsp ch = true → k (ch :: rest) c = none) (s : Str) (c : Caps) :
    run fracIntRe s c k = match lexFracInt s with
      | some (i, r) => k r ((gAnon1, i ++ (s.dropWhile isDigit).takeWhile isHsp) :: (gInteger, i) :: c)
      | none => none := by
  rw [fracIntRe, run_grp, run_seq, run_grp, digit, run_plus_cls_commit isDigit (.rejects ?rej)]
  case rej =>
    intro ch rest c hc
    show run (plus hspc) (ch :: rest) _ _ = none
    rw [plus, run_seq, hspc, run_cls_cons, isHsp_of_isDigit hc]; rfl
  unfold lexFracInt
  by_cases h0 : s.takeWhile isDigit = []
  · simp [h0]
  · simp only [h0, if_false, false_or]
    refine (run_plus_cls_commit isHsp (k := fun s' c' => k s' ((gAnon1, s.take (s.length - s'.length)) :: c'))
      (.rejects fun ch rest c hc => hk ch rest _ hc) _ _).trans ?_
    by_cases h1 : (s.dropWhile isDigit).takeWhile isHsp = []
    · simp [h1]
    · have e : s = (s.takeWhile isDigit ++ (s.dropWhile isDigit).takeWhile isHsp) ++ (s.dropWhile isDigit).dropWhile isHsp := by
        rw [List.append_assoc, List.takeWhile_append_dropWhile, List.takeWhile_append_dropWhile]
      have := take_length_sub_append (s.takeWhile isDigit ++ (s.dropWhile isDigit).takeWhile isHsp)
        ((s.dropWhile isDigit).dropWhile isHsp)
      rw [← e] at this
      simp only [h1, if_false, take_takeWhile, this]

theorem run_fractionRe_acc (s : Str) :
    run fractionRe s [] acc =
      match lexMixed s with
      | some (i, n, d, r) =>
        some (r, [(gDenominator, d), (gNumerator, n), (gAnon1, i ++ (s.dropWhile isDigit).takeWhile isHsp), (gInteger, i)])
      | none =>
        match lexFracTail s with
        | some (n, d, r) => some (r, [(gDenominator, d), (gNumerator, n)])
        | none => none := by
  rw [fractionRe, run_seq, Re.opt, run_alt, run_fracIntRe_eq ?rej, run, run_fracTailRe_eq acc_total, lexMixed]
  case rej =>
    intro ch rest c hc
    rw [run_fracTailRe_eq acc_total, lexFracTail]
    simp [isDigit_of_isHsp hc]
  cases lexFracInt s with
  | none => rfl
  | some ir =>
    simp only [run_fracTailRe_eq acc_total]
    cases lexFracTail ir.2 with
    | none => rfl
    | some x => rfl

theorem run_decimalRe_acc (ch : Char) (rest : Str) (hd : isDigit ch = true) :
    run decimalRe (ch :: rest) [] acc =
      match (ch :: rest).dropWhile isDigit with
      | x :: r =>
        if x = '.' then
          some (r.dropWhile isDigit,
            [(gDecimal, (ch :: rest).takeWhile isDigit ++ '.' :: r.takeWhile isDigit),
             (gAnon2, '.' :: r.takeWhile isDigit)])
        else some (x :: r, [(gDecimal, (ch :: rest).takeWhile isDigit)])
      | [] => some ([], [(gDecimal, (ch :: rest).takeWhile isDigit)]) := by
  have hne : (ch :: rest).takeWhile isDigit ≠ [] := by simp [hd]
  have e0 := (List.takeWhile_append_dropWhile (p := isDigit) (l := ch :: rest)).symm
  generalize ch :: rest = s at *
  rw [decimalRe, run_grp, run_seq, digit, run_plus_cls_commit isDigit (.total ?tot), if_neg hne]
  case tot =>
    intro s' c' h
    rw [Re.opt, run_alt] at h
    split at h
    · cases h
    · cases h
  have hg : ∀ x r', s = x ++ r' → s.take (s.length - r'.length) = x := fun x r' h => by rw [h]; exact take_length_sub_append x r'
  rw [Re.opt, run_alt, run_grp, run_seq]
  cases hr : s.dropWhile isDigit with
  | nil =>
    rw [hr] at e0
    rw [chr, run_cls_nil]
    simp only [run, acc, hg _ _ e0]
  | cons x r =>
    rw [hr] at e0
    have e1 := (List.takeWhile_append_dropWhile (p := isDigit) (l := r)).symm
    by_cases hx : x = '.'
    · subst hx
      rw [run_chr_cons, run_star_cls_commit isDigit (.total fun _ _ h => by cases h)]
      simp only [if_true, acc, Option.some.injEq, Prod.mk.injEq, true_and]
      rw [hg (s.takeWhile isDigit ++ '.' :: r.takeWhile isDigit) (r.dropWhile isDigit)
          (by rw [List.append_assoc, List.cons_append, ← e1]; exact e0),
        show ('.' :: r) = ('.' :: r.takeWhile isDigit) ++ r.dropWhile isDigit by rw [List.cons_append, ← e1],
        List.length_append, Nat.add_sub_cancel, List.take_left']
      rfl
    · rw [run_chr_ne _ _ _ _ (by simpa using hx)]
      simp only [run, acc, hg _ _ e0, hx, if_false]

/-- **one step of `finditer`, with its groups, is the deterministic lexer** -/
theorem partAt_eq_lexCaps (s : Str) : partAt s = lexCaps s := by
  show run anyPartRe s [] acc = lexCaps s
  cases s with
  | nil => exact run_eq_none_of_first _ _ _ _ nullable_anyPartRe (by simp)
  | cons ch rest =>
    cases hd : isDigit ch with
    | true =>
      -- the alternatives in order: the fraction pattern, else the decimal pattern (which matches at a digit)
      unfold anyPartRe
      rw [run_alt, run_alt, run_fractionRe_acc, run_decimalRe_acc ch rest hd]
      simp only [lexCaps, hd, if_true]
      cases lexMixed (ch :: rest) with
      | some t => rfl
      | none =>
        cases lexFracTail (ch :: rest) with
        | some t => rfl
        | none =>
          cases (ch :: rest).dropWhile isDigit with
          | nil => rfl
          | cons x r => by_cases hx : x = '.' <;> simp [hx]
    | false =>
      rw [run_anyPartRe_nondigit _ _ _ _ hd, run_freeTextRe]
      simp only [lexCaps, hd]
      by_cases hbs : ch = '\\'
      · subst hbs
        have hfree : isFreeChar '\\' = true := by decide
        simp only [if_true, hfree]
        cases rest with
        | nil => simp [acc]
        | cons e rest' =>
          by_cases he : e = '\n'
          · subst he
            have : isDot '\n' = false := by decide
            simp [this, acc]
          · have : isDot e = true := by simp [isDot, he]
            simp [this, he, acc]
      · simp only [hbs, if_false]
        by_cases hb : ch = '{' ∨ ch = '}'
        · have : isFreeChar ch = false := by
            rcases hb with rfl | rfl <;> decide
          simp [this, hb]
        · have : isFreeChar ch = true := by
            simp only [not_or] at hb
            simp [isFreeChar, hd, hb.1, hb.2]
          simp [this, hb, acc]

theorem partAt_rest {s s' : Str} {c : Caps} (h : partAt s = some (s', c)) : ∃ x, x ≠ [] ∧ s = x ++ s' := by
  unfold partAt at h
  obtain ⟨x, s2, c2, hs, hx, hk⟩ := run_sound _ _ _ _ _ h
  simp only [Option.some.injEq, Prod.mk.injEq] at hk
  obtain ⟨rfl, _⟩ := hk
  refine ⟨x, ?_, hs⟩
  intro hnil
  subst hnil
  have := nullable_of_matches_nil _ hx
  rw [nullable_anyPartRe] at this
  cases this

theorem partAt_eq_lexTok (s : Str) : (partAt s).map (fun r => (partValue r.2, r.1)) = lexTok s := by
  rw [partAt_eq_lexCaps, lexCaps_value]

end RG.Brace
