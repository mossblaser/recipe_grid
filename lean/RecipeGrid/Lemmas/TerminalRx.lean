import RecipeGrid.Lemmas.ReTermCi
import RecipeGrid.Lemmas.ReTermSlice
/-! The terminals of the grammar are regular expressions (`Rx.ScanIs`, `Rx.EndsRx`).  What the other layers need to know of
    a terminal is read off the engine: it hands the flag on (`ScanIs.unif`), it ends between its start and the end of the
    text (`EndsRx.mono`, `EndsRx.bounds`; hence `Bd … Top` in `Lemmas/PosBound.lean` and `Good (term p)` in
    `Lemmas/ParserErrBound.lean`), and it sees only the text from its start on (`ScanIs.sh` in
    `Lemmas/ParserErrShift.lean`). -/
namespace RG
namespace Rx
open Parser Peg

def EndsRx {α} (p : P α) (r : Rx) : Prop := ∀ t, Ends p t (r.matchEnd t)

theorem ScanIs.endsRx {scan : P Unit} {r : Rx} (h : ScanIs scan r) : EndsRx scan r := by
  intro t i z
  rw [h t i z]
  cases r.matchEnd t i <;> rfl

theorem EndsRx.of_void {α} {p : P α} {r : Rx} (h : ScanIs (void p) r) : EndsRx p r := by
  intro t i z
  rw [← h.endsRx t i z]
  show _ = Option.map _ ((p >>= fun _ => pure ()) t ⟨i, z⟩)
  rw [bind_apply]
  cases p t ⟨i, z⟩ <;> rfl

section
variable {α : Type} {p : P α} {r : Rx}

theorem EndsRx.end_eq (h : EndsRx p r) {t : Array Char} {s s' : PState} {a : α} (e : p t s = some (a, s')) :
    r.matchEnd t s.pos = some s'.pos := by
  have := h t s.pos s.zero
  rw [show (⟨s.pos, s.zero⟩ : PState) = s from rfl, e] at this
  cases hm : r.matchEnd t s.pos with
  | none => rw [hm] at this; cases this
  | some j => rw [hm] at this; cases this; rfl

/-- the match is taken on the text from `i` on (`matchEnd_slice`), so it cannot end before `i`, wherever `i` is -/
theorem matchEnd_ge {r : Rx} {t : Array Char} {i j : Nat} (e : r.matchEnd t i = some j) : i ≤ j := by
  rw [matchEnd_slice] at e
  cases h : r.matchEnd (t.extract i t.size) 0 with
  | none => rw [h] at e; cases e
  | some j0 => rw [h] at e; cases e; exact Nat.le_add_left _ _

theorem EndsRx.mono (h : EndsRx p r) : Mono p := fun _ _ _ _ e => matchEnd_ge (h.end_eq e)

/-- `Mono` and `Bd … Top` at once -/
theorem EndsRx.bounds (h : EndsRx p r) {t : Array Char} {s s' : PState} {a : α} (hs : s.pos ≤ t.size)
    (e : p t s = some (a, s')) : s.pos ≤ s'.pos ∧ s'.pos ≤ t.size :=
  matchEnd_bounds hs (h.end_eq e)

end

section
variable {scan : P Unit} {r : Rx}

theorem ScanIs.unif (h : ScanIs scan r) : Unif scan := by
  intro t i z
  rw [h t i z, h t i false]
  cases r.matchEnd t i <;> rfl

end

end Rx
end RG
