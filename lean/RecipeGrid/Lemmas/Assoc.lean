/-! Association lists looked up with `find?` on the key (`lookupStr` of `Model/DataUrl.lean`, `Lru.find` of `Model/Cache.lean`). -/
namespace RG

theorem mem_of_find?_fst {α β : Type _} [DecidableEq α] {l : List (α × β)} {k : α} {v : β}
    (h : (l.find? (·.1 = k)).map (·.2) = some v) : (k, v) ∈ l := by
  obtain ⟨⟨k', v'⟩, hf, rfl⟩ := Option.map_eq_some_iff.mp h
  obtain rfl : k' = k := by simpa using List.find?_some hf
  exact List.mem_of_find?_eq_some hf

end RG
