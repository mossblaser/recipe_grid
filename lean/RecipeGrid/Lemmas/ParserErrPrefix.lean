import RecipeGrid.Lemmas.ParserErrPrefixScan
/-! Prefix stability of the instrumented parser: if `a` ends in a line break, a rule started inside `a` either does on
    `a ++ b` exactly what it does on `a` (same outcome, same furthest failure), or records a failure at or after the end
    of `a`, or succeeds up to or beyond the end of `a` (`LE`: on the longer text, equal or beyond the end).
    `BuiltSh` (`Lemmas/BuiltSh.lean`) is what the rules of the grammar have in common; `Sim`, `Good` and `LE` follow from
    it. -/
namespace RG
namespace ParserE
open Parser (P PState Mono Adv)

section
variable (a b : Str)

def LE {α : Type} (pe' pe : PE α) (s : PState) : Prop :=
  s.pos ≤ (a ++ b).toArray.size →
    pe' (a ++ b).toArray s = pe a.toArray s ∨
    (∃ f, (pe' (a ++ b).toArray s).2 = some f ∧ a.length ≤ f) ∨
    (∃ x s1, (pe' (a ++ b).toArray s).1 = some (x, s1) ∧ a.length ≤ s1.pos)

variable {a b}

theorem LE.of_ge {α : Type} {pe' pe : PE α} {s : PState} (hg : Good pe') (h : a.length ≤ s.pos) : LE a b pe' pe s := by
  intro hs
  obtain ⟨g1, _, _⟩ := hg (a ++ b).toArray s hs
  cases hr : (pe' (a ++ b).toArray s).1 with
  | none =>
    obtain ⟨f, hf, hge, _⟩ := hg.fail_far hs hr
    exact Or.inr (Or.inl ⟨f, hf, by omega⟩)
  | some r =>
    obtain ⟨x, s1⟩ := r
    exact Or.inr (Or.inr ⟨x, s1, rfl, by have := (g1 x s1 hr).1; omega⟩)

theorem LE.of_lt {α : Type} {pe' pe : PE α} {s : PState} (hg : Good pe') (h : s.pos < a.length → LE a b pe' pe s) :
    LE a b pe' pe s := fun hs =>
  if hlt : s.pos < a.length then h hlt hs else LE.of_ge hg (Nat.le_of_not_lt hlt) hs

theorem LE.pure {α : Type} (x : α) {s : PState} : LE a b (pure x : PE α) (pure x) s := fun _ => Or.inl rfl

theorem LE.term {α : Type} {p : P α} (hg : Good (term p)) {s : PState} (h : s.pos < a.length → Lp a b p s) :
    LE a b (term p) (term p) s := by
  refine LE.of_lt hg fun hlt _ => ?_
  rcases h hlt with e | ⟨x, s1, e, hle⟩
  · left; rw [term_apply, term_apply, e]
  · right; right; exact ⟨x, s1, by rw [term_apply, e], hle⟩

theorem LE.bind {α β : Type} {m' m : PE α} {f' f : α → PE β} {s : PState} (hgm : Good m') (hgf : ∀ x, Good (f' x))
    (hm : LE a b m' m s)
    (hf : ∀ x s1, (m a.toArray s).1 = some (x, s1) → LE a b (f' x) (f x) s1) :
    LE a b (m' >>= f') (m >>= f) s := by
  intro hs
  rcases hm hs with e | ⟨f0, e, hle⟩ | ⟨x, s1, e, hle⟩
  · cases hr : (m a.toArray s).1 with
    | none => left; rw [bind_apply, bind_apply, e, hr]
    | some r =>
      obtain ⟨x, s1⟩ := r
      have hr' : (m' (a ++ b).toArray s).1 = some (x, s1) := by rw [e, hr]
      rcases hf x s1 hr (hgm.ends hs hr').2 with e2 | ⟨f0, e2, hle⟩ | ⟨y, s2, e2, hle⟩
      · left; rw [bind_apply, bind_apply, e, hr]; simp only; rw [e2]
      · exact Or.inr (Or.inl (far_bind_ge hr' ⟨f0, e2, hle⟩))
      · exact Or.inr (Or.inr ⟨y, s2, (bind_fst _ _ hr').trans e2, hle⟩)
  · obtain ⟨z, hz, hxz⟩ := far_bind_left (f := f') e
    exact Or.inr (Or.inl ⟨z, hz, by omega⟩)
  · -- `m'` has passed the end of `a`: whatever `f'` does happens beyond it
    have hs1 := (hgm.ends hs e).2
    cases hr2 : (f' x (a ++ b).toArray s1).1 with
    | none =>
      obtain ⟨f1, h1, h2, _⟩ := (hgf x).fail_far hs1 hr2
      exact Or.inr (Or.inl (far_bind_ge e ⟨f1, h1, by omega⟩))
    | some r =>
      exact Or.inr (Or.inr ⟨r.1, r.2, (bind_fst _ _ e).trans hr2, by have := ((hgf x).ends hs1 hr2).1; omega⟩)

theorem LE.orElse {α : Type} {p' p q' q : PE α} {s : PState} (hp : LE a b p' p s) (hq : LE a b q' q s) :
    LE a b (p' <|> q') (p <|> q) s := by
  intro hs
  rcases hp hs with e | ⟨f0, e, hle⟩ | ⟨x, s1, e, hle⟩
  · cases hr : (p a.toArray s).1 with
    | some r => left; rw [orElse_apply, orElse_apply, e, hr]
    | none =>
      have hr' : (p' (a ++ b).toArray s).1 = none := by rw [e, hr]
      rcases hq hs with e2 | ⟨f0, e2, hle⟩ | ⟨y, s2, e2, hle⟩
      · left; rw [orElse_apply, orElse_apply, e, hr]; simp only; rw [e2]
      · right; left
        obtain ⟨f1, h1, h2⟩ := le_fmax_right (a := (p' (a ++ b).toArray s).2) e2
        exact ⟨f1, by rw [orElse_apply, hr']; exact h1, by omega⟩
      · right; right
        exact ⟨y, s2, by rw [orElse_apply, hr']; exact e2, hle⟩
  · right; left
    cases hr' : (p' (a ++ b).toArray s).1 with
    | some r => exact ⟨f0, by rw [orElse_apply, hr']; exact e, hle⟩
    | none =>
      obtain ⟨f1, h1, h2⟩ := le_fmax_left (b := (q' (a ++ b).toArray s).2) e
      exact ⟨f1, by rw [orElse_apply, hr']; exact h1, by omega⟩
  · right; right
    exact ⟨x, s1, by rw [orElse_apply, e], hle⟩

theorem withText_snd {α : Type} (p : PE α) (t : Array Char) (s : PState) : (withText p t s).2 = (p t s).2 := by
  unfold ParserE.withText
  cases (p t s).1 <;> rfl

theorem LE.withText {α : Type} {p : PE α} {s : PState} (hg : Good p) (hp : LE a b p p s) :
    LE a b (withText p) (withText p) s := by
  refine LE.of_lt (Good.withText hg) fun hlt hs => ?_
  rcases hp hs with e | ⟨f0, e, hle⟩ | ⟨x, s1, e, hle⟩
  · left
    unfold ParserE.withText
    rw [e]
    cases hr : (p a.toArray s).1 with
    | none => rfl
    | some r =>
      obtain ⟨x, s1⟩ := r
      have hle : s1.pos ≤ a.length := by
        have := ((hg a.toArray s (by rw [List.size_toArray]; omega)).1 x s1 hr).2
        rwa [List.size_toArray] at this
      simp only
      rw [extract_cut a b (Nat.le_of_lt hlt) hle]
  · right; left
    exact ⟨f0, by rw [withText_snd]; exact e, hle⟩
  · right; right
    refine ⟨(x, ((a ++ b).toArray.extract s.pos s1.pos).toList), s1, ?_, hle⟩
    unfold ParserE.withText
    rw [e]

theorem remaining_bind {β : Type} (f : Nat → PE β) (t : Array Char) (s : PState) :
    (remaining >>= f) t s = f (t.size - s.pos) t s := by
  rw [bind_apply]
  show ((f (t.size - s.pos) t s).1, fmax none (f (t.size - s.pos) t s).2) = _
  rw [fmax_none_left]

/-- `many` takes exactly as much fuel as there are characters left: when the items use up the whole text the loop
    stops without trying `p` once more, so at that boundary the fuel decides whether a failure at the end of the text is
    recorded.  That boundary is beyond the end of `a`, where `LE` asks nothing; inside `a` either fuel suffices. -/
theorem LE.manyF {α : Type} {p : PE α} (hg : Good p) (hadv : AdvE p) (hp : ∀ s, LE a b p p s) :
    ∀ (fuel fuel' : Nat) (s : PState), (s.pos < a.length → a.length - s.pos ≤ fuel ∧ a.length - s.pos ≤ fuel') →
    LE a b (manyF p fuel') (manyF p fuel) s
  | 0, fuel', s, hfu => LE.of_ge (Good.manyF hg fuel') (Nat.le_of_not_lt fun h => by have := (hfu h).1; omega)
  | fuel + 1, fuel', s, hfu => by
    refine LE.of_lt (Good.manyF hg fuel') fun hlt => ?_
    cases fuel' with
    | zero => have := (hfu hlt).2; omega
    | succ fuel' =>
      unfold ParserE.manyF
      refine LE.orElse ?_ (LE.pure _)
      refine LE.bind hg (fun _ => Good.bind (Good.manyF hg fuel') fun _ => Good.pure _) (hp s) fun x s1 hr => ?_
      have h1 := hadv a.toArray s x s1 (by rw [List.size_toArray]; omega) hr
      refine LE.bind (Good.manyF hg fuel') (fun _ => Good.pure _) ?_ fun _ _ _ => LE.pure _
      exact LE.manyF hg hadv hp fuel fuel' s1 (fun _ => by have := hfu hlt; omega)

theorem LE.skipManyOpt (q : Char → Bool) {s : PState} : LE a b (skipManyOpt q) (skipManyOpt q) s := by
  refine LE.of_lt (Good.skipManyOpt q) fun hlt _ => ?_
  rcases spanEnd_cut a b q (i := s.pos) (Nat.le_of_lt hlt) with h | ⟨h, _⟩
  · left; unfold ParserE.skipManyOpt; rw [h]
  · right; right; exact ⟨(), _, rfl, h⟩

theorem LE.liftOhsp {s : PState} : LE a b (lift Parser.ohsp) (lift Parser.ohsp) s := by
  refine LE.of_lt Good.liftOhsp fun hlt _ => ?_
  rcases spanEnd_cut a b isHsp (i := s.pos) (Nat.le_of_lt hlt) with h | ⟨h, _⟩
  · left; unfold ParserE.lift Parser.ohsp Parser.skipMany; rw [h]
  · right; right; exact ⟨(), _, rfl, h⟩

theorem LE.many {α : Type} {p : PE α} (hg : Good p) (hadv : AdvE p) (hp : ∀ s, LE a b p p s) {s : PState} :
    LE a b (many p) (many p) s := by
  unfold LE ParserE.many
  rw [remaining_bind, remaining_bind]
  exact LE.manyF hg hadv hp _ _ s (fun _ => by rw [size_cut, List.size_toArray]; omega)

theorem LE.bind_remaining {β : Type} {f : Nat → PE β} (hg : ∀ k, Good (f k)) (hf : ∀ k s, LE a b (f k) (f k) s)
    (hfuel : ∀ (k k' : Nat) (t : Array Char) (lo : Nat), t.size ≤ k + lo → k ≤ k' → EqFrom t lo (f k') (f k))
    {s : PState} : LE a b (remaining >>= f) (remaining >>= f) s := by
  refine LE.of_lt (Good.bind Good.remaining hg) fun hlt => ?_
  unfold LE
  rw [remaining_bind, remaining_bind, ← hfuel (a.toArray.size - s.pos) ((a ++ b).toArray.size - s.pos) a.toArray s.pos
    (by omega) (by rw [size_cut, List.size_toArray]; omega) s (Nat.le_refl _) (by rw [List.size_toArray]; omega)]
  exact hf _ s

end

end ParserE
end RG
