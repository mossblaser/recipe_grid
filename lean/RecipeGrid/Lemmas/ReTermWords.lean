import RecipeGrid.Lemmas.ReTermEasy
/-! `naked_string`, the terminal whose backtracking matters (a greedy run, given back to the last edge character =
    `trimBack`); and literal words under `(?i)` (`wordEnd`, `run_word`) for the terminals of `Lemmas/ReTermCi.lean`. -/
namespace RG
namespace Rx
open Parser Peg

/-! ## `naked_string`: `[^…\s]([^…\n\r]*[^…\s])?` -/

theorem trimBack_step (p : Char → Bool) (t : Array Char) {lo m : Nat} (h : lo ≤ m) :
    orE (step t p m some) (some (trimBack p t lo m)) = some (trimBack p t lo (m + 1)) := by
  rw [trimBack_succ p t h, step]
  cases t[m]? with
  | none => rfl
  | some c => cases hp : p c <;> simp [hp]

theorem tryDown_trimBack (p : Char → Bool) (t : Array Char) (lo : Nat) : ∀ n,
    orE (tryDown (fun m => step t p m some) lo n) (some lo) = some (trimBack p t lo (lo + n + 1))
  | 0 => by rw [tryDown, ← trimBack_step p t (Nat.le_refl lo), trimBack_of_le p t lo lo (Nat.le_refl _)]
  | n + 1 => by
    rw [tryDown_succ, orE_assoc, tryDown_trimBack p t lo n]
    exact trimBack_step p t (by omega)

theorem ends_nakedString {t : Array Char} : Ends nakedString t (fun i =>
    step t isNakedEdge i fun j => some (trimBack isNakedEdge t j (spanEnd isNakedInner t j))) := by
  rw [nakedString_eq]
  refine Ends.congr (Ends.bind ends_getPos fun _ => Ends.bind (Ends.withText (Ends.bind (ends_sat _)
    (g := fun j => some (trimBack isNakedEdge t j (spanEnd isNakedInner t j))) fun _ => ?_)) fun _ => ends_pure _) fun i => ?_
  · intro i z; rfl
  · simp only [Option.bind_some, step_bind, Option.bind_fun_some]

theorem scanIs_nakedString :
    ScanIs (void nakedString)
      (seqs [cls true [.chr '"', .chr '\'', .chr ',', .chr ':', .chr '=', .chr '/', .chr '(', .chr ')', .chr '{', .chr '}', .space],
        opt (grp 1 (seqs [star (cls true [.chr '"', .chr '\'', .chr ',', .chr ':', .chr '=', .chr '/', .chr '(', .chr ')',
            .chr '{', .chr '}', .chr '\n', .chr '\r']),
          cls true [.chr '"', .chr '\'', .chr ',', .chr ':', .chr '=', .chr '/', .chr '(', .chr ')', .chr '{', .chr '}', .space]]))]) := by
  refine ScanIs.of_ends (fun t => Ends.void ends_nakedString) fun t i => ?_
  rw [matchEnd, run_seqs_cons, run_cls, cls_edge]
  congr 1; funext j
  rw [run_seqs_cons, run_opt, run_grp, run_seqs_cons, run_star_cls, cls_inner]
  simp only [run_seqs_cons, run_seqs_nil, run_cls, cls_edge]
  have hge := spanEnd_ge isNakedInner t j
  -- the character that stops the run of inner characters is not an edge character
  have hstop : step t isNakedEdge (spanEnd isNakedInner t j) some = none := step_of_not _ fun c hc => by
    have := spanEnd_stop hc
    cases he : isNakedEdge c with
    | false => rfl
    | true => rw [isNakedInner_of_isNakedEdge he] at this; cases this
  -- so the run is given back from its end `hi`: `trimBack … (hi + 1) = trimBack … hi`
  generalize spanEnd isNakedInner t j = hi at hge hstop
  obtain ⟨n, rfl⟩ : ∃ n, hi = j + n := ⟨hi - j, by omega⟩
  rw [show j + n - j = n by omega, tryDown_trimBack, ← trimBack_step _ _ hge, hstop]
  rfl

def wordEnd (t : Array Char) : Str → Nat → Option Nat
  | [], i => some i
  | l :: ls, i => step t (ciMatches · l) i (fun j => wordEnd t ls j)

theorem ends_ciWord {t : Array Char} : ∀ w : Str, Ends (ciWord w) t (wordEnd t w)
  | [] => ends_pure ()
  | l :: ls => by
    refine Ends.congr (Ends.bind (ends_sat _) fun _ => ends_ciWord ls) fun i => ?_
    rw [step_bind]; rfl

theorem run_word {α} (t : Array Char) (base : Nat) (rest : List Rx) (k : K α) : ∀ (w : Str) (i : Nat),
    run t base (seqs (w.map ichr ++ rest)) i k = (wordEnd t w i).bind (fun j => run t base (seqs rest) j k)
  | [], i => rfl
  | l :: ls, i => by
    rw [List.map_cons, List.cons_append, run_seqs_cons, run_ichr, wordEnd, step_bind]
    congr 1; funext j
    exact run_word t base rest k ls j

theorem run_word_only {α} (t : Array Char) (base : Nat) (k : K α) (w : Str) (i : Nat) :
    run t base (seqs (w.map ichr)) i k = (wordEnd t w i).bind k := by
  have := run_word t base [] k w i
  rw [List.append_nil] at this
  rw [this]; rfl

theorem wordEnd_eq {t : Array Char} : ∀ {w : Str} {i j : Nat}, wordEnd t w i = some j → j = i + w.length
  | [], i, j, h => by simp only [wordEnd, Option.some.injEq] at h; simp [h]
  | l :: ls, i, j, h => by
    simp only [wordEnd, step] at h
    cases hc : t[i]? with
    | none => rw [hc] at h; cases h
    | some c =>
      rw [hc] at h
      cases hp : ciMatches c l with
      | false => simp [hp] at h
      | true =>
        simp only [hp, if_true] at h
        have := wordEnd_eq h
        simp only [List.length_cons]; omega

theorem wordEnd_bind_congr {α} {t : Array Char} {w : Str} {i : Nat} {f g : Nat → Option α}
    (h : ∀ j, j = i + w.length → f j = g j) : (wordEnd t w i).bind f = (wordEnd t w i).bind g := by
  cases hw : wordEnd t w i with
  | none => rfl
  | some j => exact h j (wordEnd_eq hw)

theorem wordEnd_none_of_space {t : Array Char} {l : Char} {ls : Str} {m : Nat} {c : Char} (hl : isLowerAscii l = true)
    (hc : t[m]? = some c) (hs : isReSpace c = true) : wordEnd t (l :: ls) m = none := by
  rw [wordEnd]
  refine step_of_not _ fun d hd => ?_
  rw [hc] at hd; cases hd
  cases hm : ciMatches c l with
  | false => rfl
  | true =>
    have := isReWord_of_ciMatches hl hm
    rw [isReWord_false_of_isReSpace hs] at this; cases this

/-- a run of white space followed by a word: only the whole run can be followed by the word -/
theorem tryDown_word {α} {t : Array Char} {p : Char → Bool} (hp : ∀ c, p c = true → isReSpace c = true) {l : Char} {ls : Str}
    (hl : isLowerAscii l = true) (k : Nat → Option α) (j : Nat) :
    tryDown (fun m => (wordEnd t (l :: ls) m).bind k) j (spanEnd p t j - j) = (wordEnd t (l :: ls) (spanEnd p t j)).bind k := by
  exact tryDown_span_commit j fun m c hc hpc => by rw [wordEnd_none_of_space hl hc (hp c hpc)]; rfl

end Rx
end RG
