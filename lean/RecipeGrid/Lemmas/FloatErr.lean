import RecipeGrid.Model.Num
import RecipeGrid.Lemmas.Fmt
/-! Rounding-error facts about `toDouble` (`Model/Num.lean`): nearest binary64 with an unbounded exponent.
    `toDouble_pos_spec` says what it computes on a positive number; the error bounds (`toDouble_err_pos` and its signed
    forms), monotonicity, exactness and idempotence are read off it.  `4503599627370496 = 2⁵²`, `9007199254740992 = 2⁵³`
    throughout (the numerals are what `grind` computes with).  Nothing here is a specification; the property statements
    live in `Props/C03c.lean`, `Lemmas/Stable.lean` and, through `Lemmas/Near.lean`, `Props/C20b.lean`. -/
namespace RG

theorem pow2_eq_zpow (e : Int) : pow2 e = (2 : Rat) ^ e := by
  unfold pow2
  split
  · rename_i h
    obtain ⟨n, rfl⟩ := Int.eq_ofNat_of_zero_le h
    simp [Rat.zpow_natCast, Rat.natCast_pow]
  · rename_i h
    have h' : 0 ≤ -e := by omega
    obtain ⟨n, hn⟩ := Int.eq_ofNat_of_zero_le h'
    have he : e = -(n : Int) := by omega
    subst he
    simp [Rat.zpow_neg, Rat.zpow_natCast, Rat.natCast_pow, Rat.div_def]

theorem pow2_pos (e : Int) : 0 < pow2 e := by
  rw [pow2_eq_zpow]; exact Rat.zpow_pos (by decide)

theorem pow2_ne_zero (e : Int) : pow2 e ≠ 0 := Rat.ne_of_gt (pow2_pos e)

theorem pow2_add (a b : Int) : pow2 (a + b) = pow2 a * pow2 b := by
  simp only [pow2_eq_zpow]; exact Rat.zpow_add (by decide) a b

theorem pow2_zero : pow2 0 = 1 := by decide
theorem pow2_one : pow2 1 = 2 := by decide

theorem pow2_succ (e : Int) : pow2 (e + 1) = 2 * pow2 e := by
  rw [pow2_add, pow2_one, Rat.mul_comm]

theorem pow2_natCast (n : Nat) : pow2 (n : Int) = ((2 ^ n : Nat) : Rat) := by
  simp [pow2]

theorem one_le_pow2_natCast (n : Nat) : 1 ≤ pow2 (n : Int) := by
  rw [pow2_natCast]
  have : 1 ≤ 2 ^ n := Nat.one_le_two_pow
  exact_mod_cast this

theorem pow2_le_pow2 {a b : Int} (h : a ≤ b) : pow2 a ≤ pow2 b := by
  obtain ⟨n, hn⟩ := Int.eq_ofNat_of_zero_le (show 0 ≤ b - a by omega)
  have hb : b = a + (n : Int) := by omega
  rw [hb, pow2_add]
  have h1 := one_le_pow2_natCast n
  have h2 := pow2_pos a
  have := Rat.mul_le_mul_of_nonneg_left h1 (Rat.le_of_lt h2)
  simpa using this

theorem two_pow2_le_pow2 {a b : Int} (h : a < b) : 2 * pow2 a ≤ pow2 b := by
  rw [← pow2_succ]; exact pow2_le_pow2 (by omega)

theorem roundHalfEven_intCast (n : Int) : roundHalfEven (n : Rat) = n := by
  simp only [roundHalfEven, Rat.floor_intCast]
  have : (n : Rat) - (n : Rat) = 0 := by grind
  rw [this]
  simp +decide

theorem floor_le_roundHalfEven (q : Rat) : q.floor ≤ roundHalfEven q := by
  simp only [roundHalfEven]
  split
  · omega
  · split <;> omega

theorem roundHalfEven_le_floor_add_one (q : Rat) : roundHalfEven q ≤ q.floor + 1 := by
  simp only [roundHalfEven]
  split
  · omega
  · split <;> omega

theorem roundHalfEven_mono {p q : Rat} (h : p ≤ q) : roundHalfEven p ≤ roundHalfEven q := by
  have hf := Rat.floor_monotone h
  by_cases heq : p.floor = q.floor
  · -- same floor: compare the fractional parts case by case (above, at, below one half; at one half the parity of the
    -- common floor decides alike for both)
    simp only [roundHalfEven, heq]
    split
    · split
      · omega
      · split
        · omega
        · grind
    · split
      · split
        · omega
        · split
          · omega
          · grind
      · split
        · omega
        · split <;> omega
  · have h1 := roundHalfEven_le_floor_add_one p
    have h2 := floor_le_roundHalfEven q
    omega

theorem le_roundHalfEven_of_le {q : Rat} {n : Int} (h : (n : Rat) ≤ q) : n ≤ roundHalfEven q := by
  have := roundHalfEven_mono h
  rwa [roundHalfEven_intCast] at this

theorem div_le_iff_of_pos {a b c : Rat} (hb : 0 < b) : a / b ≤ c ↔ a ≤ c * b := by
  rw [← Rat.not_lt, Rat.lt_div_iff hb, Rat.not_lt]
theorem le_div_iff_of_pos {a b c : Rat} (hb : 0 < b) : c ≤ a / b ↔ c * b ≤ a := by
  rw [← Rat.not_lt, Rat.div_lt_iff hb, Rat.not_lt]

theorem div_pow2_lt_iff {a c : Rat} (e : Int) : a / pow2 e < c ↔ a < c * pow2 e := Rat.div_lt_iff (pow2_pos e)
theorem div_pow2_le_iff {a c : Rat} (e : Int) : a / pow2 e ≤ c ↔ a ≤ c * pow2 e := div_le_iff_of_pos (pow2_pos e)
theorem le_div_pow2_iff {a c : Rat} (e : Int) : c ≤ a / pow2 e ↔ c * pow2 e ≤ a := le_div_iff_of_pos (pow2_pos e)

theorem div_pow2_mul (a : Rat) (e : Int) : a / pow2 e * pow2 e = a := Rat.div_mul_cancel (pow2_ne_zero e)

theorem rat_mul_den (a : Rat) : a * ((a.den : Nat) : Rat) = (a.num : Rat) := by
  have h := Rat.num_divInt_den a
  rw [Rat.divInt_eq_div, Rat.intCast_natCast] at h
  have hd : ((a.den : Nat) : Rat) ≠ 0 := by
    have : (0 : Rat) < ((a.den : Nat) : Rat) := Rat.natCast_pos.2 a.den_pos
    exact Rat.ne_of_gt this
  calc a * ((a.den : Nat) : Rat) = (a.num : Rat) / ((a.den : Nat) : Rat) * ((a.den : Nat) : Rat) := by rw [h]
    _ = (a.num : Rat) := Rat.div_mul_cancel hd

theorem log2_bounds {a : Rat} (ha : 0 < a) :
    pow2 ((Nat.log2 a.num.natAbs : Int) - (Nat.log2 a.den : Int) - 1) < a ∧
    a < pow2 ((Nat.log2 a.num.natAbs : Int) - (Nat.log2 a.den : Int) + 1) := by
  have hnum : 0 < a.num := by
    have h1 : 0 ≤ a.num := Rat.num_nonneg.2 (Rat.le_of_lt ha)
    have h2 : a.num ≠ 0 := fun h => Rat.ne_of_gt ha (Rat.num_eq_zero.1 h)
    omega
  have hN : a.num.natAbs ≠ 0 := by omega
  have hNc : ((a.num.natAbs : Nat) : Rat) = (a.num : Rat) := by
    rw [← Rat.intCast_natCast, Int.natAbs_of_nonneg (by omega)]
  have hD : a.den ≠ 0 := a.den_nz
  have n1 : ((2 ^ Nat.log2 a.num.natAbs : Nat) : Rat) ≤ ((a.num.natAbs : Nat) : Rat) :=
    Rat.natCast_le_natCast.2 (Nat.log2_self_le hN)
  have n2 : ((a.num.natAbs : Nat) : Rat) < ((2 ^ (Nat.log2 a.num.natAbs + 1) : Nat) : Rat) :=
    Rat.natCast_lt_natCast.2 Nat.lt_log2_self
  have d1 : ((2 ^ Nat.log2 a.den : Nat) : Rat) ≤ ((a.den : Nat) : Rat) :=
    Rat.natCast_le_natCast.2 (Nat.log2_self_le hD)
  have d2 : ((a.den : Nat) : Rat) < ((2 ^ (Nat.log2 a.den + 1) : Nat) : Rat) :=
    Rat.natCast_lt_natCast.2 Nat.lt_log2_self
  rw [← pow2_natCast] at n1 n2 d1 d2
  rw [hNc, ← rat_mul_den a] at n1 n2
  have hDpos : (0 : Rat) < ((a.den : Nat) : Rat) := Rat.natCast_pos.2 a.den_pos
  generalize (Nat.log2 a.num.natAbs) = ln at *
  generalize (Nat.log2 a.den) = ld at *
  generalize ((a.den : Nat) : Rat) = D at *
  constructor
  · -- pow2 (ln - ld - 1) * D < pow2 (ln - ld - 1) * pow2 (ld + 1) = pow2 ln ≤ a * D
    apply Rat.lt_of_mul_lt_mul_right _ (Rat.le_of_lt hDpos)
    have h1 := Rat.mul_lt_mul_of_pos_left d2 (pow2_pos ((ln : Int) - (ld : Int) - 1))
    rw [← pow2_add] at h1
    have : (ln : Int) - (ld : Int) - 1 + ((ld + 1 : Nat) : Int) = (ln : Int) := by omega
    rw [this] at h1
    exact Std.lt_of_lt_of_le h1 n1
  · apply Rat.lt_of_mul_lt_mul_right _ (Rat.le_of_lt hDpos)
    have h1 := Rat.mul_le_mul_of_nonneg_left d1 (Rat.le_of_lt (pow2_pos ((ln : Int) - (ld : Int) + 1)))
    rw [← pow2_add] at h1
    have : (ln : Int) - (ld : Int) + 1 + (ld : Int) = ((ln + 1 : Nat) : Int) := by omega
    rw [this] at h1
    exact Std.lt_of_lt_of_le n2 h1

theorem pow2_51 : pow2 51 = 2251799813685248 := by decide +kernel
theorem pow2_52 : pow2 52 = 4503599627370496 := by decide +kernel
theorem pow2_53 : pow2 53 = 9007199254740992 := by decide +kernel

/-- for a positive argument `toDouble` scales into `[2^52, 2^53)`, rounds to an integer, and scales back -/
theorem toDouble_pos_spec {a : Rat} (ha : 0 < a) : ∃ e : Int,
    4503599627370496 * pow2 e ≤ a ∧ a < 9007199254740992 * pow2 e ∧
    toDouble a = ((roundHalfEven (a / pow2 e) : Int) : Rat) * pow2 e := by
  have hne : (a == 0) = false := by simpa using Rat.ne_of_gt ha
  have hnl : ¬ a < 0 := by grind
  obtain ⟨lo, hi⟩ := log2_bounds ha
  simp only [toDouble, hne, hnl, if_false, Bool.false_eq_true]
  generalize he0 : (Nat.log2 a.num.natAbs : Int) - (Nat.log2 a.den : Int) - 52 = e0
  have lo' : 2251799813685248 * pow2 e0 < a := by
    rw [← pow2_51, ← pow2_add]
    have : (51 : Int) + e0 = (Nat.log2 a.num.natAbs : Int) - (Nat.log2 a.den : Int) - 1 := by omega
    rw [this]; exact lo
  have hi' : a < 9007199254740992 * pow2 e0 := by
    rw [← pow2_53, ← pow2_add]
    have : (53 : Int) + e0 = (Nat.log2 a.num.natAbs : Int) - (Nat.log2 a.den : Int) + 1 := by omega
    rw [this]; exact hi
  have hp := pow2_pos e0
  by_cases h1 : a / pow2 e0 ≥ (9007199254740992 : Rat)
  · -- the branch `m0 ≥ 2⁵³` of `toDouble` is never taken: `hi'` says `a < 2⁵³·2^e0`
    exfalso
    have := (le_div_pow2_iff e0).1 h1
    grind
  · by_cases h2 : a / pow2 e0 < (4503599627370496 : Rat)
    · simp only [h1, h2, if_false, if_true]
      refine ⟨e0 - 1, ?_, ?_, rfl⟩
      · have : pow2 e0 = 2 * pow2 (e0 - 1) := by rw [← pow2_succ]; congr 1; omega
        grind
      · have h2' := (div_pow2_lt_iff e0).1 h2
        have : pow2 e0 = 2 * pow2 (e0 - 1) := by rw [← pow2_succ]; congr 1; omega
        grind
    · simp only [h1, h2, if_false]
      refine ⟨e0, ?_, hi', rfl⟩
      exact (le_div_pow2_iff e0).1 (Rat.not_lt.1 h2)

theorem exp_le_of_bounds {a : Rat} {e e' : Int}
    (h1 : 4503599627370496 * pow2 e ≤ a) (h2' : a < 9007199254740992 * pow2 e') : e ≤ e' := by
  -- were `e' < e`, then `2⁵³·2^e' ≤ 2⁵²·2^e ≤ a`, against `h2'`
  refine Int.not_lt.1 fun hlt => ?_
  have := two_pow2_le_pow2 hlt
  grind

theorem exp_unique {a : Rat} {e e' : Int}
    (h1 : 4503599627370496 * pow2 e ≤ a) (h2 : a < 9007199254740992 * pow2 e)
    (h1' : 4503599627370496 * pow2 e' ≤ a) (h2' : a < 9007199254740992 * pow2 e') : e = e' := by
  have := exp_le_of_bounds h1 h2'
  have := exp_le_of_bounds h1' h2
  omega

theorem toDouble_of_exp {a : Rat} {e : Int}
    (h1 : 4503599627370496 * pow2 e ≤ a) (h2 : a < 9007199254740992 * pow2 e) :
    toDouble a = ((roundHalfEven (a / pow2 e) : Int) : Rat) * pow2 e := by
  have ha : 0 < a := by have := pow2_pos e; grind
  obtain ⟨e', g1, g2, g3⟩ := toDouble_pos_spec ha
  rw [exp_unique h1 h2 g1 g2]; exact g3

theorem toDouble_zero : toDouble 0 = 0 := by decide

theorem toDouble_neg (x : Rat) : toDouble (-x) = -toDouble x := by
  by_cases h0 : x = 0
  · subst h0; decide
  · have hx : (x == 0) = false := by simpa using h0
    have hnx : (-x == 0) = false := by simp; grind
    simp only [toDouble, hx, hnx, Bool.false_eq_true, if_false]
    by_cases hneg : x < 0
    · have : ¬ (-x < 0) := by grind
      simp only [hneg, this, if_true, if_false, Rat.neg_neg]
    · have : -x < 0 := by grind
      simp only [hneg, this, if_true, if_false, Rat.neg_neg]

/-- `toDouble` is odd, so a relation between `x` and `toDouble x` that holds at `0`, for positive `x`, and is kept when both
    sides are negated, holds for every `x` -/
theorem toDouble_by_sign {P : Rat → Rat → Prop} (zero : P 0 0) (pos : ∀ a, 0 < a → P a (toDouble a))
    (neg : ∀ a r, P a r → P (-a) (-r)) (x : Rat) : P x (toDouble x) := by
  by_cases h0 : x = 0
  · subst h0; exact toDouble_zero ▸ zero
  · by_cases hp : 0 < x
    · exact pos x hp
    · have := neg _ _ (pos (-x) (by grind))
      rwa [toDouble_neg, Rat.neg_neg, Rat.neg_neg] at this

theorem significand_bounds {a : Rat} {e : Int} (h1 : 4503599627370496 * pow2 e ≤ a)
    (h2 : a < 9007199254740992 * pow2 e) :
    (4503599627370496 : Int) ≤ roundHalfEven (a / pow2 e) ∧ roundHalfEven (a / pow2 e) ≤ 9007199254740992 := by
  constructor
  · apply le_roundHalfEven_of_le
    rw [le_div_pow2_iff]
    simpa using h1
  · apply roundHalfEven_le_of_lt
    rw [div_pow2_lt_iff]
    simpa using h2

theorem toDouble_pos {a : Rat} (ha : 0 < a) : 0 < toDouble a := by
  obtain ⟨e, h1, h2, h3⟩ := toDouble_pos_spec ha
  rw [h3]
  have hk := (significand_bounds h1 h2).1
  have : (0 : Rat) < ((roundHalfEven (a / pow2 e) : Int) : Rat) := by
    have : (0 : Int) < roundHalfEven (a / pow2 e) := by omega
    exact_mod_cast this
  exact Rat.mul_pos this (pow2_pos e)

theorem toDouble_nonneg {a : Rat} (ha : 0 ≤ a) : 0 ≤ toDouble a := by
  by_cases h : a = 0
  · subst h; decide
  · exact Rat.le_of_lt (toDouble_pos (by grind))

theorem toDouble_nonpos {a : Rat} (ha : a ≤ 0) : toDouble a ≤ 0 := by
  have := toDouble_nonneg (a := -a) (by grind)
  rw [toDouble_neg] at this
  grind

/-- half an ulp, against both the argument and the result -/
theorem toDouble_err_pos {a : Rat} (ha : 0 < a) :
    (9007199254740992 * (toDouble a - a) ≤ a ∧ 9007199254740992 * (a - toDouble a) ≤ a) ∧
    (9007199254740992 * (toDouble a - a) ≤ toDouble a ∧ 9007199254740992 * (a - toDouble a) ≤ toDouble a) := by
  obtain ⟨e, h1, h2, h3⟩ := toDouble_pos_spec ha
  have hp := pow2_pos e
  have hb := roundHalfEven_bounds (a / pow2 e)
  have hk : ((4503599627370496 : Int) : Rat) ≤ ((roundHalfEven (a / pow2 e) : Int) : Rat) :=
    Rat.intCast_le_intCast.2 (significand_bounds h1 h2).1
  have hk' := Rat.mul_le_mul_of_nonneg_right hk (Rat.le_of_lt hp)
  have ham := div_pow2_mul a e
  have b1 := Rat.mul_le_mul_of_nonneg_right hb.1 (Rat.le_of_lt hp)
  have b2 := Rat.mul_le_mul_of_nonneg_right hb.2 (Rat.le_of_lt hp)
  rw [h3]
  generalize ((roundHalfEven (a / pow2 e) : Int) : Rat) = k at *
  generalize a / pow2 e = m at *
  generalize pow2 e = p at *
  subst ham
  -- with `m = a/2ᵉ`, `k` its rounding and `p = 2ᵉ`: `2|k − m| ≤ 1` (`hb`) and `k, m ≥ 2⁵²` give
  -- `2⁵³·|k·p − m·p| ≤ 2⁵²·p ≤ min (m·p) (k·p)`, which is the claim for `a = m·p`, `toDouble a = k·p`
  have e1 : 2 * (k - m) * p = 2 * (k * p - m * p) := by grind
  have e2 : 2 * (m - k) * p = 2 * (m * p - k * p) := by grind
  have e3 : ((4503599627370496 : Int) : Rat) = 4503599627370496 := by simp
  rw [e1] at b1; rw [e2] at b2; rw [e3] at hk'
  grind

theorem abs_le_iff {x y : Rat} : x.abs ≤ y ↔ -y ≤ x ∧ x ≤ y := by
  simp only [Rat.abs]; split <;> grind

theorem abs_mul_of_nonneg {c x : Rat} (hc : 0 ≤ c) : (c * x).abs = c * x.abs := by
  by_cases hx : 0 ≤ x
  · rw [Rat.abs_of_nonneg hx, Rat.abs_of_nonneg (Rat.mul_nonneg hc hx)]
  · have hx' : x ≤ 0 := by grind
    have : c * x ≤ 0 := by
      have := Rat.mul_nonneg hc (show 0 ≤ -x by grind)
      grind
    rw [Rat.abs_of_nonpos hx', Rat.abs_of_nonpos this]; grind

theorem abs_neg_sub_neg (r a : Rat) : (-r - -a).abs = (r - a).abs := by
  rw [show -r - -a = -(r - a) by grind, Rat.abs_neg]

theorem abs_mul (x y : Rat) : (x * y).abs = x.abs * y.abs := by
  by_cases hx : 0 ≤ x
  · rw [Rat.abs_of_nonneg hx, abs_mul_of_nonneg hx]
  · have hx' : 0 ≤ -x := by grind
    have h1 := abs_mul_of_nonneg (x := y) hx'
    have h2 : -x * y = -(x * y) := by grind
    rw [h2, Rat.abs_neg] at h1
    have h3 : x.abs = -x := Rat.abs_of_nonpos (by grind)
    rw [h1, h3]

theorem self_le_abs (x : Rat) : -x.abs ≤ x ∧ x ≤ x.abs := abs_le_iff.1 Rat.le_refl

theorem abs_tri3 (a b c d : Rat) : (a - d).abs ≤ (a - b).abs + (b - c).abs + (c - d).abs := by
  have h1 := self_le_abs (a - b)
  have h2 := self_le_abs (b - c)
  have h3 := self_le_abs (c - d)
  rw [abs_le_iff]
  constructor <;> grind

theorem abs_le_abs_add (a b : Rat) : a.abs ≤ b.abs + (a - b).abs := by
  have h1 := self_le_abs b
  have h2 := self_le_abs (a - b)
  rw [abs_le_iff]
  constructor <;> grind

theorem abs_le_abs_add_rev (a b : Rat) : a.abs ≤ b.abs + (b - a).abs := by
  rw [Rat.abs_sub_comm]; exact abs_le_abs_add a b

/-- relative error at most one unit roundoff `2^-53` (no range condition: the model's exponent is unbounded) -/
theorem toDouble_err_mul (x : Rat) : 9007199254740992 * (toDouble x - x).abs ≤ x.abs := by
  refine toDouble_by_sign (P := fun a r => 9007199254740992 * (r - a).abs ≤ a.abs) (by decide +kernel) ?_ ?_ x
  · intro a ha
    have := (toDouble_err_pos ha).1
    rw [← abs_mul_of_nonneg (by decide), abs_le_iff, Rat.abs_of_nonneg (Rat.le_of_lt ha)]
    grind
  · intro a r h
    rwa [abs_neg_sub_neg, Rat.abs_neg]

theorem toDouble_err (x : Rat) : (toDouble x - x).abs ≤ x.abs / 9007199254740992 := by
  have := toDouble_err_mul x
  rw [Rat.div_def]
  grind

/-- `float(a)` is `a` itself or `a` rounded once -/
theorem Num.toFlt_err (a : Num) : 9007199254740992 * (a.toFlt - a.val).abs ≤ a.val.abs := by
  unfold Num.toFlt
  split
  · have : a.val - a.val = 0 := by grind
    rw [this, Rat.abs_zero, Rat.mul_zero]
    exact Rat.abs_nonneg
  · exact toDouble_err_mul a.val

theorem toDouble_err_mul' (x : Rat) : 9007199254740992 * (toDouble x - x).abs ≤ (toDouble x).abs := by
  refine toDouble_by_sign (P := fun a r => 9007199254740992 * (r - a).abs ≤ r.abs) (by decide +kernel) ?_ ?_ x
  · intro a ha
    have := (toDouble_err_pos ha).2
    rw [← abs_mul_of_nonneg (by decide), abs_le_iff, Rat.abs_of_nonneg (toDouble_nonneg (Rat.le_of_lt ha))]
    grind
  · intro a r h
    rwa [abs_neg_sub_neg, Rat.abs_neg]

/-- one rounding moves an absolute value by at most `2⁻⁵³` of itself, either way -/
theorem toDouble_abs_bounds (z : Rat) :
    9007199254740991 * z.abs ≤ 9007199254740992 * (toDouble z).abs ∧
    9007199254740992 * (toDouble z).abs ≤ 9007199254740993 * z.abs := by
  have h1 := toDouble_err_mul z
  have h2 := abs_le_abs_add (toDouble z) z
  have h3 := abs_le_abs_add_rev z (toDouble z)
  constructor <;> grind

theorem toDouble_bounds_of_nonneg {v : Rat} (hv : 0 ≤ v) :
    9007199254740991 * v ≤ 9007199254740992 * toDouble v ∧ 9007199254740992 * toDouble v ≤ 9007199254740993 * v := by
  have := toDouble_abs_bounds v
  rwa [Rat.abs_of_nonneg hv, Rat.abs_of_nonneg (toDouble_nonneg hv)] at this

theorem toDouble_le_two_mul {x : Rat} (hx : 0 ≤ x) : toDouble x ≤ 2 * x := by
  have := (toDouble_bounds_of_nonneg hx).2
  grind

theorem div_pow2_le_div_pow2 {x y : Rat} (h : x ≤ y) (e : Int) : x / pow2 e ≤ y / pow2 e := by
  rw [le_div_pow2_iff, div_pow2_mul]; exact h

theorem toDouble_mono_pos {x y : Rat} (hx : 0 < x) (hxy : x ≤ y) : toDouble x ≤ toDouble y := by
  have hy : 0 < y := by grind
  obtain ⟨ex, x1, x2, x3⟩ := toDouble_pos_spec hx
  obtain ⟨ey, y1, y2, y3⟩ := toDouble_pos_spec hy
  have hle : ex ≤ ey := exp_le_of_bounds x1 (by grind)
  rw [x3, y3]
  by_cases heq : ex = ey
  · subst heq
    exact Rat.mul_le_mul_of_nonneg_right
      (Rat.intCast_le_intCast.2 (roundHalfEven_mono (div_pow2_le_div_pow2 hxy ex))) (Rat.le_of_lt (pow2_pos ex))
  · have hp := two_pow2_le_pow2 (show ex < ey by omega)
    have kx := (significand_bounds x1 x2).2
    have ky := (significand_bounds y1 y2).1
    have kx' := Rat.mul_le_mul_of_nonneg_right (Rat.intCast_le_intCast.2 kx) (Rat.le_of_lt (pow2_pos ex))
    have ky' := Rat.mul_le_mul_of_nonneg_right (Rat.intCast_le_intCast.2 ky) (Rat.le_of_lt (pow2_pos ey))
    have e1 : ((9007199254740992 : Int) : Rat) = 9007199254740992 := by simp
    have e2 : ((4503599627370496 : Int) : Rat) = 4503599627370496 := by simp
    rw [e1] at kx'; rw [e2] at ky'
    grind

theorem toDouble_mono {x y : Rat} (h : x ≤ y) : toDouble x ≤ toDouble y := by
  by_cases hx : 0 < x
  · exact toDouble_mono_pos hx h
  · by_cases hy : 0 ≤ y
    · exact Rat.le_trans (toDouble_nonpos (by grind)) (toDouble_nonneg hy)
    · have := toDouble_mono_pos (x := -y) (y := -x) (by grind) (by grind)
      rw [toDouble_neg, toDouble_neg] at this
      grind

theorem toDouble_two53_mul_pow2 (e : Int) :
    toDouble (9007199254740992 * pow2 e) = 9007199254740992 * pow2 e := by
  have hs : (9007199254740992 : Rat) * pow2 e = 4503599627370496 * pow2 (e + 1) := by rw [pow2_succ]; grind
  have hp := pow2_pos (e + 1)
  rw [hs, toDouble_of_exp (e := e + 1) (Rat.le_refl) (by grind), Rat.mul_div_cancel (pow2_ne_zero _)]
  have : (4503599627370496 : Rat) = ((4503599627370496 : Int) : Rat) := by simp
  rw [this, roundHalfEven_intCast]

theorem toDouble_int_mul_pow2_pos {k : Int} (hk : 0 < k) (hk2 : k ≤ 9007199254740992) (e : Int) :
    toDouble ((k : Rat) * pow2 e) = (k : Rat) * pow2 e := by
  by_cases h53 : k = 9007199254740992
  · subst h53
    have : ((9007199254740992 : Int) : Rat) = 9007199254740992 := by simp
    rw [this]; exact toDouble_two53_mul_pow2 e
  · have hkq : (0 : Rat) < (k : Rat) := by exact_mod_cast hk
    have hk3 : (k : Rat) ≤ 9007199254740991 := by
      have : k ≤ 9007199254740991 := by omega
      have := Rat.intCast_le_intCast.2 this
      rwa [show ((9007199254740991 : Int) : Rat) = 9007199254740991 from rfl] at this
    have hp := pow2_pos e
    have ha : 0 < (k : Rat) * pow2 e := Rat.mul_pos hkq hp
    obtain ⟨e', h1, h2, h3⟩ := toDouble_pos_spec ha
    have hle : e' ≤ e := by
      -- were `e < e'`, then `k·2^e < 2⁵³·2^e ≤ 2⁵²·2^e'`, below the binade `h1` puts it in
      refine Int.not_lt.1 fun hlt => ?_
      have := two_pow2_le_pow2 hlt
      have := Rat.mul_le_mul_of_nonneg_right hk3 (Rat.le_of_lt hp)
      grind
    obtain ⟨j, hj⟩ := Int.eq_ofNat_of_zero_le (show 0 ≤ e - e' by omega)
    have he : e = (j : Int) + e' := by omega
    have hpe : pow2 e = ((2 ^ j : Nat) : Rat) * pow2 e' := by rw [he, pow2_add, pow2_natCast]
    have hm : (k : Rat) * pow2 e / pow2 e' = ((k * ((2 ^ j : Nat) : Int) : Int) : Rat) := by
      rw [hpe, ← Rat.mul_assoc, Rat.mul_div_cancel (pow2_ne_zero _)]
      simp [Rat.intCast_mul]
    rw [h3, hm, roundHalfEven_intCast, hpe]
    simp [Rat.intCast_mul, Rat.mul_assoc]

theorem toDouble_int_mul_pow2 {k : Int} (hk1 : -9007199254740992 ≤ k) (hk2 : k ≤ 9007199254740992) (e : Int) :
    toDouble ((k : Rat) * pow2 e) = (k : Rat) * pow2 e := by
  by_cases h0 : k = 0
  · subst h0; simp [toDouble_zero]
  · by_cases hp : 0 < k
    · exact toDouble_int_mul_pow2_pos hp hk2 e
    · have := toDouble_int_mul_pow2_pos (k := -k) (by omega) (by omega) e
      have hc : ((-k : Int) : Rat) * pow2 e = -((k : Rat) * pow2 e) := by simp [Rat.intCast_neg, Rat.neg_mul]
      rw [hc, toDouble_neg] at this
      grind

theorem toDouble_exact_int (n : Int) (h : n.natAbs ≤ 9007199254740992) : toDouble (n : Rat) = (n : Rat) := by
  have := toDouble_int_mul_pow2 (k := n) (by omega) (by omega) 0
  simpa [pow2_zero] using this

theorem toDouble_idem (x : Rat) : toDouble (toDouble x) = toDouble x := by
  refine toDouble_by_sign (P := fun _ r => toDouble r = r) toDouble_zero ?_ (fun a r h => by rw [toDouble_neg, h]) x
  intro a ha
  obtain ⟨e, h1, h2, h3⟩ := toDouble_pos_spec ha
  obtain ⟨ky, kx⟩ := significand_bounds h1 h2
  rw [h3]
  exact toDouble_int_mul_pow2_pos (by omega) kx e

/-- one rounding after an approximation: if `x` is within `c·|P|` of `P`, then `toDouble x` is within
    `(c + 2^-53·(1 + c))·|P|` -/
theorem round_after {x P c : Rat} (h : (x - P).abs ≤ c * P.abs) :
    (toDouble x - P).abs ≤ (c + (1 + c) / 9007199254740992) * P.abs := by
  -- `|rd x − P| ≤ |rd x − x| + |x − P| ≤ 2⁻⁵³·|x| + c·|P|` and `|x| ≤ (1 + c)·|P|`; the rest is sign bookkeeping for `grind`
  have h1 := toDouble_err_mul x
  have h3 := self_le_abs P
  have h4 := self_le_abs (toDouble x - x)
  rw [abs_le_iff] at h
  have h2 : x.abs ≤ P.abs + c * P.abs := by rw [abs_le_iff]; grind
  rw [abs_le_iff]
  simp only [Rat.div_def] at *
  generalize (toDouble x - x).abs = d at *
  generalize x.abs = ax at *
  have e : (c + (1 + c) * 9007199254740992⁻¹) * P.abs
      = c * P.abs + P.abs * 9007199254740992⁻¹ + c * P.abs * 9007199254740992⁻¹ := by grind
  rw [e]
  generalize hcp : c * P.abs = cp at *
  generalize P.abs = p at *
  constructor <;> grind
