import RecipeGrid.Model.Recipe
import RecipeGrid.Model.DataUrl
/-! `str.lower()` (`lowerChar`, `lowerStr`) on ASCII, where the table `Gen.lowerMap` only moves the capitals
    (`Model/DataUrl.lean` is imported for `asciiLower`, which is defined there). -/
namespace RG

/-- `str.lower()` changes ASCII capitals and characters from `À` on, nothing else -/
theorem lowerMap_keys : ∀ e ∈ Gen.lowerMap, (65 ≤ e.1 ∧ e.1 ≤ 90) ∨ 192 ≤ e.1 := by decide +kernel

theorem lowerChar_eq_self {c : Char} (h : c.toNat < 65 ∨ 90 < c.toNat ∧ c.toNat < 192) : lowerChar c = [c] := by
  unfold lowerChar
  rw [List.find?_eq_none.2 fun e he heq => ?_]
  have := lowerMap_keys e he
  simp only [beq_iff_eq] at heq
  omega

theorem lowerChar_ascii (c : Char) (h : c.toNat < 128) : lowerChar c = [asciiLower c] := by
  have capital : ∀ n, n < 26 → lowerChar (Char.ofNat (65 + n)) = [Char.ofNat (97 + n)] := by decide +kernel
  unfold asciiLower
  split
  · have := capital (c.toNat - 65) (by omega)
    rwa [show 65 + (c.toNat - 65) = c.toNat by omega, show 97 + (c.toNat - 65) = c.toNat + 32 by omega,
      Char.ofNat_toNat] at this
  · exact lowerChar_eq_self (by omega)

theorem lowerStr_map {s : Str} {f : Char → Char} (h : ∀ c ∈ s, lowerChar c = [f c]) : lowerStr s = s.map f := by
  induction s with
  | nil => rfl
  | cons c s ih =>
    rw [lowerStr, List.flatMap_cons, h c List.mem_cons_self, ← lowerStr, ih fun d hd => h d (List.mem_cons_of_mem c hd)]
    rfl

theorem lowerStr_eq_self {s : Str} (h : ∀ c ∈ s, lowerChar c = [c]) : lowerStr s = s := by
  rw [lowerStr_map (f := id) h, List.map_id]

def asciiStr (s : Str) : Bool := s.all (·.toNat < 128)

theorem lowerStr_ascii (s : Str) (h : asciiStr s = true) : lowerStr s = s.map asciiLower :=
  lowerStr_map fun c hc => lowerChar_ascii c (by simpa using List.all_eq_true.1 h c hc)

end RG
