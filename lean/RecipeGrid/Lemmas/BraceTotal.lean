import RecipeGrid.Lemmas.BraceLex
/-! Every `Fraction(…)` that `ScaledValueExpression.__init__` builds has a non-zero denominator; and no group of a match is
    longer than the source, so `int()` can meet its limit of 4300 digits only on a longer source (`matches_no_intTooLong`). -/
namespace RG.Brace
open Re Parser

theorem lexFracTail_denominator {s n d r : Str} (h : lexFracTail s = some (n, d, r)) : natOfDigits d ≠ 0 := by
  obtain ⟨h2, h3, -, hf, -⟩ := lexFracTail_some h
  exact hf.den_ne_zero

theorem lexCaps_denominator {s s' : Str} {c : Caps} (h : lexCaps s = some (s', c)) (numer : Str)
    (hn : c.get gNumerator = some numer) : ∃ d, c.get gDenominator = some d ∧ natOfDigits d ≠ 0 := by
  have hs := lexCaps_spec s
  rw [h] at hs
  rcases hs.2 with ⟨i, n, d, hm, rfl⟩ | ⟨n, d, ht, rfl⟩ | ⟨f, -, rfl⟩ | ⟨-, rfl⟩ | ⟨x, rfl | rfl⟩
  · obtain ⟨rr, -, ht⟩ := lexMixed_some hm
    exact ⟨d, rfl, lexFracTail_denominator ht⟩
  · exact ⟨d, rfl, lexFracTail_denominator ht⟩
  -- a decimal or a single character: there is no numerator group
  all_goals cases hn

theorem matchesF_mem_len (fuel : Nat) (s : Str) (c : Caps) (h : c ∈ matchesF fuel s) :
    ∃ s0 s', s0.length ≤ s.length ∧ partAt s0 = some (s', c) := by
  fun_induction matchesF fuel s with
  | case1 => cases h
  | case2 => cases h
  | case3 fuel ch rest s' c' hp ih =>
    rcases List.mem_cons.1 h with rfl | h
    · exact ⟨_, _, Nat.le_refl _, hp⟩
    · obtain ⟨s0, s'', hl, hq⟩ := ih h
      obtain ⟨x, -, hs⟩ := partAt_rest hp
      refine ⟨s0, s'', ?_, hq⟩
      rw [hs, List.length_append]
      omega
  | case4 fuel ch rest hp ih =>
    obtain ⟨s0, s', hl, hq⟩ := ih h
    exact ⟨s0, s', by simp; omega, hq⟩

def CapsBounded (m : Nat) (c : Caps) : Prop := ∀ id w, c.get id = some w → w.length ≤ m

theorem capsBounded_of_forall {m : Nat} : ∀ {c : Caps}, (∀ p ∈ c, p.2.length ≤ m) → CapsBounded m c
  | [], _, _, _, h => by cases h
  | (i, w) :: c, hc, id, w', h => by
    simp only [Caps.get] at h
    split at h
    · cases h; exact hc (i, w) (List.mem_cons_self ..)
    · exact capsBounded_of_forall (fun p hp => hc p (List.mem_cons_of_mem _ hp)) id w' h

theorem lexFracTail_lengths {s n d r : Str} (h : lexFracTail s = some (n, d, r)) :
    n.length + 1 + d.length ≤ s.length ∧ 0 < d.length := by
  obtain ⟨h2, h3, rfl, hf, -⟩ := lexFracTail_some h
  simp only [List.length_append, List.length_cons, List.length_pos_iff]
  exact ⟨by omega, hf.den.1⟩

theorem lexCaps_bounded {s s' : Str} {c : Caps} (h : lexCaps s = some (s', c)) : CapsBounded s.length c := by
  have hpos : 1 ≤ s.length := by
    cases s with
    | nil => cases h
    | cons _ _ => simp
  apply capsBounded_of_forall
  have hsp := lexCaps_spec s
  rw [h] at hsp
  rcases hsp.2 with ⟨i, n, d, hm, rfl⟩ | ⟨n, d, ht, rfl⟩ | ⟨f, hs, rfl⟩ | ⟨hs, rfl⟩ | ⟨x, rfl | rfl⟩
  · obtain ⟨rr, hi, ht⟩ := lexMixed_some hm
    obtain ⟨h1, hh1, hs, -⟩ := lexFracInt_some hi
    have hl := lexFracTail_lengths ht
    have hlen := congrArg List.length hs
    rw [← hh1]
    simp only [List.length_append] at hlen
    simp only [List.mem_cons, List.not_mem_nil, or_false, forall_eq_or_imp, forall_eq, List.length_append]
    omega
  · have hl := lexFracTail_lengths ht
    simp only [List.mem_cons, List.not_mem_nil, or_false, forall_eq_or_imp, forall_eq]
    omega
  · have hlen := congrArg List.length hs
    simp only [List.length_append, List.length_cons] at hlen
    simp only [List.mem_cons, List.not_mem_nil, or_false, forall_eq_or_imp, forall_eq, List.length_append,
      List.length_cons]
    omega
  · simpa using (List.takeWhile_sublist isDigit (l := s)).length_le
  -- a single character, plain or escaped
  all_goals simpa using hpos

theorem capsIntTooLong_of_bounded {c : Caps} (h : CapsBounded intMaxStrDigits c) : capsIntTooLong c = false := by
  unfold capsIntTooLong
  cases hn : c.get gNumerator with
  | some numer =>
    simp only
    have h1 := h _ _ hn
    have h3 : decide (intMaxStrDigits < ((c.get gDenominator).getD []).length) = false := by
      cases hd : c.get gDenominator with
      | none => simp
      | some d => have := h _ _ hd; simp only [Option.getD_some, decide_eq_false_iff_not]; omega
    have h4 : decide (intMaxStrDigits < numer.length) = false := by
      simp only [decide_eq_false_iff_not]; omega
    rw [h3, h4]
    cases hi : c.get gInteger with
    | none => rfl
    | some ds =>
      have := h _ _ hi
      simp only [Bool.or_false, decide_eq_false_iff_not]
      omega
  | none =>
    simp only
    cases hd : c.get gDecimal with
    | none => rfl
    | some text =>
      have := h _ _ hd
      simp only [Bool.and_eq_false_iff, decide_eq_false_iff_not]
      right
      omega

theorem matches_no_intTooLong (src : Str) (h : src.length ≤ intMaxStrDigits) :
    (Brace.matches src).any capsIntTooLong = false := by
  rw [List.any_eq_false]
  intro c hc
  obtain ⟨s0, s', hl, hp⟩ := matchesF_mem_len _ _ _ hc
  rw [partAt_eq_lexCaps] at hp
  have hb := lexCaps_bounded hp
  have : CapsBounded intMaxStrDigits c := fun id w hw => Nat.le_trans (hb id w hw) (Nat.le_trans hl h)
  simp [capsIntTooLong_of_bounded this]

end RG.Brace
