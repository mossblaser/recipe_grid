import RecipeGrid.Model.Markdown
import RecipeGrid.Lemmas.Fmt
import RecipeGrid.Props.C06Spec
/-! About `Model/Markdown.lean`: block grouping and the fuel of `replaceAll` (for `Props/C13.lean`), the vocabulary of the
    serving-count suffix of the title (`SpaceRun`, `CiWord`, `PhraseText`, `CaseVariantOf`) with the pieces of the matcher and
    the walk of the search (for `Lemmas/ServingSplit.lean`, `Props/C18.lean`, `C18b.lean`), the decision of `TitleInfo`
    equality, and the list facts these need. -/
namespace RG

/-- what `groupBlocksAux` returns at the end: its accumulator holds the newest group first and every group newest index first -/
def finGroups (acc : List (List Nat)) : List (List Nat) := acc.reverse.map List.reverse

theorem groupBlocksAux_flatten (xs : List (CodeBlockKind × Nat)) (acc : List (List Nat)) :
    (groupBlocksAux xs acc).flatten = (finGroups acc).flatten ++ (xs.filter (·.1.isRecipe)).map (·.2) := by
  induction xs generalizing acc with
  | nil => simp [groupBlocksAux, finGroups]
  | cons x rest ih =>
    obtain ⟨k, i⟩ := x
    unfold groupBlocksAux
    by_cases hk : k.isRecipe = true
    · cases acc with
      | nil => simp [hk, ih, finGroups]
      | cons g gs =>
        by_cases hn : k.startsNew = true
        · simp [hk, hn, ih, finGroups]
        · simp [hk, hn, ih, finGroups]
    · simp [hk, ih]

theorem groupBlocksAux_heads_cons (xs : List (CodeBlockKind × Nat)) (acc : List (List Nat))
    (hne : acc ≠ []) (hacc : ∀ g ∈ acc, g ≠ []) :
    (groupBlocksAux xs acc).map (·.head?) =
      (finGroups acc).map (·.head?) ++ (xs.filter (fun p => p.1.isRecipe && p.1.startsNew)).map (fun p => some p.2) := by
  induction xs generalizing acc with
  | nil => simp [groupBlocksAux, finGroups]
  | cons x rest ih =>
    obtain ⟨k, i⟩ := x
    unfold groupBlocksAux
    by_cases hk : k.isRecipe = true
    · cases acc with
      | nil => exact absurd rfl hne
      | cons g gs =>
        have hg : g ≠ [] := hacc g (by simp)
        by_cases hn : k.startsNew = true
        · simp only [hk, hn, Bool.not_true, Bool.false_eq_true, if_false, if_true]
          rw [ih _ (by simp) (by simpa using hacc)]
          simp [hk, hn, finGroups]
        · simp only [hk, hn, Bool.not_true, Bool.false_eq_true, if_false]
          rw [ih _ (by simp) (by
            intro g' hg'
            simp at hg'
            rcases hg' with rfl | hg'
            · simp
            · exact hacc g' (by simp [hg']))]
          have : (g.reverse ++ [i]).head? = g.reverse.head? := by
            cases hr : g.reverse with
            | nil => simp at hr; exact absurd hr hg
            | cons a b => simp
          simp [hk, hn, finGroups, this]
    · simp [hk, ih _ hne hacc]

theorem groupBlocksAux_heads_nil (xs : List (CodeBlockKind × Nat)) :
    (groupBlocksAux xs []).map (·.head?) =
      match xs.filter (·.1.isRecipe) with
      | [] => []
      | p :: rest => some p.2 :: (rest.filter (·.1.startsNew)).map (fun p => some p.2) := by
  induction xs with
  | nil => simp [groupBlocksAux]
  | cons x rest ih =>
    obtain ⟨k, i⟩ := x
    unfold groupBlocksAux
    by_cases hk : k.isRecipe = true
    · simp only [hk, Bool.not_true, Bool.false_eq_true, if_false]
      rw [groupBlocksAux_heads_cons _ _ (by simp) (by simp)]
      simp [hk, finGroups, List.filter_filter, Bool.and_comm]
    · simp [hk, ih]

theorem isPrefixOfStr_iff (p s : Str) : isPrefixOfStr p s = true ↔ ∃ t, s = p ++ t := by
  induction p generalizing s with
  | nil => simp [isPrefixOfStr]
  | cons a p ih =>
    cases s with
    | nil => simp [isPrefixOfStr]
    | cons b s =>
      simp only [isPrefixOfStr, Bool.and_eq_true, beq_iff_eq, ih, List.cons_append, List.cons.injEq]
      constructor
      · rintro ⟨rfl, t, rfl⟩
        exact ⟨t, rfl, rfl⟩
      · rintro ⟨t, rfl, rfl⟩
        exact ⟨rfl, t, rfl⟩

theorem replaceAllAux_fuel (pat rep : Str) (hp : pat ≠ []) (f1 f2 : Nat) (s : Str)
    (h1 : s.length < f1) (h2 : s.length < f2) :
    replaceAllAux pat rep f1 s = replaceAllAux pat rep f2 s := by
  induction f1 generalizing f2 s with
  | zero => omega
  | succ f1 ih =>
    cases f2 with
    | zero => omega
    | succ f2 =>
      cases s with
      | nil => simp [replaceAllAux]
      | cons c rest =>
        simp only [replaceAllAux]
        have hl : 0 < pat.length := List.length_pos_iff.mpr hp
        split
        · rw [ih]
          · simp only [List.length_drop, List.length_cons] at h1 ⊢
            omega
          · simp only [List.length_drop, List.length_cons] at h2 ⊢
            omega
        · rw [ih]
          · simp only [List.length_cons] at h1
            omega
          · simp only [List.length_cons] at h2
            omega

theorem replaceAll_nil (p v : Str) : replaceAll p v [] = [] := by
  unfold replaceAll
  split
  · rfl
  · simp [replaceAllAux]

def TitleInfo.fields : TitleInfo → Nat × Str × Nat × Str × Str
  | .none => (0, [], 0, [], [])
  | .unscalable t => (1, t, 0, [], [])
  | .scalable t n h p => (2, t, n, h, p)

theorem TitleInfo.fields_inj {a b : TitleInfo} (h : a.fields = b.fields) : a = b := by
  cases a <;> cases b <;> simp_all [TitleInfo.fields]

/-- decided on the tuples, so that the kernel evaluates each side once (the derived instance: once per constructor argument) -/
instance : DecidableEq TitleInfo := fun a b =>
  decidable_of_iff (a.fields = b.fields) ⟨TitleInfo.fields_inj, congrArg _⟩

theorem prefix_split_unique {α} (p : α → Bool) {a r a' r' : List α} (h : a ++ r = a' ++ r')
    (ha : ∀ c ∈ a, p c = true) (ha' : ∀ c ∈ a', p c = true)
    (hr : ∀ c, r.head? = some c → p c = false) (hr' : ∀ c, r'.head? = some c → p c = false) : a = a' ∧ r = r' := by
  have h1 := span_run p a r ha hr
  have h2 := span_run p a' r' ha' hr'
  rw [h] at h1
  exact ⟨h1.1.symm.trans h2.1, h1.2.symm.trans h2.2⟩

theorem append_eq_append_of_le {α} {a b c d : List α} (h : a ++ b = c ++ d) (hl : a.length ≤ c.length) :
    ∃ x, c = a ++ x ∧ b = x ++ d := by
  rcases List.append_eq_append_iff.mp h with ⟨x, e1, e2⟩ | ⟨x, e1, e2⟩
  · exact ⟨x, e1, e2⟩
  · have hx : x = [] := List.eq_nil_of_length_eq_zero (by have := congrArg List.length e1; simp at this; omega)
    subst hx
    exact ⟨[], by simpa using e1.symm, by simpa using e2.symm⟩

theorem getLast?_append_ne {α} (l : List α) {l' : List α} (h : l' ≠ []) : (l ++ l').getLast? = l'.getLast? := by
  rw [List.getLast?_append]
  cases hl : l'.getLast? with
  | none => exact absurd (List.getLast?_eq_none_iff.mp hl) h
  | some a => rfl

theorem head?_append_ne {α} {l : List α} (l' : List α) (h : l ≠ []) : (l ++ l').head? = l.head? := by
  cases l with
  | nil => exact absurd rfl h
  | cons a t => rfl

def SpaceRun (s : Str) : Prop := s ≠ [] ∧ ∀ c ∈ s, isReSpace c = true
instance (s : Str) : Decidable (SpaceRun s) := inferInstanceAs (Decidable (_ ∧ _))

/-- `s` spells the pattern word `w` letter by letter under `(?i)` -/
def CiWord : List Char → Str → Prop
  | [], [] => True
  | l :: ls, c :: cs => ciMatches c l = true ∧ CiWord ls cs
  | _, _ => False
instance CiWord.dec : (w : List Char) → (a : Str) → Decidable (CiWord w a)
  | [], [] => isTrue trivial
  | _ :: ls, _ :: cs => @instDecidableAnd _ _ _ (CiWord.dec ls cs)
  | [], _ :: _ => isFalse (by simp [CiWord])
  | _ :: _, [] => isFalse (by simp [CiWord])

theorem CiWord_nil {a : Str} (h : CiWord [] a) : a = [] := by
  cases a with
  | nil => rfl
  | cons _ _ => exact absurd h (by simp [CiWord])

theorem CiWord_cons {l : Char} {ls : List Char} {a : Str} (h : CiWord (l :: ls) a) :
    ∃ c cs, a = c :: cs ∧ ciMatches c l = true ∧ CiWord ls cs := by
  cases a with
  | nil => exact absurd h (by simp [CiWord])
  | cons c cs => exact ⟨c, cs, rfl, h⟩

/-- the words of a phrase, in any letter case, separated by space runs -/
def PhraseText : List String → Str → Prop
  | [], _ => False
  | [w], s => CiWord w.toList s
  | w :: ws, s => ∃ a sp r, s = a ++ sp ++ r ∧ CiWord w.toList a ∧ SpaceRun sp ∧ PhraseText ws r

theorem PhraseText_nil (s : Str) : ¬ PhraseText [] s := fun h => h

theorem PhraseText_one (w : String) (s : Str) : PhraseText [w] s ↔ CiWord w.toList s := Iff.rfl

theorem PhraseText_cons_cons (w w' : String) (ws : List String) (s : Str) :
    PhraseText (w :: w' :: ws) s ↔
      ∃ a sp r, s = a ++ sp ++ r ∧ CiWord w.toList a ∧ SpaceRun sp ∧ PhraseText (w' :: ws) r := Iff.rfl

theorem PhraseText.ind {motive : List String → Str → Prop} (one : ∀ w s, CiWord w.toList s → motive [w] s)
    (more : ∀ w w' ws a sp r, CiWord w.toList a → SpaceRun sp → PhraseText (w' :: ws) r → motive (w' :: ws) r →
      motive (w :: w' :: ws) (a ++ sp ++ r)) : ∀ {p : List String} {s : Str}, PhraseText p s → motive p s
  | [], _, h => h.elim
  | [w], s, h => one w s h
  | w :: w' :: ws, _, ⟨a, sp, r, rfl, ha, hsp, hr⟩ => more w w' ws a sp r ha hsp hr (PhraseText.ind one more hr)

def IsLower (l : Char) : Prop := 97 ≤ l.toNat ∧ l.toNat ≤ 122
instance (l : Char) : Decidable (IsLower l) := inferInstanceAs (Decidable (_ ∧ _))

def WfPhrase (p : List String) : Prop := ∀ w ∈ p, w.toList ≠ [] ∧ ∀ l ∈ w.toList, IsLower l
instance (p : List String) : Decidable (WfPhrase p) := inferInstanceAs (Decidable (∀ w ∈ p, _))

theorem servingPhrases_wf : ∀ p ∈ Gen.servingPhrases, p ≠ [] ∧ WfPhrase p := by decide +kernel

/-- `a` spells the word `w` with each letter in either case.  (`Lemmas/ParserWords.lean` has the same notion for the words of the
    recipe grammar, as an inductive `CaseVariant` over `CaseVar`, with Bool-valued `isLowerAscii`; the statements of C06 and of
    C18 each use their own, and no theorem needs both.) -/
def CaseVariantWord : List Char → Str → Prop
  | [], [] => True
  | l :: ls, c :: cs => (c = l ∨ c = l.toUpper) ∧ CaseVariantWord ls cs
  | _, _ => False
instance CaseVariantWord.dec : (w : List Char) → (a : Str) → Decidable (CaseVariantWord w a)
  | [], [] => isTrue trivial
  | _ :: ls, _ :: cs => @instDecidableAnd _ _ _ (CaseVariantWord.dec ls cs)
  | [], _ :: _ => isFalse (by simp [CaseVariantWord])
  | _ :: _, [] => isFalse (by simp [CaseVariantWord])

/-- the words of the phrase, each letter in either case, joined by non-empty space runs -/
def CaseVariantOf : List String → Str → Prop
  | [], _ => False
  | [w], s => CaseVariantWord w.toList s
  | w :: ws, s => ∃ a sp r, s = a ++ sp ++ r ∧ CaseVariantWord w.toList a ∧ SpaceRun sp ∧ CaseVariantOf ws r

/-- code points that can match a lower-case ASCII pattern letter under `(?i)`: the ASCII letters and the four characters whose
    simple case folding is one (U+0130 İ, U+0131 ı, U+017F ſ, U+212A K, the Kelvin sign) -/
def letterLike (n : Nat) : Bool := (65 ≤ n && n ≤ 90) || (97 ≤ n && n ≤ 122) || n == 304 || n == 305 || n == 383 || n == 8490

theorem ciPartners_letterLike : ∀ q ∈ Gen.ciPartners, letterLike q.1 = true := by decide +kernel

theorem ciMatches_letterLike {c l : Char} (hl : IsLower l) (h : ciMatches c l = true) : letterLike c.toNat = true := by
  simp only [ciMatches, Bool.or_eq_true, beq_iff_eq] at h
  rcases h with rfl | h
  · simp only [letterLike, Bool.or_eq_true, Bool.and_eq_true, decide_eq_true_eq]
    exact .inl (.inl (.inl (.inl (.inr hl))))
  · exact ciPartners_letterLike (c.toNat, l.toNat) (List.contains_iff_mem.mp h)

/-- the regenerated table of `\s`, read as a condition on the code point -/
theorem isReSpace_iff (c : Char) :
    isReSpace c = true ↔
      (9 ≤ c.toNat ∧ c.toNat ≤ 13) ∨ (28 ≤ c.toNat ∧ c.toNat ≤ 32) ∨ c.toNat = 133 ∨ c.toNat = 160 ∨ c.toNat = 5760 ∨
        (8192 ≤ c.toNat ∧ c.toNat ≤ 8202) ∨ (8232 ≤ c.toNat ∧ c.toNat ≤ 8233) ∨ c.toNat = 8239 ∨ c.toNat = 8287 ∨
        c.toNat = 12288 := by
  have e : ∀ k : Nat, (k ≤ c.toNat ∧ c.toNat ≤ k) ↔ c.toNat = k := fun k => by omega
  simp only [isReSpace, inTable, Gen.reSpaceRanges, Gen.reSpaceRanges_0, List.any_cons, List.any_nil, Bool.or_false,
    Bool.or_eq_true, Bool.and_eq_true, decide_eq_true_eq, e]

theorem letterLike_not_space {c : Char} (h : letterLike c.toNat = true) : isReSpace c = false := by
  simp only [letterLike, Bool.or_eq_true, Bool.and_eq_true, decide_eq_true_eq, beq_iff_eq] at h
  rw [← Bool.not_eq_true, isReSpace_iff]
  omega

theorem letterLike_not_digit {c : Char} (h : letterLike c.toNat = true) : isDigit c = false := by
  simp only [letterLike, Bool.or_eq_true, Bool.and_eq_true, decide_eq_true_eq, beq_iff_eq] at h
  simp only [isDigit, Bool.and_eq_false_iff, decide_eq_false_iff_not]
  omega

theorem isDigit_not_space {c : Char} (h : isDigit c = true) : isReSpace c = false := by
  simp only [isDigit, Bool.and_eq_true, decide_eq_true_eq] at h
  rw [← Bool.not_eq_true, isReSpace_iff]
  omega

theorem CiWord_letterLike {w : List Char} {a : Str} (hw : ∀ l ∈ w, IsLower l) (h : CiWord w a) :
    ∀ c ∈ a, letterLike c.toNat = true := by
  induction w generalizing a with
  | nil => rw [CiWord_nil h]; simp
  | cons l ls ih =>
    obtain ⟨c, cs, rfl, hc, hcs⟩ := CiWord_cons h
    intro d hd
    rcases List.mem_cons.mp hd with rfl | hd
    · exact ciMatches_letterLike (hw l (by simp)) hc
    · exact ih (fun l hl => hw l (by simp [hl])) hcs d hd

theorem CiWord_ne_nil {w : List Char} {a : Str} (hw : w ≠ []) (h : CiWord w a) : a ≠ [] := by
  cases w with
  | nil => exact absurd rfl hw
  | cons l ls =>
    obtain ⟨c, cs, rfl, -⟩ := CiWord_cons h
    simp

theorem PhraseText_chars {p : List String} (hp : WfPhrase p) {s : Str} (h : PhraseText p s) :
    (∃ c r, s = c :: r ∧ letterLike c.toNat = true) ∧ ∀ c ∈ s, letterLike c.toNat = true ∨ isReSpace c = true := by
  have word : ∀ {w : String} {a : Str}, (w.toList ≠ [] ∧ ∀ l ∈ w.toList, IsLower l) → CiWord w.toList a →
      (∃ c r, a = c :: r ∧ letterLike c.toNat = true) ∧ ∀ c ∈ a, letterLike c.toNat = true := by
    intro w a hw ha
    have hl := CiWord_letterLike hw.2 ha
    refine ⟨?_, hl⟩
    cases a with
    | nil => exact absurd rfl (CiWord_ne_nil hw.1 ha)
    | cons c r => exact ⟨c, r, rfl, hl c (by simp)⟩
  refine PhraseText.ind (motive := fun p s => WfPhrase p → (∃ c r, s = c :: r ∧ letterLike c.toNat = true) ∧
    ∀ c ∈ s, letterLike c.toNat = true ∨ isReSpace c = true) ?_ ?_ h hp
  · intro w s hs hp
    obtain ⟨h1, h2⟩ := word (hp w (by simp)) hs
    exact ⟨h1, fun c hc => Or.inl (h2 c hc)⟩
  · intro w w' ws a sp r ha hsp _ ih hp
    obtain ⟨⟨c, a', rfl, hc⟩, h2⟩ := word (hp w (by simp)) ha
    refine ⟨⟨c, _, rfl, hc⟩, fun d hd => ?_⟩
    simp only [List.mem_append] at hd
    rcases hd with (hd | hd) | hd
    · exact Or.inl (h2 d hd)
    · exact Or.inr (hsp.2 d hd)
    · exact (ih fun x hx => hp x (by simp [hx])).2 d hd

theorem ciMatches_self (l : Char) : ciMatches l l = true := by simp [ciMatches]

theorem ciMatches_toUpper {l : Char} (hl : IsLower l) : ciMatches l.toUpper l = true := by
  have h : ∀ n, n < 123 → 97 ≤ n → ciMatches (Char.ofNat n).toUpper (Char.ofNat n) = true := by decide +kernel
  have := h l.toNat (by have := hl.2; omega) hl.1
  rwa [Char.ofNat_toNat] at this

theorem CaseVariantWord.ciWord {w : List Char} {a : Str} (hw : ∀ l ∈ w, IsLower l) (h : CaseVariantWord w a) : CiWord w a := by
  induction w generalizing a with
  | nil => cases a with
    | nil => trivial
    | cons c a => exact absurd h (by simp [CaseVariantWord])
  | cons l ls ih =>
    cases a with
    | nil => exact absurd h (by simp [CaseVariantWord])
    | cons c a =>
      obtain ⟨hc, ha⟩ := h
      refine ⟨?_, ih (fun x hx => hw x (by simp [hx])) ha⟩
      rcases hc with rfl | rfl
      · exact ciMatches_self _
      · exact ciMatches_toUpper (hw l (by simp))

theorem CaseVariantOf.phraseText {p : List String} (hp : WfPhrase p) {s : Str} (h : CaseVariantOf p s) : PhraseText p s := by
  induction p generalizing s with
  | nil => exact absurd h (by simp [CaseVariantOf])
  | cons w ws ih =>
    have hw := (hp w (by simp)).2
    cases ws with
    | nil => exact CaseVariantWord.ciWord hw h
    | cons w' ws' =>
      obtain ⟨a, sp, r, rfl, ha, hsp, hr⟩ := h
      exact ⟨a, sp, r, rfl, CaseVariantWord.ciWord hw ha, hsp, ih (fun x hx => hp x (by simp [hx])) hr⟩

theorem spaces1_eq_some {s r : Str} (h : spaces1 s = some r) :
    ∃ sp, s = sp ++ r ∧ SpaceRun sp ∧ (C06.NextNot isReSpace r) := by
  cases s with
  | nil => simp [spaces1] at h
  | cons c t =>
    simp only [spaces1] at h
    split at h
    · rename_i hc
      injection h with h
      obtain ⟨e, hall, hnext⟩ := split_run isReSpace (c :: t)
      rw [h] at e hnext
      exact ⟨_, e, ⟨by simp [hc], hall⟩, hnext⟩
    · cases h

theorem spaces1_append {sp r : Str} (hsp : SpaceRun sp) (hr : C06.NextNot isReSpace r) :
    spaces1 (sp ++ r) = some r := by
  obtain ⟨hne, hall⟩ := hsp
  cases sp with
  | nil => exact absurd rfl hne
  | cons c t =>
    have hc := hall c (by simp)
    simp only [List.cons_append, spaces1, hc, if_true]
    rw [← List.cons_append, dropWhile_run hall hr]

theorem ciWordPrefix_eq_some {w : List Char} {s r : Str} (h : ciWordPrefix w s = some r) :
    ∃ a, s = a ++ r ∧ CiWord w a := by
  induction w generalizing s with
  | nil => simp only [ciWordPrefix] at h; injection h with h; exact ⟨[], by simp [h], trivial⟩
  | cons l ls ih =>
    cases s with
    | nil => simp [ciWordPrefix] at h
    | cons c s =>
      simp only [ciWordPrefix] at h
      split at h
      · rename_i hc
        obtain ⟨a, rfl, ha⟩ := ih h
        exact ⟨c :: a, rfl, hc, ha⟩
      · cases h

theorem ciWordPrefix_append {w : List Char} {a : Str} (h : CiWord w a) (r : Str) : ciWordPrefix w (a ++ r) = some r := by
  induction w generalizing a with
  | nil => rw [CiWord_nil h]; rfl
  | cons l ls ih =>
    obtain ⟨c, cs, rfl, hc, hcs⟩ := CiWord_cons h
    simp [ciWordPrefix, hc, ih hcs]

theorem phrasePrefix_eq_some {p : List String} (hp : p ≠ []) {s r : Str} (h : phrasePrefix p s = some r) :
    ∃ ph sp2, s = ph ++ sp2 ++ r ∧ PhraseText p ph ∧ SpaceRun sp2 ∧ (C06.NextNot isReSpace r) := by
  induction p generalizing s with
  | nil => exact absurd rfl hp
  | cons w ws ih =>
    cases ws with
    | nil =>
      simp only [phrasePrefix] at h
      obtain ⟨m, hm, h2⟩ := Option.bind_eq_some_iff.mp h
      obtain ⟨a, rfl, ha⟩ := ciWordPrefix_eq_some hm
      obtain ⟨sp, rfl, hsp, hr⟩ := spaces1_eq_some h2
      exact ⟨a, sp, by simp, ha, hsp, hr⟩
    | cons w' ws' =>
      simp only [phrasePrefix] at h
      obtain ⟨m2, h12, h3⟩ := Option.bind_eq_some_iff.mp h
      obtain ⟨m, hm, h2⟩ := Option.bind_eq_some_iff.mp h12
      obtain ⟨a, rfl, ha⟩ := ciWordPrefix_eq_some hm
      obtain ⟨sp, rfl, hsp, _⟩ := spaces1_eq_some h2
      obtain ⟨ph, sp2, rfl, hph, hsp2, hr⟩ := ih (by simp) h3
      exact ⟨a ++ sp ++ ph, sp2, by simp, ⟨a, sp, ph, rfl, ha, hsp, hph⟩, hsp2, hr⟩

theorem phrasePrefix_complete {p : List String} (hp : WfPhrase p) {ph sp2 r : Str} (hph : PhraseText p ph)
    (hsp2 : SpaceRun sp2) (hr : C06.NextNot isReSpace r) :
    phrasePrefix p (ph ++ sp2 ++ r) = some r := by
  induction p generalizing ph with
  | nil => exact absurd hph (by simp [PhraseText])
  | cons w ws ih =>
    cases ws with
    | nil =>
      simp only [PhraseText] at hph
      simp only [phrasePrefix, List.append_assoc, ciWordPrefix_append hph, Option.bind_some, spaces1_append hsp2 hr]
    | cons w' ws' =>
      simp only [PhraseText] at hph
      obtain ⟨a, sp, r', rfl, ha, hsp, hr'⟩ := hph
      have hwf : WfPhrase (w' :: ws') := fun x hx => hp x (by simp [hx])
      obtain ⟨⟨c, r'', rfl, hc⟩, _⟩ := PhraseText_chars hwf hr'
      simp only [phrasePrefix, List.append_assoc, ciWordPrefix_append ha, Option.bind_some]
      rw [spaces1_append hsp (by
        intro d hd
        simp only [List.cons_append, List.head?_cons, Option.some.injEq] at hd
        subst hd
        exact letterLike_not_space hc)]
      simp only [Option.bind_some]
      have := ih hwf hr'
      simpa [List.append_assoc] using this

theorem digitsToEnd_eq_some {s ds : Str} (h : digitsToEnd s = some ds) :
    ∃ tail, s = ds ++ tail ∧ ds ≠ [] ∧ (∀ c ∈ ds, isDigit c = true) ∧ (∀ c ∈ tail, isReSpace c = true) := by
  simp only [digitsToEnd] at h
  split at h
  · cases h
  · rename_i hne
    split at h
    · rename_i hrest
      injection h with h
      obtain ⟨e, hall, -⟩ := split_run isDigit s
      rw [h] at e hall
      refine ⟨s.dropWhile isDigit, e, ?_, hall, ?_⟩
      · rw [← h]
        simpa using hne
      · rcases Bool.or_eq_true_iff.mp hrest with h1 | h1
        · simpa using h1
        · have : s.dropWhile isDigit = ['\n'] := by simpa using h1
          rw [this]
          intro c hc
          simp only [List.mem_singleton] at hc
          subst hc
          decide
    · cases h

theorem digitsToEnd_complete {ds tail : Str} (hne : ds ≠ []) (hds : ∀ c ∈ ds, isDigit c = true)
    (htail : ∀ c ∈ tail, isReSpace c = true) : digitsToEnd (ds ++ tail) = some ds := by
  have := span_run isDigit ds tail hds (by
    intro x hx
    have hm : x ∈ tail := List.mem_of_mem_head? hx
    cases hd : isDigit x with
    | false => rfl
    | true => have := isDigit_not_space hd; rw [htail x hm] at this; cases this)
  simp only [digitsToEnd, this.1, this.2]
  have h1 : ds.isEmpty = false := List.isEmpty_eq_false_iff.mpr hne
  have h2 : tail.all isReSpace = true := by simpa using htail
  simp [h1, h2]

theorem matchServingsAt_nil : matchServingsAt [] = none := by
  simp [matchServingsAt, spaces1]

theorem searchServingsAux_eq_some_iff {acc s b sp prep ds : Str} :
    searchServingsAux acc s = some (b, sp, prep, ds) ↔
      ∃ n, b = acc.reverse ++ s.take n ∧ matchServingsAt (s.drop n) = some (sp, prep, ds) ∧
        ∀ k, k < n → matchServingsAt (s.drop k) = none := by
  induction s generalizing acc with
  | nil => simp [searchServingsAux, matchServingsAt_nil]
  | cons c rest ih =>
    simp only [searchServingsAux]
    cases hm : matchServingsAt (c :: rest) with
    | some r =>
      obtain ⟨sp', prep', ds'⟩ := r
      constructor
      · intro h
        simp only [Option.some.injEq, Prod.mk.injEq] at h
        obtain ⟨rfl, rfl, rfl, rfl⟩ := h
        exact ⟨0, by simp, by simpa using hm, fun k hk => absurd hk (Nat.not_lt_zero k)⟩
      · rintro ⟨n, rfl, hn, hlt⟩
        cases n with
        | zero =>
          rw [List.drop_zero, hm] at hn
          cases hn
          simp
        | succ n =>
          have := hlt 0 (by omega)
          rw [List.drop_zero, hm] at this
          cases this
    | none =>
      simp only []
      rw [ih]
      constructor
      · rintro ⟨n, rfl, hn, hlt⟩
        refine ⟨n + 1, by simp, by simpa using hn, fun k hk => ?_⟩
        cases k with
        | zero => simpa using hm
        | succ k => simpa using hlt k (by omega)
      · rintro ⟨n, rfl, hn, hlt⟩
        cases n with
        | zero => rw [List.drop_zero, hm] at hn; cases hn
        | succ n => exact ⟨n, by simp, by simpa using hn, fun k hk => by simpa using hlt (k + 1) (by omega)⟩

theorem searchServingsAux_eq_none {acc s : Str} :
    searchServingsAux acc s = none ↔ ∀ k, matchServingsAt (s.drop k) = none := by
  induction s generalizing acc with
  | nil => simp [searchServingsAux, matchServingsAt_nil]
  | cons c rest ih =>
    simp only [searchServingsAux]
    constructor
    · intro h k
      split at h
      · cases h
      · rename_i hm
        cases k with
        | zero => simpa using hm
        | succ k => simpa using ih.mp h k
    · intro h
      have h0 := h 0
      simp only [List.drop_zero] at h0
      rw [h0]
      exact ih.mpr (fun k => by simpa using h (k + 1))

theorem natOfDigitChars_eq_digitsVal (ds : Str) : natOfDigitChars ds = digitsVal ds := rfl

end RG
