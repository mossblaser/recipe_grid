import RecipeGrid.Lemmas.ParserNumber
/-! Words of the grammar on printed text: letter case (`CaseVariant`), the word boundary `\b`, unit names and the
    ordered choice among them (`knownUnit`), the regex fragments of `Props/C06Spec.lean` read on the text
    (`startsWithCI`, `wordAt`, `blanksWordAt`, `unitWordsAt`), prepositions and remainder words. -/
namespace RG

namespace Parser

open C06 (NextNot IsDigits IsBlanks IsSpaces startsWithCI wordAt blanksWordAt unitWordsAt unitNameAt remainderWordAt)

def isLowerAscii (c : Char) : Bool := 97 ≤ c.toNat && c.toNat ≤ 122

def lowerCodes : List Nat := List.range' 97 26

theorem mem_lowerCodes {c : Char} (h : isLowerAscii c = true) : c.toNat ∈ lowerCodes := by
  simp only [isLowerAscii, Bool.and_eq_true, decide_eq_true_eq] at h
  simp only [lowerCodes, List.mem_range'_1]; omega

theorem lower_bounds {c : Char} (h : isLowerAscii c = true) : 97 ≤ c.toNat ∧ c.toNat ≤ 122 := by
  simpa [isLowerAscii] using h

def CaseVar (l c : Char) : Prop := c = l ∨ c = l.toUpper

/-! table facts: each is a statement about every entry of a generated table, decided by evaluation (and so re-checked
    whenever the tables are regenerated) -/

theorem toUpper_table : ∀ n ∈ lowerCodes, (Char.ofNat n).toUpper.toNat = n - 32 := by
  decide +kernel

theorem ci_pos_table : ∀ n ∈ lowerCodes, (n - 32, n) ∈ Gen.ciPartners := by
  decide +kernel

theorem ci_neg_table : ∀ p ∈ Gen.ciPartners, 97 ≤ p.2 ∧ p.2 ≤ 122 →
    (97 ≤ p.1 ∧ p.1 ≤ 122 → p.1 = p.2) ∧ (65 ≤ p.1 ∧ p.1 ≤ 90 → p.1 + 32 = p.2) := by
  decide +kernel

theorem letter_class_table : ∀ n ∈ lowerCodes,
    (inTable Gen.reWordRanges n = true ∧ inTable Gen.reSpaceRanges n = false)
    ∧ inTable Gen.reWordRanges (n - 32) = true ∧ inTable Gen.reSpaceRanges (n - 32) = false := by
  decide +kernel

theorem ciPartners_word_table : ∀ p ∈ Gen.ciPartners, inTable Gen.reWordRanges p.1 = true := by
  decide +kernel

/-- as a Boolean test: over the pairs of two tables the evaluation of the `∀` form costs half as much again -/
theorem space_not_word_table : Gen.reSpaceRanges.all (fun r =>
    Gen.reWordRanges.all fun w => r.2 < w.1 || w.2 < r.1) = true := by
  decide +kernel

theorem ciPartners_not_digit_table : ∀ p ∈ Gen.ciPartners, ¬ (48 ≤ p.1 ∧ p.1 ≤ 57) := by
  decide +kernel

/-- the partners of `r` (114) and `l` (108) under `(?i)` are `R` (82) and `L` (76) and the letters themselves -/
theorem ciPartners_rl : ∀ p ∈ Gen.ciPartners, p.2 = 114 ∨ p.2 = 108 →
    p.1 = 82 ∨ p.1 = 114 ∨ p.1 = 76 ∨ p.1 = 108 := by decide

theorem toNat_toUpper {l : Char} (h : isLowerAscii l = true) : l.toUpper.toNat = l.toNat - 32 := by
  simpa [Char.ofNat_toNat] using toUpper_table l.toNat (mem_lowerCodes h)

theorem caseVar_toNat {l c : Char} (hl : isLowerAscii l = true) (hc : CaseVar l c) :
    c.toNat = l.toNat ∨ c.toNat = l.toNat - 32 := by
  rcases hc with rfl | rfl
  · exact Or.inl rfl
  · exact Or.inr (toNat_toUpper hl)

theorem caseVar_class {l c : Char} (hl : isLowerAscii l = true) (hc : CaseVar l c) :
    isReWord c = true ∧ isReSpace c = false := by
  have := letter_class_table l.toNat (mem_lowerCodes hl)
  rcases caseVar_toNat hl hc with h | h
  · simp only [isReWord, isReSpace, h]
    exact this.1
  · simp only [isReWord, isReSpace, h]
    exact this.2

theorem ciMatches_of_caseVar {l c : Char} (hl : isLowerAscii l = true) (hc : CaseVar l c) :
    ciMatches c l = true := by
  rcases hc with rfl | rfl
  · simp [ciMatches]
  · have := List.contains_iff_mem.mpr (ci_pos_table l.toNat (mem_lowerCodes hl))
    simp only [ciMatches, toNat_toUpper hl, this, Bool.or_true]

theorem ciMatches_cases {c l : Char} (h : ciMatches c l = true) :
    c = l ∨ (c.toNat, l.toNat) ∈ Gen.ciPartners := by
  simp only [ciMatches, Bool.or_eq_true, beq_iff_eq, List.contains_iff_mem] at h
  exact h

theorem eq_of_ciMatches_caseVar {l l' c : Char} (hl : isLowerAscii l = true) (hl' : isLowerAscii l' = true)
    (hc : CaseVar l' c) (hm : ciMatches c l = true) : l = l' := by
  have b := lower_bounds hl
  have b' := lower_bounds hl'
  apply Char.toNat_inj.mp
  rcases ciMatches_cases hm with rfl | hmem
  · rcases caseVar_toNat hl' hc with h | h <;> omega
  · have := ci_neg_table _ hmem b
    simp only at this
    rcases caseVar_toNat hl' hc with h | h <;> omega

theorem isReWord_of_ciMatches {l c : Char} (hl : isLowerAscii l = true) (hm : ciMatches c l = true) :
    isReWord c = true := by
  rcases ciMatches_cases hm with rfl | hmem
  · exact (caseVar_class hl (Or.inl rfl)).1
  · exact ciPartners_word_table _ hmem

theorem isReWord_false_of_isReSpace {c : Char} (h : isReSpace c = true) : isReWord c = false := by
  rw [← Bool.not_eq_true]
  intro hw
  simp only [isReSpace, isReWord, inTable, List.any_eq_true, Bool.and_eq_true, decide_eq_true_eq] at h hw
  obtain ⟨r, hr, h1, h2⟩ := h
  obtain ⟨w, hw, h3, h4⟩ := hw
  have := List.all_eq_true.mp (List.all_eq_true.mp space_not_word_table r hr) w hw
  simp only [Bool.or_eq_true, decide_eq_true_eq] at this
  omega

/-- `W` is a letter-case variant of the lower-case word `w` -/
inductive CaseVariant : Str → Str → Prop
  | nil : CaseVariant [] []
  | cons {l c : Char} {w W : Str} : CaseVar l c → CaseVariant w W → CaseVariant (l :: w) (c :: W)

theorem CaseVariant.length_eq {w W : Str} (h : CaseVariant w W) : W.length = w.length := by
  induction h with
  | nil => rfl
  | cons _ _ ih => simp [ih]

theorem CaseVariant.refl (w : Str) : CaseVariant w w := by
  induction w with
  | nil => exact .nil
  | cons l w ih => exact .cons (Or.inl rfl) ih

theorem caseVariant_caseWord (w : Str) (m : List Bool) (h : m.length = w.length) :
    CaseVariant w (C06.caseWord w m) := by
  induction w generalizing m with
  | nil => cases m with
    | nil => exact .nil
    | cons _ _ => simp at h
  | cons l w ih =>
    cases m with
    | nil => simp at h
    | cons b m =>
      simp only [C06.caseWord, List.zipWith_cons_cons]
      refine .cons ?_ (ih m (by simpa using h))
      cases b
      · exact Or.inl (by simp)
      · exact Or.inr (by simp)

def IsLowerWord (w : Str) : Prop := ∀ c ∈ w, isLowerAscii c = true

theorem CaseVariant.all_word {w W : Str} (h : CaseVariant w W) (hw : IsLowerWord w) :
    ∀ c ∈ W, isReWord c = true ∧ isReSpace c = false := by
  induction h with
  | nil => simp
  | cons hc _ ih =>
    intro d hd
    simp only [List.mem_cons] at hd
    rcases hd with rfl | hd
    · exact caseVar_class (hw _ (by simp)) hc
    · exact ih (fun x hx => hw x (by simp [hx])) d hd

theorem wordBoundaryAt_after {t : Array Char} {j : Nat} {a : Char} (hprev : t[j]? = some a) (ha : isReWord a = true) :
    wordBoundaryAt t (j + 1) = !(t[j + 1]?.any isReWord) := by
  simp only [wordBoundaryAt, Nat.add_one_ne_zero, if_false, Nat.add_sub_cancel, hprev, Option.map_some, Option.getD_some, ha]
  cases t[j + 1]? <;> simp

/-- the text of a unit name: letter-case variants of its words, joined by non-empty runs of `\s` -/
inductive UnitText : List Str → Str → Prop
  | one {w W : Str} : CaseVariant w W → UnitText [w] W
  | cons {w W S : Str} {ws : List Str} {T : Str} : CaseVariant w W → S ≠ [] →
      (∀ c ∈ S, isReSpace c = true) → UnitText ws T → UnitText (w :: ws) (W ++ S ++ T)

theorem UnitText.ne_nil {ws : List Str} {T : Str} (h : UnitText ws T) : ws ≠ [] := by
  cases h <;> exact List.cons_ne_nil _ _

def IsUnitWords (ws : List Str) : Prop := ∀ w ∈ ws, w ≠ [] ∧ IsLowerWord w

theorem CaseVariant.ne_nil {w W : Str} (h : CaseVariant w W) (hne : w ≠ []) : W ≠ [] := by
  cases h with
  | nil => exact absurd rfl hne
  | cons _ _ => simp

theorem UnitText.first_word {ws : List Str} {T : Str} (h : UnitText ws T) :
    ∃ w W tail, ws.head? = some w ∧ T = W ++ tail ∧ CaseVariant w W ∧
      (tail = [] ∨ ∃ c tl, tail = c :: tl ∧ isReWord c = false) := by
  cases h with
  | one hv => exact ⟨_, _, [], rfl, by simp, hv, Or.inl rfl⟩
  | @cons w W S ws T hv hSne hS _ =>
    refine ⟨w, W, S ++ T, rfl, by simp [List.append_assoc], hv, Or.inr ?_⟩
    cases S with
    | nil => exact absurd rfl hSne
    | cons c S' => exact ⟨c, S' ++ T, rfl, isReWord_false_of_isReSpace (hS c (by simp))⟩

theorem UnitText.head_letter {ws : List Str} {T : Str} (h : UnitText ws T) (hws : IsUnitWords ws) :
    ∃ c T', T = c :: T' ∧ isReWord c = true ∧ isReSpace c = false := by
  obtain ⟨w, W, tail, hw, rfl, hv, _⟩ := h.first_word
  have hmem := hws w (List.mem_of_mem_head? hw)
  cases hv with
  | nil => exact absurd rfl hmem.1
  | @cons l c w W hc _ => exact ⟨c, W ++ tail, rfl, caseVar_class (hmem.2 l (by simp)) hc⟩

theorem unitText_printUnit : ∀ (ws : List Str) (ms : List (List Bool)) (seps : List Str),
    C06.UnitSpellingOk ws ms seps → UnitText ws (C06.printUnit ws ms seps)
  | [], _, _, h => by simp [C06.UnitSpellingOk] at h
  | [w], [], _, h => by simp [C06.UnitSpellingOk] at h
  | [w], [m], [], h => .one (caseVariant_caseWord w m h)
  | [w], [m], _ :: _, h => by simp [C06.UnitSpellingOk] at h
  | [w], _ :: _ :: _, _, h => by simp [C06.UnitSpellingOk] at h
  | w :: w2 :: ws, [], _, h => by simp [C06.UnitSpellingOk] at h
  | w :: w2 :: ws, _ :: _, [], h => by simp [C06.UnitSpellingOk] at h
  | w :: w2 :: ws, m :: ms, s :: seps, h => by
    obtain ⟨hm, hsne, hs, hrest⟩ := h
    exact .cons (caseVariant_caseWord w m hm) hsne hs (unitText_printUnit (w2 :: ws) ms seps hrest)

theorem unitPattern_cons_cons (w w2 : Str) (ws : List Str) :
    unitPattern (w :: w2 :: ws) = (do ciWord w; sp; unitPattern (w2 :: ws)) := rfl

theorem CaseVariant.split_append {v w' : Str} : ∀ {W : Str}, CaseVariant (v ++ w') W →
    ∃ V W', W = V ++ W' ∧ CaseVariant v V ∧ CaseVariant w' W' := by
  induction v with
  | nil => intro W h; exact ⟨[], W, rfl, .nil, h⟩
  | cons l v ih =>
    intro W h
    cases h with
    | @cons _ c _ W0 hc h' =>
      obtain ⟨V, W', rfl, hv, hw'⟩ := ih h'
      exact ⟨c :: V, W', rfl, .cons hc hv, hw'⟩

theorem firstOf_of {pre post : List (P Unit)} {p : P Unit} {t : Array Char} {s : PState} {r : Unit × PState}
    (hp : p t s = some r) (hpre : ∀ a ∈ pre, a t s = none ∨ a t s = some r) :
    firstOf (pre ++ p :: post) t s = some r := by
  induction pre with
  | nil => simp [firstOf, hp]
  | cons a pre ih =>
    have iht := ih (fun x hx => hpre x (by simp [hx]))
    rcases hpre a (by simp) with h | h
    · simp only [List.cons_append, firstOf, orElse_apply, h]; exact iht
    · simp only [List.cons_append, firstOf, orElse_apply, h]

def wordsConflict (a b : List Str) : Bool := a != b && (a.isPrefixOf b || b.isPrefixOf a)

/-- no alternative's word list is a proper prefix of another's.  (Within a word the regex `\b`
    already rejects a shorter alternative, e.g. `g` on "grams"; across words it does not: an
    alternative `tea` listed before `tea spoon` would win on "tea spoon".) -/
def prefixFree : List (List Str) → Bool
  | [] => true
  | a :: rest => rest.all (fun b => !wordsConflict a b) && prefixFree rest

def unitWordsOk (ws : List Str) : Bool := !ws.isEmpty && ws.all fun w => !w.isEmpty && w.all isLowerAscii

theorem unitWordsOk_iff {ws : List Str} (h : unitWordsOk ws = true) : ws ≠ [] ∧ IsUnitWords ws := by
  simp only [unitWordsOk, Bool.and_eq_true, Bool.not_eq_true', List.isEmpty_eq_false_iff, List.all_eq_true] at h
  refine ⟨h.1, fun w hw => ⟨(h.2 w hw).1, fun c hc => (h.2 w hw).2 c hc⟩⟩

theorem prefixFree_before {pre post : List (List Str)} {wk : List Str}
    (h : prefixFree (pre ++ wk :: post) = true) : ∀ a ∈ pre, wordsConflict a wk = false := by
  induction pre with
  | nil => simp
  | cons a pre ih =>
    simp only [List.cons_append, prefixFree, Bool.and_eq_true, List.all_eq_true, Bool.not_eq_true'] at h
    intro x hx
    simp only [List.mem_cons] at hx
    rcases hx with rfl | hx
    · exact h.1 wk (by simp)
    · exact ih h.2 x hx

theorem eq_of_not_conflict {a b : List Str} (h : wordsConflict a b = false) (hp : a <+: b ∨ b <+: a) : a = b := by
  simp only [wordsConflict, Bool.and_eq_false_iff, bne_eq_false_iff_eq, Bool.or_eq_false_iff] at h
  rcases h with h | h
  · exact h
  · rcases hp with hp | hp
    · have := List.isPrefixOf_iff_prefix.mpr hp; rw [h.1] at this; cases this
    · have := List.isPrefixOf_iff_prefix.mpr hp; rw [h.2] at this; cases this

theorem wordsConflict_of_length_eq {a b : List Str} (h : a.length = b.length) : wordsConflict a b = false := by
  rw [← Bool.not_eq_true]
  simp only [wordsConflict, Bool.and_eq_true, bne_iff_ne, ne_eq, Bool.or_eq_true, List.isPrefixOf_iff_prefix]
  rintro ⟨hne, hp | hp⟩
  · exact hne (hp.eq_of_length h)
  · exact hne (hp.eq_of_length h.symm).symm

/-- only the pairs of different length have to be evaluated -/
theorem prefixFree_of_lengths : ∀ {tbl : List (List Str)},
    (∀ a ∈ tbl, ∀ b ∈ tbl, a.length ≠ b.length → wordsConflict a b = false) → prefixFree tbl = true
  | [], _ => rfl
  | a :: rest, h => by
    simp only [prefixFree, Bool.and_eq_true, List.all_eq_true, Bool.not_eq_true']
    refine ⟨fun b hb => ?_, prefixFree_of_lengths fun x hx y hy => h x (by simp [hx]) y (by simp [hy])⟩
    by_cases e : a.length = b.length
    · exact wordsConflict_of_length_eq e
    · exact h a (by simp) b (by simp [hb]) e

/-- what the proofs need of the table of unit names (one walk through the table): the words are
    non-empty runs of lower-case letters, no word list is a proper prefix of a longer one, and no name
    starts with the letters "of" (so `2 oz flour` is not read as `2 of …`) -/
theorem unitPatterns_table : unitPatterns.all unitWordsOk = true ∧
    unitPatterns.all (fun a => unitPatterns.all fun b => a.length == b.length || !wordsConflict a b) = true ∧
    unitPatterns.all (fun ws =>
      match ws.head? with
      | some w => !(['o', 'f'].isPrefixOf w)
      | none => true) = true := by decide +kernel

theorem unitPatterns_words_table : unitPatterns.all unitWordsOk = true := unitPatterns_table.1

theorem unitPatterns_not_of_table : unitPatterns.all (fun ws =>
    match ws.head? with
    | some w => !(['o', 'f'].isPrefixOf w)
    | none => true) = true := unitPatterns_table.2.2

theorem unitPatterns_prefixFree_table : prefixFree unitPatterns = true :=
  prefixFree_of_lengths fun a ha b hb hne => by
    have := List.all_eq_true.mp (List.all_eq_true.mp unitPatterns_table.2.1 a ha) b hb
    simpa [hne] using this

theorem ciWord_spec (w : Str) : ∀ {t : Array Char} {i : Nat} {s : Str} (z : Bool), t.toList.drop i = s →
    ciWord w t ⟨i, z⟩ = if startsWithCI w s then some ((), ⟨i + w.length, z⟩) else none := by
  induction w with
  | nil => intro t i s z _; simp [ciWord, startsWithCI]
  | cons l w ih =>
    intro t i s z h
    cases s with
    | nil =>
      have := sat_fail_of_head (p := (ciMatches · l)) z h .nil
      simp [ciWord, startsWithCI, this]
    | cons c s =>
      cases hm : ciMatches c l with
      | false =>
        have := sat_fail_of_head (p := (ciMatches · l)) z h (.cons hm)
        simp [ciWord, startsWithCI, this, hm]
      | true =>
        have h1 := sat_of_head (p := (ciMatches · l)) z h hm
        have h2 := ih z (drop_succ_of_drop_cons h)
        simp only [ciWord, bind_apply, h1, h2, startsWithCI, hm, Bool.true_and, List.length_cons]
        split
        · congr 3; omega
        · rfl

theorem startsWithCI_variant {w W : Str} (hv : CaseVariant w W) (hw : IsLowerWord w) (rest : Str) :
    startsWithCI w (W ++ rest) = true := by
  induction hv with
  | nil => simp [startsWithCI]
  | @cons l c w W hc _ ih =>
    simp only [List.cons_append, startsWithCI, ciMatches_of_caseVar (hw l (by simp)) hc, Bool.true_and]
    exact ih (fun x hx => hw x (by simp [hx]))

theorem startsWithCI_word {w : Str} (hw : IsLowerWord w) : ∀ {s : Str}, startsWithCI w s = true →
    ∀ k, k < w.length → ∃ c, s[k]? = some c ∧ isReWord c = true := by
  induction w with
  | nil => intro s _ k hk; simp at hk
  | cons l w ih =>
    intro s h k hk
    cases s with
    | nil => simp [startsWithCI] at h
    | cons c s =>
      simp only [startsWithCI, Bool.and_eq_true] at h
      cases k with
      | zero => exact ⟨c, rfl, isReWord_of_ciMatches (hw l (by simp)) h.1⟩
      | succ k =>
        have := ih (fun x hx => hw x (by simp [hx])) h.2 k (by simpa using hk)
        simpa using this

theorem startsWithCI_inv_variant {v : Str} (hvl : IsLowerWord v) : ∀ {w W : Str}, CaseVariant w W → IsLowerWord w →
    ∀ {rest : Str}, NextNot isReWord rest → startsWithCI v (W ++ rest) = true → v.isPrefixOf w = true := by
  induction v with
  | nil => intro w W _ _ rest _ _; rfl
  | cons l v ih =>
    intro w W hv hw rest hrest h
    have hl := hvl l (by simp)
    cases hv with
    | nil =>
      cases rest with
      | nil => simp [startsWithCI] at h
      | cons c r =>
        simp only [List.nil_append, startsWithCI, Bool.and_eq_true] at h
        have := hrest c rfl
        rw [isReWord_of_ciMatches hl h.1] at this
        cases this
    | @cons l' c w W hc hv' =>
      simp only [List.cons_append, startsWithCI, Bool.and_eq_true] at h
      have hll := eq_of_ciMatches_caseVar hl (hw l' (by simp)) hc h.1
      subst hll
      have := ih (fun x hx => hvl x (by simp [hx])) hv' (fun x hx => hw x (by simp [hx])) hrest h.2
      simp [List.isPrefixOf, this]

theorem wordAt_false_of_not_prefix {v w W rest : Str} (hvl : IsLowerWord v) (hv : CaseVariant w W)
    (hw : IsLowerWord w) (hrest : NextNot isReWord rest)
    (hnp : v.isPrefixOf w = false) : wordAt v (W ++ rest) = false := by
  cases hp : startsWithCI v (W ++ rest) with
  | false => simp [wordAt, hp]
  | true => rw [startsWithCI_inv_variant hvl hv hw hrest hp] at hnp; cases hnp

/-- what follows the match is no letter: a non-word character for `\b`, white space between the words of a unit name -/
theorem eq_of_startsWithCI {v w W X : Str} (hvl : IsLowerWord v) (hv : CaseVariant w W) (hw : IsLowerWord w)
    (hX : NextNot isReWord X) (h : startsWithCI v (W ++ X) = true)
    (hend : ∀ c, ((W ++ X).drop v.length).head? = some c → isReWord c = false ∨ isReSpace c = true) : v = w := by
  obtain ⟨w', rfl⟩ := List.isPrefixOf_iff_prefix.mp (startsWithCI_inv_variant hvl hv hw hX h)
  obtain ⟨V, W', rfl, hvV, hwW'⟩ := hv.split_append
  cases hwW' with
  | nil => simp
  | @cons l c w'' W'' hc _ =>
    exfalso
    have hcc := caseVar_class (hw l (by simp)) hc
    have hd : ((V ++ c :: W'' ++ X).drop v.length).head? = some c := by
      rw [← hvV.length_eq]; simp
    rcases hend c hd with h1 | h1
    · rw [hcc.1] at h1; cases h1
    · rw [hcc.2] at h1; cases h1

theorem unitWordsAt_text : ∀ {vs : List Str}, IsUnitWords vs → vs ≠ [] →
    ∀ {ws : List Str} {T : Str}, UnitText ws T → IsUnitWords ws → ∀ {rest : Str}, NextNot isReWord rest →
      unitWordsAt vs (T ++ rest) = true → vs <+: ws ∨ ws <+: vs := by
  intro vs
  induction vs with
  | nil => intro _ h; exact absurd rfl h
  | cons v vs ih =>
    intro hvs _ ws T hT hws rest hrest h
    have hv := hvs v (by simp)
    obtain ⟨w, W, X, hwmem, hvW, hX, hsplit, hcase⟩ : ∃ w W X, w ∈ ws ∧ CaseVariant w W ∧ NextNot isReWord X
        ∧ T ++ rest = W ++ X ∧ ((ws = [w] ∧ X = rest) ∨ ∃ S ws2 T2, ws = w :: ws2 ∧ UnitText ws2 T2
          ∧ S ≠ [] ∧ IsSpaces S ∧ X = S ++ (T2 ++ rest)) := by
      cases hT with
      | one hvW => exact ⟨_, _, rest, by simp, hvW, hrest, rfl, Or.inl ⟨rfl, rfl⟩⟩
      | @cons w W S ws2 T2 hvW hSne hS hT2 =>
        exact ⟨w, W, S ++ (T2 ++ rest), by simp, hvW, NextNot.of_run (fun c => isReWord_false_of_isReSpace) hSne hS,
          by simp [List.append_assoc], Or.inr ⟨S, ws2, T2, rfl, hT2, hSne, hS, rfl⟩⟩
    rw [hsplit] at h
    have hww := (hws w hwmem).2
    cases vs with
    | nil =>
      simp only [unitWordsAt, wordAt, Bool.and_eq_true, Bool.not_eq_true'] at h
      have hvw : v = w := eq_of_startsWithCI hv.2 hvW hww hX h.1 (fun c hc => by
        have := h.2
        rw [hc] at this
        exact Or.inl (by simpa using this))
      subst hvw
      rcases hcase with ⟨rfl, _⟩ | ⟨S, ws2, T2, rfl, _⟩
      · exact Or.inl (List.prefix_refl _)
      · exact Or.inl (List.cons_prefix_cons.mpr ⟨rfl, List.nil_prefix⟩)
    | cons v2 vs2 =>
      simp only [unitWordsAt, Bool.and_eq_true] at h
      obtain ⟨hp, hsp, hrec⟩ := h
      have hvw : v = w := eq_of_startsWithCI hv.2 hvW hww hX hp (fun c hc => by
        rw [hc] at hsp
        exact Or.inr (by simpa using hsp))
      subst hvw
      rcases hcase with ⟨rfl, _⟩ | ⟨S, ws2, T2, rfl, hT2, hSne, hS, rfl⟩
      · exact Or.inr (List.cons_prefix_cons.mpr ⟨rfl, List.nil_prefix⟩)
      · have hws2 : IsUnitWords ws2 := fun x hx => hws x (by simp [hx])
        obtain ⟨c, T', hTc, _, hcs⟩ := hT2.head_letter hws2
        have hd : (W ++ (S ++ (T2 ++ rest))).drop v.length = S ++ (T2 ++ rest) := by
          rw [← hvW.length_eq]; simp
        rw [hd, dropWhile_run hS (by rw [hTc]; exact forall_head_cons hcs)] at hrec
        have hvs2 : IsUnitWords (v2 :: vs2) := fun x hx => hvs x (List.mem_cons_of_mem _ hx)
        exact (ih hvs2 (by simp) hT2 hws2 hrest hrec).imp (fun hp => List.cons_prefix_cons.mpr ⟨rfl, hp⟩)
          fun hp => List.cons_prefix_cons.mpr ⟨rfl, hp⟩

/-! ## a word and the boundary after it

    `\b` looks at the character before the position as well, which `Run` (the text from the position on) does not
    know.  In the grammar a `\b` stands behind a word, so the two are one item: `reads_word` on a written word, and the
    closed forms `ciWord_boundary_spec`, `hsp_ciWord_boundary_spec` (the item as a function of the text, whatever that
    is) for where it fails. -/

theorem wordBoundary_after_ci {w : Str} (hne : w ≠ []) (hw : IsLowerWord w) {t : Array Char} {i : Nat}
    {s : Str} (z : Bool) (h : t.toList.drop i = s) (hp : startsWithCI w s = true) :
    wordBoundary t ⟨i + w.length, z⟩ =
      if (s.drop w.length).head?.any isReWord then none else some ((), ⟨i + w.length, z⟩) := by
  obtain ⟨n, hn⟩ : ∃ n, w.length = n + 1 := ⟨w.length - 1, by
    have : 0 < w.length := List.length_pos_iff.mpr hne
    omega⟩
  obtain ⟨c, hc, hcw⟩ := startsWithCI_word hw hp n (by omega)
  have hprev : t[i + n]? = some c := by rw [getElem?_of_drop h n]; exact hc
  have hnext : t[i + n + 1]? = (s.drop w.length).head? := by
    rw [Nat.add_assoc, getElem?_of_drop h (n + 1), hn, List.head?_drop]
  simp only [wordBoundary, hn, ← Nat.add_assoc, wordBoundaryAt_after hprev hcw, hnext]
  cases (s.drop (n + 1)).head?.any isReWord <;> rfl

theorem reads_ciWord {w W : Str} (hv : CaseVariant w W) (hw : IsLowerWord w) (rest : Str) :
    Reads (ciWord w) W rest fun _ => () := fun _ _ z ht => by
  rw [ciWord_spec w z ht, startsWithCI_variant hv hw rest, if_pos rfl, hv.length_eq]

theorem reads_word {w W rest : Str} (hv : CaseVariant w W) (hne : w ≠ []) (hw : IsLowerWord w)
    (hrest : NextNot isReWord rest) : Reads (do ciWord w; wordBoundary) W rest fun _ => () := fun t i z ht => by
  have hb := wordBoundary_after_ci hne hw z ht (startsWithCI_variant hv hw rest)
  have hd : (W ++ rest).drop w.length = rest := by rw [← hv.length_eq]; simp
  rw [hd, ← hv.length_eq] at hb
  simp only [bind_apply, reads_ciWord hv hw rest t i z ht, hb]
  cases hh : rest.head? with
  | none => rfl
  | some c => simp [hrest c hh]

theorem ciWord_boundary_spec {w : Str} (hne : w ≠ []) (hw : IsLowerWord w) {t : Array Char} {i : Nat} {s : Str}
    (z : Bool) (h : t.toList.drop i = s) :
    (do ciWord w; wordBoundary) t ⟨i, z⟩ = if wordAt w s then some ((), ⟨i + w.length, z⟩) else none := by
  simp only [bind_apply, ciWord_spec w z h, wordAt]
  by_cases hp : startsWithCI w s = true
  case neg => simp [hp]
  case pos =>
    simp only [hp, if_true, Bool.true_and, wordBoundary_after_ci hne hw z h hp]
    cases (s.drop w.length).head?.any isReWord <;> simp

theorem fails_word {w s : Str} (hne : w ≠ []) (hw : IsLowerWord w) (h : wordAt w s = false) :
    Fails (do ciWord w; wordBoundary) s := fun _ _ z ht => by
  rw [ciWord_boundary_spec hne hw z ht, h]
  rfl

theorem hsp_ciWord_boundary_spec {w : Str} (hne : w ≠ []) (hw : IsLowerWord w) {t : Array Char} {i : Nat} {s : Str}
    (z : Bool) (h : t.toList.drop i = s) :
    (do hsp; ciWord w; wordBoundary) t ⟨i, z⟩ =
      if blanksWordAt w s then some ((), ⟨i + (s.takeWhile isHsp).length + w.length, z⟩) else none := by
  have e : (do hsp; ciWord w; wordBoundary : P Unit) = (hsp >>= fun _ => (do ciWord w; wordBoundary)) := rfl
  rw [e, bind_apply, hsp_spec z h, blanksWordAt]
  cases hh : s.head?.any isHsp with
  | false => simp
  | true =>
    simp only [if_true, Bool.true_and]
    exact ciWord_boundary_spec hne hw z (drop_takeWhile isHsp h)

theorem fails_blanksWord {w s : Str} (hne : w ≠ []) (hw : IsLowerWord w) (h : blanksWordAt w s = false) :
    Fails (do hsp; ciWord w; wordBoundary) s := fun _ _ z ht => by
  rw [hsp_ciWord_boundary_spec hne hw z ht, h]
  rfl

theorem isReWord_of_isHsp {c : Char} (h : isHsp c = true) : isReWord c = false :=
  isReWord_false_of_isReSpace (isReSpace_of_isHsp h)

theorem isHsp_of_isReWord {c : Char} (h : isReWord c = true) : isHsp c = false :=
  Bool.eq_false_iff.mpr fun hh => by rw [isReWord_of_isHsp hh] at h; cases h

theorem of_toList : "of".toList = ['o', 'f'] := rfl
theorem the_toList : "the".toList = ['t', 'h', 'e'] := rfl

theorem lower_of : IsLowerWord ['o', 'f'] := by unfold IsLowerWord; decide
theorem lower_the : IsLowerWord ['t', 'h', 'e'] := by unfold IsLowerWord; decide

theorem preposition_eq : preposition = (ciWord ['o', 'f'] >>= fun _ =>
    ((do hsp; ciWord ['t', 'h', 'e']; wordBoundary) <|> wordBoundary)) := rfl

/-- the regex `of([ \t]+the)?\b` as two alternatives, each ending in a word and its `\b` -/
theorem preposition_alt : preposition =
    ((ciWord ['o', 'f'] >>= fun _ => (do hsp; ciWord ['t', 'h', 'e']; wordBoundary)) <|>
      (do ciWord ['o', 'f']; wordBoundary)) := by
  rw [preposition_eq, bind_orElse]

/-- where `of` is there but a word character follows it, `[ \t]+the` reads nothing (a word character is no blank)
    and `\b` fails -/
theorem preposition_fails {s : Str} (hs : wordAt ['o', 'f'] s = false) : Fails preposition s := by
  intro t i z h
  have hl : (['o', 'f'] : Str).length = 2 := rfl
  rw [preposition_eq, bind_apply, ciWord_spec _ z h, hl]
  by_cases hp : startsWithCI ['o', 'f'] s = true
  case neg => rw [if_neg hp]
  case pos =>
    have hw : (s.drop 2).head?.any isReWord = true := by simpa [wordAt, hp] using hs
    have hb : blanksWordAt ['t', 'h', 'e'] (s.drop 2) = false := by
      cases hd : (s.drop 2).head? with
      | none => rw [hd] at hw; cases hw
      | some d =>
        rw [hd] at hw
        simp only [blanksWordAt, hd, Option.any_some, isHsp_of_isReWord hw, Bool.false_and]
    have h1 := hsp_ciWord_boundary_spec (w := ['t', 'h', 'e']) (by simp) lower_the z (drop_add_drop h 2)
    have h2 := wordBoundary_after_ci (w := ['o', 'f']) (by simp) lower_of z h hp
    rw [hb] at h1
    rw [hl, hw] at h2
    simp only [hp, if_true, orElse_apply, h1, h2]
    rfl

theorem hsp_preposition_fails {s : Str} (hs : blanksWordAt ['o', 'f'] s = false) : Fails (do hsp; preposition) s := by
  intro t i z h
  rw [bind_apply, hsp_spec z h]
  cases hh : s.head?.any isHsp with
  | false => rfl
  | true =>
    simp only [blanksWordAt, hh, Bool.true_and] at hs
    exact preposition_fails hs t _ z (drop_takeWhile isHsp h)

theorem follow_caseVariant {w W : Str} (hv : CaseVariant w W) (hne : w ≠ []) (hw : IsLowerWord w) (rest : Str) :
    NextNot isHsp (W ++ rest) :=
  NextNot.of_run (q := fun c => isReWord c) (fun _ hc => isHsp_of_isReWord hc) (hv.ne_nil hne)
    (fun c hc => (hv.all_word hw c hc).1)

/-- `of the` is the first alternative of `preposition_alt`; on `of` that one fails after the word, where no `[ \t]+the\b`
    follows -/
theorem hsp_preposition_reads (p : C06.PrepLit) {rest : Str} (h : p.WF) (hf : p.Follow rest) (hne : p.print ≠ []) :
    Reads (do hsp; preposition) p.print rest fun _ => () := by
  intro t i z
  rw [preposition_alt]
  cases p with
  | none => exact absurd rfl hne
  | of bl m =>
    obtain ⟨hblne, hbl, hm⟩ := h
    have hof := caseVariant_caseWord ['o', 'f'] m hm
    simp only [C06.PrepLit.print, of_toList, List.append_assoc]
    exact .bind (reads_hsp hblne hbl (follow_caseVariant hof (by simp) lower_of rest)) <|
      .altRight (fun _ _ _ => .bind (reads_ciWord hof lower_of rest) (fails_blanksWord (by simp) lower_the hf.2 _ _ _)) <|
      .ret <| .bind (reads_word hof (by simp) lower_of hf.1) <| .pure rfl (by simp +arith)
  | ofThe bl m bl2 m2 =>
    obtain ⟨hblne, hbl, hm, hbl2ne, hbl2, hm2⟩ := h
    have hof := caseVariant_caseWord ['o', 'f'] m hm
    have hthe := caseVariant_caseWord ['t', 'h', 'e'] m2 hm2
    simp only [C06.PrepLit.print, of_toList, the_toList, List.append_assoc]
    exact .bind (reads_hsp hblne hbl (follow_caseVariant hof (by simp) lower_of _)) <| .altLeft <|
      .bind (reads_ciWord hof lower_of _) <|
      .bind (reads_hsp hbl2ne hbl2 (follow_caseVariant hthe (by simp) lower_the rest)) <| .ret <|
      .bind (reads_word hthe (by simp) lower_the hf) <| .pure rfl (by simp +arith)

theorem prep_reads_hsp (p : C06.PrepLit) {rest : Str} (h : p.WF) (hf : p.Follow rest) (hne : p.print ≠ []) :
    Reads (textOf (do hsp; preposition)) p.print rest fun _ => p.print :=
  (hsp_preposition_reads p h hf hne).textOf

/-- **prepositions** `(hsp preposition)?` as text, with `preposition <- r"(?i)of([ \t]+the)?\\b"`: nothing where the
    text does not go on with `[ \t]+of\b`; `of` where no `[ \t]+the\b` follows; `of the` -/
theorem prep_reads (p : C06.PrepLit) (rest : Str) (h : p.WF) (hf : p.Follow rest) :
    Reads hspPreposition p.print rest fun _ => p.print := by
  cases p with
  | none => exact fun _ _ _ => .altRight (hsp_preposition_fails hf).textOf (.pure rfl rfl)
  | of bl m => exact (prep_reads_hsp _ h hf (by simp [C06.PrepLit.print, h.1])).orElse
  | ofThe bl m bl2 m2 => exact (prep_reads_hsp _ h hf (by simp [C06.PrepLit.print, h.1])).orElse

theorem prep_head_not_word (p : C06.PrepLit) {rest : Str} (h : p.WF) (hrest : NextNot isReWord rest) :
    NextNot isReWord (p.print ++ rest) := by
  cases p with
  | none => exact hrest
  | of bl m =>
    simp only [C06.PrepLit.print, List.append_assoc]
    exact .of_run (fun _ => isReWord_of_isHsp) h.1 h.2.1
  | ofThe bl m bl2 m2 =>
    simp only [C06.PrepLit.print, List.append_assoc]
    exact .of_run (fun _ => isReWord_of_isHsp) h.1 h.2.1

theorem unitPattern_text {ws : List Str} {T : Str} (hT : UnitText ws T) (hws : IsUnitWords ws) {rest : Str}
    (hrest : NextNot isReWord rest) : Reads (unitPattern ws) T rest fun _ => () := by
  induction hT with
  | @one w W hv => exact reads_word hv (hws w (by simp)).1 (hws w (by simp)).2 hrest
  | @cons w W S ws T hv hSne hS hT' ih =>
    have hws' : IsUnitWords ws := fun x hx => hws x (by simp [hx])
    obtain ⟨c, T', hTc, _, hcs⟩ := hT'.head_letter hws'
    obtain ⟨w2, ws2, rfl⟩ := List.exists_cons_of_ne_nil hT'.ne_nil
    intro t i z
    rw [unitPattern_cons_cons]
    simp only [List.append_assoc]
    exact .bind (reads_ciWord hv (hws w (by simp)).2 _) <|
      .bind (reads_sp hSne hS (by rw [hTc]; exact forall_head_cons hcs)) <| .ret <| .bind (ih hws') <|
      .pure rfl (by simp +arith)

theorem unitPattern_fails : ∀ {ws : List Str}, IsUnitWords ws → ws ≠ [] → ∀ {s : Str}, unitWordsAt ws s = false →
    Fails (unitPattern ws) s := by
  intro ws
  induction ws with
  | nil => intro _ h; exact absurd rfl h
  | cons w ws ih =>
    intro hws _ s hm
    have hw := hws w (by simp)
    cases ws with
    | nil => exact fails_word hw.1 hw.2 hm
    | cons w2 ws2 =>
      intro t i z h
      simp only [unitPattern_cons_cons, bind_apply, ciWord_spec w z h]
      by_cases hp : startsWithCI w s = true
      case neg => simp [hp]
      case pos =>
        simp only [hp, if_true]
        have h1 := drop_add_drop h w.length
        rw [show sp = skipMany1 isReSpace from rfl, skipMany1_spec isReSpace z h1]
        simp only [unitWordsAt, hp, Bool.true_and, Bool.and_eq_false_iff] at hm
        by_cases hsps : (s.drop w.length).head?.any isReSpace = true
        case neg => rw [if_neg hsps]
        case pos =>
          rw [if_pos hsps]
          rcases hm with hm | hm
          · rw [hsps] at hm; cases hm
          · exact ih (fun x hx => hws x (List.mem_cons_of_mem _ hx)) (by simp) hm t _ z (drop_takeWhile isReSpace h1)

theorem firstOf_none {ps : List (P Unit)} {t : Array Char} {s : PState}
    (h : ∀ p ∈ ps, p t s = none) : firstOf ps t s = none := by
  induction ps with
  | nil => rfl
  | cons p ps ih =>
    simp only [firstOf, orElse_apply, h p (by simp)]
    exact ih (fun q hq => h q (by simp [hq]))

theorem knownUnit_fails {s : Str} (hu : unitNameAt s = false) : Fails knownUnit s := by
  intro t i z ht
  apply firstOf_none
  intro p hp
  obtain ⟨ws, hws, rfl⟩ := List.mem_map.mp hp
  have hok := unitPatterns_words_table
  rw [List.all_eq_true] at hok
  have := unitWordsOk_iff (hok ws hws)
  obtain ⟨name, hname, rfl⟩ := List.mem_map.mp hws
  simp only [unitNameAt, List.any_eq_false] at hu
  exact unitPattern_fails this.2 this.1 (by simpa using hu name hname) t i z ht

/-- **the longest matching name wins**: for any table of alternatives whose words are lower-case
    letters and in which no word list is a proper prefix of another, the ordered choice consumes
    exactly the spelling of any of its alternatives -/
theorem firstOf_unitText {tbl : List (List Str)} (hok : tbl.all unitWordsOk = true)
    (hfree : prefixFree tbl = true) {ws : List Str} (hmem : ws ∈ tbl) {T : Str} (hT : UnitText ws T) {rest : Str}
    (hrest : NextNot isReWord rest) : Reads (firstOf (tbl.map unitPattern)) T rest fun _ => () := by
  intro t i z ht
  rw [List.all_eq_true] at hok
  obtain ⟨pre, post, rfl⟩ := List.append_of_mem hmem
  have hws := (unitWordsOk_iff (hok ws hmem)).2
  have hp := unitPattern_text hT hws hrest t i z ht
  rw [List.map_append, List.map_cons]
  apply firstOf_of hp
  intro a ha
  obtain ⟨vs, hvs, rfl⟩ := List.mem_map.mp ha
  have hvok := unitWordsOk_iff (hok vs (by simp [hvs]))
  -- an earlier alternative does not match the text, or it is `ws` itself, or the table is not prefix-free
  cases hu : unitWordsAt vs (T ++ rest) with
  | false => exact Or.inl (unitPattern_fails hvok.2 hvok.1 hu t i z ht)
  | true =>
    cases eq_of_not_conflict (prefixFree_before hfree vs hvs) (unitWordsAt_text hvok.2 hvok.1 hT hws hrest hu)
    exact Or.inr hp

theorem knownUnit_text {ws : List Str} (hmem : ws ∈ unitPatterns) {T : Str} (hT : UnitText ws T) {rest : Str}
    (hrest : NextNot isReWord rest) : Reads knownUnit T rest fun _ => () :=
  firstOf_unitText unitPatterns_table.1 unitPatterns_prefixFree_table hmem hT hrest

theorem unitText_of_wf (u : C06.UnitLit) (h : u.WF) :
    u.name.map String.toList ∈ unitPatterns ∧ UnitText (u.name.map String.toList) u.print :=
  ⟨List.mem_map_of_mem h.1, unitText_printUnit _ u.ms u.seps h.2⟩

/-- **unit names** `(?i)(@KNOWN_UNITS@)\\b`: every spelling of every alternative, before a non-word character -/
theorem knownUnit_reads (u : C06.UnitLit) {rest : Str} (h : u.WF) (hrest : NextNot isReWord rest) :
    Reads knownUnit u.print rest fun _ => () :=
  knownUnit_text (unitText_of_wf u h).1 (unitText_of_wf u h).2 hrest

theorem unit_nextNot_hsp (u : C06.UnitLit) (h : u.WF) (x : Str) : NextNot isHsp (u.print ++ x) := by
  obtain ⟨hmem, hU⟩ := unitText_of_wf u h
  have hok := unitPatterns_words_table
  rw [List.all_eq_true] at hok
  obtain ⟨c, T', e, hcw, _⟩ := hU.head_letter (unitWordsOk_iff (hok _ hmem)).2
  rw [e]
  exact .cons (isHsp_of_isReWord hcw)

/-- no `\w` character below the digits (in particular `%` and `*` are none) -/
theorem toNat_ge_of_isReWord {c : Char} (h : isReWord c = true) : 48 ≤ c.toNat := by
  have table : Gen.reWordRanges.all (fun r => 48 ≤ r.1) = true := by decide +kernel
  simp only [isReWord, inTable, List.any_eq_true, Bool.and_eq_true, decide_eq_true_eq] at h
  obtain ⟨r, hr, h1, _⟩ := h
  have := List.all_eq_true.mp table r hr
  simp only [decide_eq_true_eq] at this
  omega

/-- a number followed by blanks and a unit name is not followed by `[ \t]+of\b`, `%` or `*`, so that `proportion`
    fails and the implicit quantity is reached: the unit name begins with a letter, and by the table not with `of` -/
theorem no_proportion_after_unit (u : C06.UnitLit) (hu : u.WF) {sp X : Str} (hsp : IsBlanks sp)
    (hX : NextNot isReWord X) :
    blanksWordAt ['o', 'f'] (sp ++ (u.print ++ X)) = false ∧
      ∀ c, ((sp ++ (u.print ++ X)).dropWhile isHsp).head? = some c → c ≠ '%' ∧ c ≠ '*' := by
  obtain ⟨hmem, hU⟩ := unitText_of_wf u hu
  generalize u.name.map String.toList = ws at hmem hU
  generalize u.print = U at hU
  have hok := unitPatterns_words_table
  rw [List.all_eq_true] at hok
  have hws := (unitWordsOk_iff (hok ws hmem)).2
  obtain ⟨c, U', hUc, hcw, _⟩ := hU.head_letter hws
  have hrun := span_run isHsp sp (U ++ X) hsp (by
    rw [hUc]; exact forall_head_cons (isHsp_of_isReWord hcw))
  refine ⟨?_, ?_⟩
  · obtain ⟨w, W, tail, hw, rfl, hv, htail⟩ := hU.first_word
    have hnot := List.all_eq_true.mp unitPatterns_not_of_table ws hmem
    rw [hw] at hnot
    have hY : NextNot isReWord (tail ++ X) := by
      rcases htail with rfl | ⟨d, tl, rfl, hd⟩
      · exact hX
      · exact forall_head_cons hd
    have := wordAt_false_of_not_prefix lower_of hv (hws w (List.mem_of_mem_head? hw)).2 hY (by simpa using hnot)
    rw [← List.append_assoc] at this
    simp only [blanksWordAt, hrun.2, this, Bool.and_false]
  · rw [hrun.2, hUc]
    intro d hd
    cases hd
    have := toNat_ge_of_isReWord hcw
    constructor <;> (rintro rfl; revert this; decide)

def wRemaining : Str := ['r', 'e', 'm', 'a', 'i', 'n', 'i', 'n', 'g']
def wRemainder : Str := ['r', 'e', 'm', 'a', 'i', 'n', 'd', 'e', 'r']
def wRest : Str := ['r', 'e', 's', 't']
def wLeft : Str := ['l', 'e', 'f', 't']
def wOver : Str := ['o', 'v', 'e', 'r']

theorem remaining_toList : "remaining".toList = wRemaining := rfl
theorem remainder_toList : "remainder".toList = wRemainder := rfl
theorem rest_toList : "rest".toList = wRest := rfl
theorem left_toList : "left".toList = wLeft := rfl
theorem over_toList : "over".toList = wOver := rfl

theorem lower_remaining : IsLowerWord wRemaining := by unfold IsLowerWord wRemaining; decide
theorem lower_remainder : IsLowerWord wRemainder := by unfold IsLowerWord wRemainder; decide
theorem lower_rest : IsLowerWord wRest := by unfold IsLowerWord wRest; decide
theorem lower_left : IsLowerWord wLeft := by unfold IsLowerWord wLeft; decide
theorem lower_over : IsLowerWord wOver := by unfold IsLowerWord wOver; decide

theorem remainder_eq : remainder =
    ((do ciWord wRemaining; wordBoundary) <|> (do ciWord wRemainder; wordBoundary)
      <|> (do ciWord wRest; wordBoundary)
      <|> (do ciWord wLeft; ohsp; ciWord wOver; wordBoundary)) := by
  rw [remainder, remaining_toList, remainder_toList, rest_toList, left_toList, over_toList]

/-- regex `left[ \t]*over\b` at the start of `s` -/
def leftOverAt (s : Str) : Bool :=
  startsWithCI wLeft s && wordAt wOver ((s.drop 4).dropWhile isHsp)

theorem leftOver_spec {t : Array Char} {i : Nat} {s : Str} (z : Bool) (h : t.toList.drop i = s) :
    (do ciWord wLeft; ohsp; ciWord wOver; wordBoundary) t ⟨i, z⟩ =
      if leftOverAt s then some ((), ⟨i + 4 + ((s.drop 4).takeWhile isHsp).length + 4, z⟩) else none := by
  have e : (do ciWord wLeft; ohsp; ciWord wOver; wordBoundary : P Unit)
      = (ciWord wLeft >>= fun _ => ohsp >>= fun _ => (do ciWord wOver; wordBoundary)) := rfl
  rw [e, bind_apply, ciWord_spec wLeft z h, leftOverAt]
  by_cases hp : startsWithCI wLeft s = true
  case neg => simp [hp]
  case pos =>
    have h1 : t.toList.drop (i + 4) = s.drop 4 := drop_add_drop h 4
    have h2 := ohsp_spec z h1
    have h3 := ciWord_boundary_spec (w := wOver) (by simp [wOver]) lower_over z (drop_takeWhile isHsp h1)
    have hl : wLeft.length = 4 := rfl
    have hl' : wOver.length = 4 := rfl
    simp only [bind_apply, hl'] at h3
    simp only [hp, if_true, Bool.true_and, hl, bind_apply, h2, h3]

theorem startsWithCI_false_of_head {v : Str} {l l' c : Char} {s : Str} (hl : isLowerAscii l = true)
    (hl' : isLowerAscii l' = true) (hc : CaseVar l' c) (hne : l ≠ l') :
    startsWithCI (l :: v) (c :: s) = false := by
  cases hm : ciMatches c l with
  | false => simp [startsWithCI, hm]
  | true => exact absurd (eq_of_ciMatches_caseVar hl hl' hc hm) hne

/-- **remainder words** `(?i)(remaining|remainder|rest|left[ \t]*over)\\b` in every letter case, before a non-word
    character: the earlier alternatives fail (`remaining` on "remainder" and on "rest": no prefix; the single words on
    "left …": they start with `r`) -/
theorem remainder_reads (w : C06.RemainderLit) (rest : Str) (h : w.WF) (hrest : NextNot isReWord rest) :
    Reads remainder w.print rest fun _ => () := by
  intro t i z
  rw [remainder_eq]
  cases w with
  | remaining m =>
    simp only [C06.RemainderLit.print, remaining_toList]
    exact .altLeft <| reads_word (caseVariant_caseWord wRemaining m h) (by decide) lower_remaining hrest t i z
  | remainder m =>
    have hv := caseVariant_caseWord wRemainder m h
    simp only [C06.RemainderLit.print, remainder_toList]
    exact .altRight (fails_word (by decide) lower_remaining
        (wordAt_false_of_not_prefix lower_remaining hv lower_remainder hrest (by decide))) <|
      .altLeft <| reads_word hv (by decide) lower_remainder hrest t i z
  | rest m =>
    have hv := caseVariant_caseWord wRest m h
    simp only [C06.RemainderLit.print, rest_toList]
    exact .altRight (fails_word (by decide) lower_remaining
        (wordAt_false_of_not_prefix lower_remaining hv lower_rest hrest (by decide))) <|
      .altRight (fails_word (by decide) lower_remainder
        (wordAt_false_of_not_prefix lower_remainder hv lower_rest hrest (by decide))) <|
      .altLeft <| reads_word hv (by decide) lower_rest hrest t i z
  | leftOver m1 bl m2 =>
    obtain ⟨hm1, hbl, hm2⟩ := h
    have hleft := caseVariant_caseWord wLeft m1 hm1
    have hover := caseVariant_caseWord wOver m2 hm2
    simp only [C06.RemainderLit.print, left_toList, over_toList, List.append_assoc]
    generalize C06.caseWord wLeft m1 = LEFT at hleft ⊢
    have hnot (v X : Str) : wordAt ('r' :: v) (LEFT ++ X) = false := by
      cases hleft with
      | @cons _ c _ W hc _ =>
        simp only [wordAt, List.cons_append, Bool.false_and,
          startsWithCI_false_of_head (l := 'r') (l' := 'l') (by decide) (by decide) hc (by decide)]
    exact .altRight (fails_word (by decide) lower_remaining (hnot _ _)) <|
      .altRight (fails_word (by decide) lower_remainder (hnot _ _)) <|
      .altRight (fails_word (by decide) lower_rest (hnot _ _)) <| .bind (reads_ciWord hleft lower_left _) <|
      .bind (reads_ohsp hbl (follow_caseVariant hover (by decide) lower_over rest)) <| .ret <|
      .bind (reads_word hover (by decide) lower_over hrest) <| .pure rfl (by simp +arith)

theorem ciMatches_false_of_digit {c l : Char} (hc : isDigit c = true) (hl : isLowerAscii l = true) :
    ciMatches c l = false := by
  cases hm : ciMatches c l with
  | false => rfl
  | true =>
    exfalso
    have hb := lower_bounds hl
    simp only [isDigit, Bool.and_eq_true, decide_eq_true_eq] at hc
    rcases ciMatches_cases hm with rfl | hmem
    · omega
    · have := ciPartners_not_digit_table _ hmem
      simp only at this
      omega

theorem char_eq_of_toNat {c : Char} {n : Nat} (h : c.toNat = n) : c = Char.ofNat n := by
  rw [← h, Char.ofNat_toNat]

theorem ciMatches_rl {c : Char} (h : ciMatches c 'r' = true ∨ ciMatches c 'l' = true) :
    c = 'R' ∨ c = 'r' ∨ c = 'L' ∨ c = 'l' := by
  have key : ∀ l : Char, (l.toNat = 114 ∨ l.toNat = 108) → ciMatches c l = true →
      c = l ∨ c = 'R' ∨ c = 'r' ∨ c = 'L' ∨ c = 'l' := by
    intro l hl hm
    simp only [ciMatches, Bool.or_eq_true, beq_iff_eq, List.contains_iff_mem] at hm
    rcases hm with rfl | hm
    · exact Or.inl rfl
    · right
      rcases ciPartners_rl _ hm hl with e | e | e | e
      · exact Or.inl (char_eq_of_toNat e)
      · exact Or.inr (Or.inl (char_eq_of_toNat e))
      · exact Or.inr (Or.inr (Or.inl (char_eq_of_toNat e)))
      · exact Or.inr (Or.inr (Or.inr (char_eq_of_toNat e)))
  rcases h with h | h
  · rcases key 'r' (Or.inl rfl) h with rfl | h'
    · exact Or.inr (Or.inl rfl)
    · exact h'
  · rcases key 'l' (Or.inr rfl) h with rfl | h'
    · exact Or.inr (Or.inr (Or.inr rfl))
    · exact h'

theorem startsWithCI_cons_false {l : Char} (w : Str) {s : Str} (h : ∀ c, s.head? = some c → ciMatches c l = false) :
    startsWithCI (l :: w) s = false := by
  cases s with
  | nil => rfl
  | cons c s => simp only [startsWithCI, h c rfl, Bool.false_and]

theorem remainderWordAt_eq (s : Str) :
    remainderWordAt s = (wordAt wRemaining s || wordAt wRemainder s || wordAt wRest s || leftOverAt s) := by
  rw [remainderWordAt, leftOverAt, remaining_toList, remainder_toList, rest_toList, left_toList, over_toList]

theorem remainderWordAt_of_head {s : Str}
    (h : ∀ c, s.head? = some c → ciMatches c 'r' = false ∧ ciMatches c 'l' = false) : remainderWordAt s = false := by
  have hr (w : Str) : startsWithCI ('r' :: w) s = false := startsWithCI_cons_false w fun c hc => (h c hc).1
  have hl (w : Str) : startsWithCI ('l' :: w) s = false := startsWithCI_cons_false w fun c hc => (h c hc).2
  rw [remainderWordAt_eq]
  simp only [wordAt, leftOverAt, wRemaining, wRemainder, wRest, wLeft, hr, hl, Bool.false_and, Bool.or_false]

theorem remainderWordAt_of_digit {s : Str} (h : ∃ c, s.head? = some c ∧ isDigit c = true) :
    remainderWordAt s = false := by
  obtain ⟨c, hc, hd⟩ := h
  refine remainderWordAt_of_head fun d hd' => ?_
  rw [hc] at hd'
  cases hd'
  exact ⟨ciMatches_false_of_digit hd (by decide), ciMatches_false_of_digit hd (by decide)⟩

theorem remainder_fails {s : Str} (h : remainderWordAt s = false) : Fails remainder s := by
  simp only [remainderWordAt_eq, Bool.or_eq_false_iff] at h
  obtain ⟨⟨⟨h1, h2⟩, h3⟩, h4⟩ := h
  intro t i z
  rw [remainder_eq]
  exact .altRight (fails_word (by decide) lower_remaining h1) <| .altRight (fails_word (by decide) lower_remainder h2) <|
    .altRight (fails_word (by decide) lower_rest h3) fun ht => by rw [leftOver_spec z ht, h4]; rfl

end Parser
end RG
