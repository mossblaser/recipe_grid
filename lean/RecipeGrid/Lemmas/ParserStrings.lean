import RecipeGrid.Lemmas.ParserWords
/-! Strings on printed text: quoted, naked and bracketed strings, the atoms of `string` and their sequences (`Atoms`,
    `AtomsAt`, `StringAt`), where they fail (by the first character) and where a string ends (`StringEnd`); with the position
    facts the loops need (`Mono`: a rule never moves backwards, `Adv`: it consumes a character, `NeedsChar`: it starts
    inside the text). -/
namespace RG

namespace Parser

open C06 (NextNot IsBlanks IsSpaces)

def Mono {α} (p : P α) : Prop := ∀ t s a s', p t s = some (a, s') → s.pos ≤ s'.pos
def Adv {α} (p : P α) : Prop := ∀ t s a s', p t s = some (a, s') → s.pos < s'.pos

theorem Adv.mono {α} {p : P α} (h : Adv p) : Mono p := fun t s a s' e => Nat.le_of_lt (h t s a s' e)

theorem mono_pure {α} (a : α) : Mono (pure a : P α) := by
  intro t s b s' e; simp only [pure_apply, Option.some.injEq, Prod.mk.injEq] at e; rw [e.2]; exact Nat.le_refl _

theorem adv_fail {α} : Adv (fail : P α) := by intro t s a s' e; cases e

theorem mono_getPos : Mono getPos := by
  intro t s b s' e; simp only [getPos_apply, Option.some.injEq, Prod.mk.injEq] at e; rw [e.2]; exact Nat.le_refl _

theorem mono_bind {α β} {m : P α} {f : α → P β} (hm : Mono m) (hf : ∀ a, Mono (f a)) : Mono (m >>= f) := by
  intro t s b s' e
  obtain ⟨a, s1, e1, e2⟩ := bind_some e
  exact Nat.le_trans (hm _ _ _ _ e1) (hf a _ _ _ _ e2)

theorem adv_bind_left {α β} {m : P α} {f : α → P β} (hm : Adv m) (hf : ∀ a, Mono (f a)) : Adv (m >>= f) := by
  intro t s b s' e
  obtain ⟨a, s1, e1, e2⟩ := bind_some e
  exact Nat.lt_of_lt_of_le (hm _ _ _ _ e1) (hf a _ _ _ _ e2)

theorem adv_bind_right {α β} {m : P α} {f : α → P β} (hm : Mono m) (hf : ∀ a, Adv (f a)) : Adv (m >>= f) := by
  intro t s b s' e
  obtain ⟨a, s1, e1, e2⟩ := bind_some e
  exact Nat.lt_of_le_of_lt (hm _ _ _ _ e1) (hf a _ _ _ _ e2)

theorem mono_orElse {α} {p q : P α} (hp : Mono p) (hq : Mono q) : Mono (p <|> q) := by
  intro t s a s' e
  rw [orElse_apply] at e
  cases h : p t s with
  | none => rw [h] at e; exact hq _ _ _ _ e
  | some r => rw [h] at e; simp only [Option.some.injEq] at e; subst e; exact hp _ _ _ _ h

theorem adv_orElse {α} {p q : P α} (hp : Adv p) (hq : Adv q) : Adv (p <|> q) := by
  intro t s a s' e
  rw [orElse_apply] at e
  cases h : p t s with
  | none => rw [h] at e; exact hq _ _ _ _ e
  | some r => rw [h] at e; simp only [Option.some.injEq] at e; subst e; exact hp _ _ _ _ h

theorem mono_opt {α} {p : P α} (hp : Mono p) : Mono (opt p) :=
  mono_orElse (mono_bind hp fun _ => mono_pure _) (mono_pure none)

theorem adv_sat (p : Char → Bool) : Adv (sat p) := by
  intro t s a s' e
  simp only [sat] at e
  split at e
  · split at e
    · simp only [Option.some.injEq, Prod.mk.injEq] at e; rw [← e.2]; exact Nat.lt_succ_self _
    · cases e
  · cases e

theorem adv_lit (c : Char) : Adv (lit c) := adv_bind_left (adv_sat _) (fun _ => mono_pure _)

theorem spanEnd_go_ge (p : Char → Bool) (t : Array Char) : ∀ fuel j, j ≤ spanEnd.go p t fuel j := by
  intro fuel
  induction fuel with
  | zero => intro j; exact Nat.le_refl _
  | succ f ih =>
    intro j
    simp only [spanEnd.go]
    split
    · split
      · exact Nat.le_trans (Nat.le_succ j) (ih (j + 1))
      · exact Nat.le_refl _
    · exact Nat.le_refl _

theorem mono_skipMany (p : Char → Bool) : Mono (skipMany p) := by
  intro t s a s' e
  simp only [skipMany, Option.some.injEq, Prod.mk.injEq] at e
  rw [← e.2]
  exact spanEnd_go_ge p t _ _

theorem adv_skipMany1 (p : Char → Bool) : Adv (skipMany1 p) :=
  adv_bind_left (adv_sat p) (fun _ => mono_skipMany p)

theorem withText_some {α} {p : P α} {t s r s'} (e : withText p t s = some (r, s')) :
    ∃ a, p t s = some (a, s') := by
  simp only [withText] at e
  cases h : p t s with
  | none => rw [h] at e; cases e
  | some r' =>
    obtain ⟨a, s1⟩ := r'
    rw [h] at e; simp only [Option.some.injEq, Prod.mk.injEq] at e
    exact ⟨a, by rw [e.2]⟩

theorem mono_withText {α} {p : P α} (hp : Mono p) : Mono (withText p) := by
  intro t s r s' e; obtain ⟨a, h⟩ := withText_some e; exact hp _ _ _ _ h

theorem adv_withText {α} {p : P α} (hp : Adv p) : Adv (withText p) := by
  intro t s r s' e; obtain ⟨a, h⟩ := withText_some e; exact hp _ _ _ _ h

theorem mono_textOf {p : P Unit} (hp : Mono p) : Mono (textOf p) :=
  mono_bind (mono_withText hp) (fun _ => mono_pure _)

theorem adv_textOf {p : P Unit} (hp : Adv p) : Adv (textOf p) :=
  adv_bind_left (adv_withText hp) (fun _ => mono_pure _)

theorem adv_digits : Adv digits := adv_textOf (adv_skipMany1 _)

theorem adv_decimal : Adv decimal := by
  unfold decimal
  refine adv_bind_right mono_getPos fun off => adv_bind_left adv_digits fun whole => ?_
  refine mono_bind (mono_opt ?_) fun frac => ?_
  · exact mono_bind (adv_lit _).mono fun _ => mono_textOf (mono_skipMany _)
  · cases frac <;> exact mono_pure _

theorem adv_fraction : Adv fraction := by
  unfold fraction
  refine adv_bind_right mono_getPos fun start => ?_
  refine adv_bind_right (mono_opt ?_) fun integer => ?_
  · exact mono_bind adv_digits.mono fun _ => mono_bind (adv_skipMany1 _).mono fun _ => mono_pure _
  refine adv_bind_right mono_getPos fun numerStart => adv_bind_left adv_digits fun numer => ?_
  refine mono_bind (mono_skipMany _) fun _ => mono_bind (adv_lit _).mono fun _ => ?_
  refine mono_bind (mono_skipMany _) fun _ => mono_bind adv_digits.mono fun denom => ?_
  simp only
  split
  · exact adv_fail.mono
  · exact mono_pure _

theorem adv_number : Adv number := adv_orElse adv_fraction adv_decimal

theorem NumberAt.ne_nil {txt rest : Str} {v : Num} (h : NumberAt txt rest v) : txt ≠ [] := by
  intro e
  subst e
  have h1 := h rest.toArray 0 false (by simp)
  have := adv_number _ _ _ _ h1
  simp at this

theorem escaped_reads (l : Char) (rest : Str) : Reads escaped ['\\', l] rest fun _ => unescape l :=
  fun _ _ _ => .lit <| .sat (c := fun _ => true) rfl <| .pure rfl rfl

theorem escaped_fails {s : Str} (hc : s.head? ≠ some '\\') : Fails escaped s := fun _ _ _ => .fail (fails_lit hc)

/-- one item of the body of `quotedString`, under this name -/
def quotedItem (q : Char) : P Char := escaped <|> sat fun c => c != q && !isNewline c

def QuotedItemOk (q : Char) (it : Str × Char) : Prop :=
  (∃ c, it = ([c], c) ∧ c ≠ q ∧ c ≠ '\\' ∧ isNewline c = false) ∨ (∃ l, it = (['\\', l], unescape l))

theorem quotedItem_reads {q : Char} {it : Str × Char} (hit : QuotedItemOk q it) (rest : Str) :
    Reads (quotedItem q) it.1 rest fun _ => it.2 := by
  intro t i z
  rcases hit with ⟨c, rfl, hq, hb, hn⟩ | ⟨l, rfl⟩
  · exact .altRight (escaped_fails (by simpa using hb)) <| .ret <| .sat (by simp [hq, hn]) <| .pure rfl rfl
  · exact .altLeft (escaped_reads l rest t i z)

theorem QuotedItemOk.ne_nil {q : Char} {it : Str × Char} (hit : QuotedItemOk q it) : it.1 ≠ [] := by
  rcases hit with ⟨c, rfl, _⟩ | ⟨l, rfl⟩ <;> simp

theorem quotedItems_reads {q : Char} (hq : q ≠ '\\') (rest : Str) : ∀ items : List (Str × Char),
    (∀ it ∈ items, QuotedItemOk q it) →
      ReadsMany (quotedItem q) (q :: rest) (items.flatMap (·.1)) fun _ => items.map (·.2)
  | [], _ => .nil fun _ _ _ => .altRight (escaped_fails (by simpa using hq)) (fails_sat (.cons (by simp)) _ _ _)
  | it :: items, h =>
    .cons (h it (by simp)).ne_nil (quotedItem_reads (h it (by simp)) _)
      (quotedItems_reads hq rest items fun x hx => h x (by simp [hx]))

/-- **quoted strings** `q ("\\" . / r'[^q\n\r]')* q` -/
theorem quotedString_items {q : Char} (hq : q ≠ '\\') {items : List (Str × Char)} (rest : Str)
    (hok : ∀ it ∈ items, QuotedItemOk q it) :
    Reads (quotedString q) (q :: items.flatMap (·.1) ++ [q]) rest fun i => [.sub i (items.map (·.2))] := by
  intro t i z
  simp only [List.append_assoc, List.cons_append, List.nil_append]
  exact .getPos <| .lit <| .bind (quotedItems_reads hq rest items hok).reads <| .lit <| .pure rfl (by simp +arith)

/-- `Gen.escapeChars` read backwards -/
def escLetter? (c : Char) : Option Char :=
  (Gen.escapeChars.find? (·.2 == c.toNat)).map (fun p => Char.ofNat p.1)

def quoteItem (c : Char) : Str × Char :=
  match escLetter? c with
  | some l => (['\\', l], c)
  | none => ([c], c)

def quoteBody (s : Str) : Str := s.flatMap (fun c => (quoteItem c).1)

theorem escapeChars_lookup :
    ∀ p ∈ Gen.escapeChars, Gen.escapeChars.lookup (Char.ofNat p.1).toNat = some p.2 := by decide

theorem unescape_of_escLetter {c l : Char} (h : escLetter? c = some l) : unescape l = c := by
  simp only [escLetter?, Option.map_eq_some_iff] at h
  obtain ⟨p, hp, rfl⟩ := h
  have hmem := List.mem_of_find?_eq_some hp
  have hval := List.find?_some hp
  simp only [beq_iff_eq] at hval
  simp only [unescape, escapeChars_lookup p hmem, hval, Char.ofNat_toNat]

/-- a character without an escape letter is none of `\`, `'`, `"`, newline, carriage return: these are the values of
    the entries (92, 92), (39, 39), (34, 34), (110, 10) = `n`, (114, 13) = `r` of `Gen.escapeChars` -/
theorem escLetter_none_ne {c : Char} (h : escLetter? c = none) :
    c ≠ '\\' ∧ c ≠ '\'' ∧ c ≠ '"' ∧ isNewline c = false := by
  simp only [escLetter?, Option.map_eq_none_iff, List.find?_eq_none] at h
  have h1 : c.toNat ≠ 92 := fun e => by have := h (92, 92) (by decide); simp [e] at this
  have h2 : c.toNat ≠ 39 := fun e => by have := h (39, 39) (by decide); simp [e] at this
  have h3 : c.toNat ≠ 34 := fun e => by have := h (34, 34) (by decide); simp [e] at this
  have h4 : c.toNat ≠ 10 := fun e => by have := h (110, 10) (by decide); simp [e] at this
  have h5 : c.toNat ≠ 13 := fun e => by have := h (114, 13) (by decide); simp [e] at this
  refine ⟨?_, ?_, ?_, ?_⟩
  · rintro rfl; exact h1 rfl
  · rintro rfl; exact h2 rfl
  · rintro rfl; exact h3 rfl
  · cases hn : isNewline c with
    | false => rfl
    | true =>
      simp only [isNewline, Bool.or_eq_true, beq_iff_eq] at hn
      rcases hn with rfl | rfl
      · exact absurd rfl h4
      · exact absurd rfl h5

theorem quoteItem_snd (c : Char) : (quoteItem c).2 = c := by
  unfold quoteItem; split <;> rfl

theorem quoteItem_ok {q : Char} (hq : q = '\'' ∨ q = '"') (c : Char) : QuotedItemOk q (quoteItem c) := by
  unfold quoteItem
  split
  · next l hl => exact Or.inr ⟨l, by rw [unescape_of_escLetter hl]⟩
  · next hn =>
    obtain ⟨h1, h2, h3, h4⟩ := escLetter_none_ne hn
    refine Or.inl ⟨c, rfl, ?_, h1, h4⟩
    rcases hq with rfl | rfl
    · exact h2
    · exact h3

theorem quoteItems_fst (s : Str) : (s.map quoteItem).flatMap (·.1) = quoteBody s := by
  simp [quoteBody, List.flatMap_map]

theorem quoteItems_snd (s : Str) : (s.map quoteItem).map (·.2) = s := by
  induction s with
  | nil => rfl
  | cons c s ih => simp only [List.map_cons, quoteItem_snd, ih]

theorem quotedString_quote {q : Char} (hq : q = '\'' ∨ q = '"') (s rest : Str) :
    Reads (quotedString q) (q :: quoteBody s ++ [q]) rest fun i => [.sub i s] := by
  have hq' : q ≠ '\\' := by rcases hq with rfl | rfl <;> decide
  have := quotedString_items (items := s.map quoteItem) hq' rest (by
    intro it hit
    simp only [List.mem_map] at hit
    obtain ⟨c, _, rfl⟩ := hit
    exact quoteItem_ok hq c)
  rwa [quoteItems_fst, quoteItems_snd] at this

theorem isSpecial_cases {c : Char} (h : isSpecial c = true) :
    c = '"' ∨ c = '\'' ∨ c = ',' ∨ c = ':' ∨ c = '=' ∨ c = '/' ∨ c = '(' ∨ c = ')' ∨ c = '{' ∨ c = '}' := by
  simpa [isSpecial] using h

theorem isSpecial_of_isReSpace {c : Char} (h : isReSpace c = true) : isSpecial c = false := by
  cases hs : isSpecial c with
  | false => rfl
  | true =>
    rcases isSpecial_cases hs with rfl | rfl | rfl | rfl | rfl | rfl | rfl | rfl | rfl | rfl <;>
      exact absurd h (by decide)

theorem isNakedEdge_of_isReSpace {c : Char} (h : isReSpace c = true) : isNakedEdge c = false := by
  simp [isNakedEdge, h]

theorem isNakedInner_of_blank {c : Char} (h : isReSpace c = true) (hn : isNewline c = false) :
    isNakedInner c = true := by
  simp [isNakedInner, isSpecial_of_isReSpace h, hn]

theorem isNakedInner_of_isNakedEdge {c : Char} (h : isNakedEdge c = true) : isNakedInner c = true := by
  simp only [isNakedEdge, Bool.and_eq_true, Bool.not_eq_true'] at h
  cases hn : isNewline c with
  | false => simp [isNakedInner, h.1, hn]
  | true => rw [isReSpace_of_isNewline hn] at h; exact absurd h.2 (by decide)

theorem newline_not_inner : ∀ c, isNewline c = true → isNakedInner c = false := by
  intro c h; simp [isNakedInner, h]

theorem isNakedEdge_of_isDigit {c : Char} (h : isDigit c = true) : isNakedEdge c = true := by
  simp only [isDigit, Bool.and_eq_true, decide_eq_true_eq] at h
  -- the ten digits, evaluated (`isNakedEdge` looks the character up in the regex tables: too much for plain `decide`)
  have digits : (List.range' 48 10).all (fun n => isNakedEdge (Char.ofNat n)) = true := by decide +kernel
  have := List.all_eq_true.mp digits c.toNat (by simp only [List.mem_range'_1]; omega)
  rwa [Char.ofNat_toNat] at this

theorem newline_not_edge : ∀ c, isNewline c = true → isNakedEdge c = false :=
  fun _ h => isNakedEdge_of_isReSpace (isReSpace_of_isNewline h)

theorem trimBack_of_le (p : Char → Bool) (t : Array Char) (lo : Nat) : ∀ hi, hi ≤ lo → trimBack p t lo hi = lo
  | 0, _ => rfl
  | hi + 1, h => by rw [trimBack, if_pos h]

theorem trimBack_succ (p : Char → Bool) (t : Array Char) {lo k : Nat} (h : lo ≤ k) :
    trimBack p t lo (k + 1) = if t[k]?.any p then k + 1 else trimBack p t lo k := by
  rw [trimBack, if_neg (by omega)]
  cases t[k]? <;> rfl

theorem trimBack_run {p : Char → Bool} {t : Array Char} {lo : Nat} {xs rest : Str}
    (hlast : ∀ c, xs.getLast? = some c → p c = true) : ∀ (n : Nat) (ws : Str), ws.length = n →
      t.toList.drop lo = xs ++ ws ++ rest → (∀ c ∈ ws, p c = false) →
      trimBack p t lo (lo + xs.length + n) = lo + xs.length
  | 0, _, _, h, _ => by
    rcases List.eq_nil_or_concat xs with rfl | ⟨xs', c, rfl⟩
    · exact trimBack_of_le p t lo _ (Nat.le_refl _)
    · rw [List.concat_eq_append] at h hlast ⊢
      have hc : t[lo + xs'.length]? = some c := by rw [getElem?_of_drop h]; simp
      rw [List.length_append, ← Nat.add_assoc, Nat.add_zero, List.length_singleton, trimBack_succ p t (by omega), hc,
        Option.any_some, hlast c List.getLast?_concat, if_pos rfl]
  | n + 1, ws, hn, h, hws => by
    obtain ⟨ws', c, rfl⟩ := (List.eq_nil_or_concat ws).resolve_left (by rintro rfl; cases hn)
    rw [List.concat_eq_append] at h hws hn
    have hn' : ws'.length = n := by simpa using hn
    have hc : t[lo + xs.length + n]? = some c := by rw [Nat.add_assoc, getElem?_of_drop h, ← hn']; simp
    rw [← Nat.add_assoc, trimBack_succ p t (by omega), hc, Option.any_some, hws c (by simp), if_neg (by simp)]
    exact trimBack_run hlast n ws' hn' (by simpa using h) fun d hd => hws d (by simp [hd])

/-- the second half of the naked string regex, as a parser (the model writes it as a raw function) -/
def nakedTail : P Unit := fun t s =>
  some ((), { s with pos := trimBack isNakedEdge t s.pos (spanEnd isNakedInner t s.pos) })

theorem nakedString_eq : nakedString = (do
    let off ← getPos
    let (_, text) ← withText (do let _ ← sat isNakedEdge; nakedTail)
    pure [.sub off text]) := rfl

def NakedText (txt : Str) : Prop :=
  txt ≠ [] ∧ (∀ c ∈ txt, isNakedInner c = true) ∧ (∀ c, txt.head? = some c → isNakedEdge c = true)
    ∧ (∀ c, txt.getLast? = some c → isNakedEdge c = true)

/-- `ws`: the blanks that the regex takes and gives back -/
theorem nakedTail_reads {xs ws rest : Str} (hinner : ∀ c ∈ xs, isNakedInner c = true)
    (hlast : ∀ c, xs.getLast? = some c → isNakedEdge c = true)
    (hws : ∀ c ∈ ws, isReSpace c = true ∧ isNewline c = false) (hrest : NextNot isNakedInner rest) :
    Reads nakedTail xs (ws ++ rest) fun _ => () := fun t i z h => by
  rw [← List.append_assoc] at h
  have hs := spanEnd_run (p := isNakedInner) h (fun x hx => (List.mem_append.mp hx).elim (hinner x)
    fun hx => isNakedInner_of_blank (hws x hx).1 (hws x hx).2) hrest
  have ht := trimBack_run (p := isNakedEdge) hlast _ ws rfl h fun d hd => isNakedEdge_of_isReSpace (hws d hd).1
  simp only [nakedTail, hs, List.length_append, ← Nat.add_assoc, ht]

theorem nakedString_reads {txt ws rest : Str} (hn : NakedText txt)
    (hws : ∀ c ∈ ws, isReSpace c = true ∧ isNewline c = false) (hrest : NextNot isNakedInner rest) :
    Reads nakedString txt (ws ++ rest) fun i => [.sub i txt] := by
  obtain ⟨hne, hinner, hfirst, hlast⟩ := hn
  cases txt with
  | nil => exact absurd rfl hne
  | cons c txt' =>
    have htail := nakedTail_reads (fun x hx => hinner x (List.mem_cons_of_mem _ hx)) (fun d hd => by
      cases txt' with
      | nil => cases hd
      | cons e txt'' => exact hlast d (by rw [List.getLast?_cons_cons]; exact hd)) hws hrest
    have hw : Reads (do let _ ← sat isNakedEdge; nakedTail) (c :: txt') (ws ++ rest) fun _ => () := fun _ _ _ =>
      .sat (hfirst c rfl) <| .ret <| .bind htail <| .pure rfl (by simp +arith)
    intro t i z
    rw [nakedString_eq]
    exact .getPos <| .bind hw.withText <| .pure rfl rfl

theorem nakedString_fails {s : Str} (hc : NextNot isNakedEdge s) : Fails nakedString s := fun _ _ z ht => by
  simp only [nakedString_eq, bind_apply, getPos_apply, withText, sat_fail_of_head z ht hc]

theorem number_fails {s : Str} (h : NextNot isDigit s) : Fails number s := fun _ _ z ht => number_fail_of_head z ht h

inductive BPiece where
  | chr (txt : Str) (c : Char)
  | num (txt : Str) (v : Num)

def BPiece.txt : BPiece → Str
  | .chr txt _ => txt
  | .num txt _ => txt

def printPieces (ps : List BPiece) : Str := ps.flatMap (·.txt)

@[simp] theorem printPieces_nil : printPieces [] = [] := rfl
@[simp] theorem printPieces_cons (p : BPiece) (ps : List BPiece) :
    printPieces (p :: ps) = p.txt ++ printPieces ps := rfl

def BracketCharOk (txt : Str) (c : Char) : Prop :=
  (txt = [c] ∧ isDigit c = false ∧ c ≠ '{' ∧ c ≠ '}' ∧ c ≠ '\\' ∧ isNewline c = false)
  ∨ (∃ l, txt = ['\\', l] ∧ c = unescape l)

def PiecesOk (rest : Str) : List BPiece → Prop
  | [] => True
  | .chr txt c :: ps => BracketCharOk txt c ∧ PiecesOk rest ps
  | .num txt v :: ps => NumberAt txt (printPieces ps ++ '}' :: rest) v ∧ PiecesOk rest ps

def toItems (off : Nat) : List BPiece → List BracketedItem
  | [] => []
  | .chr txt c :: ps => .chr off c :: toItems (off + txt.length) ps
  | .num txt v :: ps => .num off v :: toItems (off + txt.length) ps

theorem bracketedItem_chr {txt : Str} {c : Char} (hok : BracketCharOk txt c) (rest : Str) :
    Reads bracketedItem txt rest fun i => .chr i c := by
  intro t i z
  have hnum {s : Str} (h : NextNot isDigit s) : Fails (number >>= fun x => pure (BracketedItem.num x.1 x.2)) s :=
    fun _ _ _ => .fail (number_fails h)
  rcases hok with ⟨rfl, hd, ho, hc, hb, hn⟩ | ⟨l, rfl, rfl⟩
  · exact .altRight (hnum (.cons hd)) <|
      .altRight (fun _ _ _ => .getPos <| .fail (escaped_fails (by simpa using hb))) <| .getPos <|
      .sat (by simp [hd, ho, hc, hn]) <| .pure rfl rfl
  · exact .altRight (hnum (.cons (by decide))) <| .altLeft <| .getPos <| .bind (escaped_reads l rest) <|
      .pure rfl rfl

theorem BracketCharOk.ne_nil {txt : Str} {c : Char} (hok : BracketCharOk txt c) : txt ≠ [] := by
  rcases hok with ⟨rfl, _⟩ | ⟨l, rfl, _⟩ <;> simp

theorem bracketedItem_num {txt rest : Str} {v : Num} (hn : NumberAt txt rest v) :
    Reads bracketedItem txt rest fun i => .num i v :=
  fun _ _ _ => .altLeft <| .bind hn <| .pure rfl rfl

theorem bracketedItem_fails_close (rest : Str) : Fails bracketedItem ('}' :: rest) := fun _ _ _ =>
  .altRight (fun _ _ _ => .fail (number_fails (.cons (by decide)))) <|
  .altRight (fun _ _ _ => .getPos <| .fail (escaped_fails (by simp))) <| .getPos <| .fail (fails_sat (.cons (by simp)))

theorem pieces_reads (rest : Str) : ∀ ps : List BPiece, PiecesOk rest ps →
    ReadsMany bracketedItem ('}' :: rest) (printPieces ps) fun i => toItems i ps
  | [], _ => .nil (bracketedItem_fails_close rest)
  | .chr _ _ :: ps, h => .cons h.1.ne_nil (bracketedItem_chr h.1 _) (pieces_reads rest ps h.2)
  | .num _ _ :: ps, h => .cons h.1.ne_nil (bracketedItem_num h.1) (pieces_reads rest ps h.2)

/-! ### the expected `AString`, independent of the parser

    `specGo off cur ps`: the sub-strings for the pieces `ps` whose printed text starts at offset
    `off`, where `cur` is the pending run of characters (its offset and its characters so far). -/

def flushRun : Option (Nat × Str) → AString
  | some (o, s) => if s.isEmpty then [] else [.sub o s]
  | none => []

def closeRun : Option (Nat × Str) → AString
  | some (o, s) => [.sub o s]
  | none => []

def extendRun (off : Nat) (c : Char) : Option (Nat × Str) → Nat × Str
  | some (o, s) => (o, s ++ [c])
  | none => (off, [c])

def specGo (off : Nat) (cur : Option (Nat × Str)) : List BPiece → AString
  | [] => closeRun cur
  | .chr txt c :: ps => specGo (off + txt.length) (some (extendRun off c cur)) ps
  | .num txt v :: ps => flushRun cur ++ .num off v :: specGo (off + txt.length) none ps

/-- the value of `{…}` at offset `i`: maximal runs of characters become one `.sub` each, carrying
    the offset of the first character of the run — except that a run at the very beginning carries
    the offset of the `{`; numbers become `.num` at the offset of their first digit; `{}` is one
    empty `.sub` -/
def bracketSpec (i : Nat) (ps : List BPiece) : AString := specGo (i + 1) (some (i, [])) ps

/-- the accumulator of `bracketedString` (runs of characters collected into one `.sub`, flushed at every number and
    at the end) computes `specGo`, for a run that is open (`some o`, started at `o`) and for none -/
theorem fold_eq_specGo : ∀ (ps : List BPiece) (off : Nat) (out : List SubStr),
    (∀ (seg : Str) (o : Nat),
      ((toItems off ps).foldl BracketedAcc.push ⟨out, seg, some o⟩).finish
        = out ++ specGo off (some (o, seg)) ps)
    ∧ ((toItems off ps).foldl BracketedAcc.push ⟨out, [], none⟩).finish = out ++ specGo off none ps := by
  intro ps
  induction ps with
  | nil =>
    intro off out
    exact ⟨fun seg o => rfl, by simp [toItems, BracketedAcc.finish, specGo, closeRun]⟩
  | cons p ps ih =>
    intro off out
    cases p with
    | chr txt c =>
      refine ⟨fun seg o => ?_, ?_⟩
      · simp only [toItems, List.foldl_cons, BracketedAcc.push, Option.getD_some, specGo, extendRun]
        exact (ih _ _).1 _ _
      · simp only [toItems, List.foldl_cons, BracketedAcc.push, Option.getD_none, specGo, extendRun,
          List.nil_append]
        exact (ih _ _).1 _ _
    | num txt v =>
      refine ⟨fun seg o => ?_, ?_⟩
      · simp only [toItems, List.foldl_cons, BracketedAcc.push, Option.getD_some, specGo, flushRun]
        rw [(ih _ _).2]
        cases seg <;> simp
      · simp only [toItems, List.foldl_cons, BracketedAcc.push, specGo, flushRun, List.isEmpty_nil,
          if_true]
        rw [(ih _ _).2]
        simp

/-- **bracketed strings** `"{" (interpolated_number / "\\" . / r"[^0-9{}\n\r]")* "}"` -/
theorem bracketedString_pieces {ps : List BPiece} {rest : Str} (hok : PiecesOk rest ps) :
    Reads bracketedString ('{' :: printPieces ps ++ ['}']) rest fun i => bracketSpec i ps := by
  intro t i z
  simp only [List.append_assoc, List.cons_append, List.nil_append]
  exact .getPos <| .lit <| .bind (pieces_reads rest ps hok).reads <| .lit <|
    .pure (by simp only [(fold_eq_specGo ps (i + 1) []).1 [] i]; rfl) (by simp +arith)

theorem bracketedString_fails {s : Str} (hc : s.head? ≠ some '{') : Fails bracketedString s :=
  fun _ _ _ => .getPos <| .fail (fails_lit hc)

theorem quotedString_fails {q : Char} {s : Str} (hc : s.head? ≠ some q) : Fails (quotedString q) s :=
  fun _ _ _ => .getPos <| .fail (fails_lit hc)

theorem specGo_chars (items : List (Str × Char)) : ∀ (off o : Nat) (seg : Str),
    specGo off (some (o, seg)) (items.map fun it => .chr it.1 it.2) = [.sub o (seg ++ items.map (·.2))] := by
  induction items with
  | nil => intro off o seg; simp [specGo, closeRun]
  | cons it items ih =>
    intro off o seg
    simp only [List.map_cons, specGo, extendRun, ih, List.append_assoc, List.singleton_append]

theorem printPieces_chars (items : List (Str × Char)) :
    printPieces (items.map fun it => .chr it.1 it.2) = items.flatMap (·.1) := by
  induction items with
  | nil => rfl
  | cons it items ih => simp only [List.map_cons, printPieces_cons, ih, BPiece.txt, List.flatMap_cons]

theorem piecesOk_chars {rest : Str} (items : List (Str × Char))
    (hok : ∀ it ∈ items, BracketCharOk it.1 it.2) :
    PiecesOk rest (items.map fun it => .chr it.1 it.2) := by
  induction items with
  | nil => trivial
  | cons it items ih =>
    exact ⟨hok it (by simp), ih (fun x hx => hok x (by simp [hx]))⟩

theorem bracketedString_chars {items : List (Str × Char)} (rest : Str)
    (hok : ∀ it ∈ items, BracketCharOk it.1 it.2) :
    Reads bracketedString ('{' :: items.flatMap (·.1) ++ ['}']) rest fun i => [.sub i (items.map (·.2))] := by
  have := bracketedString_pieces (rest := rest) (piecesOk_chars items hok)
  simpa [printPieces_chars, bracketSpec, specGo_chars] using this

theorem escapeChars_keys_not_digit : ∀ p ∈ Gen.escapeChars, ¬ (48 ≤ p.1 ∧ p.1 ≤ 57) := by decide

theorem unescape_of_not_key {c : Char} (h : ∀ p ∈ Gen.escapeChars, p.1 ≠ c.toNat) : unescape c = c := by
  have : Gen.escapeChars.lookup c.toNat = none := by
    rw [List.lookup_eq_none_iff]
    intro p hp
    simp only [bne_iff_ne, ne_eq]
    exact fun e => h p hp e.symm
  simp only [unescape, this]

theorem unescape_digit {c : Char} (h : isDigit c = true) : unescape c = c := by
  apply unescape_of_not_key
  intro p hp e
  simp only [isDigit, Bool.and_eq_true, decide_eq_true_eq] at h
  exact escapeChars_keys_not_digit p hp (by omega)

theorem unescape_lbrace : unescape '{' = '{' := by decide
theorem unescape_rbrace : unescape '}' = '}' := by decide

/-- the canonical spelling of one character inside braces: the characters `ESCAPE_CHARS` produces
    get their letter; braces and digits get a backslash; everything else is raw -/
def bracketItem (c : Char) : Str × Char :=
  match escLetter? c with
  | some l => (['\\', l], c)
  | none => if c = '{' ∨ c = '}' ∨ isDigit c = true then (['\\', c], c) else ([c], c)

def bracketBody (s : Str) : Str := s.flatMap (fun c => (bracketItem c).1)

theorem bracketItem_snd (c : Char) : (bracketItem c).2 = c := by
  unfold bracketItem; split
  · rfl
  · split <;> rfl

theorem bracketItem_ok (c : Char) : BracketCharOk (bracketItem c).1 (bracketItem c).2 := by
  unfold bracketItem
  split
  · next l hl => exact Or.inr ⟨l, rfl, (unescape_of_escLetter hl).symm⟩
  · next hn =>
    obtain ⟨h1, _, _, h4⟩ := escLetter_none_ne hn
    split
    · next hc =>
      refine Or.inr ⟨c, rfl, ?_⟩
      rcases hc with rfl | rfl | hd
      · exact unescape_lbrace.symm
      · exact unescape_rbrace.symm
      · exact (unescape_digit hd).symm
    · next hc =>
      simp only [not_or, Bool.not_eq_true] at hc
      exact Or.inl ⟨rfl, hc.2.2, hc.1, hc.2.1, h1, h4⟩

theorem bracketItems_fst (s : Str) : (s.map bracketItem).flatMap (·.1) = bracketBody s := by
  simp [bracketBody, List.flatMap_map]

theorem bracketItems_snd (s : Str) : (s.map bracketItem).map (·.2) = s := by
  induction s with
  | nil => rfl
  | cons c s ih => simp only [List.map_cons, bracketItem_snd, ih]

theorem bracketedString_quote (s rest : Str) :
    Reads bracketedString ('{' :: bracketBody s ++ ['}']) rest fun i => [.sub i s] := by
  have := bracketedString_chars (items := s.map bracketItem) rest (by
    intro it hit
    simp only [List.mem_map] at hit
    obtain ⟨c, _, rfl⟩ := hit
    exact bracketItem_ok c)
  rwa [bracketItems_fst, bracketItems_snd] at this

theorem bracketItem_of_not_digit {c : Char} (hd : isDigit c = false) :
    bracketItem c = match escLetter? c with
      | some l => (['\\', l], c)
      | none => if c = '{' ∨ c = '}' then (['\\', c], c) else ([c], c) := by
  unfold bracketItem
  simp [hd]

def atom (static : Bool) : P AString :=
  nakedString <|> quotedString '\'' <|> quotedString '"' <|> (if static then fail else bracketedString)

/-- the optional continuation `hsp? string` of `string` -/
def stringMore (static : Bool) (fuel : Nat) : P AString := do
  let off ← getPos
  let space ← textOf ohsp
  let more ← stringF static fuel
  pure (if space.isEmpty then more else .sub off space :: more)

theorem stringF_succ (static : Bool) (fuel : Nat) : stringF static (fuel + 1) = (do
    let first ← atom static
    let rest ← opt (stringMore static fuel)
    pure (first ++ rest.getD [])) := rfl

theorem mono_remaining : Mono remaining := by
  intro t s b s' e; simp only [remaining_apply, Option.some.injEq, Prod.mk.injEq] at e; rw [e.2]; exact Nat.le_refl _

theorem mono_manyF {α} {p : P α} (hp : Mono p) : ∀ fuel, Mono (manyF p fuel) := by
  intro fuel
  induction fuel with
  | zero => exact mono_pure _
  | succ f ih =>
    exact mono_orElse (mono_bind hp fun _ => mono_bind ih fun _ => mono_pure _) (mono_pure _)

theorem mono_many {α} {p : P α} (hp : Mono p) : Mono (many p) :=
  mono_bind mono_remaining fun n => mono_manyF hp n

theorem trimBack_ge (p : Char → Bool) (t : Array Char) (lo : Nat) : ∀ k, lo ≤ trimBack p t lo k
  | 0 => Nat.le_refl _
  | k + 1 => by
    rcases Nat.lt_or_ge k lo with h | h
    · rw [trimBack_of_le p t lo _ h]
      exact Nat.le_refl _
    · rw [trimBack_succ p t h]
      split
      · omega
      · exact trimBack_ge p t lo k

theorem trimBack_le (p : Char → Bool) (t : Array Char) (lo : Nat) : ∀ k, lo ≤ k → trimBack p t lo k ≤ k
  | 0, h => h
  | k + 1, h => by
    rcases Nat.lt_or_ge k lo with h' | h'
    · rw [trimBack_of_le p t lo _ h']
      exact h
    · rw [trimBack_succ p t h']
      split
      · exact Nat.le_refl _
      · exact Nat.le_succ_of_le (trimBack_le p t lo k h')

theorem mono_nakedTail : Mono nakedTail := by
  intro t s a s' e
  simp only [nakedTail, Option.some.injEq, Prod.mk.injEq] at e
  rw [← e.2]
  exact trimBack_ge _ _ _ _

theorem adv_nakedString : Adv nakedString := by
  rw [nakedString_eq]
  refine adv_bind_right mono_getPos fun off => adv_bind_left (adv_withText ?_) fun r => ?_
  · exact adv_bind_left (adv_sat _) fun _ => mono_nakedTail
  · obtain ⟨_, text⟩ := r; exact mono_pure _

theorem adv_escaped : Adv escaped :=
  adv_bind_left (adv_lit _) fun _ => mono_bind (adv_sat _).mono fun _ => mono_pure _

theorem adv_quotedString (q : Char) : Adv (quotedString q) := by
  unfold quotedString
  refine adv_bind_right mono_getPos fun off => adv_bind_left (adv_lit q) fun _ => ?_
  refine mono_bind (mono_many (adv_orElse adv_escaped (adv_sat _)).mono) fun body => ?_
  exact mono_bind (adv_lit q).mono fun _ => mono_pure _

theorem adv_bracketedItem : Adv bracketedItem := by
  unfold bracketedItem
  refine adv_orElse ?_ (adv_orElse ?_ ?_)
  · exact adv_bind_left adv_number fun r => by obtain ⟨off, n⟩ := r; exact mono_pure _
  · exact adv_bind_right mono_getPos fun off => adv_bind_left adv_escaped fun _ => mono_pure _
  · exact adv_bind_right mono_getPos fun off => adv_bind_left (adv_sat _) fun _ => mono_pure _

theorem adv_bracketedString : Adv bracketedString := by
  unfold bracketedString
  refine adv_bind_right mono_getPos fun off => adv_bind_left (adv_lit _) fun _ => ?_
  refine mono_bind (mono_many adv_bracketedItem.mono) fun body => ?_
  exact mono_bind (adv_lit _).mono fun _ => mono_pure _

theorem adv_atom (static : Bool) : Adv (atom static) := by
  unfold atom
  refine adv_orElse adv_nakedString (adv_orElse (adv_quotedString _) (adv_orElse (adv_quotedString _) ?_))
  cases static
  · exact adv_bracketedString
  · exact adv_fail

def NeedsChar {α} (p : P α) : Prop := ∀ t s r, p t s = some r → s.pos < t.size

theorem needs_sat (p : Char → Bool) : NeedsChar (sat p) := by
  intro t s r e
  simp only [sat] at e
  split at e
  · next c hc =>
    rcases Nat.lt_or_ge s.pos t.size with h | h
    · exact h
    · rw [Array.getElem?_eq_none h] at hc; cases hc
  · cases e

theorem needs_fail {α} : NeedsChar (fail : P α) := by intro t s r e; cases e

theorem needs_bind {α β} {m : P α} {f : α → P β} (hm : NeedsChar m) : NeedsChar (m >>= f) := by
  intro t s r e
  obtain ⟨b, s'⟩ := r
  obtain ⟨a, s1, e1, _⟩ := bind_some e
  exact hm _ _ _ e1

theorem needs_getPos_bind {β} {f : Nat → P β} (hf : ∀ a, NeedsChar (f a)) : NeedsChar (getPos >>= f) := by
  intro t s r e
  rw [bind_apply, getPos_apply] at e
  exact hf _ _ _ _ e

theorem needs_orElse {α} {p q : P α} (hp : NeedsChar p) (hq : NeedsChar q) : NeedsChar (p <|> q) := by
  intro t s r e
  rw [orElse_apply] at e
  cases h : p t s with
  | none => rw [h] at e; exact hq _ _ _ e
  | some r' => exact hp _ _ _ h

theorem needs_withText {α} {p : P α} (hp : NeedsChar p) : NeedsChar (withText p) := by
  intro t s r e
  obtain ⟨b, s'⟩ := r
  obtain ⟨a, h⟩ := withText_some e
  exact hp _ _ _ h

theorem needs_lit (c : Char) : NeedsChar (lit c) := needs_bind (needs_sat _)

theorem needs_atom (static : Bool) : NeedsChar (atom static) := by
  unfold atom
  refine needs_orElse ?_ (needs_orElse ?_ (needs_orElse ?_ ?_))
  · rw [nakedString_eq]
    exact needs_getPos_bind fun _ => needs_bind (needs_withText (needs_bind (needs_sat _)))
  · exact needs_getPos_bind fun _ => needs_bind (needs_lit _)
  · exact needs_getPos_bind fun _ => needs_bind (needs_lit _)
  · cases static
    · exact needs_getPos_bind fun _ => needs_bind (needs_lit _)
    · exact needs_fail

/-- no atom of `string` can start with `c`: `c` is a space or a special character other than a
    quote and (unless `static`) the opening brace -/
def NoAtomStart (static : Bool) (c : Char) : Prop :=
  isNakedEdge c = false ∧ c ≠ '\'' ∧ c ≠ '"' ∧ (static = false → c ≠ '{')

theorem atom_fails_of_head {static : Bool} {s : Str} (hc : ∀ c, s.head? = some c → NoAtomStart static c) :
    Fails (atom static) s := by
  have h1 := nakedString_fails fun c hs => (hc c hs).1
  have h2 := quotedString_fails (q := '\'') fun hs => (hc _ hs).2.1 rfl
  have h3 := quotedString_fails (q := '"') fun hs => (hc _ hs).2.2.1 rfl
  cases static with
  | true => exact fun _ _ _ => .altRight h1 <| .altRight h2 <| .altRight h3 fun _ => rfl
  | false =>
    exact fun _ _ _ => .altRight h1 <| .altRight h2 <| .altRight h3 <|
      bracketedString_fails (fun hs => (hc _ hs).2.2.2 rfl rfl) _ _ _

theorem stringF_fail_of_head {static : Bool} {t : Array Char} {i : Nat} {s : Str} (z : Bool)
    (h : t.toList.drop i = s) (hc : ∀ c, s.head? = some c → NoAtomStart static c) (fuel : Nat) :
    stringF static fuel t ⟨i, z⟩ = none := by
  cases fuel with
  | zero => rfl
  | succ f => simp only [stringF_succ, bind_apply, atom_fails_of_head hc t i z h]

def StringEnd (static : Bool) (s : Str) : Prop :=
  ∃ bl r, s = bl ++ r ∧ (∀ c ∈ bl, isHsp c = true) ∧
    ∀ c, r.head? = some c → isHsp c = false ∧ NoAtomStart static c

theorem stringMore_fail {static : Bool} {t : Array Char} {j : Nat} {s : Str} (z : Bool)
    (h : t.toList.drop j = s) (hend : StringEnd static s) (fuel : Nat) :
    stringMore static fuel t ⟨j, z⟩ = none := by
  obtain ⟨bl, r, rfl, hbl, hr⟩ := hend
  have h1 := textOf_of z h (reads_ohsp hbl (fun c hc => (hr c hc).1) t j z h)
  have h2 := stringF_fail_of_head z (drop_add_of_drop h) (fun c hc => (hr c hc).2) fuel
  simp only [stringMore, bind_apply, getPos_apply, h1, h2]

theorem stringMore_of {static : Bool} {t : Array Char} {j k : Nat} {bl r : Str} {more : AString}
    (z : Bool) (h : t.toList.drop j = bl ++ r) (hbl : IsBlanks bl)
    (hr : NextNot isHsp r) {fuel : Nat}
    (hm : stringF static fuel t ⟨j + bl.length, z⟩ = some (more, ⟨k, z⟩)) :
    stringMore static fuel t ⟨j, z⟩
      = some (if bl.isEmpty then more else .sub j bl :: more, ⟨k, z⟩) := by
  have h1 := textOf_of z h (reads_ohsp hbl hr t j z h)
  simp only [stringMore, bind_apply, getPos_apply, h1, hm]
  rfl

/-- `Atoms static t z i a k`: from offset `i` to offset `k` the text is a sequence of atoms,
    separated by optional blanks and followed by something that ends the `string`, whose value is `a` -/
inductive Atoms (static : Bool) (t : Array Char) (z : Bool) : Nat → AString → Nat → Prop
  | last {i j : Nat} {a : AString} {s : Str} :
      atom static t ⟨i, z⟩ = some (a, ⟨j, z⟩) →
      t.toList.drop j = s → StringEnd static s → Atoms static t z i a j
  | cons {i j k : Nat} {a more : AString} {bl r : Str} :
      atom static t ⟨i, z⟩ = some (a, ⟨j, z⟩) →
      t.toList.drop j = bl ++ r → (∀ c ∈ bl, isHsp c = true) →
      (∀ c, r.head? = some c → isHsp c = false) →
      Atoms static t z (j + bl.length) more k →
      Atoms static t z i (a ++ if bl.isEmpty then more else .sub j bl :: more) k

theorem Atoms.bounds {static : Bool} {t : Array Char} {z : Bool} {i k : Nat} {a : AString}
    (h : Atoms static t z i a k) : i < k ∧ i < t.size := by
  induction h with
  | last ha _ _ => exact ⟨adv_atom _ _ _ _ _ ha, needs_atom _ _ _ _ ha⟩
  | @cons i j k _ _ bl _ ha _ _ _ _ ih =>
    have h1 : i < j := adv_atom _ _ _ _ _ ha
    have h2 : j + bl.length < k := ih.1
    exact ⟨by omega, needs_atom _ _ _ _ ha⟩

theorem stringF_of_atoms {static : Bool} {t : Array Char} {z : Bool} {i k : Nat} {a : AString}
    (h : Atoms static t z i a k) :
    ∀ fuel, t.size - i < fuel → stringF static fuel t ⟨i, z⟩ = some (a, ⟨k, z⟩) := by
  induction h with
  | last ha hs hend =>
    intro fuel hf
    cases fuel with
    | zero => omega
    | succ f =>
      have ho := opt_of_none (stringMore_fail z hs hend f)
      simp only [stringF_succ, bind_apply, ha, ho, Option.getD_none, List.append_nil]
      rfl
  | @cons i j k a more bl r ha hs hbl hr hrest ih =>
    intro fuel hf
    have := hrest.bounds
    have := adv_atom _ _ _ _ _ ha
    simp only at this
    cases fuel with
    | zero => omega
    | succ f =>
      have hm := ih f (by omega)
      have ho := opt_of_some (stringMore_of z hs hbl hr hm)
      simp only [stringF_succ, bind_apply, ha, ho, Option.getD_some]
      rfl

theorem string_of_atoms {static : Bool} {t : Array Char} {z : Bool} {i k : Nat} {a : AString}
    (h : Atoms static t z i a k) : string static t ⟨i, z⟩ = some (a, ⟨k, z⟩) := by
  simp only [string, bind_apply, remaining_apply]
  exact stringF_of_atoms h _ (by omega)

theorem noAtomStart_of_isReSpace {static : Bool} {c : Char} (h : isReSpace c = true) :
    NoAtomStart static c := by
  refine ⟨isNakedEdge_of_isReSpace h, ?_, ?_, fun _ => ?_⟩ <;>
    (rintro rfl; exact absurd h (by decide))

/-- `c` stops a naked string and starts no atom: a newline, one of `,:=/()}`, or (for a static
    string) `{` -/
def StopChar (static : Bool) (c : Char) : Prop :=
  isNakedInner c = false ∧ c ≠ '\'' ∧ c ≠ '"' ∧ (static = false → c ≠ '{')

theorem isNakedEdge_of_not_inner {c : Char} (h : isNakedInner c = false) : isNakedEdge c = false :=
  Bool.eq_false_iff.mpr fun he => by rw [isNakedInner_of_isNakedEdge he] at h; cases h

theorem isHsp_of_not_inner {c : Char} (h : isNakedInner c = false) : isHsp c = false :=
  Bool.eq_false_iff.mpr fun hh => by
    rw [isNakedInner_of_blank (isReSpace_of_isHsp hh) (isNewline_of_isHsp hh)] at h; cases h

theorem StopChar.noAtomStart {static : Bool} {c : Char} (h : StopChar static c) : NoAtomStart static c :=
  ⟨isNakedEdge_of_not_inner h.1, h.2⟩

theorem stopChar_of_mem {static : Bool} {c : Char} (h : c ∈ [',', ':', '=', '/', '(', ')', '}']) :
    StopChar static c := by
  simp only [List.mem_cons, List.not_mem_nil, or_false] at h
  rcases h with rfl | rfl | rfl | rfl | rfl | rfl | rfl <;>
    exact ⟨by decide, by decide, by decide, fun _ => by decide⟩

theorem stopChar_of_isNewline {static : Bool} {c : Char} (h : isNewline c = true) : StopChar static c := by
  simp only [isNewline, Bool.or_eq_true, beq_iff_eq] at h
  rcases h with rfl | rfl <;> exact ⟨by decide, by decide, by decide, fun _ => by decide⟩

theorem stopChar_lbrace_static : StopChar true '{' := ⟨by decide, by decide, by decide, fun h => by cases h⟩

theorem stringEnd_nil (static : Bool) : StringEnd static [] :=
  ⟨[], [], rfl, by simp, by simp⟩

theorem stringEnd_of_stop {static : Bool} {ws rest : Str} (hws : IsSpaces ws)
    (hrest : ∀ c, rest.head? = some c → StopChar static c) : StringEnd static (ws ++ rest) :=
  AfterRun.blanks (A := fun c => isReSpace c = true) ⟨ws, rest, rfl, hws, hrest⟩
    (fun _ hc _ => noAtomStart_of_isReSpace hc) fun _ hc => ⟨isHsp_of_not_inner hc.1, hc.noAtomStart⟩

theorem atom_naked {static : Bool} {txt ws rest : Str} (hn : NakedText txt)
    (hws : ∀ c ∈ ws, isReSpace c = true ∧ isNewline c = false) (hrest : NextNot isNakedInner rest) :
    Reads (atom static) txt (ws ++ rest) fun i => [.sub i txt] :=
  (nakedString_reads hn hws hrest).orElse

theorem isNakedEdge_squote : isNakedEdge '\'' = false := by decide
theorem isNakedEdge_dquote : isNakedEdge '"' = false := by decide
theorem isNakedEdge_lbrace : isNakedEdge '{' = false := by decide

theorem atom_quoted {static : Bool} {q : Char} (hq : q = '\'' ∨ q = '"') {xs rest : Str} {a : Nat → AString}
    (h : Reads (quotedString q) (q :: xs) rest a) : Reads (atom static) (q :: xs) rest a := by
  rcases hq with rfl | rfl
  · exact .orElse_right (nakedString_fails (.cons isNakedEdge_squote)) h.orElse
  · exact .orElse_right (nakedString_fails (.cons isNakedEdge_dquote))
      (.orElse_right (quotedString_fails (by simp)) h.orElse)

theorem atom_bracketed {xs rest : Str} {a : Nat → AString} (h : Reads bracketedString ('{' :: xs) rest a) :
    Reads (atom false) ('{' :: xs) rest a :=
  .orElse_right (nakedString_fails (.cons isNakedEdge_lbrace)) <|
    .orElse_right (quotedString_fails (by simp)) <| .orElse_right (quotedString_fails (by simp)) h

theorem atom_static_fail_lbrace {t : Array Char} {i : Nat} {rest' : Str} (z : Bool)
    (h : t.toList.drop i = '{' :: rest') : atom true t ⟨i, z⟩ = none :=
  atom_fails_of_head (forall_head_cons stopChar_lbrace_static.noAtomStart) t i z h

/-- definitionally `Reads (string static) txt rest val` -/
def StringAt (static : Bool) (txt rest : Str) (val : Nat → AString) : Prop :=
  ∀ (t : Array Char) (i : Nat) (z : Bool), t.toList.drop i = txt ++ rest →
    string static t ⟨i, z⟩ = some (val i, ⟨i + txt.length, z⟩)

theorem StringAt.reads {static : Bool} {txt rest : Str} {val : Nat → AString} (h : StringAt static txt rest val) :
    Reads (string static) txt rest val := h

theorem stringAt_of_atoms {static : Bool} {txt rest : Str} {val : Nat → AString}
    (h : ∀ (t : Array Char) (i : Nat) (z : Bool), t.toList.drop i = txt ++ rest →
      Atoms static t z i (val i) (i + txt.length)) : StringAt static txt rest val :=
  fun t i z ht => string_of_atoms (h t i z ht)

/-- `Atoms` on a text: wherever a text goes on with `txt ++ rest`, `txt` is a sequence of atoms with the value `val off`
    at offset `off`, and `rest` ends the `string` (what `stringAt_of_atoms` asks for) -/
def AtomsAt (static : Bool) (txt rest : Str) (val : Nat → AString) : Prop :=
  ∀ (t : Array Char) (i : Nat) (z : Bool), t.toList.drop i = txt ++ rest →
    Atoms static t z i (val i) (i + txt.length)

theorem AtomsAt.last {static : Bool} {txt rest : Str} {a : Nat → AString} (ha : Reads (atom static) txt rest a)
    (hend : StringEnd static rest) : AtomsAt static txt rest a :=
  fun t i z ht => .last (ha t i z ht) (drop_add_of_drop ht) hend

theorem AtomsAt.cons {static : Bool} {atxt bl ntxt rest : Str} {aval nval : Nat → AString}
    (ha : Reads (atom static) atxt (bl ++ (ntxt ++ rest)) aval) (hbl : IsBlanks bl)
    (hr : NextNot isHsp (ntxt ++ rest)) (hn : AtomsAt static ntxt rest nval) :
    AtomsAt static (atxt ++ (bl ++ ntxt)) rest fun i =>
      aval i ++ if bl.isEmpty then nval (i + atxt.length + bl.length)
        else .sub (i + atxt.length) bl :: nval (i + atxt.length + bl.length) := by
  intro t i z ht
  simp only [List.append_assoc] at ht
  have h1 := drop_add_of_drop ht
  rw [List.length_append, List.length_append, ← Nat.add_assoc, ← Nat.add_assoc]
  exact .cons (ha t i z ht) h1 hbl hr (hn t _ z (drop_add_of_drop h1))

theorem stringAt_of_atom {static : Bool} {txt rest : Str} {a : Nat → AString} (ha : Reads (atom static) txt rest a)
    (hend : StringEnd static rest) : StringAt static txt rest a :=
  stringAt_of_atoms (AtomsAt.last ha hend)

theorem stringAt_naked {static : Bool} {txt ws rest : Str} (hn : NakedText txt)
    (hws : ∀ c ∈ ws, isReSpace c = true ∧ isNewline c = false)
    (hrest : ∀ c, rest.head? = some c → StopChar static c) :
    StringAt static txt (ws ++ rest) (fun i => [.sub i txt]) :=
  stringAt_of_atom (atom_naked hn hws fun c hc => (hrest c hc).1)
    (stringEnd_of_stop (fun c hc => (hws c hc).1) hrest)

theorem stringAt_quote {static : Bool} {q : Char} (hq : q = '\'' ∨ q = '"') (s : Str) {rest : Str}
    (hend : StringEnd static rest) :
    StringAt static (q :: quoteBody s ++ [q]) rest (fun i => [.sub i s]) :=
  stringAt_of_atom (atom_quoted hq (quotedString_quote hq s rest)) hend

theorem string_bracketed {t : Array Char} {i : Nat} {ps : List BPiece} {rest : Str} (z : Bool)
    (h : t.toList.drop i = '{' :: printPieces ps ++ '}' :: rest) (hok : PiecesOk rest ps)
    (hend : StringEnd false rest) :
    string false t ⟨i, z⟩ =
      some (bracketSpec i ps, ⟨i + ('{' :: printPieces ps ++ ['}']).length, z⟩) :=
  stringAt_of_atom (atom_bracketed (bracketedString_pieces hok)) hend t i z (by simpa using h)

theorem stringAt_bracket_quote (s : Str) {rest : Str} (hend : StringEnd false rest) :
    StringAt false ('{' :: bracketBody s ++ ['}']) rest (fun i => [.sub i s]) :=
  stringAt_of_atom (atom_bracketed (bracketedString_quote s rest)) hend

theorem string_fails_of_head {static : Bool} {s : Str} (hc : ∀ c, s.head? = some c → NoAtomStart static c) :
    Fails (string static) s := fun _ _ z ht => by
  simp only [string, bind_apply, remaining_apply, stringF_fail_of_head z ht hc]

theorem StringAt.head {static : Bool} {txt rest : Str} {val : Nat → AString} (h : StringAt static txt rest val) :
    ∃ c, (txt ++ rest).head? = some c ∧ ¬ NoAtomStart static c :=
  Reads.head h fun _ hq => string_fails_of_head hq

theorem StringAt.head_not_space {static : Bool} {txt rest : Str} {val : Nat → AString}
    (h : StringAt static txt rest val) : NextNot isReSpace (txt ++ rest) := by
  obtain ⟨d, hd, hn⟩ := h.head
  intro c hc
  have e : d = c := by rw [hd] at hc; exact Option.some.inj hc
  subst e
  cases hs : isReSpace d with
  | false => rfl
  | true => exact absurd (noAtomStart_of_isReSpace hs) hn

theorem StringAt.head_not_hsp {static : Bool} {txt rest : Str} {val : Nat → AString}
    (h : StringAt static txt rest val) : NextNot isHsp (txt ++ rest) := by
  intro c hc
  cases hh : isHsp c with
  | false => rfl
  | true => exact absurd (h.head_not_space c hc) (by rw [isReSpace_of_isHsp hh]; simp)

theorem mono_stringF (static : Bool) : ∀ fuel, Mono (stringF static fuel) := by
  intro fuel
  induction fuel with
  | zero => exact adv_fail.mono
  | succ f ih =>
    rw [stringF_succ]
    refine mono_bind (adv_atom static).mono fun first => mono_bind (mono_opt ?_) fun _ => mono_pure _
    exact mono_bind mono_getPos fun _ => mono_bind (mono_textOf (mono_skipMany _)) fun _ =>
      mono_bind ih fun _ => mono_pure _

theorem mono_string (static : Bool) : Mono (string static) :=
  mono_bind mono_remaining fun _ => mono_stringF static _

theorem needs_string (static : Bool) : NeedsChar (string static) := by
  intro t s r h
  simp only [string, bind_apply, remaining_apply] at h
  rw [stringF_succ] at h
  exact needs_bind (needs_atom static) _ _ _ h

theorem adv_stringF (static : Bool) : ∀ fuel, Adv (stringF static fuel)
  | 0 => adv_fail
  | f + 1 => by
    rw [stringF_succ]
    refine adv_bind_left (adv_atom static) fun first => mono_bind (mono_opt ?_) fun _ => mono_pure _
    exact mono_bind mono_getPos fun _ => mono_bind (mono_textOf (mono_skipMany _)) fun _ =>
      mono_bind (mono_stringF static f) fun _ => mono_pure _

theorem adv_string (static : Bool) : Adv (string static) :=
  adv_bind_right mono_remaining fun _ => adv_stringF static _

theorem StringAt.ne_nil {static : Bool} {txt rest : Str} {val : Nat → AString}
    (h : StringAt static txt rest val) : txt ≠ [] := by
  rintro rfl
  have h1 := h rest.toArray 0 false (by simp)
  have := adv_string static _ _ _ _ h1
  simp at this

theorem isHsp_of_isNakedEdge {c : Char} (h : isNakedEdge c = true) : isHsp c = false :=
  Bool.eq_false_iff.mpr fun hh => by rw [isNakedEdge_of_isReSpace (isReSpace_of_isHsp hh)] at h; cases h

theorem isHsp_of_atom_start {c : Char} (h : isNakedEdge c = true ∨ c = '\'' ∨ c = '"' ∨ c = '{') :
    isHsp c = false := by
  rcases h with h | rfl | rfl | rfl
  · exact isHsp_of_isNakedEdge h
  all_goals decide

example : quotedString '\'' "'it\\'s'".toList.toArray ⟨0, false⟩
    = some ([.sub 0 "it's".toList], ⟨7, false⟩) := by decide +kernel
example : quotedString '"' "\"a\\nb\\q\" x".toList.toArray ⟨0, false⟩
    = some ([.sub 0 ['a', '\n', 'b', 'q']], ⟨8, false⟩) := by decide +kernel
example : nakedString "ab c \t, d".toList.toArray ⟨0, false⟩
    = some ([.sub 0 "ab c".toList], ⟨4, false⟩) := by decide +kernel
example : bracketedString "{a\\{b}".toList.toArray ⟨0, false⟩
    = some ([.sub 0 "a{b".toList], ⟨6, false⟩) := by decide +kernel
example : bracketedString "{}".toList.toArray ⟨0, false⟩ = some ([.sub 0 []], ⟨2, false⟩) := by
  decide +kernel
example : string false "x 'y'{z} ,".toList.toArray ⟨0, false⟩
    = some ([.sub 0 ['x'], .sub 1 [' '], .sub 2 ['y'], .sub 5 ['z']], ⟨8, false⟩) := by decide +kernel
example : string true "x{z}".toList.toArray ⟨0, false⟩ = some ([.sub 0 ['x']], ⟨1, false⟩) := by
  decide +kernel

example : quoteBody "it's\n".toList = "it\\'s\\n".toList := by decide +kernel
example : bracketBody "a{1}\n".toList = "a\\{\\1\\}\\n".toList := by decide +kernel

example (v w : Num) :
    bracketSpec 10 [.chr ['a'] 'a', .chr ['\\', 'n'] '\n', .num ['1', '2'] v, .chr ['b'] 'b',
      .chr ['c'] 'c', .num ['3'] w]
    = [.sub 10 ['a', '\n'], .num 14 v, .sub 16 ['b', 'c'], .num 18 w] := rfl
example (v : Num) : bracketSpec 10 [.num ['1', '2'] v, .chr ['b'] 'b'] = [.num 11 v, .sub 13 ['b']] := rfl
example (v w : Num) : bracketSpec 10 [.num ['1'] v, .num ['2'] w] = [.num 11 v, .num 12 w] := rfl
example : bracketSpec 10 [] = [.sub 10 []] := rfl

example : string false "'it\\'s' ,".toList.toArray ⟨0, false⟩
    = some ([.sub 0 "it's".toList], ⟨0 + 7, false⟩) :=
  stringAt_quote (Or.inl rfl) "it's".toList (stringEnd_of_stop (ws := [' ']) (rest := [',']) (by decide)
    (forall_head_cons (stopChar_of_mem (by decide)))) _ 0 false (by decide +kernel)

example : string true "ab c \t".toList.toArray ⟨0, false⟩ = some ([.sub 0 "ab c".toList], ⟨0 + 4, false⟩) :=
  stringAt_of_atom
    (atom_naked (txt := "ab c".toList) (ws := " \t".toList) (rest := [])
      ⟨by decide, by decide, by decide, by decide⟩ (by decide) .nil)
    (stringEnd_of_stop (ws := " \t".toList) (rest := []) (by decide) (by simp)) _ 0 false (by decide +kernel)

example : bracketedString "{a12b}".toList.toArray ⟨0, false⟩
    = some ([.sub 0 ['a'], .num 2 ⟨((12 : Nat) : Rat), .int⟩, .sub 4 ['b']], ⟨0 + 6, false⟩) :=
  bracketedString_pieces (rest := [])
    (ps := [.chr ['a'] 'a', .num ['1', '2'] ⟨((natOfDigits ['1', '2'] : Nat) : Rat), .int⟩, .chr ['b'] 'b'])
    ⟨Or.inl (by decide), numberAt_digits (by decide) (by decide) (by decide), Or.inl (by decide), trivial⟩
    _ 0 false (by decide +kernel)

example : string false "{x\\}\\1}".toList.toArray ⟨0, false⟩ = some ([.sub 0 "x}1".toList], ⟨0 + 7, false⟩) :=
  stringAt_bracket_quote "x}1".toList (stringEnd_nil _) _ 0 false (by decide +kernel)

example : string false "x 'y'".toList.toArray ⟨0, false⟩
    = some ([.sub 0 ['x'], .sub 1 [' '], .sub 2 ['y']], ⟨5, false⟩) :=
  string_of_atoms
    (Atoms.cons (bl := [' ']) (r := "'y'".toList)
      (atom_naked (txt := ['x']) (ws := [' ']) (rest := "'y'".toList)
        ⟨by decide, by decide, by decide, by decide⟩ (by decide) (.cons (by decide)) _ 0 false (by decide +kernel))
      (by decide +kernel) (by decide) (by decide)
      (Atoms.last (s := [])
        (atom_quoted (Or.inl rfl) (quotedString_quote (Or.inl rfl) ['y'] []) _ 2 false (by decide +kernel))
        (by decide +kernel) (stringEnd_nil _)))

end Parser
end RG
