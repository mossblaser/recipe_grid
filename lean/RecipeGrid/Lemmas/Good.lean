import RecipeGrid.Lemmas.Recipe
import RecipeGrid.Props.C03
/-! Trees as the constructors leave them and without floats (`Tree.Good`), and Python's `==` between such trees under
    scaling by an exact non-zero factor (`Tree.beq_scale`).  Nothing here depends on the linter or on the compiler:
    `Lemmas/Lint.lean` and `Lemmas/Scale.lean` both build on it.

    "Normal and exact" is said twice on purpose: declaratively in the statements of `Props/C03.lean` (`SvsNormal`, `TreeNormal`,
    `Exact`: what a reader checks against `scaled_value_string.py`), and by recursion here (`Svs.Normal` of `Lemmas/Recipe.lean`,
    `SvsGood`, `Tree.Good`: what an induction over a tree can use).  `Svs.normal_iff`, `svsGood_of` and `Tree.good_of` lead from the
    first to the second; the lemmas of `Lemmas/Lint.lean` are stated over the second, and `Props/C20.lean` re-states the
    results over the first.  (`Tree.GoodP P` of `Lemmas/Scale.lean` adds "quantities in the pool `P`".) -/
namespace RG

def Part.Exact : Part → Prop
  | .text _ => True
  | .num n => n.kind ≠ .flt
def SvsGood (s : SVS) : Prop := Svs.Normal s ∧ ∀ p ∈ s, Part.Exact p
def OptQExact (q : Option Quantity) : Prop := ∀ x, q = some x → x.value.kind ≠ .flt
def Amount.Exact : Amount → Prop
  | .quantity q => q.value.kind ≠ .flt
  | _ => True

mutual
def Tree.Good : Tree → Prop
  | .ingredient d q => SvsGood d ∧ OptQExact q
  | .step d i => SvsGood d ∧ Tree.GoodList i
  | .reference s _ a => Tree.Good s ∧ a.Exact
  | .sub b ns _ => Tree.Good b ∧ ∀ n ∈ ns, SvsGood n
def Tree.GoodList : List Tree → Prop
  | [] => True
  | t :: ts => Tree.Good t ∧ Tree.GoodList ts
end

theorem svsGood_of (s : SVS) (hn : C03.SvsNormal s) (he : ∀ n ∈ C03.svsNums s, n.kind ≠ .flt) : SvsGood s := by
  refine ⟨(Svs.normal_iff s).2 hn, ?_⟩
  intro p hp
  cases p with
  | text t => trivial
  | num n => exact he n ((Svs.num_mem_iff n s).1 hp)

mutual
theorem Tree.good_of : ∀ t : Tree, C03.TreeNormal t → (∀ n ∈ C03.nums t, n.kind ≠ .flt) → Tree.Good t
  | .ingredient d q, hn, he => by
    simp only [C03.TreeNormal] at hn
    simp only [C03.nums, List.mem_append] at he
    refine ⟨svsGood_of d hn (fun n h => he n (Or.inl h)), ?_⟩
    intro x hx
    subst hx
    exact he _ (Or.inr (by simp))
  | .step d i, hn, he => by
    simp only [C03.TreeNormal] at hn
    simp only [C03.nums, List.mem_append] at he
    exact ⟨svsGood_of d hn.1 (fun n h => he n (Or.inl h)), Tree.goodList_of i hn.2 (fun n h => he n (Or.inr h))⟩
  | .reference s n a, hn, he => by
    simp only [C03.TreeNormal] at hn
    simp only [C03.nums, List.mem_append] at he
    refine ⟨Tree.good_of s hn (fun n h => he n (Or.inl h)), ?_⟩
    cases a with
    | quantity q => exact he _ (Or.inr (by simp))
    | proportion v p w pr => trivial
  | .sub b ns sh, hn, he => by
    simp only [C03.TreeNormal] at hn
    simp only [C03.nums, List.mem_append, List.mem_flatMap] at he
    refine ⟨Tree.good_of b hn.1 (fun n h => he n (Or.inl h)), ?_⟩
    intro m hm
    exact svsGood_of m (hn.2 m hm) (fun n h => he n (Or.inr ⟨m, hm, h⟩))
theorem Tree.goodList_of : ∀ ts : List Tree, C03.TreeNormalList ts → (∀ n ∈ C03.numsList ts, n.kind ≠ .flt) →
    Tree.GoodList ts
  | [], _, _ => trivial
  | t :: ts, hn, he => by
    simp only [C03.TreeNormalList] at hn
    simp only [C03.numsList, List.mem_append] at he
    exact ⟨Tree.good_of t hn.1 (fun n h => he n (Or.inl h)), Tree.goodList_of ts hn.2 (fun n h => he n (Or.inr h))⟩
end

theorem Tree.goodList_iff : ∀ ts : List Tree, Tree.GoodList ts ↔ ∀ t ∈ ts, Tree.Good t
  | [] => by simp [Tree.GoodList]
  | t :: ts => by simp [Tree.GoodList, Tree.goodList_iff ts]

theorem Quantity.scale_val {q : Quantity} {k : Num} (hq : q.value.kind ≠ .flt) (hk : k.kind ≠ .flt) :
    (q.scale k).value.val = q.value.val * k.val := Num.mul_val_exact hq hk

theorem Quantity.scale_exact {q : Quantity} {k : Num} (hq : q.value.kind ≠ .flt) (hk : k.kind ≠ .flt) :
    (q.scale k).value.kind ≠ .flt := Num.mul_kind_exact hq hk

theorem Num.beq_mul {n m k : Num} (hn : n.kind ≠ .flt) (hm : m.kind ≠ .flt) (hk : k.kind ≠ .flt)
    (hk0 : k.val ≠ 0) : (n.mul k == m.mul k) = (n == m) := by
  rw [Num.beq_def, Num.beq_def, Num.mul_val_exact hn hk, Num.mul_val_exact hm hk, Bool.eq_iff_iff]
  simp only [beq_iff_eq]
  exact ⟨fun h => by grind, fun h => by rw [h]⟩

theorem Part.beq_scalePart {k : Num} (hk : k.kind ≠ .flt) (hk0 : k.val ≠ 0) {p q : Part}
    (hp : p.Exact) (hq : q.Exact) : (Svs.scalePart k p == Svs.scalePart k q) = (p == q) := by
  cases p <;> cases q <;> simp only [Part.beq_def, Part.beq, Svs.scalePart]
  exact Num.beq_mul hp hq hk hk0

theorem List.map_beq_map {α} [BEq α] (f : α → α) : ∀ (l l' : List α),
    (∀ a ∈ l, ∀ b ∈ l', (f a == f b) = (a == b)) → (l.map f == l'.map f) = (l == l')
  | [], [], _ => rfl
  | [], _ :: _, _ => rfl
  | _ :: _, [], _ => rfl
  | a :: l, b :: l', h => by
    have ih := List.map_beq_map f l l' (fun x hx y hy => h x (List.mem_cons_of_mem _ hx) y (List.mem_cons_of_mem _ hy))
    have h0 := h a List.mem_cons_self b List.mem_cons_self
    show List.beq _ _ = List.beq _ _
    simp only [List.map_cons, List.beq]
    rw [h0]
    congr 1

theorem Svs.beq_scale {k : Num} (hk : k.kind ≠ .flt) (hk0 : k.val ≠ 0) {d d' : SVS}
    (h : SvsGood d) (h' : SvsGood d') : (Svs.scale k d == Svs.scale k d') = (d == d') := by
  rw [Svs.scale_of_normal k d h.1, Svs.scale_of_normal k d' h'.1]
  apply List.map_beq_map
  intro a ha b hb
  exact Part.beq_scalePart hk hk0 (h.2 a ha) (h'.2 b hb)

theorem Quantity.beq_scale {k : Num} (hk : k.kind ≠ .flt) (hk0 : k.val ≠ 0) {a b : Quantity}
    (ha : a.value.kind ≠ .flt) (hb : b.value.kind ≠ .flt) : (a.scale k == b.scale k) = (a == b) := by
  simp only [Quantity.beq_def, Quantity.scale, Num.beq_mul ha hb hk hk0]

theorem optQuantity_beq_scale {k : Num} (hk : k.kind ≠ .flt) (hk0 : k.val ≠ 0) {a b : Option Quantity}
    (ha : OptQExact a) (hb : OptQExact b) :
    (a.map (Quantity.scale k) == b.map (Quantity.scale k)) = (a == b) := by
  cases a <;> cases b <;> simp
  exact Quantity.beq_scale hk hk0 (ha _ rfl) (hb _ rfl)

theorem Amount.beq_scale {k : Num} (hk : k.kind ≠ .flt) (hk0 : k.val ≠ 0) {a b : Amount}
    (ha : a.Exact) (hb : b.Exact) : (a.scale k == b.scale k) = (a == b) := by
  cases a <;> cases b <;> simp only [Amount.beq_def, Amount.beq, Amount.scale]
  exact Quantity.beq_scale hk hk0 ha hb

mutual
theorem Tree.beq_scale {k : Num} (hk : k.kind ≠ .flt) (hk0 : k.val ≠ 0) : ∀ a b : Tree, a.Good → b.Good →
    Tree.beq (Tree.scale k a) (Tree.scale k b) = Tree.beq a b
  | .ingredient d q, b, ha, hb => by
    cases b with
    | ingredient d' q' =>
      simp only [Tree.Good] at ha hb
      simp only [Tree.scale, Tree.beq, Svs.beq_scale hk hk0 ha.1 hb.1, optQuantity_beq_scale hk hk0 ha.2 hb.2]
    | _ => simp [Tree.scale, Tree.beq]
  | .step d i, b, ha, hb => by
    cases b with
    | step d' i' =>
      simp only [Tree.Good] at ha hb
      simp only [Tree.scale, Tree.beq, Svs.beq_scale hk hk0 ha.1 hb.1, Tree.beqList_scale hk hk0 i i' ha.2 hb.2]
    | _ => simp [Tree.scale, Tree.beq]
  | .reference s n am, b, ha, hb => by
    cases b with
    | reference s' n' am' =>
      simp only [Tree.Good] at ha hb
      simp only [Tree.scale, Tree.beq, Tree.beq_scale hk hk0 s s' ha.1 hb.1, Amount.beq_scale hk hk0 ha.2 hb.2]
    | _ => simp [Tree.scale, Tree.beq]
  | .sub body ns sh, b, ha, hb => by
    cases b with
    | sub body' ns' sh' =>
      simp only [Tree.Good] at ha hb
      have h2 : (ns.map (Svs.scale k) == ns'.map (Svs.scale k)) = (ns == ns') :=
        List.map_beq_map _ ns ns' (fun x hx y hy => Svs.beq_scale hk hk0 (ha.2 x hx) (hb.2 y hy))
      simp only [Tree.scale, Tree.beq, Tree.beq_scale hk hk0 body body' ha.1 hb.1, h2]
    | _ => simp [Tree.scale, Tree.beq]
theorem Tree.beqList_scale {k : Num} (hk : k.kind ≠ .flt) (hk0 : k.val ≠ 0) : ∀ as bs : List Tree,
    Tree.GoodList as → Tree.GoodList bs →
    Tree.beqList (Tree.scaleList k as) (Tree.scaleList k bs) = Tree.beqList as bs
  | [], [], _, _ => rfl
  | [], _ :: _, _, _ => rfl
  | _ :: _, [], _, _ => rfl
  | a :: as, b :: bs, ha, hb => by
    simp only [Tree.GoodList] at ha hb
    simp only [Tree.scaleList, Tree.beqList, Tree.beq_scale hk hk0 a b ha.1 hb.1,
      Tree.beqList_scale hk hk0 as bs ha.2 hb.2]
end

theorem Rat.mul_right_beq_zero {a c : Rat} (hc : c ≠ 0) : (a * c == 0) = (a == 0) := by
  rw [Bool.eq_iff_iff]
  simp only [beq_iff_eq]
  constructor
  · intro h; grind
  · intro h; rw [h]; grind

theorem Rat.mul_mul_div_mul_cancel (a c t k : Rat) (hk : k ≠ 0) : a * k * c / (t * k) = a * c / t := by
  by_cases ht : t = 0
  · subst ht; simp [Rat.div_def]
  · grind

theorem List.any_congr_mem {α} {p q : α → Bool} : ∀ {l : List α}, (∀ a ∈ l, p a = q a) → l.any p = l.any q
  | [], _ => rfl
  | a :: l, h => by
    simp only [List.any_cons, h a List.mem_cons_self,
      List.any_congr_mem (l := l) (fun x hx => h x (List.mem_cons_of_mem _ hx))]

end RG
