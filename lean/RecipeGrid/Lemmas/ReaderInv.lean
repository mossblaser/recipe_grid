import RecipeGrid.Lemmas.NumberReader
/-! Inversion of the model of `number_parser.number` (`numberReader`): exactly which texts it reads as a number, and as
    which number; and exactly which texts make it raise `ZeroDivisionError`. -/
namespace RG
open NumberReader C06 Parser

theorem matchFrac2_inv {s p q : Str} (h : matchFrac2 s = some (p, q)) :
    ∃ s1 s2, s = p ++ s1 ++ '/' :: s2 ++ q ∧ IsDigits p ∧ IsBlanks s1 ∧ IsBlanks s2 ∧ IsDigits q := by
  obtain ⟨e0, hp, -⟩ := split_run isDigit s
  obtain ⟨e1, hs1, -⟩ := split_run isHsp (s.dropWhile isDigit)
  simp only [matchFrac2] at h
  cases hr : (s.dropWhile isDigit).dropWhile isHsp with
  | nil => simp [hr] at h
  | cons c r =>
    by_cases hc : c = '/'
    · subst hc
      obtain ⟨e2, hs2, -⟩ := split_run isHsp r
      simp only [hr] at h
      by_cases hcond : (!(s.takeWhile isDigit).isEmpty && !(r.dropWhile isHsp).isEmpty && (r.dropWhile isHsp).all isDigit) = true
      · simp only [hcond, if_true, Option.some.injEq, Prod.mk.injEq] at h
        obtain ⟨rfl, rfl⟩ := h
        simp only [Bool.and_eq_true, Bool.not_eq_true', List.isEmpty_eq_false_iff, List.all_eq_true] at hcond
        refine ⟨(s.dropWhile isDigit).takeWhile isHsp, r.takeWhile isHsp, ?_, ⟨hcond.1.1, hp⟩, hs1, hs2, ⟨hcond.1.2, hcond.2⟩⟩
        have : s = s.takeWhile isDigit ++ ((s.dropWhile isDigit).takeWhile isHsp ++ '/' :: (r.takeWhile isHsp ++ r.dropWhile isHsp)) := by
          rw [← e2, ← hr, ← e1]; exact e0
        simpa using this
      · simp [hcond] at h
    · -- the text after the blanks does not start with the slash: the `match` takes its last arm
      rw [hr] at h
      split at h
      · rename_i heq; cases heq; exact absurd rfl hc
      · cases h

theorem matchFrac3_inv {s w p q : Str} (h : matchFrac3 s = some (w, p, q)) :
    ∃ s0 s1 s2, s = w ++ s0 ++ p ++ s1 ++ '/' :: s2 ++ q ∧ IsDigits w ∧ s0 ≠ [] ∧ IsBlanks s0 ∧ IsDigits p ∧
      IsBlanks s1 ∧ IsBlanks s2 ∧ IsDigits q := by
  obtain ⟨e0, hw, -⟩ := split_run isDigit s
  obtain ⟨e1, hs0, -⟩ := split_run isHsp (s.dropWhile isDigit)
  simp only [matchFrac3] at h
  by_cases hcond : (!(s.takeWhile isDigit).isEmpty && !((s.dropWhile isDigit).takeWhile isHsp).isEmpty) = true
  · simp only [hcond, if_true] at h
    cases hm : matchFrac2 ((s.dropWhile isDigit).dropWhile isHsp) with
    | none => simp [hm] at h
    | some pq =>
      obtain ⟨p', q'⟩ := pq
      simp only [hm, Option.some.injEq, Prod.mk.injEq] at h
      obtain ⟨rfl, rfl, rfl⟩ := h
      obtain ⟨s1, s2, e2, hp, hs1, hs2, hq⟩ := matchFrac2_inv hm
      simp only [Bool.and_eq_true, Bool.not_eq_true', List.isEmpty_eq_false_iff] at hcond
      refine ⟨(s.dropWhile isDigit).takeWhile isHsp, s1, s2, ?_, ⟨hcond.1, hw⟩, hcond.2, hs0, hp, hs1, hs2, hq⟩
      have : s = s.takeWhile isDigit ++ ((s.dropWhile isDigit).takeWhile isHsp ++ (p' ++ s1 ++ '/' :: s2 ++ q')) := by
        rw [← e2, ← e1]; exact e0
      simpa using this
  · simp [hcond] at h

theorem stripHsp_split (s : Str) : ∃ b1 b2, s = b1 ++ stripHsp s ++ b2 ∧ IsBlanks b1 ∧ IsBlanks b2 := by
  obtain ⟨e0, hb1, -⟩ := split_run isHsp s
  obtain ⟨e1, hb2, -⟩ := split_run isHsp (s.dropWhile isHsp).reverse
  refine ⟨s.takeWhile isHsp, ((s.dropWhile isHsp).reverse.takeWhile isHsp).reverse, ?_, hb1, ?_⟩
  · have h2 : s.dropWhile isHsp = ((s.dropWhile isHsp).reverse.dropWhile isHsp).reverse
        ++ ((s.dropWhile isHsp).reverse.takeWhile isHsp).reverse := by
      rw [← List.reverse_append, ← e1, List.reverse_reverse]
    rw [List.append_assoc, stripHsp, ← h2]; exact e0
  · intro c hc; exact hb2 c (List.mem_reverse.mp hc)

theorem readPlain_inv {s : Str} {v : Num} (h : readPlain s = .value v) :
    ∃ b1 b2, IsBlanks b1 ∧ IsBlanks b2 ∧
      ((∃ ds, s = b1 ++ ds ++ b2 ∧ IsDigits ds ∧ v = ⟨((digitsValue ds : Nat) : Rat), .int⟩) ∨
       (∃ whole fr, s = b1 ++ (whole ++ '.' :: fr) ++ b2 ∧ (∀ c ∈ whole, isDigit c = true) ∧ (∀ c ∈ fr, isDigit c = true) ∧
          (whole ≠ [] ∨ fr ≠ []) ∧
          v = ⟨toDouble (mkRat (digitsValue (whole ++ fr) : Nat) (10 ^ fr.length)), .flt⟩)) := by
  obtain ⟨b1, b2, e, hb1, hb2⟩ := stripHsp_split s
  refine ⟨b1, b2, hb1, hb2, ?_⟩
  simp only [readPlain] at h
  by_cases hint : (!(stripHsp s).isEmpty && (stripHsp s).all isDigit) = true
  · left
    simp only [hint, if_true, ReaderResult.value.injEq] at h
    simp only [Bool.and_eq_true, Bool.not_eq_true', List.isEmpty_eq_false_iff, List.all_eq_true] at hint
    exact ⟨stripHsp s, e, ⟨hint.1, hint.2⟩, h.symm⟩
  · right
    simp only [hint, Bool.false_eq_true, if_false] at h
    obtain ⟨e1, hw, -⟩ := split_run isDigit (stripHsp s)
    cases hr : (stripHsp s).dropWhile isDigit with
    | nil => simp [hr] at h
    | cons c fr =>
      by_cases hc : c = '.'
      · subst hc
        simp only [hr] at h
        by_cases hcond : (fr.all isDigit && !(((stripHsp s).takeWhile isDigit).isEmpty && fr.isEmpty)) = true
        · simp only [hcond, if_true, ReaderResult.value.injEq] at h
          rw [Bool.and_eq_true, Bool.not_eq_true'] at hcond
          refine ⟨(stripHsp s).takeWhile isDigit, fr, ?_, hw, List.all_eq_true.mp hcond.1, ?_, h.symm⟩
          · rw [hr] at e1; rw [← e1]; exact e
          · by_cases hwe : (stripHsp s).takeWhile isDigit = []
            · right; intro hfe
              have := hcond.2
              rw [hwe, hfe] at this
              simp at this
            · left; exact hwe
        · simp only [hcond, Bool.false_eq_true, if_false] at h
          cases h
      · rw [hr] at h
        split at h
        · rename_i heq; cases heq; exact absurd rfl hc
        · cases h

theorem fractionValue_value {w p q : Str} {v : Num} (h : fractionValue w p q = .value v) :
    digitsValue q ≠ 0 ∧ v = ⟨((digitsValue w : Nat) : Rat) + mkRat (digitsValue p : Nat) (digitsValue q), .frac⟩ := by
  simp only [fractionValue] at h
  by_cases hz : readNat q = 0
  · simp [hz] at h
  · simp only [hz, if_false, ReaderResult.value.injEq] at h
    exact ⟨hz, h.symm⟩

theorem fractionValue_zero {w p q : Str} (h : fractionValue w p q = .zeroDivision) : digitsValue q = 0 := by
  simp only [fractionValue] at h
  by_cases hz : readNat q = 0
  · exact hz
  · simp [hz] at h

theorem readPlain_ne_zeroDivision (s : Str) : readPlain s ≠ .zeroDivision := by
  simp only [readPlain]
  intro h
  split at h
  · cases h
  · split at h
    · split at h <;> cases h
    · cases h

/-- **exactly which texts `number_parser.number` reads as a number** (on the modelled language): the grammar's four
    spellings, and beyond them (i) a blank before the slash of a fraction without an integer part, (ii) blanks around an
    integer or a decimal, (iii) a decimal without a digit before the point. -/
theorem numberReader_value_inv {s : Str} {v : Num} (h : numberReader s = .value v) :
    (∃ l : NumLit, l.WF ∧ s = l.print ∧ v = l.value) ∨
    (∃ p s1 s2 q, s = p ++ s1 ++ '/' :: s2 ++ q ∧ IsDigits p ∧ s1 ≠ [] ∧ IsBlanks s1 ∧ IsBlanks s2 ∧ IsDigits q ∧
      digitsValue q ≠ 0 ∧ v = ⟨mkRat (digitsValue p : Nat) (digitsValue q), .frac⟩) ∨
    (∃ b1 ds b2, s = b1 ++ ds ++ b2 ∧ IsBlanks b1 ∧ IsBlanks b2 ∧ (b1 ≠ [] ∨ b2 ≠ []) ∧ IsDigits ds ∧
      v = ⟨((digitsValue ds : Nat) : Rat), .int⟩) ∨
    (∃ b1 whole fr b2, s = b1 ++ (whole ++ '.' :: fr) ++ b2 ∧ IsBlanks b1 ∧ IsBlanks b2 ∧
      (b1 ≠ [] ∨ b2 ≠ [] ∨ whole = []) ∧ (∀ c ∈ whole, isDigit c = true) ∧ (∀ c ∈ fr, isDigit c = true) ∧
      (whole ≠ [] ∨ fr ≠ []) ∧ v = ⟨toDouble (mkRat (digitsValue (whole ++ fr) : Nat) (10 ^ fr.length)), .flt⟩) := by
  rw [numberReader_of_inL (inL_of_ne_outside (by rw [h]; exact fun h => nomatch h))] at h
  cases h3 : matchFrac3 s with
  | some wpq =>
    obtain ⟨w, p, q⟩ := wpq
    simp only [h3] at h
    obtain ⟨s0, s1, s2, e, hw, hs0ne, hs0, hp, hs1, hs2, hq⟩ := matchFrac3_inv h3
    obtain ⟨hq0, hv⟩ := fractionValue_value h
    exact Or.inl ⟨.mixed w s0 p s1 s2 q, ⟨hw, hs0ne, hs0, hp, hs1, hs2, hq, hq0⟩, e, hv⟩
  | none =>
    simp only [h3] at h
    cases h2 : matchFrac2 s with
    | some pq =>
      obtain ⟨p, q⟩ := pq
      simp only [h2] at h
      obtain ⟨s1, s2, e, hp, hs1, hs2, hq⟩ := matchFrac2_inv h2
      obtain ⟨hq0, hv⟩ := fractionValue_value h
      have hv' : v = ⟨mkRat (digitsValue p : Nat) (digitsValue q), .frac⟩ := by
        rw [hv]; simp [digitsValue, Rat.zero_add]
      by_cases hs1e : s1 = []
      · subst hs1e
        exact Or.inl ⟨.frac p s2 q, ⟨hp, hs2, hq, hq0⟩, by simpa [NumLit.print] using e, hv'⟩
      · exact Or.inr (Or.inl ⟨p, s1, s2, q, e, hp, hs1e, hs1, hs2, hq, hq0, hv'⟩)
    | none =>
      simp only [h2] at h
      obtain ⟨b1, b2, hb1, hb2, ⟨ds, e, hds, hv⟩ | ⟨whole, fr, e, hw, hf, hne, hv⟩⟩ := readPlain_inv h
      · by_cases hb : b1 = [] ∧ b2 = []
        · obtain ⟨rfl, rfl⟩ := hb
          exact Or.inl ⟨.int ds, hds, by simpa [NumLit.print] using e, hv⟩
        · exact Or.inr (Or.inr (Or.inl ⟨b1, ds, b2, e, hb1, hb2, Decidable.not_and_iff_not_or_not.mp hb, hds, hv⟩))
      · by_cases hb : b1 = [] ∧ b2 = [] ∧ whole ≠ []
        · obtain ⟨rfl, rfl, hwne⟩ := hb
          exact Or.inl ⟨.dec whole fr, ⟨⟨hwne, hw⟩, hf⟩, by simpa [NumLit.print] using e, hv⟩
        · have hb' : b1 ≠ [] ∨ b2 ≠ [] ∨ whole = [] :=
            (Decidable.not_and_iff_not_or_not.mp hb).imp_right fun h =>
              (Decidable.not_and_iff_not_or_not.mp h).imp_right Decidable.not_not.mp
          exact Or.inr (Or.inr (Or.inr ⟨b1, whole, fr, b2, e, hb1, hb2, hb', hw, hf, hne, hv⟩))

/-- **exactly which texts make `number_parser.number` raise `ZeroDivisionError`** (on the modelled language): the
    fraction spellings - with any blanks around the slash - whose denominator is a run of zeros -/
theorem numberReader_zeroDivision_inv {s : Str} (h : numberReader s = .zeroDivision) :
    ∃ pre p s1 s2 q, s = pre ++ p ++ s1 ++ '/' :: s2 ++ q ∧
      (pre = [] ∨ ∃ w s0, pre = w ++ s0 ∧ IsDigits w ∧ s0 ≠ [] ∧ IsBlanks s0) ∧
      IsDigits p ∧ IsBlanks s1 ∧ IsBlanks s2 ∧ IsDigits q ∧ digitsValue q = 0 := by
  rw [numberReader_of_inL (inL_of_ne_outside (by rw [h]; exact fun h => nomatch h))] at h
  cases h3 : matchFrac3 s with
  | some wpq =>
    obtain ⟨w, p, q⟩ := wpq
    simp only [h3] at h
    obtain ⟨s0, s1, s2, e, hw, hs0ne, hs0, hp, hs1, hs2, hq⟩ := matchFrac3_inv h3
    exact ⟨w ++ s0, p, s1, s2, q, by simpa using e, Or.inr ⟨w, s0, rfl, hw, hs0ne, hs0⟩, hp, hs1, hs2, hq,
      fractionValue_zero h⟩
  | none =>
    simp only [h3] at h
    cases h2 : matchFrac2 s with
    | some pq =>
      obtain ⟨p, q⟩ := pq
      simp only [h2] at h
      obtain ⟨s1, s2, e, hp, hs1, hs2, hq⟩ := matchFrac2_inv h2
      exact ⟨[], p, s1, s2, q, by simpa using e, Or.inl rfl, hp, hs1, hs2, hq, fractionValue_zero h⟩
    | none =>
      simp only [h2] at h
      exact absurd h (readPlain_ne_zeroDivision s)

end RG
