import RecipeGrid.Model.NumberReader
import RecipeGrid.Lemmas.ParserRun
/-! About `Model/NumberReader.lean` (`number_parser.number`) used by `Props/C11c.lean`:
    what the reader returns on each of the four spellings `C06.NumLit` of the recipe grammar's `number` rule. -/
namespace RG
open NumberReader C06

deriving instance DecidableEq for ReaderResult

theorem isLChar_of_isDigit {c : Char} (h : isDigit c = true) : isLChar c = true := by simp [isLChar, h]
theorem isLChar_of_isHsp {c : Char} (h : isHsp c = true) : isLChar c = true := by simp [isLChar, h]

theorem inL_iff {s : Str} : inL s = true ↔ s.length ≤ maxLen ∧ ∀ c ∈ s, isLChar c = true := by
  simp [inL]

/-- on a text of **L** the reader is its three attempts in order -/
theorem numberReader_of_inL {s : Str} (h : inL s = true) :
    numberReader s = match matchFrac3 s with
      | some (w, p, q) => fractionValue w p q
      | none =>
        match matchFrac2 s with
        | some (p, q) => fractionValue [] p q
        | none => readPlain s := by
  simp only [numberReader, h, Bool.not_true, Bool.false_eq_true, if_false]
  rfl

theorem inL_of_ne_outside {s : Str} (h : numberReader s ≠ .outside) : inL s = true := by
  cases hL : inL s with
  | true => rfl
  | false => exact absurd (by simp [numberReader, hL]) h

theorem stripHsp_of_edges {s : Str} (h1 : NextNot isHsp s) (h2 : NextNot isHsp s.reverse) : stripHsp s = s := by
  rw [stripHsp, dropWhile_self_of_next h1, dropWhile_self_of_next h2, List.reverse_reverse]

theorem nextNot_reverse_of_getLast {p : Char → Bool} {s : Str} (h : ∀ c, s.getLast? = some c → p c = false) :
    NextNot p s.reverse := by
  intro c hc; rw [List.head?_reverse] at hc; exact h c hc

/-- `[0-9]+[ \t]*/[ \t]*[0-9]+` on a text of that shape -/
theorem matchFrac2_of {p s1 s2 q : Str} (hp : IsDigits p) (hs1 : IsBlanks s1) (hs2 : IsBlanks s2) (hq : IsDigits q) :
    matchFrac2 (p ++ s1 ++ '/' :: s2 ++ q) = some (p, q) := by
  have e : p ++ s1 ++ '/' :: s2 ++ q = p ++ (s1 ++ '/' :: (s2 ++ q)) := by simp
  have hn1 : NextNot isDigit (s1 ++ '/' :: (s2 ++ q)) := by
    cases s1 with
    | nil => exact NextNot.cons (by decide)
    | cons x xs => exact NextNot.cons (Parser.isDigit_of_isHsp (hs1 x (by simp)))
  have hn2 : NextNot isHsp ('/' :: (s2 ++ q)) := NextNot.cons (by decide)
  have hqall : q.all isDigit = true := List.all_eq_true.mpr hq.2
  have hpe : p.isEmpty = false := by simpa using hp.1
  have hqe : q.isEmpty = false := by simpa using hq.1
  have hd2 : (s2 ++ q).dropWhile isHsp = q := by
    have := dropWhile_run hs2 (NextNot.of_run (rest := []) (fun _ => Parser.isHsp_of_isDigit) hq.1 hq.2)
    simpa using this
  simp only [matchFrac2, e, takeWhile_run hp.2 hn1, dropWhile_run hp.2 hn1, dropWhile_run hs1 hn2, hd2, hqall, hpe, hqe]
  simp

theorem matchFrac2_none_of_next {ds rest : Str} (hd : ∀ x ∈ ds, isDigit x = true)
    (hr : ∀ c, rest.head? = some c → isDigit c = false ∧ isHsp c = false ∧ c ≠ '/') :
    matchFrac2 (ds ++ rest) = none := by
  have hn1 : NextNot isDigit rest := fun c hc => (hr c hc).1
  have hn2 : NextNot isHsp rest := fun c hc => (hr c hc).2.1
  simp only [matchFrac2, dropWhile_run hd hn1, dropWhile_self_of_next hn2]
  cases rest with
  | nil => rfl
  | cons c cs =>
    have := (hr c (by simp)).2.2
    split
    · rename_i r heq; cases heq; exact absurd rfl this
    · rfl

theorem matchFrac2_none_of_slash_first (r : Str) : matchFrac2 ('/' :: r) = none := by
  simp [matchFrac2, isDigit, isHsp]

theorem matchFrac3_none_of_next {ds rest : Str} (hd : ∀ x ∈ ds, isDigit x = true)
    (hr : ∀ c, rest.head? = some c → isDigit c = false ∧ isHsp c = false) :
    matchFrac3 (ds ++ rest) = none := by
  have hn1 : NextNot isDigit rest := fun c hc => (hr c hc).1
  have hn2 : NextNot isHsp rest := fun c hc => (hr c hc).2
  simp [matchFrac3, dropWhile_run hd hn1, takeWhile_nil_of_next hn2]

theorem matchFrac3_none_of_two {p s1 : Str} (r : Str) (hp : ∀ x ∈ p, isDigit x = true) (hs1 : IsBlanks s1) :
    matchFrac3 (p ++ s1 ++ '/' :: r) = none := by
  have e : p ++ s1 ++ '/' :: r = p ++ (s1 ++ '/' :: r) := by simp
  have hn1 : NextNot isDigit (s1 ++ '/' :: r) := by
    cases s1 with
    | nil => exact NextNot.cons (by decide)
    | cons x xs => exact NextNot.cons (Parser.isDigit_of_isHsp (hs1 x (by simp)))
  have hn2 : NextNot isHsp ('/' :: r) := NextNot.cons (by decide)
  simp only [matchFrac3, e, dropWhile_run hp hn1, dropWhile_run hs1 hn2, matchFrac2_none_of_slash_first]
  split <;> rfl

theorem matchFrac3_of {w s0 p s1 s2 q : Str} (hw : IsDigits w) (hs0ne : s0 ≠ []) (hs0 : IsBlanks s0)
    (hp : IsDigits p) (hs1 : IsBlanks s1) (hs2 : IsBlanks s2) (hq : IsDigits q) :
    matchFrac3 (w ++ s0 ++ p ++ s1 ++ '/' :: s2 ++ q) = some (w, p, q) := by
  have e : w ++ s0 ++ p ++ s1 ++ '/' :: s2 ++ q = w ++ (s0 ++ (p ++ s1 ++ '/' :: s2 ++ q)) := by simp
  have hn1 : NextNot isDigit (s0 ++ (p ++ s1 ++ '/' :: s2 ++ q)) :=
    head_append_of_ne hs0ne (fun x hx => Parser.isDigit_of_isHsp (hs0 x hx))
  have hn2 : NextNot isHsp (p ++ s1 ++ '/' :: s2 ++ q) := by
    have := NextNot.of_run (rest := s1 ++ '/' :: s2 ++ q) (fun _ => Parser.isHsp_of_isDigit) hp.1 hp.2
    simpa using this
  have hwe : w.isEmpty = false := by simpa using hw.1
  have hs0e : s0.isEmpty = false := by simpa using hs0ne
  simp only [matchFrac3, e, takeWhile_run hw.2 hn1, dropWhile_run hw.2 hn1, takeWhile_run hs0 hn2,
    dropWhile_run hs0 hn2, matchFrac2_of hp hs1 hs2 hq, hwe, hs0e]
  simp

theorem readNat_eq_digitsValue (ds : Str) : readNat ds = digitsValue ds := rfl

theorem getLast?_append_cons_digits {a : Str} {c : Char} {b : Str} (hc : isHsp c = false)
    (hb : ∀ x ∈ b, isDigit x = true) : ∀ d, (a ++ c :: b).getLast? = some d → isHsp d = false := by
  intro d hd
  have e : a ++ c :: b = (a ++ [c]) ++ b := by simp
  rw [e, List.getLast?_append] at hd
  cases hb' : b.getLast? with
  | none => simp [hb'] at hd; subst hd; exact hc
  | some x =>
    simp [hb'] at hd; subst hd
    exact Parser.isHsp_of_isDigit (hb _ (List.mem_of_getLast? hb'))

theorem stripHsp_digits {ds : Str} (hd : IsDigits ds) : stripHsp ds = ds := by
  apply stripHsp_of_edges
  · have := NextNot.of_run (rest := []) (fun _ => Parser.isHsp_of_isDigit) hd.1 hd.2; simpa using this
  · apply nextNot_reverse_of_getLast
    intro c hc
    exact Parser.isHsp_of_isDigit (hd.2 c (List.mem_of_getLast? hc))

/-- `int(text)` on a digit run -/
theorem readPlain_digits {ds : Str} (hd : IsDigits ds) :
    readPlain ds = .value ⟨((digitsValue ds : Nat) : Rat), .int⟩ := by
  have h1 : ds.isEmpty = false := by simpa using hd.1
  have h2 : ds.all isDigit = true := List.all_eq_true.mpr hd.2
  simp [readPlain, stripHsp_digits hd, h1, h2, readNat_eq_digitsValue]

/-- `float(text)` on `whole "." frac` -/
theorem readPlain_dec {whole fr : Str} (hw : IsDigits whole) (hf : ∀ x ∈ fr, isDigit x = true) :
    readPlain (whole ++ '.' :: fr) =
      .value ⟨toDouble (mkRat (digitsValue (whole ++ fr) : Nat) (10 ^ fr.length)), .flt⟩ := by
  have hstrip : stripHsp (whole ++ '.' :: fr) = whole ++ '.' :: fr := by
    apply stripHsp_of_edges
    · exact NextNot.of_run (fun _ => Parser.isHsp_of_isDigit) hw.1 hw.2
    · exact nextNot_reverse_of_getLast (getLast?_append_cons_digits (by decide) hf)
  have hnd : (whole ++ '.' :: fr).all isDigit = false := by
    rw [List.all_eq_false]; exact ⟨'.', by simp, by decide⟩
  have hn : NextNot isDigit ('.' :: fr) := NextNot.cons (by decide)
  have hfa : fr.all isDigit = true := List.all_eq_true.mpr hf
  have hwe : whole.isEmpty = false := by simpa using hw.1
  simp only [readPlain, hstrip, hnd, takeWhile_run hw.2 hn, dropWhile_run hw.2 hn, hfa, hwe]
  simp [readNat_eq_digitsValue]

theorem print_isLChar (l : NumLit) (h : l.WF) : ∀ c ∈ l.print, isLChar c = true := by
  intro c hc
  cases l with
  | int ds => exact isLChar_of_isDigit (h.2 c hc)
  | dec whole fr =>
    simp only [NumLit.print, List.mem_append, List.mem_cons] at hc
    rcases hc with hc | rfl | hc
    · exact isLChar_of_isDigit (h.1.2 c hc)
    · decide
    · exact isLChar_of_isDigit (h.2 c hc)
  | frac p s2 q =>
    obtain ⟨hp, hs2, hq, -⟩ := h
    simp only [NumLit.print, List.mem_append, List.mem_cons] at hc
    rcases hc with (hc | rfl | hc) | hc
    · exact isLChar_of_isDigit (hp.2 c hc)
    · decide
    · exact isLChar_of_isHsp (hs2 c hc)
    · exact isLChar_of_isDigit (hq.2 c hc)
  | mixed w s0 p s1 s2 q =>
    obtain ⟨hw, -, hs0, hp, hs1, hs2, hq, -⟩ := h
    simp only [NumLit.print, List.mem_append, List.mem_cons] at hc
    rcases hc with ((((hc | hc) | hc) | hc) | (rfl | hc)) | hc
    · exact isLChar_of_isDigit (hw.2 c hc)
    · exact isLChar_of_isHsp (hs0 c hc)
    · exact isLChar_of_isDigit (hp.2 c hc)
    · exact isLChar_of_isHsp (hs1 c hc)
    · decide
    · exact isLChar_of_isHsp (hs2 c hc)
    · exact isLChar_of_isDigit (hq.2 c hc)

/-- **the reader on the grammar's spellings**: every permitted spelling of at most `maxLen`
    characters is read by `number_parser.number` as the number it means -/
theorem numberReader_of_wf (l : NumLit) (h : l.WF) (hlen : l.print.length ≤ maxLen) :
    numberReader l.print = .value l.value := by
  rw [numberReader_of_inL (inL_iff.mpr ⟨hlen, print_isLChar l h⟩)]
  cases l with
  | int ds =>
    have h3 := matchFrac3_none_of_next (ds := ds) (rest := []) h.2 (by simp)
    have h2 := matchFrac2_none_of_next (ds := ds) (rest := []) h.2 (by simp)
    simp only [List.append_nil] at h3 h2
    simp only [NumLit.print, h3, h2, readPlain_digits h, NumLit.value]
  | dec whole fr =>
    obtain ⟨hw, hf⟩ := h
    have h3 := matchFrac3_none_of_next (ds := whole) (rest := '.' :: fr) hw.2 (by simp [isDigit, isHsp])
    have h2 := matchFrac2_none_of_next (ds := whole) (rest := '.' :: fr) hw.2 (by simp [isDigit, isHsp])
    simp only [NumLit.print, h3, h2, readPlain_dec hw hf, NumLit.value]
  | frac p s2 q =>
    obtain ⟨hp, hs2, hq, hq0⟩ := h
    have h3 := matchFrac3_none_of_two (p := p) (s1 := []) (s2 ++ q) hp.2 (by intro c hc; cases hc)
    have h2 := matchFrac2_of (s1 := []) hp (by intro c hc; cases hc) hs2 hq
    simp only [List.append_nil] at h3 h2
    have e : p ++ '/' :: s2 ++ q = p ++ '/' :: (s2 ++ q) := by simp
    rw [← e] at h3
    have hq0' : ¬ readNat q = 0 := hq0
    simp only [NumLit.print, h3, h2, fractionValue, hq0', NumLit.value]
    simp [readNat, digitsValue, Rat.zero_add]
  | mixed w s0 p s1 s2 q =>
    obtain ⟨hw, hs0ne, hs0, hp, hs1, hs2, hq, hq0⟩ := h
    have h3 := matchFrac3_of hw hs0ne hs0 hp hs1 hs2 hq
    have hq0' : ¬ readNat q = 0 := hq0
    simp only [NumLit.print, h3, fractionValue, hq0', NumLit.value]
    rfl

end RG
