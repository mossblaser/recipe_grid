import RecipeGrid.Model.PegGrammar
import RecipeGrid.Lemmas.Parser
/-! The tie between the generic PEG recogniser (`Model/Peg.lean`) and parsers written in the monad `Parser.P`:
    `Ok call t e p s` says that the expression `e`, run from the position of the state `s`, ends where the hand-written
    parser `p` ends (the value `p` computes is forgotten).  One combinator lemma per PEG operator. -/
namespace RG
namespace Peg
open Parser

def proj {α} : Option (α × PState) → PegRes
  | none => .fail
  | some (_, s) => .ok s.pos

@[simp] theorem proj_none {α} : proj (none : Option (α × PState)) = .fail := rfl
@[simp] theorem proj_some {α} (a : α) (s : PState) : proj (some (a, s)) = .ok s.pos := rfl

abbrev T := terminalScanner

def Ok {α} (call : String → Nat → PegRes) (t : Array Char) (e : PExpr) (p : P α) (s : PState) : Prop :=
  pegExpr call T t e s.pos = proj (p t s)

section
variable {call : String → Nat → PegRes} {t : Array Char}

theorem Ok.of_eq {α β} {e : PExpr} {p : P α} {q : P β} {s : PState} (h : Ok call t e p s)
    (hpq : proj (q t s) = proj (p t s)) : Ok call t e q s := by
  unfold Ok at *; rw [hpq]; exact h

theorem Ok.pure {α} (a : α) (s : PState) : Ok call t .empty (pure a : P α) s := rfl

theorem Ok.rule {α} {name : String} {p : P α} {s : PState} (h : call name s.pos = proj (p t s)) :
    Ok call t (.rule name) p s := h

theorem Ok.bind {α β} {e1 e2 : PExpr} {m : P α} {f : α → P β} {s : PState} (h1 : Ok call t e1 m s)
    (h2 : ∀ a s', m t s = some (a, s') → Ok call t e2 (f a) s') : Ok call t (.cat e1 e2) (m >>= f) s := by
  unfold Ok at *
  rw [bind_apply]
  simp only [pegExpr]
  rw [h1]
  cases hm : m t s with
  | none => rfl
  | some r => obtain ⟨a, s'⟩ := r; exact h2 a s' hm

theorem Ok.bind_pure {α β} {e : PExpr} {m : P α} {g : α → β} {s : PState} (h : Ok call t e m s) :
    Ok call t e (m >>= fun a => Pure.pure (g a)) s := by
  unfold Ok at *
  rw [bind_apply, h]
  cases m t s <;> rfl

theorem Ok.map {α β} {e : PExpr} {m : P α} {g : α → β} {s : PState} (h : Ok call t e m s) :
    Ok call t e (g <$> m) s := Ok.bind_pure h

theorem Ok.bind_silent {α β} {e : PExpr} {m : P α} {f : α → P β} {s : PState} (h : Ok call t e m s)
    (hf : ∀ a s', ∃ b, f a t s' = some (b, s')) : Ok call t e (m >>= f) s := by
  unfold Ok at *
  rw [bind_apply, h]
  cases m t s with
  | none => rfl
  | some r => obtain ⟨a, s'⟩ := r; obtain ⟨b, hb⟩ := hf a s'; simp only [hb, proj_some]

theorem Ok.getPos_bind {β} {e : PExpr} {f : Nat → P β} {s : PState} (h : Ok call t e (f s.pos) s) :
    Ok call t e (getPos >>= f) s := h

theorem Ok.remaining_bind {β} {e : PExpr} {f : Nat → P β} {s : PState} (h : Ok call t e (f (t.size - s.pos)) s) :
    Ok call t e (remaining >>= f) s := h

theorem Ok.orElse {α} {e1 e2 : PExpr} {p q : P α} {s : PState} (h1 : Ok call t e1 p s) (h2 : Ok call t e2 q s) :
    Ok call t (.alt e1 e2) (p <|> q) s := by
  unfold Ok at *
  rw [orElse_apply]
  simp only [pegExpr]
  rw [h1]
  cases hp : p t s with
  | none => exact h2
  | some r => rfl

theorem Ok.opt {α} {e : PExpr} {p : P α} {s : PState} (h : Ok call t e p s) : Ok call t (.maybe e) (Parser.opt p) s := by
  unfold Ok at *
  simp only [pegExpr, Parser.opt, orElse_apply, map_apply]
  rw [h]
  cases hp : p t s <;> rfl

theorem Ok.orPure {α} {e : PExpr} {p : P α} {a : α} {s : PState} (h : Ok call t e p s) :
    Ok call t (.maybe e) (p <|> Pure.pure a) s := by
  unfold Ok at *
  simp only [pegExpr, orElse_apply]
  rw [h]
  cases hp : p t s <;> rfl

theorem Ok.withText {α} {e : PExpr} {p : P α} {s : PState} (h : Ok call t e p s) : Ok call t e (Parser.withText p) s := by
  unfold Ok at *
  rw [h]
  unfold Parser.withText
  cases p t s <;> rfl

theorem Ok.textOf {e : PExpr} {p : P Unit} {s : PState} (h : Ok call t e p s) : Ok call t e (Parser.textOf p) s :=
  Ok.bind_pure (Ok.withText h)

theorem Ok.void {α} {e : PExpr} {p : P α} {s : PState} (h : Ok call t e p s) : Ok call t e (Peg.void p) s :=
  Ok.bind_pure h

theorem manyF_some {α} (p : P α) : ∀ k t s, ∃ r, manyF p k t s = some r
  | 0, _, _ => ⟨_, rfl⟩
  | k + 1, t, s => by
    unfold manyF
    rw [orElse_apply]
    split
    · next r h => exact ⟨r, rfl⟩
    · exact ⟨_, rfl⟩

theorem star_manyF {α} {e : PExpr} {p : P α} (hadv : Adv p) (hneeds : NeedsChar p) (lo : Nat)
    (hbody : ∀ s' : PState, lo ≤ s'.pos → Ok call t e p s') :
    ∀ (k : Nat) (s : PState), lo ≤ s.pos → t.size - s.pos ≤ k →
      pegStar (pegExpr call T t e) (k + 1) s.pos = proj (manyF p k t s)
  | 0, s, hlo, hk => by
    unfold pegStar manyF
    have hb := hbody s hlo
    unfold Ok at hb
    rw [hb]
    cases hp : p t s with
    | none => rfl
    | some r => have := hneeds _ _ _ hp; omega
  | k + 1, s, hlo, hk => by
    have hb := hbody s hlo
    unfold Ok at hb
    unfold pegStar manyF
    rw [hb, orElse_apply, bind_apply]
    cases hp : p t s with
    | none => rfl
    | some r =>
      obtain ⟨a, s'⟩ := r
      have hlt := hadv _ _ _ _ hp
      have hsz := hneeds _ _ _ hp
      simp only [proj_some]
      rw [if_neg (by omega)]
      rw [star_manyF hadv hneeds lo hbody k s' (by omega) (by omega)]
      obtain ⟨r, hr⟩ := manyF_some p k t s'
      rw [bind_apply, hr]
      rfl

theorem Ok.many {α} {e : PExpr} {p : P α} {s : PState} (hadv : Adv p) (hneeds : NeedsChar p)
    (hbody : ∀ s' : PState, s.pos ≤ s'.pos → Ok call t e p s') : Ok call t (.star e) (Parser.many p) s := by
  unfold Ok
  simp only [pegExpr, Parser.many, bind_apply, remaining_apply]
  exact star_manyF hadv hneeds s.pos hbody _ s (Nat.le_refl _) (Nat.le_refl _)

theorem many_some {α} (p : P α) (t : Array Char) (s : PState) : ∃ r, many p t s = some r := by
  simp only [Parser.many, bind_apply, remaining_apply]
  exact manyF_some p _ t s

theorem Ok.plus_bind {α β} {e e2 : PExpr} {p : P α} {f : α → List α → P β} {s : PState} (hadv : Adv p)
    (hneeds : NeedsChar p) (hbody : ∀ s' : PState, s.pos ≤ s'.pos → Ok call t e p s')
    (h2 : ∀ a as s', s.pos ≤ s'.pos → Ok call t e2 (f a as) s') :
    Ok call t (.cat (.plus e) e2) (p >>= fun a => Parser.many p >>= fun as => f a as) s := by
  unfold Ok
  have hb := hbody s (Nat.le_refl _)
  unfold Ok at hb
  simp only [pegExpr]
  rw [hb, bind_apply]
  cases hp : p t s with
  | none => rfl
  | some r =>
    obtain ⟨a, s1⟩ := r
    have hlt := hadv _ _ _ _ hp
    simp only [proj_some]
    rw [if_neg (by omega)]
    have hm : Ok call t (.star e) (Parser.many p) s1 := Ok.many hadv hneeds fun s' h => hbody s' (by omega)
    unfold Ok at hm
    simp only [pegExpr] at hm
    rw [hm, bind_apply]
    obtain ⟨⟨as, s2⟩, hr⟩ := many_some p t s1
    have hmono : s1.pos ≤ s2.pos := mono_many hadv.mono _ _ _ _ hr
    rw [hr]
    exact h2 a as s2 (by omega)

def Unif {α} (p : P α) : Prop :=
  ∀ t i z, p t ⟨i, z⟩ = (p t ⟨i, false⟩).map fun r => (r.1, ⟨r.2.pos, z⟩)

theorem Unif.proj {α} {p : P α} (h : Unif p) (t : Array Char) (s : PState) :
    proj (p t ⟨s.pos, false⟩) = proj (p t s) := by
  obtain ⟨i, z⟩ := s
  rw [h t i z]
  cases p t ⟨i, false⟩ <;> rfl

theorem Ok.term {α} {re : String} {scan : P Unit} {p : P α} {s : PState} (hT : T re = some scan) (hu : Unif scan)
    (hp : proj (p t s) = proj (scan t s)) : Ok call t (.term re) p s := by
  unfold Ok
  simp only [pegExpr, hT]
  rw [hp, ← hu.proj]
  cases scan t ⟨s.pos, false⟩ <;> rfl

theorem unif_pure {α} (a : α) : Unif (pure a : P α) := fun _ _ _ => rfl

theorem unif_bind {α β} {m : P α} {f : α → P β} (hm : Unif m) (hf : ∀ a, Unif (f a)) : Unif (m >>= f) := by
  intro t i z
  rw [bind_apply, bind_apply, hm t i z]
  cases m t ⟨i, false⟩ with
  | none => rfl
  | some r => obtain ⟨a, j, z'⟩ := r
              simp only [Option.map_some]
              rw [hf a t j z, hf a t j z']
              cases f a t ⟨j, false⟩ with
              | none => rfl
              | some r' => rfl

theorem unif_void {α} {p : P α} (hp : Unif p) : Unif (void p) := unif_bind hp fun _ => unif_pure _

theorem unif_sat (p : Char → Bool) : Unif (sat p) := by
  intro t i z
  simp only [sat]
  cases t[i]? with
  | none => rfl
  | some c => by_cases h : p c = true <;> simp [h]

theorem unif_lit (c : Char) : Unif (lit c) := unif_bind (unif_sat _) fun _ => unif_pure _

theorem unif_skipMany (p : Char → Bool) : Unif (skipMany p) := fun _ _ _ => rfl

theorem unif_skipMany1 (p : Char → Bool) : Unif (skipMany1 p) := unif_bind (unif_sat _) fun _ => unif_skipMany _

theorem unif_eof : Unif eof := by
  intro t i z
  simp only [eof]
  split <;> rfl

end
end Peg
end RG
