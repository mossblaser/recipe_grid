import RecipeGrid.Lemmas.FloatErr
/-! `Near k a b`: two non-negative numbers within a factor `(1 + 2⁻⁵³)ᵏ` of each other, i.e. `k` roundings apart.  It is kept
    by `+`, `*`, `/` and one more rounding (`Near.add`, `.mul`, `.div`, `.round`), which is how `Props/C20b.lean` follows
    `lint.py`'s accumulation operation by operation; `Near.err_linear` (from `Near.err` and `rndW_pow_le_linear`) turns it
    into a relative error of `k·2⁻⁵²`. -/
namespace RG

/-- `1 + 2^-53` -/
def rndW : Rat := 9007199254740993 / 9007199254740992

theorem mul_le_mul_of_nonneg {a b c d : Rat} (h1 : a ≤ b) (h2 : c ≤ d) (ha : 0 ≤ a) (hc : 0 ≤ c) : a * c ≤ b * d := by
  have := Rat.mul_le_mul_of_nonneg_left h2 ha
  have := Rat.mul_le_mul_of_nonneg_right h1 (show 0 ≤ d by grind)
  grind

theorem rndW_pow_ge_one (k : Nat) : 1 ≤ rndW ^ k := by
  induction k with
  | zero => simp
  | succ k ih =>
    rw [Rat.pow_succ]
    have : (1 : Rat) ≤ rndW := by decide +kernel
    have := mul_le_mul_of_nonneg ih this (by decide) (by decide)
    simpa using this

theorem rndW_pow_mono {j k : Nat} (h : j ≤ k) : rndW ^ j ≤ rndW ^ k := by
  obtain ⟨d, rfl⟩ := Nat.exists_eq_add_of_le h
  have h1 := rndW_pow_ge_one j
  have h2 := rndW_pow_ge_one d
  have := Rat.mul_le_mul_of_nonneg_left h2 (show 0 ≤ rndW ^ j by grind)
  have e : rndW ^ (j + d) = rndW ^ j * rndW ^ d := by grind
  grind

/-- for up to `2^52` roundings the compound factor is at most `1 + k·2^-52` -/
theorem rndW_pow_le_linear (k : Nat) (hk : k ≤ 4503599627370496) :
    rndW ^ k ≤ 1 + (k : Rat) / 4503599627370496 := by
  induction k with
  | zero => decide +kernel
  | succ k ih =>
    have ih := ih (by omega)
    have hkq : ((k : Nat) : Rat) ≤ 4503599627370496 := by
      have : k ≤ 4503599627370496 := by omega
      have := Rat.natCast_le_natCast.2 this
      rwa [show ((4503599627370496 : Nat) : Rat) = 4503599627370496 from rfl] at this
    have hk0 : (0 : Rat) ≤ (k : Rat) := by exact_mod_cast Nat.zero_le k
    rw [Rat.pow_succ]
    have hW : (0 : Rat) ≤ rndW := by decide +kernel
    have h1 := Rat.mul_le_mul_of_nonneg_right ih hW
    have hc : ((k + 1 : Nat) : Rat) = (k : Rat) + 1 := by simp [Rat.natCast_add]
    rw [hc]
    simp only [rndW] at *
    grind

def Near (k : Nat) (a b : Rat) : Prop := 0 ≤ a ∧ 0 ≤ b ∧ a ≤ rndW ^ k * b ∧ b ≤ rndW ^ k * a

theorem Near.refl {a : Rat} (ha : 0 ≤ a) : Near 0 a a := ⟨ha, ha, by simp, by simp⟩

theorem Near.symm {k : Nat} {a b : Rat} (h : Near k a b) : Near k b a := ⟨h.2.1, h.1, h.2.2.2, h.2.2.1⟩

theorem Near.weaken {j k : Nat} {a b : Rat} (h : Near j a b) (hjk : j ≤ k) : Near k a b := by
  obtain ⟨h1, h2, h3, h4⟩ := h
  have hm := rndW_pow_mono hjk
  refine ⟨h1, h2, ?_, ?_⟩
  · exact Rat.le_trans h3 (Rat.mul_le_mul_of_nonneg_right hm h2)
  · exact Rat.le_trans h4 (Rat.mul_le_mul_of_nonneg_right hm h1)

theorem Near.trans {j k : Nat} {a b c : Rat} (h : Near j a b) (h' : Near k b c) : Near (j + k) a c := by
  obtain ⟨h1, h2, h3, h4⟩ := h
  obtain ⟨_, g2, g3, g4⟩ := h'
  have e : rndW ^ (j + k) = rndW ^ j * rndW ^ k := by grind
  have pj : 0 ≤ rndW ^ j := by have := rndW_pow_ge_one j; grind
  have pk : 0 ≤ rndW ^ k := by have := rndW_pow_ge_one k; grind
  refine ⟨h1, g2, ?_, ?_⟩
  · have := Rat.mul_le_mul_of_nonneg_left g3 pj
    rw [e]; grind
  · have := Rat.mul_le_mul_of_nonneg_left h4 pk
    rw [e]; grind

theorem Near.mul {j k : Nat} {a b c d : Rat} (h : Near j a b) (h' : Near k c d) : Near (j + k) (a * c) (b * d) := by
  obtain ⟨h1, h2, h3, h4⟩ := h
  obtain ⟨g1, g2, g3, g4⟩ := h'
  have e : rndW ^ (j + k) = rndW ^ j * rndW ^ k := by grind
  refine ⟨Rat.mul_nonneg h1 g1, Rat.mul_nonneg h2 g2, ?_, ?_⟩
  · have := mul_le_mul_of_nonneg h3 g3 h1 g1
    rw [e]; grind
  · have := mul_le_mul_of_nonneg h4 g4 h2 g2
    rw [e]; grind

theorem Near.add {k : Nat} {a b c d : Rat} (h : Near k a b) (h' : Near k c d) : Near k (a + c) (b + d) := by
  obtain ⟨h1, h2, h3, h4⟩ := h
  obtain ⟨g1, g2, g3, g4⟩ := h'
  refine ⟨by grind, by grind, ?_, ?_⟩ <;> grind

theorem Near.inv {k : Nat} {c d : Rat} (h : Near k c d) (hc : 0 < c) (hd : 0 < d) : Near k c⁻¹ d⁻¹ := by
  obtain ⟨_, _, h3, h4⟩ := h
  have ic := Rat.inv_pos.2 hc
  have id := Rat.inv_pos.2 hd
  have e1 := Rat.mul_inv_cancel c (Rat.ne_of_gt hc)
  have e2 := Rat.mul_inv_cancel d (Rat.ne_of_gt hd)
  have hcd : 0 ≤ c⁻¹ * d⁻¹ := Rat.le_of_lt (Rat.mul_pos ic id)
  have m3 := Rat.mul_le_mul_of_nonneg_right h3 hcd
  have m4 := Rat.mul_le_mul_of_nonneg_right h4 hcd
  have r1 : c * (c⁻¹ * d⁻¹) = d⁻¹ := by rw [← Rat.mul_assoc, e1, Rat.one_mul]
  have r2 : rndW ^ k * d * (c⁻¹ * d⁻¹) = rndW ^ k * c⁻¹ * (d * d⁻¹) := by grind
  have r3 : d * (c⁻¹ * d⁻¹) = c⁻¹ * (d * d⁻¹) := by grind
  have r4 : rndW ^ k * c * (c⁻¹ * d⁻¹) = rndW ^ k * d⁻¹ * (c * c⁻¹) := by grind
  rw [r1, r2, e2, Rat.mul_one] at m3
  rw [r3, e2, Rat.mul_one, r4, e1, Rat.mul_one] at m4
  exact ⟨Rat.le_of_lt ic, Rat.le_of_lt id, m4, m3⟩

theorem Near.div {j k : Nat} {a b c d : Rat} (h : Near j a b) (h' : Near k c d) (hc : 0 < c) (hd : 0 < d) :
    Near (j + k) (a / c) (b / d) := by
  rw [Rat.div_def, Rat.div_def]; exact h.mul (h'.inv hc hd)

theorem Near.zero (k : Nat) : Near k 0 0 := ⟨Rat.le_refl, Rat.le_refl, by simp, by simp⟩

theorem Near.of_toDouble {x : Rat} (hx : 0 ≤ x) : Near 1 (RG.toDouble x) x := by
  by_cases h0 : x = 0
  · subst h0; rw [toDouble_zero]; exact Near.zero 1
  · have hp : 0 < x := by grind
    obtain ⟨⟨h1, _⟩, ⟨_, h4⟩⟩ := toDouble_err_pos hp
    refine ⟨toDouble_nonneg hx, hx, ?_, ?_⟩ <;> simp only [Rat.pow_one, rndW, Rat.div_def] <;> grind

theorem Near.round {k : Nat} {a b : Rat} (h : Near k a b) : Near (k + 1) (RG.toDouble a) b := by
  have := (Near.of_toDouble h.1).trans h
  rwa [Nat.add_comm] at this

theorem Near.err {k : Nat} {a b : Rat} (h : Near k a b) :
    a - b ≤ (rndW ^ k - 1) * b ∧ b - a ≤ (rndW ^ k - 1) * b := by
  obtain ⟨h1, h2, h3, h4⟩ := h
  have hw := rndW_pow_ge_one k
  generalize rndW ^ k = w at *
  constructor
  · grind
  · by_cases hba : b - a ≤ 0
    · have := Rat.mul_nonneg (show 0 ≤ w - 1 by grind) h2
      grind
    · have := Rat.mul_le_mul_of_nonneg_right hw (show 0 ≤ b - a by grind)
      grind

/-- up to `2⁵²` roundings apart is a relative error of at most `k·2⁻⁵²` -/
theorem Near.err_linear {k : Nat} {a b : Rat} (h : Near k a b) (hk : k ≤ 4503599627370496) :
    (a - b).abs ≤ (k : Rat) / 4503599627370496 * b := by
  obtain ⟨h1, h2⟩ := h.err
  have hlin := rndW_pow_le_linear k hk
  have := Rat.mul_le_mul_of_nonneg_right (show rndW ^ k - 1 ≤ (k : Rat) / 4503599627370496 by grind) h.2.1
  rw [abs_le_iff]
  grind

end RG
