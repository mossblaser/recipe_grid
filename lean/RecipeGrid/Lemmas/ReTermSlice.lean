import RecipeGrid.Lemmas.ReTermEnds
/-! The engine from a position `b` of a text is the engine from the start of the rest of the text `text[b:]` - what peggie hands
    to `pattern.match` - with the positions shifted: the `base` of `Rx.run` is exactly "the text before `b` does not exist". -/
namespace RG
namespace Rx

variable {α : Type}

theorem getElem?_slice (t : Array Char) (b i : Nat) : (t.extract b t.size)[i]? = t[i + b]? := by
  rw [Array.getElem?_extract]
  split
  · rw [Nat.add_comm]
  · rename_i h
    rw [Array.getElem?_eq_none (by omega)]

theorem size_slice (t : Array Char) (b : Nat) : (t.extract b t.size).size = t.size - b := by
  rw [Array.size_extract]; omega

theorem step_slice (t : Array Char) (b : Nat) (p : Char → Bool) (i : Nat) (k : K α) :
    step t p (i + b) k = step (t.extract b t.size) p i (fun j => k (j + b)) := by
  simp only [step, getElem?_slice, show i + b + 1 = i + 1 + b by omega]

theorem boundaryAt_slice (t : Array Char) (b i : Nat) : boundaryAt t b (i + b) = boundaryAt (t.extract b t.size) 0 i := by
  unfold boundaryAt
  simp only [getElem?_slice]
  cases i with
  | zero => rw [if_pos (by omega), if_pos (Nat.le_refl 0)]
  | succ i =>
    rw [if_neg (by omega), if_neg (by omega), show i + 1 + b - 1 = i + 1 - 1 + b by omega]

theorem starK_slice {ma ma' : Nat → K α → Option α} (b : Nat) (h : ∀ i k, ma (i + b) k = ma' i (fun j => k (j + b))) :
    ∀ fuel i (k : K α), starK ma fuel (i + b) k = starK ma' fuel i (fun j => k (j + b))
  | 0, _, _ => rfl
  | fuel + 1, i, k => by
    rw [starK, starK, h]
    have : (fun j => starK ma fuel (j + b) k) = fun j => starK ma' fuel j (fun j => k (j + b)) :=
      funext fun j => starK_slice b h fuel j k
    rw [this]

theorem run_slice (t : Array Char) (b : Nat) : ∀ (r : Rx) (i : Nat) (k : K α),
    run t b r (i + b) k = run (t.extract b t.size) 0 r i (fun j => k (j + b))
  | eps, i, k => by simp only [run]
  | chr _, i, k | ichr _, i, k | any, i, k | cls _ _, i, k => by simp only [run]; exact step_slice t b _ i k
  | seq x y, i, k => by
    simp only [run]
    rw [run_slice t b x i]
    exact congrArg _ (funext fun j => run_slice t b y j k)
  | alt x y, i, k => by
    simp only [run]
    rw [run_slice t b x i k, run_slice t b y i k]
  | star x, i, k => by
    simp only [run]
    rw [size_slice, show t.size - (i + b) = t.size - b - i by omega]
    exact starK_slice b (fun i k => run_slice t b x i k) _ i k
  | plus x, i, k => by
    simp only [run]
    rw [run_slice t b x i]
    congr 1; funext j
    rw [size_slice, show t.size - (j + b) = t.size - b - j by omega]
    exact starK_slice b (fun i k => run_slice t b x i k) _ j k
  | opt x, i, k => by
    simp only [run]
    rw [run_slice t b x i k]
  | grp _ x, i, k => by
    simp only [run]
    exact run_slice t b x i k
  | bound, i, k => by
    simp only [run]
    rw [boundaryAt_slice]

/-- **`Rx.matchEnd r text i` is `pattern.match(text[i:])`** (under the engine's semantics), as a position of `text` -/
theorem matchEnd_slice (r : Rx) (t : Array Char) (i : Nat) :
    r.matchEnd t i = (r.matchEnd (t.extract i t.size) 0).map (· + i) := by
  have := run_slice (α := Nat) t i r 0 some
  rw [Nat.zero_add] at this
  rw [matchEnd, this, matchEnd]
  exact run_map _ 0 (· + i) r 0 some

end Rx
end RG
