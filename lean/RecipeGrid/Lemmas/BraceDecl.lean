import RecipeGrid.Lemmas.BracePrint
/-! Declarative facts about where a `{…}` expression closes, and a part-level criterion for `Printable`. -/
namespace RG.Brace
open Re Parser

/-- the reading without any search: a backslash always escapes the next character (unless that is a line
    feed or the end of the text) -/
def closeGreedy : Str → Option Str
  | [] => none
  | [ch] => if ch = '}' then some [] else none
  | ch :: e :: rest =>
    if ch = '}' then some (e :: rest)
    else if ch = '{' then none
    else if ch = '\\' ∧ e ≠ '\n' then closeGreedy rest
    else closeGreedy (e :: rest)

/-- the search is needed only when the greedy reading fails -/
theorem closeAt_of_greedy (s r : Str) (h : closeGreedy s = some r) : closeAt s = some r := by
  fun_induction closeGreedy s with
  | case1 => cases h
  | case2 => cases h; rfl
  | case3 => cases h
  | case4 e rest => cases h; exact closeAt_close _
  | case5 => cases h
  | case6 ch e rest hc ho hb ih =>
    obtain ⟨rfl, he⟩ := hb
    rw [closeAt_backslash e rest he, ih h]
  | case7 ch e rest hc ho hb ih =>
    simp only [closeAt, hc, ho, hb, if_false]
    exact ih h

/-- the greedy reading of a source is clean: it meets no brace where a part would have to start, and it does not
    end on a backslash (which would take the closing brace for an escaped character) -/
def greedyClean : Str → Bool
  | [] => true
  | [ch] => !(ch == '{' || ch == '}' || ch == '\\')
  | ch :: e :: rest =>
    if ch = '{' ∨ ch = '}' then false
    else if ch = '\\' ∧ e ≠ '\n' then greedyClean rest
    else greedyClean (e :: rest)

theorem closeGreedy_close (r : Str) : closeGreedy ('}' :: r) = some r := by
  cases r <;> simp [closeGreedy]

theorem closeGreedy_of_clean (src r : Str) (h : greedyClean src = true) : closeGreedy (src ++ '}' :: r) = some r := by
  fun_induction greedyClean src with
  | case1 => exact closeGreedy_close r
  | case2 ch =>
    simp only [Bool.not_eq_true', Bool.or_eq_false_iff, beq_eq_false_iff_ne, ne_eq] at h
    obtain ⟨⟨h1, h2⟩, h3⟩ := h
    simp only [List.cons_append, List.nil_append, closeGreedy, h1, h2, h3, if_false, false_and]
    exact closeGreedy_close r
  | case3 => cases h
  | case4 ch e rest hb hesc ih =>
    simp only [not_or] at hb
    simpa [closeGreedy, hb.1, hb.2, hesc] using ih h
  | case5 ch e rest hb hesc ih =>
    simp only [not_or] at hb
    simpa [closeGreedy, hb.1, hb.2, hesc] using ih h

/-- every brace stands directly after a backslash (`prev`: the character before the text is a backslash) -/
def bracesEscaped (prev : Bool) : Str → Bool
  | [] => true
  | ch :: s => (if ch = '{' ∨ ch = '}' then prev else true) && bracesEscaped (ch == '\\') s

theorem bracesEscaped_of_false : ∀ (s : Str) (p : Bool), bracesEscaped false s = true → bracesEscaped p s = true
  | [], _, _ => rfl
  | ch :: s, p, h => by
    simp only [bracesEscaped, Bool.and_eq_true] at h ⊢
    refine ⟨?_, h.2⟩
    split
    · rename_i hb; simp [hb] at h
    · rfl

theorem closeAt_escaped (s r : Str) (h : closeAt s = some r) :
    ∃ src, s = src ++ '}' :: r ∧ bracesEscaped false src = true := by
  have pass : ∀ (ch : Char) (t r : Str), ch ≠ '}' → ch ≠ '{' →
      (∃ src, t = src ++ '}' :: r ∧ bracesEscaped false src = true) →
      ∃ src, ch :: t = src ++ '}' :: r ∧ bracesEscaped false src = true := by
    rintro ch t r hc ho ⟨src, rfl, he⟩
    exact ⟨ch :: src, rfl, by simp [bracesEscaped, ho, hc, bracesEscaped_of_false src _ he]⟩
  fun_induction closeAt s generalizing r with
  | case1 => cases h
  | case2 => cases h; exact ⟨[], rfl, rfl⟩
  | case3 => cases h
  | case4 e rest => cases h; exact ⟨[], rfl, rfl⟩
  | case5 => cases h
  | case6 ch e rest hc ho hb r' hr ih =>
    cases h
    obtain ⟨src, rfl, hes⟩ := ih _ hr
    obtain ⟨rfl, -⟩ := hb
    exact ⟨'\\' :: e :: src, rfl, by simp [bracesEscaped, bracesEscaped_of_false src _ hes]⟩
  | case7 ch e rest hc ho hb hr ih2 ih1 => exact pass ch _ r hc ho (ih1 r h)
  | case8 ch e rest hc ho hb ih => exact pass ch _ r hc ho (ih r h)

theorem not_brace_of_escaped {c : Char} {s : Str} (h : bracesEscaped false (c :: s) = true) : c ≠ '{' ∧ c ≠ '}' := by
  simp only [bracesEscaped, Bool.and_eq_true] at h
  exact not_or.1 fun hb => by simp [hb] at h

theorem closeAt_isSome_of_escaped : ∀ (src r : Str), bracesEscaped false src = true →
    (closeAt (src ++ '}' :: r)).isSome = true
  | [], r, _ => by simp [closeAt_close]
  | [c], r, h => by
    by_cases hbs : c = '\\'
    · -- `\}` is first read as an escape, then as a backslash and the closing brace
      subst hbs
      rw [List.cons_append, List.nil_append, closeAt_backslash '}' r (by decide)]
      cases closeAt r <;> simp [closeAt_close]
    · rw [List.cons_append, closeAt_plain_cons c _ (by simp [isPlain, hbs, not_brace_of_escaped h])]
      simp [closeAt_close]
  | c :: e :: src, r, h => by
    have hc := not_brace_of_escaped h
    simp only [bracesEscaped, Bool.and_eq_true] at h
    obtain ⟨-, he, hrest⟩ := h
    by_cases hbs : c = '\\'
    · subst hbs
      by_cases hnl : e = '\n'
      · have := closeAt_isSome_of_escaped (e :: src) r (by subst hnl; simpa [bracesEscaped] using hrest)
        rwa [List.cons_append, List.cons_append, hnl, closeAt_backslash_nl, ← hnl]
      · rw [List.cons_append, List.cons_append, closeAt_backslash e _ hnl]
        by_cases heb : e = '\\'
        · -- the escape may lead nowhere; the backslash as a character does
          have := closeAt_isSome_of_escaped (e :: src) r (by subst heb; simpa [bracesEscaped] using hrest)
          cases closeAt (src ++ '}' :: r) with
          | some _ => rfl
          | none => exact this
        · have := closeAt_isSome_of_escaped src r (by rwa [beq_false_of_ne heb] at hrest)
          cases hq : closeAt (src ++ '}' :: r) with
          | some _ => rfl
          | none => rw [hq] at this; cases this
    · rw [List.cons_append, closeAt_plain_cons c _ (by simp [isPlain, hbs, hc])]
      exact closeAt_isSome_of_escaped (e :: src) r (by simpa [bracesEscaped, beq_false_of_ne hbs] using And.intro he hrest)

theorem printChar_head (c : Char) (tail : Str) :
    ∃ x s, printChar c ++ tail = x :: s ∧ isDigit x = false ∧ (x = c ∨ x = '\\') := by
  rcases printChar_cases c with ⟨e, -⟩ | ⟨e, hd, -⟩
  · exact ⟨'\\', c :: tail, by rw [e]; rfl, by decide, Or.inr rfl⟩
  · exact ⟨c, tail, by rw [e]; rfl, hd, Or.inl rfl⟩

theorem printText_hsp_prefix : ∀ (t tail : Str),
    (printText t ++ tail).dropWhile isHsp =
      if t.dropWhile isHsp = [] then tail.dropWhile isHsp else printText (t.dropWhile isHsp) ++ tail
  | [], tail => by simp [printText]
  | c :: t, tail => by
    by_cases hc : isHsp c = true
    · have hne : needsEscape c = false := by
        simp only [isHsp, Bool.or_eq_true, beq_iff_eq] at hc
        rcases hc with rfl | rfl <;> decide
      have ih := printText_hsp_prefix t tail
      simp only [printText_cons, printChar, hne, List.cons_append, List.nil_append,
        List.dropWhile_cons, hc, if_true, Bool.false_eq_true, if_false] at ih ⊢
      exact ih
    · simp only [Bool.not_eq_true] at hc
      obtain ⟨x, s, hs, _, hx⟩ := printChar_head c (printText t ++ tail)
      have hxh : isHsp x = false := by
        rcases hx with rfl | rfl
        · exact hc
        · decide
      simp only [printText_cons, List.append_assoc] at hs ⊢
      rw [hs]
      simp only [List.dropWhile_cons, hxh, hc, Bool.false_eq_true, if_false]
      rw [← hs, printText_cons, List.append_assoc, if_neg (List.cons_ne_nil c t)]

theorem intFollow_printText (t tail : Str) (h : textFollowsInt t = true) : IntFollow (printText t ++ tail) := by
  simp only [textFollowsInt, Bool.and_eq_true, bne_iff_ne, ne_eq] at h
  obtain ⟨hdot, hrest⟩ := h
  constructor
  · cases t with
    | nil => simp at hrest
    | cons c t =>
      obtain ⟨x, s, hs, _, hx⟩ := printChar_head c (printText t ++ tail)
      simp only [printText_cons, List.append_assoc] at hs ⊢
      rw [hs]
      simp only [List.head?_cons]
      rcases hx with rfl | rfl
      · simpa using hdot
      · decide
  · intro ch hch
    rw [printText_hsp_prefix] at hch
    cases hd : t.dropWhile isHsp with
    | nil => rw [hd] at hrest; simp at hrest
    | cons c t' =>
      rw [hd] at hch hrest
      simp only [reduceCtorEq, if_false] at hch
      obtain ⟨x, s, hs, hxd, hx⟩ := printChar_head c (printText t' ++ tail)
      simp only [printText_cons, List.append_assoc] at hs hch
      rw [hs] at hch
      simp only [List.head?_cons, Option.some.injEq] at hch
      subst hch
      refine ⟨hxd, ?_⟩
      rcases hx with rfl | rfl
      · simpa using hrest
      · decide

theorem head_printText_not_digit (t tail : Str) (ht : t ≠ []) :
    ∀ ch, (printText t ++ tail).head? = some ch → isDigit ch = false := by
  intro ch hch
  cases t with
  | nil => exact absurd rfl ht
  | cons c t =>
    obtain ⟨x, s, hs, hxd, _⟩ := printChar_head c (printText t ++ tail)
    simp only [printText_cons, List.append_assoc] at hs hch
    rw [hs] at hch
    simp only [List.head?_cons, Option.some.injEq] at hch
    subst hch
    exact hxd

theorem intFollow_nil : IntFollow [] := by
  constructor <;> simp

theorem printable_of_sepOK : ∀ (s : SVS), Svs.Normal s →
    (∀ p ∈ s, ∀ n, p = .num n → NumOK n) → sepOK s = true → Printable s
  | [], _, _, _ => trivial
  | .text t :: rest, hn, hok, hs => by
    simp only [Printable]
    exact printable_of_sepOK rest hn.2.2 (fun p hp => hok p (List.mem_cons_of_mem _ hp)) (by simpa [sepOK] using hs)
  | [.num n], _, hok, _ => by
    refine ⟨hok _ (List.mem_cons_self ..) n rfl, ?_, trivial⟩
    simp only [printBrace, List.flatMap_nil, NumFollow]
    cases n.kind
    · exact intFollow_nil
    · simp
    · simp
  | .num n :: .num m :: rest, _, _, hs => by simp [sepOK] at hs
  | .num n :: .text t :: rest, hn, hok, hs => by
    simp only [sepOK, Bool.and_eq_true, Bool.or_eq_true, bne_iff_ne, ne_eq] at hs
    have hnorm : Svs.Normal (.text t :: rest) := hn
    have hrest : Printable (.text t :: rest) := by
      simp only [Printable]
      exact printable_of_sepOK rest hnorm.2.2
        (fun p hp => hok p (List.mem_cons_of_mem _ (List.mem_cons_of_mem _ hp))) hs.2
    refine ⟨hok _ (List.mem_cons_self ..) n rfl, ?_, hrest⟩
    have hprint : printBrace (.text t :: rest) = printText t ++ printBrace rest := by
      simp [printBrace, printPart]
    rw [hprint]
    simp only [NumFollow]
    cases hk : n.kind with
    | int =>
      simp only
      rcases hs.1 with h | h
      · exact absurd hk h
      · exact intFollow_printText t _ h
    | frac => exact head_printText_not_digit t _ hnorm.1
    | flt => exact head_printText_not_digit t _ hnorm.1

end RG.Brace
