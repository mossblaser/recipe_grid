import RecipeGrid.Model.MdBlocks
import RecipeGrid.Lemmas.Text
/-! marko's lines (`mdLines`: pieces of the buffer up to and including each `"\n"`) against Python's (`str.splitlines` of the
    document with `"\r\n"` and a lone `"\r"` read as `"\n"`): `NlEnded` / `MdLine` / `LinesOk`, line counts (`pyLineCount`),
    the line number at the start of a marko line (`line_of_start`), `splitLines_norm`; also leading spaces, and the padding
    `get_line_number_corrected_source` puts in front of a block (`C19.mdPadding`, `C19.mdSources`), which the scanner
    statements and the parser-position statements share. -/
namespace RG

theorem crToLf_append (a b : Str) : crToLf (a ++ b) = crToLf a ++ crToLf b := by simp [crToLf]
theorem crToLf_drop (p : Nat) (a : Str) : crToLf (a.drop p) = (crToLf a).drop p := by simp [crToLf]
theorem crToLf_length (a : Str) : (crToLf a).length = a.length := by simp [crToLf]
theorem crToLf_nl : crToLf ['\n'] = ['\n'] := by decide
theorem crToLf_replicate_space (p : Nat) : crToLf (List.replicate p ' ') = List.replicate p ' ' := by
  simp [crToLf]
theorem crToLf_replicate_nl (p : Nat) : crToLf (List.replicate p '\n') = List.replicate p '\n' := by
  simp [crToLf]
theorem not_cr_mem_crToLf (a : Str) : '\r' ∉ crToLf a := by
  simp only [crToLf, List.mem_map, not_exists, not_and]
  intro c _
  split <;> simp_all
theorem crToLf_eq_nil (a : Str) : crToLf a = [] ↔ a = [] := by simp [crToLf]
theorem crToLf_of_no_break (a : Str) (h : ∀ c ∈ a, isLineBreak c = false) : crToLf a = a := by
  induction a with
  | nil => rfl
  | cons c a ih =>
    have hc : c ≠ '\r' := by
      intro e
      have := h c (by simp)
      rw [e, isLineBreak_cr] at this
      cases this
    simp only [crToLf, List.map_cons, hc, if_false]
    simp only [crToLf] at ih
    rw [ih (fun c' hc' => h c' (List.mem_cons_of_mem _ hc'))]

theorem leadSpaces_nil : leadSpaces [] = 0 := rfl

theorem leadSpaces_cons_space (l : Str) : leadSpaces (' ' :: l) = leadSpaces l + 1 := by simp [leadSpaces]

theorem leadSpaces_cons_ne (c : Char) (l : Str) (hc : c ≠ ' ') : leadSpaces (c :: l) = 0 := by simp [leadSpaces, hc]

theorem leadSpaces_split (l : Str) (p : Nat) (h : p ≤ leadSpaces l) : l = List.replicate p ' ' ++ l.drop p := by
  induction l generalizing p with
  | nil =>
    rw [leadSpaces_nil] at h
    rw [Nat.le_zero.1 h]
    rfl
  | cons c l ih =>
    cases p with
    | zero => rfl
    | succ p =>
      by_cases hc : c = ' '
      · subst hc
        rw [leadSpaces_cons_space] at h
        rw [List.replicate_succ, List.drop_succ_cons, List.cons_append, ← ih p (by omega)]
      · rw [leadSpaces_cons_ne c l hc] at h
        exact absurd h (by omega)

theorem leadSpaces_append (l r : Str) (h : l.drop (leadSpaces l) ≠ []) : leadSpaces (l ++ r) = leadSpaces l := by
  induction l with
  | nil => exact absurd rfl h
  | cons c l ih =>
    rw [List.cons_append]
    by_cases hc : c = ' '
    · subst hc
      rw [leadSpaces_cons_space, List.drop_succ_cons] at h
      rw [leadSpaces_cons_space, leadSpaces_cons_space, ih h]
    · rw [leadSpaces_cons_ne _ _ hc, leadSpaces_cons_ne _ _ hc]

theorem leadSpaces_le_of_nlEnded (b : Str) : leadSpaces (b ++ ['\n']) ≤ b.length := by
  induction b with
  | nil => decide
  | cons c b ih =>
    rw [List.cons_append]
    by_cases hc : c = ' '
    · subst hc
      rw [leadSpaces_cons_space, List.length_cons]
      omega
    · rw [leadSpaces_cons_ne _ _ hc]
      omega

/-- the line ends in `"\n"`: every marko line but the last of the buffer -/
def NlEnded (l : Str) : Prop := ∃ b, l = b ++ ['\n']

/-- a piece of the buffer as `next_line` returns it: not empty, a newline only at the very end -/
def MdLine (l : Str) : Prop := l ≠ [] ∧ ∀ a b, l = a ++ '\n' :: b → b = []

def LinesOk : List Str → Prop
  | [] => True
  | l :: ls => MdLine l ∧ (ls ≠ [] → NlEnded l) ∧ LinesOk ls

theorem LinesOk.head {l : Str} {ls : List Str} (h : LinesOk (l :: ls)) : MdLine l := h.1

theorem LinesOk.head_nlEnded {l : Str} {ls : List Str} (h : LinesOk (l :: ls)) (hls : ls ≠ []) : NlEnded l := h.2.1 hls

theorem LinesOk.tail {l : Str} {ls : List Str} (h : LinesOk (l :: ls)) : LinesOk ls := h.2.2

theorem mdLines_flatten (s : Str) : (mdLines s).flatten = s := by
  induction s with
  | nil => rfl
  | cons c rest ih =>
    simp only [mdLines]
    split
    · rename_i h
      subst h
      simp [ih]
    · generalize mdLines rest = ms at ih
      cases ms with
      | nil =>
        simp at ih ⊢
        exact ih
      | cons l ls =>
        simp at ih ⊢
        exact ih

theorem mdLine_nl : MdLine ['\n'] := by
  refine ⟨by simp, fun a b h => ?_⟩
  cases a with
  | nil => exact ((List.cons.inj h).2).symm
  | cons x a =>
    have := (List.cons.inj h).2
    simp at this

theorem mdLine_cons (c : Char) (l : Str) (hc : c ≠ '\n') (hl : l = [] ∨ MdLine l) : MdLine (c :: l) := by
  refine ⟨by simp, fun a b h => ?_⟩
  cases a with
  | nil => exact absurd (List.cons.inj h).1 hc
  | cons x a =>
    have h2 : l = a ++ '\n' :: b := (List.cons.inj h).2
    rcases hl with rfl | hl
    · simp at h2
    · exact hl.2 a b h2

theorem mdLines_ok (s : Str) : LinesOk (mdLines s) := by
  induction s with
  | nil => trivial
  | cons c rest ih =>
    simp only [mdLines]
    split
    · exact ⟨mdLine_nl, fun _ => ⟨[], rfl⟩, ih⟩
    · rename_i hc
      generalize mdLines rest = ms at ih
      cases ms with
      | nil => exact ⟨mdLine_cons c [] hc (Or.inl rfl), fun h => absurd rfl h, trivial⟩
      | cons l ls =>
        refine ⟨mdLine_cons c l hc (Or.inr ih.head), fun h => ?_, ih.tail⟩
        obtain ⟨b, hb⟩ := ih.head_nlEnded h
        exact ⟨c :: b, by rw [hb]; rfl⟩

theorem LinesOk.append_right {a b : List Str} (h : LinesOk (a ++ b)) : LinesOk b := by
  induction a with
  | nil => exact h
  | cons x a ih => exact ih h.2.2

theorem LinesOk.nlEnded_left {a b : List Str} (h : LinesOk (a ++ b)) (hb : b ≠ []) : ∀ l ∈ a, NlEnded l := by
  induction a with
  | nil => simp
  | cons x a ih => exact List.forall_mem_cons.2 ⟨h.2.1 (by simp [hb]), ih h.2.2⟩

theorem LinesOk.mdLine {ls : List Str} (h : LinesOk ls) : ∀ l ∈ ls, MdLine l := by
  induction ls with
  | nil => simp
  | cons x a ih => exact List.forall_mem_cons.2 ⟨h.1, ih h.2.2⟩

theorem LinesOk.append_left {a b : List Str} (h : LinesOk (a ++ b)) : LinesOk a := by
  induction a with
  | nil => trivial
  | cons x a ih =>
    refine ⟨h.1, ?_, ih h.2.2⟩
    intro ha
    exact h.2.1 (by simp [ha])

theorem NlEnded.ne_nil {l : Str} (h : NlEnded l) : l ≠ [] := by
  obtain ⟨b, rfl⟩ := h; simp

theorem nl_not_mem_of_noBreak (pre : Str) (h : ∀ c ∈ pre, isLineBreak c = false) : '\n' ∉ pre := by
  intro hm
  have := h _ hm
  rw [isLineBreak_lf] at this
  cases this

theorem nlEnded_append (a b : Str) (hb : NlEnded b) : NlEnded (a ++ b) := by
  obtain ⟨c, rfl⟩ := hb
  exact ⟨a ++ c, by simp⟩

theorem nlEnded_of_append_ne_nil (a b : Str) (h : NlEnded (a ++ b)) (hb : b ≠ []) : NlEnded b := by
  obtain ⟨c, hc⟩ := h
  rcases List.eq_nil_or_concat b with rfl | ⟨b', x, rfl⟩
  · exact absurd rfl hb
  · rw [List.concat_eq_append, ← List.append_assoc] at hc
    obtain ⟨_, hx⟩ := List.append_inj' hc rfl
    exact ⟨b', by rw [List.concat_eq_append, hx]⟩

theorem nlEnded_of_append (pre s : Str) (h : NlEnded (pre ++ s)) (hp : '\n' ∉ pre) : NlEnded s := by
  by_cases hs : s = []
  · subst hs
    obtain ⟨b, hb⟩ := h
    rw [List.append_nil] at hb
    exact absurd (by rw [hb]; simp) hp
  · exact nlEnded_of_append_ne_nil pre s h hs

theorem nlEnded_flatten (ss : List Str) (h : ∀ s ∈ ss, NlEnded s) (hne : ss ≠ []) : NlEnded ss.flatten := by
  induction ss with
  | nil => contradiction
  | cons s ss ih =>
    by_cases hss : ss = []
    · subst hss; simpa using h s (by simp)
    · exact nlEnded_append _ _ (ih (fun x hx => h x (List.mem_cons_of_mem _ hx)) hss)

theorem nlEnded_drop (l : Str) (p : Nat) (h : NlEnded l) (hp : p ≤ leadSpaces l) : NlEnded (l.drop p) := by
  obtain ⟨b, rfl⟩ := h
  have := leadSpaces_le_of_nlEnded b
  exact ⟨b.drop p, by rw [List.drop_append_of_le_length (by omega)]⟩

theorem mdLine_of_append (pre s : Str) (h : MdLine (pre ++ s)) (hs : s ≠ []) : MdLine s := by
  refine ⟨hs, ?_⟩
  intro a b hab
  apply h.2 (pre ++ a) b
  rw [List.append_assoc, ← hab]

theorem mdLine_drop_nl {l : Str} (hl : MdLine l) (k : Nat) (tail : Str) (h : l.drop k = '\n' :: tail) : tail = [] := by
  apply hl.2 (l.take k) tail
  rw [← h, List.take_append_drop]

theorem complete_crToLf_flatten (A : List Str) (h : ∀ x ∈ A, NlEnded x) (b : Str) : Complete (crToLf A.flatten) b := by
  rcases List.eq_nil_or_concat A with rfl | ⟨A', x, rfl⟩
  · simp [Complete, crToLf]
  · obtain ⟨y, rfl⟩ := h x (by simp)
    simp only [List.concat_eq_append, List.flatten_append, List.flatten_cons, List.flatten_nil, List.append_nil,
      crToLf_append, crToLf_nl]
    rw [← List.append_assoc]; exact complete_nl _ _

theorem splitLines_flatten_nl (ls : List Str) (h : ∀ l ∈ ls, NlEnded l) (r : Str) :
    splitLines (crToLf (ls.flatten ++ r)) = splitLines (crToLf ls.flatten) ++ splitLines (crToLf r) := by
  rw [crToLf_append, splitLines_append _ _ (complete_crToLf_flatten ls h _)]

theorem splitLines_crToLf_nlEnded_append (l r : Str) (h : NlEnded l) :
    splitLines (crToLf (l ++ r)) = splitLines (crToLf l) ++ splitLines (crToLf r) := by
  simpa using splitLines_flatten_nl [l] (by simpa using h) r

theorem pyLineCount_eq (l : Str) : pyLineCount l = (splitLines (crToLf l)).length := by
  simp [pyLineCount, splitLines]

theorem sum_pyLineCount_eq (A : List Str) (h : ∀ l ∈ A, NlEnded l) :
    (A.map pyLineCount).sum = (splitLines (crToLf A.flatten)).length := by
  induction A with
  | nil => rfl
  | cons l A ih =>
    have hl := h l (by simp)
    have ih' := ih (fun x hx => h x (List.mem_cons_of_mem _ hx))
    simp only [List.map_cons, List.sum_cons, List.flatten_cons]
    rw [splitLines_crToLf_nlEnded_append _ _ hl, List.length_append, ← ih', pyLineCount_eq]

theorem pyLineCount_fence_line (l : Str) (hl : MdLine l) (hok : hasInnerBreak l = false) : pyLineCount l = 1 := by
  have hsplit := (List.takeWhile_append_dropWhile (p := (· != '\n')) (l := l)).symm
  have hnb : ∀ c ∈ l.takeWhile (· != '\n'), isLineBreak c = false := fun c hc => by
    simpa using List.any_eq_false.mp hok c hc
  rw [pyLineCount_eq, hsplit, crToLf_append, crToLf_of_no_break _ hnb, splitLines_nobreak_prefix _ _ hnb]
  cases he : l.dropWhile (· != '\n') with
  | nil =>
    have hne : l.takeWhile (· != '\n') ≠ [] := by
      intro e0
      rw [he, e0] at hsplit
      exact hl.1 hsplit
    simp [crToLf, splitLines_nil, attachPre, hne]
  | cons c r =>
    have hc : c = '\n' := by
      have := List.head_dropWhile_not (p := (· != '\n')) (l := l) (by rw [he]; simp)
      simpa [he] using this
    have hr : r = [] := hl.2 _ r (by conv => lhs; rw [hsplit, he, hc])
    subst hc hr
    simp [crToLf, splitLines_nl, attachPre]

/-- the offset of a marko line lies on the Python line after those the marko lines before it count: `pos` of a block gives its line -/
theorem line_of_start (N : Str) (A : List Str) (l : Str) (B : List Str) (h : mdLines N = A ++ l :: B) :
    (offsetToLineCol (crToLf N) A.flatten.length).1 = (A.map pyLineCount).sum + 1 := by
  have hok : LinesOk (A ++ l :: B) := by rw [← h]; exact mdLines_ok N
  have hnl : ∀ x ∈ A, NlEnded x := hok.nlEnded_left (by simp)
  have hN : N = A.flatten ++ (l ++ B.flatten) := by
    conv => lhs; rw [← mdLines_flatten N, h]
    simp
  rw [hN, crToLf_append, ← crToLf_length A.flatten, offsetToLineCol_line_start _ _ (complete_crToLf_flatten A hnl _)
    (by rw [Ne, crToLf_eq_nil]; simp [hok.append_right.head.1]), sum_pyLineCount_eq A hnl]
  simp [splitLines]

theorem normaliseCrLf_crlf (rest : Str) : normaliseCrLf ('\r' :: '\n' :: rest) = '\n' :: normaliseCrLf rest := by
  rw [normaliseCrLf]

theorem normaliseCrLf_cons (c : Char) (rest : Str) (h : ∀ r, ¬ (c = '\r' ∧ rest = '\n' :: r)) :
    normaliseCrLf (c :: rest) = c :: normaliseCrLf rest := by
  rw [normaliseCrLf]
  intro r hc hr
  exact h r ⟨hc, hr⟩

/-- **`"\r\n"` and a lone `"\r"` are line ends like `"\n"`**: the lines of the normalised document are the lines of the document -/
theorem splitLines_norm (s : Str) : splitLines (crToLf (normaliseCrLf s)) = splitLines s := by
  have hcons : ∀ (c : Char) (x : Str), crToLf (c :: x) = (if c = '\r' then '\n' else c) :: crToLf x := fun _ _ => rfl
  fun_induction normaliseCrLf s with
  | case1 rest ih => rw [hcons, if_neg (by decide), splitLines_cons_nl, ih, splitLines_crlf]
  | case2 c rest hpat ih =>
    rw [hcons]
    by_cases hb : isLineBreak c = true
    · -- a line end other than `"\r\n"`: read as itself, or — a lone `"\r"` — as `"\n"`
      have hpat' : c = '\r' → rest.head? ≠ some '\n' := by
        intro hc h
        cases rest with
        | nil => cases h
        | cons d r => exact hpat r hc (by rw [(Option.some.inj h : d = '\n')])
      rw [splitLines_cons_break c rest hb hpat', ← ih]
      split
      · exact splitLines_cons_nl _
      · exact splitLines_cons_break _ _ hb (fun e => absurd e ‹_›)
    · have hb' : isLineBreak c = false := by simpa using hb
      have hcr : c ≠ '\r' := by rintro rfl; rw [isLineBreak_cr] at hb'; cases hb'
      rw [if_neg hcr, splitLines_cons_plain _ _ hb', splitLines_cons_plain _ _ hb', ih]
  | case3 => rfl

end RG

namespace RG.C19

/-- the number of newlines `get_line_number_corrected_source` puts in front of a block found at `pos`: the lines
    before the line of `pos`, and the fence line of a fenced block -/
def mdPadding (md : Str) (pos : Nat) (fenced : Bool) : Nat :=
  (offsetToLineCol (crToLf (normaliseCrLf md)) pos).1 - 1 + (if fenced then 1 else 0)

/-- the sources the Markdown front end compiles for the recipe blocks `(pos, fenced, text)` of a document -/
def mdSources (md : Str) (blocks : List (Nat × Bool × Str)) : List Str :=
  blocks.map fun x => paddedSource md x.1 x.2.1 x.2.2

/-- `paddedSource` in terms of `mdPadding`: it is `C19.pad (mdPadding doc pos fenced) (crToLf src)` of `Props/C19.lean`,
    whose statements speak of `pad k s` -/
theorem paddedSource_eq (doc : Str) (pos : Nat) (fenced : Bool) (src : Str) :
    paddedSource doc pos fenced src = List.replicate (mdPadding doc pos fenced) '\n' ++ crToLf src := rfl

end RG.C19
