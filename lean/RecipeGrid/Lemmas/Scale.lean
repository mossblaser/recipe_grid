import RecipeGrid.Lemmas.Good
import RecipeGrid.Lemmas.Compiler
/-! Scaling the numbers of a description (on the parser AST) and compiling gives the scaled compiled recipe: the
    simulation behind `Props/C03b.lean`.  The definitions its statements use are here too (`scaleAst`, `astQuantities`,
    `AstExact`, `C03.InlineTestsStable` and the checkers `astExactB`, `inlineTestsStableB`).

    The pool.  The in-lining pass compares quantities with the binary64 test `has_equal_value_to`, which scaling may flip; so
    the simulation is relative to a set `P` of quantities ("the pool") that holds every quantity that can reach such a test —
    all of them are written in the description: `P = (· ∈ astQuantities asts)` in the end — and on which the test is assumed
    stable (`HevStable k P`).  Two predicates run in parallel: on the AST, `AExpr.Ok P` (numbers exact, quantities in `P`;
    `AExpr.Exact` is its `P`-free part, the one that is checked by evaluation), on trees `Tree.GoodP P` (`Tree.Good` and the
    quantities in `P`).  Each `…_scale` lemma says: the run on the scaled input ends as the run on the input does, with the
    scaled result, and the result of the plain run is good again. -/
namespace RG

def scaleSubStr (k : Num) : SubStr → SubStr
  | .sub o s => .sub o s
  | .num o n => .num o (n.mul k)

def scaleAString (k : Num) (s : AString) : AString := s.map (scaleSubStr k)

/-- a quantity is multiplied (its unit is left alone); proportions, percentages and remainders are left alone -/
def scaleAAmount (k : Num) : AAmount → AAmount
  | .qty o v u sp p => .qty o (v.mul k) u sp p
  | a => a

mutual
def scaleAExpr (k : Num) : AExpr → AExpr
  | .step name inputs => .step (scaleAString k name) (scaleAExprs k inputs)
  | .ref name amount => .ref (scaleAString k name) (amount.map (scaleAAmount k))
def scaleAExprs (k : Num) : List AExpr → List AExpr
  | [] => []
  | e :: es => scaleAExpr k e :: scaleAExprs k es
end

def scaleAStmt (k : Num) (s : AStmt) : AStmt :=
  { expr := scaleAExpr k s.expr, outputs := s.outputs.map (·.map (scaleAString k)), named := s.named }

/-- `scaleAst k`: every literal quantity and every number of a `{…}` expression multiplied by `k` -/
def scaleAst (k : Num) (asts : List (List AStmt)) : List (List AStmt) := asts.map (·.map (scaleAStmt k))

theorem normaliseName_normal (s : SVS) : Svs.Normal (normaliseName s) := Svs.normal_normalise _

theorem normaliseName_scale (k : Num) (s : SVS) (hs : Svs.Normal s) :
    normaliseName (Svs.scale k s) = Svs.scale k (normaliseName s) := by
  rw [Svs.scale_of_normal k s hs, normaliseName_map (Svs.scalePart_shape k),
    Svs.scale_of_normal k _ (normaliseName_normal s)]

def subStrPart : SubStr → Part
  | .sub _ t => .text t
  | .num _ n => .num n

theorem compileString_eq (s : AString) : compileString s = Svs.normalise (s.map subStrPart) := by
  unfold compileString
  congr 1

theorem compileString_normal (s : AString) : Svs.Normal (compileString s) := Svs.normal_normalise _

theorem compileString_scale (k : Num) (s : AString) :
    compileString (scaleAString k s) = Svs.scale k (compileString s) := by
  rw [Svs.scale_of_normal k _ (compileString_normal s), compileString_eq, compileString_eq,
    ← Svs.normalise_map (Svs.scalePart_shape k), scaleAString, List.map_map, List.map_map]
  congr 1
  apply List.map_congr_left
  intro p _; cases p <;> rfl

theorem AString.offset_scale (k : Num) (s : AString) : AString.offset (scaleAString k s) = AString.offset s := by
  cases s with
  | nil => rfl
  | cons p r => cases p <;> rfl

/-- the calculus of this file's walk of the compiler (`…_scale`); `C01.Sim`, `EPost` and `bind_eq_ok` serve the other
    walks (see the header of `Lemmas/Compiler.lean`) -/
def ExRel {ε α β : Type} (R : α → β → Prop) : Except ε α → Except ε β → Prop
  | .ok a, .ok b => R a b
  | .error e, .error e' => e = e'
  | _, _ => False

theorem ExRel.bind {ε α β α' β' : Type} {R : α → β → Prop} {S : α' → β' → Prop}
    {x : Except ε α} {y : Except ε β} {f : α → Except ε α'} {g : β → Except ε β'}
    (h : ExRel R x y) (hf : ∀ a b, R a b → ExRel S (f a) (g b)) : ExRel S (x >>= f) (y >>= g) := by
  cases x with
  | error e =>
    cases y with
    | error e' => exact h
    | ok b => exact h.elim
  | ok a =>
    cases y with
    | error e' => exact h.elim
    | ok b => exact hf a b h

theorem ExRel.cases {ε α β : Type} {R : α → β → Prop} {x : Except ε α} {y : Except ε β} (h : ExRel R x y) :
    (∃ e, x = .error e ∧ y = .error e) ∨ ∃ a b, x = .ok a ∧ y = .ok b ∧ R a b := by
  cases x <;> cases y
  · exact Or.inl ⟨_, rfl, congrArg _ (Eq.symm h)⟩
  · exact h.elim
  · exact h.elim
  · exact Or.inr ⟨_, _, rfl, rfl, h⟩

theorem ExRel.mono {ε α β : Type} {R S : α → β → Prop} {x : Except ε α} {y : Except ε β}
    (h : ExRel R x y) (hRS : ∀ a b, R a b → S a b) : ExRel S x y := by
  cases x <;> cases y <;> first | exact hRS _ _ h | exact h

def QOk (P : Quantity → Prop) (q : Quantity) : Prop := q.value.kind ≠ .flt ∧ P q

mutual
def Tree.GoodP (P : Quantity → Prop) : Tree → Prop
  | .ingredient d q => SvsGood d ∧ ∀ x, q = some x → QOk P x
  | .step d i => SvsGood d ∧ Tree.GoodPList P i
  | .reference s _ a => Tree.GoodP P s ∧ ∀ x, a = .quantity x → QOk P x
  | .sub b ns _ => Tree.GoodP P b ∧ ∀ n ∈ ns, SvsGood n
def Tree.GoodPList (P : Quantity → Prop) : List Tree → Prop
  | [] => True
  | t :: ts => Tree.GoodP P t ∧ Tree.GoodPList P ts
end

mutual
theorem Tree.GoodP.good {P : Quantity → Prop} : ∀ t : Tree, t.GoodP P → t.Good
  | .ingredient d q, h => ⟨h.1, fun x hx => (h.2 x hx).1⟩
  | .step d i, h => ⟨h.1, Tree.GoodPList.good i h.2⟩
  | .reference s n a, h => by
    refine ⟨Tree.GoodP.good s h.1, ?_⟩
    cases a with
    | quantity q => exact (h.2 q rfl).1
    | proportion v p w pr => trivial
  | .sub b ns sh, h => ⟨Tree.GoodP.good b h.1, h.2⟩
theorem Tree.GoodPList.good {P : Quantity → Prop} : ∀ ts : List Tree, Tree.GoodPList P ts → Tree.GoodList ts
  | [], _ => trivial
  | t :: ts, h => ⟨Tree.GoodP.good t h.1, Tree.GoodPList.good ts h.2⟩
end

theorem Tree.goodPList_iff {P : Quantity → Prop} : ∀ ts : List Tree, Tree.GoodPList P ts ↔ ∀ t ∈ ts, Tree.GoodP P t
  | [] => by simp [Tree.GoodPList]
  | t :: ts => by simp [Tree.GoodPList, Tree.goodPList_iff ts]

theorem svsGood_normalise {ps : List Part} (h : ∀ p ∈ ps, Part.Exact p) : SvsGood (Svs.normalise ps) := by
  refine ⟨Svs.normal_normalise ps, ?_⟩
  intro p hp
  cases p with
  | text t => trivial
  | num n => exact h _ (Svs.num_mem_normalise hp)

theorem nums_normaliseName (s : SVS) : C03.svsNums (normaliseName s) = C03.svsNums s := by
  unfold C03.svsNums normaliseName Svs.lower Svs.strip Svs.rstrip Svs.lstrip
  rw [Svs.filterMap_normalise _ (fun _ => rfl), Svs.filterMap_map_congr (fun p => by cases p <;> rfl),
    Svs.filterMap_normalise _ (fun _ => rfl), Svs.filterMap_mapLast_congr (fun p => by cases p <;> rfl),
    Svs.filterMap_normalise _ (fun _ => rfl)]
  cases s with
  | nil => rfl
  | cons a r => cases a <;> rfl

theorem svsGood_normaliseName {s : SVS} (h : SvsGood s) : SvsGood (normaliseName s) := by
  refine ⟨normaliseName_normal s, ?_⟩
  intro p hp
  cases p with
  | text t => trivial
  | num n =>
    rw [Svs.num_mem_iff, nums_normaliseName, ← Svs.num_mem_iff] at hp
    exact h.2 _ hp

def AString.Exact (s : AString) : Prop := ∀ o n, SubStr.num o n ∈ s → n.kind ≠ .flt

theorem svsGood_compileString {s : AString} (h : AString.Exact s) : SvsGood (compileString s) := by
  rw [compileString_eq]
  apply svsGood_normalise
  intro p hp
  obtain ⟨a, ha, rfl⟩ := List.mem_map.1 hp
  cases a with
  | sub o t => trivial
  | num o n => exact h o n ha

theorem svsGood_scale {k : Num} (hk : k.kind ≠ .flt) {s : SVS} (h : SvsGood s) : SvsGood (Svs.scale k s) := by
  refine ⟨Svs.scale_normal k s, ?_⟩
  rw [Svs.scale_of_normal k s h.1]
  intro p hp
  obtain ⟨a, ha, rfl⟩ := List.mem_map.1 hp
  cases a with
  | text t => trivial
  | num n =>
    have hn : n.kind ≠ .flt := h.2 _ ha
    show (n.mul k).kind ≠ .flt
    exact Num.mul_kind_exact hn hk

def scaleOut (k : Num) (o : NamedOutput) : NamedOutput :=
  { key := Svs.scale k o.key, name := Svs.scale k o.name, defBlock := o.defBlock, sub := o.sub.scale k,
    idx := o.idx, refs := o.refs.map (fun r => (r.1.scale k, r.2)), unwrap := o.unwrap }

def scaleSt (k : Num) (st : CState) : CState := { outputs := st.outputs.map (scaleOut k) }

def OutGood (P : Quantity → Prop) (o : NamedOutput) : Prop :=
  SvsGood o.key ∧ o.sub.GoodP P ∧ ∀ r ∈ o.refs, r.1.GoodP P

def OutsGood (P : Quantity → Prop) (outs : List NamedOutput) : Prop := ∀ o ∈ outs, OutGood P o

def StGood (P : Quantity → Prop) (st : CState) : Prop := OutsGood P st.outputs

theorem List.find?_congr_mem {α : Type} {p q : α → Bool} : ∀ {l : List α}, (∀ a ∈ l, p a = q a) → l.find? p = l.find? q
  | [], _ => rfl
  | a :: l, h => by
    simp only [List.find?_cons, h a List.mem_cons_self]
    rw [List.find?_congr_mem (l := l) (fun x hx => h x (List.mem_cons_of_mem _ hx))]

theorem find?_scaleSt {k : Num} (hk : k.kind ≠ .flt) (hk0 : k.val ≠ 0) {P : Quantity → Prop} {st : CState}
    (hst : StGood P st) {key : SVS} (hkey : SvsGood key) :
    (scaleSt k st).find? (Svs.scale k key) = (st.find? key).map (scaleOut k) := by
  unfold CState.find? scaleSt
  simp only [List.find?_map]
  congr 1
  apply List.find?_congr_mem
  intro o ho
  exact Svs.beq_scale hk hk0 (hst o ho).1 hkey

def AAmount.Ok (P : Quantity → Prop) : AAmount → Prop
  | .qty _ v u sp p => QOk P (compileQuantity v u sp p)
  | _ => True

theorem compileQuantity_scale (k v : Num) (u : Option AString) (sp p : Str) :
    compileQuantity (v.mul k) u sp p = (compileQuantity v u sp p).scale k := rfl

theorem compileAmount_scale (k : Num) (a : Option AAmount) :
    compileAmount (a.map (scaleAAmount k)) = (compileAmount a).scale k := by
  cases a with
  | none => rfl
  | some a => cases a <;> rfl

theorem compileAmount_ok {P : Quantity → Prop} {a : Option AAmount} (h : ∀ x, a = some x → x.Ok P) :
    ∀ q, compileAmount a = .quantity q → QOk P q := by
  intro q hq
  cases a with
  | none => cases hq
  | some a =>
    cases a with
    | qty o v u sp p =>
      have := h _ rfl
      simp only [compileAmount, Amount.quantity.injEq] at hq
      exact hq ▸ this
    | prop o v pc w p => cases hq

mutual
def AExpr.Ok (P : Quantity → Prop) : AExpr → Prop
  | .step name inputs => AString.Exact name ∧ AExpr.OkList P inputs
  | .ref name amount => AString.Exact name ∧ ∀ a, amount = some a → a.Ok P
def AExpr.OkList (P : Quantity → Prop) : List AExpr → Prop
  | [] => True
  | e :: es => AExpr.Ok P e ∧ AExpr.OkList P es
end

def RelT (k : Num) (P : Quantity → Prop) : Tree × CState → Tree × CState → Prop
  | (t', st'), (t, st) => t' = t.scale k ∧ st' = scaleSt k st ∧ t.GoodP P ∧ StGood P st

def RelTs (k : Num) (P : Quantity → Prop) (p' p : List Tree × CState) : Prop :=
  p'.1 = Tree.scaleList k p.1 ∧ p'.2 = scaleSt k p.2 ∧ Tree.GoodPList P p.1 ∧ StGood P p.2

theorem compileExpr_ref_scale {k : Num} (hk : k.kind ≠ .flt) (hk0 : k.val ≠ 0) {P : Quantity → Prop} (block : Nat)
    (name : AString) (amount : Option AAmount) (st : CState) (hst : StGood P st)
    (he : AExpr.Ok P (.ref name amount)) :
    ExRel (RelT k P) (compileExpr block (scaleSt k st) (scaleAExpr k (.ref name amount)))
      (compileExpr block st (.ref name amount)) := by
  simp only [AExpr.Ok] at he
  obtain ⟨hname, ham⟩ := he
  have hn := svsGood_compileString hname
  have hkey := svsGood_normaliseName hn
  have hf := find?_scaleSt hk hk0 hst hkey (k := k)
  simp only [scaleAExpr, compileExpr, compileString_scale, normaliseName_scale k _ hn.1, hf]
  cases ho : st.find? (normaliseName (compileString name)) with
  | none =>
    simp only [Option.map_none]
    cases amount with
    | none => exact ⟨rfl, rfl, ⟨hn, fun x hx => by cases hx⟩, hst⟩
    | some am =>
      cases am with
      | qty o v u sp p =>
        refine ⟨rfl, rfl, ⟨hn, fun x hx => ?_⟩, hst⟩
        cases hx
        exact ham _ rfl
      | prop off v pc w p => exact rfl
  | some out =>
    have hout : out ∈ st.outputs := List.mem_of_find?_eq_some ho
    have hog := hst out hout
    have hr : (Tree.reference out.sub out.idx (compileAmount amount)).GoodP P :=
      ⟨hog.2.1, compileAmount_ok ham⟩
    simp only [Option.map_some, compileAmount_scale]
    refine ⟨rfl, ?_, hr, ?_⟩
    · simp only [scaleSt, List.map_map, CState.mk.injEq]
      apply List.map_congr_left
      intro o ho'
      have hb : ((scaleOut k o).key == Svs.scale k (normaliseName (compileString name)))
          = (o.key == normaliseName (compileString name)) := Svs.beq_scale hk hk0 (hst o ho').1 hkey
      simp only [Function.comp_def, hb]
      split <;> simp [scaleOut, Tree.scale]
    · intro o ho'
      simp only [List.mem_map] at ho'
      obtain ⟨o', ho'', rfl⟩ := ho'
      have hg := hst o' ho''
      split
      · refine ⟨hg.1, hg.2.1, ?_⟩
        intro r hr'
        simp only [List.mem_append, List.mem_singleton] at hr'
        rcases hr' with hr' | hr'
        · exact hg.2.2 r hr'
        · subst hr'; exact hr
      · exact hg

mutual
theorem compileExpr_scale {k : Num} (hk : k.kind ≠ .flt) (hk0 : k.val ≠ 0) {P : Quantity → Prop} (block : Nat) :
    ∀ (e : AExpr) (st : CState), StGood P st → AExpr.Ok P e →
      ExRel (RelT k P) (compileExpr block (scaleSt k st) (scaleAExpr k e)) (compileExpr block st e)
  | .ref name amount, st, hst, he => compileExpr_ref_scale hk hk0 block name amount st hst he
  | .step name inputs, st, hst, he => by
    simp only [AExpr.Ok] at he
    rw [scaleAExpr, compileExpr, compileExpr]
    refine ExRel.bind (compileExprs_scale hk hk0 block inputs st hst he.2) ?_
    rintro ⟨ts', st'⟩ ⟨ts, st1⟩ ⟨h1, h2, h3, h4⟩
    simp only at h1 h2
    subst h1 h2
    exact ⟨by simp [Tree.scale, compileString_scale], rfl, ⟨svsGood_compileString he.1, h3⟩, h4⟩
theorem compileExprs_scale {k : Num} (hk : k.kind ≠ .flt) (hk0 : k.val ≠ 0) {P : Quantity → Prop} (block : Nat) :
    ∀ (es : List AExpr) (st : CState), StGood P st → AExpr.OkList P es →
      ExRel (RelTs k P) (compileExprs block (scaleSt k st) (scaleAExprs k es)) (compileExprs block st es)
  | [], st, hst, _ => by
    rw [scaleAExprs, compileExprs, compileExprs]
    exact ⟨rfl, rfl, trivial, hst⟩
  | e :: es, st, hst, he => by
    simp only [AExpr.OkList] at he
    rw [scaleAExprs, compileExprs, compileExprs]
    refine ExRel.bind (compileExpr_scale hk hk0 block e st hst he.1) ?_
    rintro ⟨_, _⟩ ⟨t, st1⟩ ⟨rfl, rfl, h3, h4⟩
    refine ExRel.bind (compileExprs_scale hk hk0 block es st1 h4 he.2) ?_
    rintro ⟨ts', st''⟩ ⟨ts, st2⟩ ⟨h5, h6, h7, h8⟩
    simp only at h5 h6
    subst h5 h6
    exact ⟨rfl, rfl, ⟨h3, h7⟩, h8⟩
end

theorem inferOutputName_scale (k : Num) : ∀ t : Tree,
    inferOutputName (Tree.scale k t) = (inferOutputName t).map (Svs.scale k)
  | .ingredient d q => by simp [Tree.scale, inferOutputName]
  | .step d [] => by simp [Tree.scale, Tree.scaleList, inferOutputName]
  | .step d [i] => by
    simp only [Tree.scale, Tree.scaleList, inferOutputName]
    exact inferOutputName_scale k i
  | .step d (_ :: _ :: _) => by simp [Tree.scale, Tree.scaleList, inferOutputName]
  | .reference s n a => by simp [Tree.scale, inferOutputName]
  | .sub b ns sh => by simp [Tree.scale, inferOutputName]

theorem inferOutputName_good {P : Quantity → Prop} (t : Tree) (n : SVS) (h : t.GoodP P)
    (hn : inferOutputName t = some n) : SvsGood n := by
  fun_induction inferOutputName t with
  | case1 d q => exact Option.some.inj hn ▸ h.1
  | case2 d i ih => exact ih h.2.1 hn
  | case3 t _ _ => cases hn

theorem outsGood_append {P : Quantity → Prop} {outs : List NamedOutput} {o : NamedOutput}
    (h : OutsGood P outs) (ho : OutGood P o) : OutsGood P (outs ++ [o]) := by
  intro x hx
  simp only [List.mem_append, List.mem_singleton] at hx
  rcases hx with hx | hx
  · exact h x hx
  · exact hx ▸ ho

theorem registerOutputs_scale {k : Num} (hk : k.kind ≠ .flt) (hk0 : k.val ≠ 0) {P : Quantity → Prop}
    (block : Nat) (sub : Tree) (unwrap : Bool) (asts : Option (List AString)) (hsub : sub.GoodP P) :
    ∀ (ns : List SVS) (st : CState) (i : Nat), StGood P st → (∀ n ∈ ns, SvsGood n) →
      ExRel (fun st' st2 => st' = scaleSt k st2 ∧ StGood P st2)
        (registerOutputs block (sub.scale k) unwrap (asts.map (·.map (scaleAString k))) (scaleSt k st) i
          (ns.map (Svs.scale k)))
        (registerOutputs block sub unwrap asts st i ns)
  | [], st, i, hst, _ => by
    simp only [List.map_nil, registerOutputs]
    exact ⟨rfl, hst⟩
  | n :: ns, st, i, hst, hns => by
    have hn := hns n List.mem_cons_self
    have hkey := svsGood_normaliseName hn
    have hf := find?_scaleSt hk hk0 hst hkey (k := k)
    simp only [List.map_cons, registerOutputs, normaliseName_scale k n hn.1, hf, Option.isSome_map]
    cases hfs : (st.find? (normaliseName n)).isSome with
    | true =>
      simp only [if_true]
      cases asts with
      | none => exact rfl
      | some l =>
        simp only [Option.map_some, List.getElem?_map]
        cases l[i]? with
        | none => exact rfl
        | some a =>
          simp only [Option.map_some, AString.offset_scale]
          exact rfl
    | false =>
      simp only [Bool.false_eq_true, if_false]
      have hst' : StGood P ⟨st.outputs ++ [⟨normaliseName n, n, block, sub, i, [], unwrap⟩]⟩ :=
        outsGood_append hst ⟨hkey, hsub, by simp⟩
      have := registerOutputs_scale hk hk0 block sub unwrap asts hsub ns _ (i + 1) hst'
        (fun m hm => hns m (List.mem_cons_of_mem _ hm))
      simpa [scaleSt, scaleOut] using this

def AStmt.Ok (P : Quantity → Prop) (s : AStmt) : Prop :=
  s.expr.Ok P ∧ ∀ l, s.outputs = some l → ∀ n ∈ l, AString.Exact n

theorem stmtNames_scale (k : Num) (s : AStmt) (tree : Tree) :
    stmtNames (scaleAStmt k s) (tree.scale k) = (stmtNames s tree).map fun p => (p.1.map (Svs.scale k), p.2) := by
  have hinf : (inferOutputName (tree.scale k)).map (fun n => ([n], false)) =
      ((inferOutputName tree).map fun n => ([n], false)).map fun p : List SVS × Bool => (p.1.map (Svs.scale k), p.2) := by
    rw [inferOutputName_scale]
    cases inferOutputName tree <;> rfl
  unfold stmtNames
  cases ho : s.outputs with
  | none => simpa [scaleAStmt, ho] using hinf
  | some l =>
    cases l with
    | nil => simpa [scaleAStmt, ho] using hinf
    | cons o os => simp [scaleAStmt, ho, compileString_scale]

theorem stmtNames_good {P : Quantity → Prop} {s : AStmt} (hs : AStmt.Ok P s) {tree : Tree} (ht : tree.GoodP P)
    {names : List SVS} {shown : Bool} (h : stmtNames s tree = some (names, shown)) : ∀ n ∈ names, SvsGood n := by
  unfold stmtNames at h
  split at h
  · rename_i o os ho
    cases h
    intro n hn
    obtain ⟨a, ha, rfl⟩ := List.mem_map.1 hn
    exact svsGood_compileString (hs.2 _ ho a ha)
  · cases hi : inferOutputName tree with
    | none => simp [hi] at h
    | some m =>
      simp only [hi, Option.map_some, Option.some.injEq, Prod.mk.injEq] at h
      rw [← h.1]
      simpa using inferOutputName_good tree m ht hi

theorem nameStmt_scale {k : Num} (hk : k.kind ≠ .flt) (hk0 : k.val ≠ 0) {P : Quantity → Prop} (block : Nat)
    (s : AStmt) (hs : AStmt.Ok P s) (tree : Tree) (st : CState) (ht : tree.GoodP P) (hst : StGood P st) :
    ExRel (RelT k P) (nameStmt block (scaleAStmt k s) (tree.scale k) (scaleSt k st)) (nameStmt block s tree st) := by
  rw [nameStmt_eq, nameStmt_eq, stmtNames_scale]
  cases hn : stmtNames s tree with
  | none => exact ⟨rfl, rfl, ht, hst⟩
  | some p =>
    obtain ⟨names, shown⟩ := p
    have hnames := stmtNames_good hs ht hn
    have hsub : (Tree.sub tree names shown).GoodP P := ⟨ht, hnames⟩
    refine ExRel.bind (registerOutputs_scale hk hk0 block _ (!s.named) s.outputs hsub names st 0 hst hnames) ?_
    rintro st' st2 ⟨h1, h2⟩
    subst h1
    exact ⟨by simp [Tree.scale], rfl, hsub, h2⟩
theorem compileStmt_scale {k : Num} (hk : k.kind ≠ .flt) (hk0 : k.val ≠ 0) {P : Quantity → Prop} (block : Nat)
    (s : AStmt) (hs : AStmt.Ok P s) (st : CState) (hst : StGood P st) :
    ExRel (RelT k P) (compileStmt block (scaleSt k st) (scaleAStmt k s)) (compileStmt block st s) := by
  rw [compileStmt_eq, compileStmt_eq]
  refine ExRel.bind (compileExpr_scale hk hk0 block s.expr st hst hs.1) ?_
  rintro ⟨_, _⟩ ⟨t, st1⟩ ⟨rfl, rfl, h3, h4⟩
  exact nameStmt_scale hk hk0 block s hs t st1 h3 h4

theorem compileStmts_scale {k : Num} (hk : k.kind ≠ .flt) (hk0 : k.val ≠ 0) {P : Quantity → Prop} (block : Nat) :
    ∀ (ss : List AStmt) (st : CState), StGood P st → (∀ s ∈ ss, AStmt.Ok P s) →
      ExRel (RelTs k P) (compileStmts block (scaleSt k st) (ss.map (scaleAStmt k))) (compileStmts block st ss)
  | [], st, hst, _ => ⟨rfl, rfl, trivial, hst⟩
  | s :: ss, st, hst, hss => by
    simp only [List.map_cons, compileStmts]
    refine ExRel.bind (compileStmt_scale hk hk0 block s (hss s List.mem_cons_self) st hst) ?_
    rintro ⟨_, _⟩ ⟨t, st1⟩ ⟨rfl, rfl, h3, h4⟩
    refine ExRel.bind (compileStmts_scale hk hk0 block ss st1 h4 (fun x hx => hss x (List.mem_cons_of_mem _ hx))) ?_
    rintro ⟨ts', st''⟩ ⟨ts, st2⟩ ⟨h5, h6, h7, h8⟩
    simp only at h5 h6
    subst h5 h6
    exact ⟨rfl, rfl, ⟨h3, h7⟩, h8⟩

def AstOk (P : Quantity → Prop) (asts : List (List AStmt)) : Prop := ∀ b ∈ asts, ∀ s ∈ b, AStmt.Ok P s

def BlocksGood (P : Quantity → Prop) (bs : List Block) : Prop := ∀ b ∈ bs, Tree.GoodPList P b

def RelB (k : Num) (P : Quantity → Prop) : List Block × CState → List Block × CState → Prop
  | (bs', st'), (bs, st) => bs' = scaleBlocks k bs ∧ st' = scaleSt k st ∧ BlocksGood P bs ∧ StGood P st

theorem compileBlocks_scale {k : Num} (hk : k.kind ≠ .flt) (hk0 : k.val ≠ 0) {P : Quantity → Prop} :
    ∀ (asts : List (List AStmt)) (i : Nat) (st : CState), StGood P st → AstOk P asts →
      ExRel (RelB k P) (compileBlocks i (scaleSt k st) (scaleAst k asts)) (compileBlocks i st asts)
  | [], i, st, hst, _ => ⟨rfl, rfl, fun _ hb => (nomatch hb), hst⟩
  | b :: bs, i, st, hst, ha => by
    simp only [scaleAst, List.map_cons]
    rw [compileBlocks_cons, compileBlocks_cons]
    rcases (compileStmts_scale hk hk0 i b st hst (ha b List.mem_cons_self)).cases with
      ⟨e, hx, hy⟩ | ⟨⟨ts', st'⟩, ⟨ts, st1⟩, hx, hy, e1, e2, h3, h4⟩
    · rw [hx, hy]
      exact rfl
    · simp only at e1 e2
      subst e1 e2
      rw [hx, hy]
      simp only []
      have h2 := compileBlocks_scale hk hk0 bs (i + 1) st1 h4 (fun x hx => ha x (List.mem_cons_of_mem _ hx))
      simp only [scaleAst] at h2
      rcases h2.cases with ⟨e, hx2, hy2⟩ | ⟨⟨_, _⟩, ⟨rest, st2⟩, hx2, hy2, rfl, rfl, h5, h6⟩
      · rw [hx2, hy2]
        exact rfl
      · rw [hx2, hy2]
        exact ⟨rfl, rfl, List.forall_mem_cons.2 ⟨h3, h5⟩, h6⟩

theorem inferQuantity_scale (k : Num) : ∀ t : Tree,
    inferQuantity (Tree.scale k t) = (inferQuantity t).map (Quantity.scale k)
  | .ingredient d q => by simp [Tree.scale, inferQuantity]
  | .step d [] => by simp [Tree.scale, Tree.scaleList, inferQuantity]
  | .step d [i] => by
    simp only [Tree.scale, Tree.scaleList, inferQuantity]
    exact inferQuantity_scale k i
  | .step d (_ :: _ :: _) => by simp [Tree.scale, Tree.scaleList, inferQuantity]
  | .reference s n a => by simp [Tree.scale, inferQuantity]
  | .sub b [] sh => by simp [Tree.scale, inferQuantity]
  | .sub b [_] sh => by
    simp only [Tree.scale, List.map_cons, List.map_nil, inferQuantity]
    exact inferQuantity_scale k b
  | .sub b (_ :: _ :: _) sh => by simp [Tree.scale, inferQuantity]

theorem inferQuantity_ok {P : Quantity → Prop} (t : Tree) (q : Quantity) (h : t.GoodP P)
    (hq : inferQuantity t = some q) : QOk P q := by
  fun_induction inferQuantity t with
  | case1 d q' => exact h.2 q hq
  | case2 d i ih => exact ih h.2.1 hq
  | case3 b n sh ih => exact ih h.1 hq
  | case4 t _ _ _ => cases hq

/-- the test of `can_be_inlined` on quantities gives the same answer after scaling, for quantities of the pool -/
def HevStable (k : Num) (P : Quantity → Prop) : Prop :=
  ∀ q iq, QOk P q → QOk P iq → (q.scale k).hasEqualValueTo (iq.scale k) = q.hasEqualValueTo iq

theorem Tree.numOutputs_scale (k : Num) (t : Tree) : (t.scale k).numOutputs = t.numOutputs := by
  cases t <;> simp [Tree.scale, Tree.numOutputs]

theorem canBeInlined_scale {k : Num} {P : Quantity → Prop} (hstab : HevStable k P) (o : NamedOutput)
    (ho : OutGood P o) : (scaleOut k o).canBeInlined = o.canBeInlined := by
  unfold NamedOutput.canBeInlined
  simp only [scaleOut, Tree.numOutputs_scale]
  congr 1
  cases hr : o.refs with
  | nil => rfl
  | cons r rest =>
    obtain ⟨t, rb⟩ := r
    cases rest with
    | cons r2 rest2 => cases t <;> rfl
    | nil =>
      have htg : t.GoodP P := ho.2.2 (t, rb) (by rw [hr]; exact List.mem_cons_self)
      cases t with
      | ingredient d q => rfl
      | step d i => rfl
      | sub b ns sh => rfl
      | reference s n a =>
        simp only [List.map_cons, List.map_nil, Tree.scale]
        congr 1
        cases a with
        | proportion v pc w pr => cases v <;> rfl
        | quantity q =>
          simp only [Amount.scale, inferQuantity_scale]
          cases hiq : inferQuantity o.sub with
          | none => rfl
          | some iq =>
            simp only [Option.map_some]
            exact hstab q iq (htg.2 q rfl) (inferQuantity_ok o.sub iq ho.2.1 hiq)

theorem removeFirst_scale {k : Num} (hk : k.kind ≠ .flt) (hk0 : k.val ≠ 0) (x : Tree) (hx : x.Good) :
    ∀ ts : List Tree, Tree.GoodList ts →
      removeFirst (x.scale k) (Tree.scaleList k ts) = (removeFirst x ts).map (Tree.scaleList k)
  | [], _ => rfl
  | t :: ts, h => by
    simp only [Tree.scaleList, removeFirst, Tree.beq_scale hk hk0 t x h.1 hx]
    split
    · rfl
    · rw [removeFirst_scale hk hk0 x hx ts h.2]
      cases removeFirst x ts <;> simp [Tree.scaleList]

theorem removeFirst_mem (x : Tree) (ts ts' : List Tree) (h : removeFirst x ts = some ts') : ∀ t ∈ ts', t ∈ ts := by
  obtain ⟨t1, a, t2, rfl, rfl, _⟩ := removeFirst_split x ts ts' h
  exact fun t ht => (List.mem_append.mp ht).elim (List.mem_append_left _)
    fun ht => List.mem_append_right _ (List.mem_cons_of_mem _ ht)

mutual
theorem Tree.subst_scale {k : Num} (hk : k.kind ≠ .flt) (hk0 : k.val ≠ 0) (old new : Tree) (hold : old.Good) :
    ∀ t : Tree, t.Good → Tree.subst (old.scale k) (new.scale k) (t.scale k) = (Tree.subst old new t).scale k := by
  intro t ht
  rw [Tree.subst_eq, Tree.subst_eq old, Tree.beq_scale hk hk0 t old ht hold]
  split
  · rfl
  · match t, ht with
    | .ingredient d q, _ => rfl
    | .step d i, ht => simp only [Tree.scale, Tree.substList_scale hk hk0 old new hold i ht.2]
    | .reference s n a, ht => simp only [Tree.scale, Tree.subst_scale hk hk0 old new hold s ht.1]
    | .sub b ns sh, ht => simp only [Tree.scale, Tree.subst_scale hk hk0 old new hold b ht.1]
theorem Tree.substList_scale {k : Num} (hk : k.kind ≠ .flt) (hk0 : k.val ≠ 0) (old new : Tree) (hold : old.Good) :
    ∀ ts : List Tree, Tree.GoodList ts →
      Tree.substList (old.scale k) (new.scale k) (Tree.scaleList k ts) = Tree.scaleList k (Tree.substList old new ts)
  | [], _ => rfl
  | t :: ts, h => by
    simp only [Tree.scaleList, Tree.substList, Tree.subst_scale hk hk0 old new hold t h.1,
      Tree.substList_scale hk hk0 old new hold ts h.2]
end

mutual
theorem Tree.subst_goodP {P : Quantity → Prop} (old new : Tree) (hnew : new.GoodP P) :
    ∀ t : Tree, t.GoodP P → (Tree.subst old new t).GoodP P := by
  intro t ht
  rw [Tree.subst_eq]
  split
  · exact hnew
  · match t, ht with
    | .ingredient d q, ht => exact ht
    | .step d i, ht => exact ⟨ht.1, Tree.substList_goodP old new hnew i ht.2⟩
    | .reference s n a, ht => exact ⟨Tree.subst_goodP old new hnew s ht.1, ht.2⟩
    | .sub b ns sh, ht => exact ⟨Tree.subst_goodP old new hnew b ht.1, ht.2⟩
theorem Tree.substList_goodP {P : Quantity → Prop} (old new : Tree) (hnew : new.GoodP P) :
    ∀ ts : List Tree, Tree.GoodPList P ts → Tree.GoodPList P (Tree.substList old new ts)
  | [], _ => trivial
  | t :: ts, h => ⟨Tree.subst_goodP old new hnew t h.1, Tree.substList_goodP old new hnew ts h.2⟩
end

theorem substitute_scale {k : Num} (hk : k.kind ≠ .flt) (hk0 : k.val ≠ 0) {P : Quantity → Prop} (old new : Tree)
    (hold : old.Good) (o : NamedOutput) (ho : OutGood P o) :
    (scaleOut k o).substitute (old.scale k) (new.scale k) = scaleOut k (o.substitute old new) := by
  unfold NamedOutput.substitute
  simp only [scaleOut, Tree.subst_scale hk hk0 old new hold o.sub ho.2.1.good, List.map_map, NamedOutput.mk.injEq,
    true_and, and_true]
  apply List.map_congr_left
  intro r hr
  have hrg := (ho.2.2 r hr).good
  simp only [Function.comp_def, Tree.beq_scale hk hk0 old r.1 hold hrg, Prod.mk.injEq, and_true]
  split
  · exact Tree.subst_scale hk hk0 old new hold r.1 hrg
  · rfl

theorem substitute_good {P : Quantity → Prop} (old new : Tree) (hnew : new.GoodP P) (o : NamedOutput)
    (ho : OutGood P o) : OutGood P (o.substitute old new) := by
  refine ⟨ho.1, Tree.subst_goodP old new hnew _ ho.2.1, ?_⟩
  intro r hr
  simp only [NamedOutput.substitute, List.mem_map] at hr
  obtain ⟨r0, hr0, rfl⟩ := hr
  simp only []
  split
  · exact Tree.subst_goodP old new hnew _ (ho.2.2 r0 hr0)
  · exact ho.2.2 r0 hr0

def RelF (k : Num) (P : Quantity → Prop) : List Block × List NamedOutput → List Block × List NamedOutput → Prop
  | (bs', outs'), (bs, outs) =>
    bs' = scaleBlocks k bs ∧ outs' = outs.map (scaleOut k) ∧ BlocksGood P bs ∧ OutsGood P outs

/-- one iteration of the in-lining pass: both runs take the same branch at every test (the entry exists, it can be in-lined
    by `canBeInlined_scale`, the shapes of its sub recipe and references, the definition is found by `removeFirst_scale`), and
    where they rewrite, the rewriting commutes with scaling (`Tree.substList_scale`, `substitute_scale`) -/
theorem foldStep_scale {k : Num} (hk : k.kind ≠ .flt) (hk0 : k.val ≠ 0) {P : Quantity → Prop} (hstab : HevStable k P)
    (i : Nat) (blocks : List Block) (outs : List NamedOutput) (hb : BlocksGood P blocks) (hout : OutsGood P outs) :
    ExRel (RelF k P) (foldStep i (scaleBlocks k blocks) (outs.map (scaleOut k))) (foldStep i blocks outs) := by
  unfold foldStep
  simp only [List.getElem?_map]
  cases hi : outs[i]? with
  | none => exact ⟨rfl, rfl, hb, hout⟩
  | some o =>
    have hom : o ∈ outs := List.mem_of_getElem? hi
    have hog := hout o hom
    simp only [Option.map_some, canBeInlined_scale hstab o hog]
    cases hc : o.canBeInlined with
    | false => exact ⟨rfl, rfl, hb, hout⟩
    | true =>
      simp only [Bool.not_true, Bool.false_eq_true, if_false]
      cases hs : o.sub with
      | ingredient d q => simp only [scaleOut, hs, Tree.scale]; exact rfl
      | step d inp => simp only [scaleOut, hs, Tree.scale]; exact rfl
      | reference s n a => simp only [scaleOut, hs, Tree.scale]; exact rfl
      | sub body ns sh =>
        cases hr : o.refs with
        | nil => simp only [scaleOut, hs, hr, Tree.scale, List.map_nil]; exact rfl
        | cons r rest =>
          obtain ⟨ref, rb⟩ := r
          have hsubg : (Tree.sub body ns sh).GoodP P := hs ▸ hog.2.1
          have hrefg : ref.GoodP P := hog.2.2 (ref, rb) (by rw [hr]; exact List.mem_cons_self)
          simp only [scaleOut, hs, hr, Tree.scale, List.map_cons, scaleBlocks, List.getElem?_map]
          cases hd : blocks[o.defBlock]? with
          | none => exact rfl
          | some trees =>
            have htg : Tree.GoodPList P trees := hb trees (List.mem_of_getElem? hd)
            have hrm := removeFirst_scale hk hk0 (.sub body ns sh) hsubg.good trees htg.good
            simp only [Tree.scale] at hrm
            simp only [Option.map_some, hrm]
            cases hrf : removeFirst (.sub body ns sh) trees with
            | none => exact rfl
            | some trees' =>
              simp only [Option.map_some]
              have hnewg : (if o.unwrap then body else Tree.sub body ns sh).GoodP P := by
                split
                · exact hsubg.1
                · exact hsubg
              have hnew : (if o.unwrap then Tree.scale k body else Tree.sub (Tree.scale k body) (ns.map (Svs.scale k)) sh)
                  = Tree.scale k (if o.unwrap then body else Tree.sub body ns sh) := by
                split <;> simp [Tree.scale]
              have hset : BlocksGood P (blocks.set o.defBlock trees') := by
                intro b hbm
                rcases List.mem_or_eq_of_mem_set hbm with h | h
                · exact hb b h
                · subst h
                  rw [Tree.goodPList_iff] at htg ⊢
                  intro t ht
                  exact htg t (removeFirst_mem _ _ _ hrf t ht)
              rw [hnew]
              refine ⟨?_, ?_, ?_, ?_⟩
              · simp only [scaleBlocks, ← List.map_set, List.map_map]
                apply List.map_congr_left
                intro b hbm
                exact Tree.substList_scale hk hk0 ref _ hrefg.good b (hset b hbm).good
              · simp only [List.map_map]
                apply List.map_congr_left
                intro o' ho'
                exact substitute_scale hk hk0 ref _ hrefg.good o' (hout o' ho')
              · intro b hbm
                obtain ⟨b0, hb0, rfl⟩ := List.mem_map.1 hbm
                exact Tree.substList_goodP ref _ hnewg b0 (hset b0 hb0)
              · intro o' ho'
                obtain ⟨o0, ho0, rfl⟩ := List.mem_map.1 ho'
                exact substitute_good ref _ hnewg o0 (hout o0 ho0)

theorem foldAll_scale {k : Num} (hk : k.kind ≠ .flt) (hk0 : k.val ≠ 0) {P : Quantity → Prop} (hstab : HevStable k P) :
    ∀ (n i : Nat) (blocks : List Block) (outs : List NamedOutput), BlocksGood P blocks → OutsGood P outs →
      ExRel (RelF k P) (foldAll n i (scaleBlocks k blocks) (outs.map (scaleOut k))) (foldAll n i blocks outs)
  | 0, i, blocks, outs, hb, hout => ⟨rfl, rfl, hb, hout⟩
  | n + 1, i, blocks, outs, hb, hout => by
    simp only [foldAll]
    refine ExRel.bind (foldStep_scale hk hk0 hstab i blocks outs hb hout) ?_
    rintro ⟨_, _⟩ ⟨b, o⟩ ⟨rfl, rfl, h3, h4⟩
    exact foldAll_scale hk hk0 hstab n (i + 1) b o h3 h4

def AAmount.qtys : Option AAmount → List Quantity
  | some (.qty _ v u sp p) => [compileQuantity v u sp p]
  | _ => []

mutual
def AExpr.qtys : AExpr → List Quantity
  | .step _ inputs => AExpr.qtysList inputs
  | .ref _ a => AAmount.qtys a
def AExpr.qtysList : List AExpr → List Quantity
  | [] => []
  | e :: es => AExpr.qtys e ++ AExpr.qtysList es
end

/-- every quantity written in the description, compiled -/
def astQuantities (asts : List (List AStmt)) : List Quantity := asts.flatMap (·.flatMap (·.expr.qtys))

mutual
/-- no float among the scalable numbers: those of `{…}` expressions and of quantities -/
def AExpr.Exact : AExpr → Prop
  | .step name inputs => AString.Exact name ∧ AExpr.ExactList inputs
  | .ref name a => AString.Exact name ∧ ∀ q ∈ AAmount.qtys a, q.value.kind ≠ .flt
def AExpr.ExactList : List AExpr → Prop
  | [] => True
  | e :: es => AExpr.Exact e ∧ AExpr.ExactList es
end

def AStmt.Exact (s : AStmt) : Prop := s.expr.Exact ∧ ∀ l, s.outputs = some l → ∀ n ∈ l, AString.Exact n

def AstExact (asts : List (List AStmt)) : Prop := ∀ b ∈ asts, ∀ s ∈ b, AStmt.Exact s

mutual
theorem AExpr.ok_of_exact {P : Quantity → Prop} : ∀ e : AExpr, e.Exact → (∀ q ∈ e.qtys, P q) → e.Ok P
  | .step name inputs, he, hq => ⟨he.1, AExpr.okList_of_exact inputs he.2 (by simpa [AExpr.qtys] using hq)⟩
  | .ref name a, he, hq => by
    refine ⟨he.1, ?_⟩
    intro x hx
    subst hx
    cases x with
    | prop o v pc w p => trivial
    | qty o v u sp p =>
      exact ⟨he.2 _ (by simp [AAmount.qtys]), hq _ (by simp [AExpr.qtys, AAmount.qtys])⟩
theorem AExpr.okList_of_exact {P : Quantity → Prop} : ∀ es : List AExpr, AExpr.ExactList es →
    (∀ q ∈ AExpr.qtysList es, P q) → AExpr.OkList P es
  | [], _, _ => trivial
  | e :: es, he, hq => by
    simp only [AExpr.qtysList, List.mem_append] at hq
    exact ⟨AExpr.ok_of_exact e he.1 (fun q h => hq q (Or.inl h)),
      AExpr.okList_of_exact es he.2 (fun q h => hq q (Or.inr h))⟩
end

theorem astOk_of_exact {asts : List (List AStmt)} (h : AstExact asts) : AstOk (· ∈ astQuantities asts) asts := by
  intro b hb s hs
  refine ⟨AExpr.ok_of_exact s.expr (h b hb s hs).1 ?_, (h b hb s hs).2⟩
  intro q hq
  simp only [astQuantities, List.mem_flatMap]
  exact ⟨b, hb, s, hs, hq⟩

mutual
theorem AExpr.qtys_exact : ∀ e : AExpr, e.Exact → ∀ q ∈ e.qtys, q.value.kind ≠ .flt
  | .step _ inputs, he, q, hq => by
    simp only [AExpr.qtys] at hq
    exact AExpr.qtysList_exact inputs he.2 q hq
  | .ref _ a, he, q, hq => by
    simp only [AExpr.qtys] at hq
    exact he.2 q hq
theorem AExpr.qtysList_exact : ∀ es : List AExpr, AExpr.ExactList es → ∀ q ∈ AExpr.qtysList es, q.value.kind ≠ .flt
  | [], _, q, hq => by simp [AExpr.qtysList] at hq
  | e :: es, he, q, hq => by
    simp only [AExpr.qtysList, List.mem_append] at hq
    rcases hq with hq | hq
    · exact AExpr.qtys_exact e he.1 q hq
    · exact AExpr.qtysList_exact es he.2 q hq
end

theorem astQuantities_exact {asts : List (List AStmt)} (h : AstExact asts) :
    ∀ q ∈ astQuantities asts, q.value.kind ≠ .flt := by
  intro q hq
  simp only [astQuantities, List.mem_flatMap] at hq
  obtain ⟨b, hb, s, hs, hq⟩ := hq
  exact AExpr.qtys_exact s.expr (h b hb s hs).1 q hq

def AString.exactB (s : AString) : Bool :=
  s.all fun p => match p with | .num _ n => decide (n.kind ≠ .flt) | .sub .. => true

mutual
def AExpr.exactB : AExpr → Bool
  | .step name inputs => AString.exactB name && AExpr.exactListB inputs
  | .ref name a => AString.exactB name && (AAmount.qtys a).all (fun q => decide (q.value.kind ≠ .flt))
def AExpr.exactListB : List AExpr → Bool
  | [] => true
  | e :: es => AExpr.exactB e && AExpr.exactListB es
end

def AStmt.exactB (s : AStmt) : Bool :=
  s.expr.exactB && (match s.outputs with | some l => l.all AString.exactB | none => true)

def astExactB (asts : List (List AStmt)) : Bool := asts.all (·.all AStmt.exactB)

theorem AString.exact_of_B {s : AString} (h : AString.exactB s = true) : AString.Exact s := by
  intro o n hn
  have := List.all_eq_true.1 h _ hn
  simpa using this

mutual
theorem AExpr.exact_of_B : ∀ e : AExpr, e.exactB = true → e.Exact
  | .step name inputs, h => by
    simp only [AExpr.exactB, Bool.and_eq_true] at h
    exact ⟨AString.exact_of_B h.1, AExpr.exactList_of_B inputs h.2⟩
  | .ref name a, h => by
    simp only [AExpr.exactB, Bool.and_eq_true, List.all_eq_true, decide_eq_true_eq] at h
    exact ⟨AString.exact_of_B h.1, h.2⟩
theorem AExpr.exactList_of_B : ∀ es : List AExpr, AExpr.exactListB es = true → AExpr.ExactList es
  | [], _ => trivial
  | e :: es, h => by
    simp only [AExpr.exactListB, Bool.and_eq_true] at h
    exact ⟨AExpr.exact_of_B e h.1, AExpr.exactList_of_B es h.2⟩
end

theorem astExact_of_B {asts : List (List AStmt)} (h : astExactB asts = true) : AstExact asts := by
  intro b hb s hs
  have h1 := List.all_eq_true.1 (List.all_eq_true.1 h b hb) s hs
  simp only [AStmt.exactB, Bool.and_eq_true] at h1
  refine ⟨AExpr.exact_of_B _ h1.1, ?_⟩
  intro l hl n hn
  rw [hl] at h1
  exact AString.exact_of_B (List.all_eq_true.1 h1.2 n hn)

/-- the quantity comparisons `can_be_inlined` could make (`Quantity.has_equal_value_to`, binary64, relative tolerance
    1e-9) answer alike before and after scaling, over the quantities written in the description -/
def C03.InlineTestsStable (k : Num) (asts : List (List AStmt)) : Prop :=
  ∀ q ∈ astQuantities asts, ∀ iq ∈ astQuantities asts,
    (q.scale k).hasEqualValueTo (iq.scale k) = q.hasEqualValueTo iq

def inlineTestsStableB (k : Num) (asts : List (List AStmt)) : Bool :=
  (astQuantities asts).all fun q => (astQuantities asts).all fun iq =>
    (q.scale k).hasEqualValueTo (iq.scale k) == q.hasEqualValueTo iq

theorem inlineTestsStableB_iff (k : Num) (asts : List (List AStmt)) :
    inlineTestsStableB k asts = true ↔ C03.InlineTestsStable k asts := by
  simp only [inlineTestsStableB, C03.InlineTestsStable, List.all_eq_true, beq_iff_eq]

theorem inlineTestsStable_of_B {k : Num} {asts : List (List AStmt)} (h : inlineTestsStableB k asts = true) :
    ∀ q ∈ astQuantities asts, ∀ iq ∈ astQuantities asts,
      (q.scale k).hasEqualValueTo (iq.scale k) = q.hasEqualValueTo iq :=
  (inlineTestsStableB_iff k asts).1 h

end RG
