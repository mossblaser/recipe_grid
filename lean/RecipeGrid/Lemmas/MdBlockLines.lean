import RecipeGrid.Lemmas.MdTagger
/-! The lines of a block's captured text against the lines of the document: "the same line less a prefix", for any class
    of prefixes without line-break characters (`PrefixClass`, `PRel`; a few leading spaces: `SpacesLe`, `KRel`, `Dropped`;
    container prefixes `CP`, followed by fence or code indentation: `BPrefix`); what `FencedCode.parse` / `CodeBlock.parse`
    remove from a line (`stripFence_dropped`, `stripCode_eq`); the lines of the captured text against the document lines that
    follow the lines before the block (`Tags.doc_line`) for the blocks of a document of **D2** (`fenced2_block_lines`,
    `code2_block_lines`); padding by `k` newlines moves line `j` to line `k + j` (`getElem?_splitLines_padded`). -/
namespace RG

/-- pointwise relation of two lists (core has no `List.Forall₂`) -/
inductive Forall2 {α β : Type} (R : α → β → Prop) : List α → List β → Prop
  | nil : Forall2 R [] []
  | cons {a b as bs} : R a b → Forall2 R as bs → Forall2 R (a :: as) (b :: bs)

theorem Forall2.length_eq {α β : Type} {R : α → β → Prop} {as : List α} {bs : List β} (h : Forall2 R as bs) :
    as.length = bs.length := by
  induction h with
  | nil => rfl
  | cons _ _ ih => simp [ih]

theorem Forall2.trans {α β γ : Type} {R : α → β → Prop} {S : β → γ → Prop} {T : α → γ → Prop} {as : List α} {bs : List β}
    {cs : List γ} (h : Forall2 R as bs) (h' : Forall2 S bs cs) (hT : ∀ a b c, R a b → S b c → T a c) : Forall2 T as cs := by
  induction h generalizing cs with
  | nil =>
    cases h'
    exact .nil
  | cons hab _ ih =>
    cases h' with
    | cons hbc h' => exact .cons (hT _ _ _ hab hbc) (ih h')

theorem forall2_map_of_forall {α β γ : Type} (f : α → β) (g : α → γ) (Q : β → γ → Prop) (l : List α)
    (h : ∀ x ∈ l, Q (f x) (g x)) : Forall2 Q (l.map f) (l.map g) := by
  induction l with
  | nil => exact .nil
  | cons x l ih => exact .cons (h x (by simp)) (ih fun y hy => h y (List.mem_cons_of_mem _ hy))

theorem Forall2.get {α β : Type} {R : α → β → Prop} {as : List α} {bs : List β} (h : Forall2 R as bs)
    (j : Nat) (a : α) (ha : as[j]? = some a) : ∃ b, bs[j]? = some b ∧ R a b := by
  induction h generalizing j with
  | nil => simp at ha
  | cons hab _ ih =>
    cases j with
    | zero =>
      simp at ha
      subst ha
      exact ⟨_, by simp, hab⟩
    | succ j =>
      simp at ha
      simpa using ih j ha

/-! One relation, `PRel R s d`: "`s` is `d` without a prefix of the class `R`".  The classes: `SpacesLe n` (at most `n` spaces:
    what `FencedCode.parse` / `CodeBlock.parse` strip), `CP L` (a container prefix), `BPrefix R n` (one of `R`, then at most
    `n` spaces).  Lemmas are stated on `PRel`.  `KRel n` and `Dropped n` say "`d` less `p ≤ n` leading spaces" by `take`/`drop`
    instead of `++`: the container-free statements of `Props/C19d.lean` are phrased with them (`KRel.of_prel`,
    `Dropped.prel` lead to and from `PRel (SpacesLe n)`); `SubRel n` is `GSubRel (KRel n)`. -/

def GSubRel (Q : Str → Str → Prop) (S D : List Str) : Prop :=
  ∀ (j : Nat) (s : Str), S[j]? = some s → ∃ d, D[j]? = some d ∧ Q s d

theorem GSubRel.nil (Q : Str → Str → Prop) (D : List Str) : GSubRel Q [] D := by
  intro j s h
  simp at h

theorem GSubRel.append {Q : Str → Str → Prop} {A B S D : List Str} (h : Forall2 Q A B) (h' : GSubRel Q S D) :
    GSubRel Q (A ++ S) (B ++ D) := by
  intro j s hs
  by_cases hj : j < A.length
  · rw [List.getElem?_append_left hj] at hs
    obtain ⟨d, hd, hr⟩ := h.get j s hs
    exact ⟨d, by rw [List.getElem?_append_left (by rw [← h.length_eq]; exact hj)]; exact hd, hr⟩
  · rw [List.getElem?_append_right (by omega)] at hs
    obtain ⟨d, hd, hr⟩ := h' _ s hs
    exact ⟨d, by rw [List.getElem?_append_right (by rw [← h.length_eq]; omega), ← h.length_eq]; exact hd, hr⟩

/-- a class of prefixes that may be removed from a line: it contains the empty prefix and no prefix with a line-break
    character (so that a removed prefix lies inside one `str.splitlines` line) -/
structure PrefixClass (R : Str → Prop) : Prop where
  nil : R []
  noBreak : ∀ pre, R pre → ∀ c ∈ pre, isLineBreak c = false

def PRel (R : Str → Prop) (s d : Str) : Prop := ∃ pre, d = pre ++ s ∧ R pre

theorem PRel.refl {R : Str → Prop} (hR : PrefixClass R) (s : Str) : PRel R s s := ⟨[], rfl, hR.nil⟩

theorem forall2_PRel_refl {R : Str → Prop} (hR : PrefixClass R) (l : List Str) : Forall2 (PRel R) l l := by
  induction l with
  | nil => exact .nil
  | cons x l ih => exact .cons (PRel.refl hR x) ih

theorem splitLines_prefix_rel {R : Str → Prop} (hR : PrefixClass R) (pre s : Str) (h : R pre) :
    GSubRel (PRel R) (splitLines (crToLf s)) (splitLines (crToLf (pre ++ s))) ∧
      (s ≠ [] → Forall2 (PRel R) (splitLines (crToLf s)) (splitLines (crToLf (pre ++ s)))) := by
  have hb := hR.noBreak pre h
  rw [crToLf_append, crToLf_of_no_break pre hb, splitLines_nobreak_prefix pre _ hb]
  generalize hm : splitLines (crToLf s) = m
  cases m with
  | nil =>
    refine ⟨GSubRel.nil _ _, ?_⟩
    intro hne
    rw [splitLines_eq_nil, crToLf_eq_nil] at hm
    exact absurd hm hne
  | cons x xs =>
    have : Forall2 (PRel R) (x :: xs) (attachPre pre (x :: xs)) := by
      simp only [attachPre]
      exact .cons ⟨pre, rfl, h⟩ (forall2_PRel_refl hR xs)
    exact ⟨fun j s hs => this.get j s hs, fun _ => this⟩

/-- marko lines `ls` and the same lines `ss` less a prefix of the class each: the Python lines of the stripped text are
    those of the text less a prefix, index by index; and when the stripped text is not empty and does not end in a newline
    — it is then the end of the text, which does not end in a newline either — there are equally many of them -/
theorem splitLines_drop_rel {R : Str → Prop} (hR : PrefixClass R) (ss ls : List Str) (h : Forall2 (PRel R) ss ls)
    (hok : LinesOk ls) :
    GSubRel (PRel R) (splitLines (crToLf ss.flatten)) (splitLines (crToLf ls.flatten)) ∧
      (ss.flatten ≠ [] → ¬ NlEnded ss.flatten →
        (splitLines (crToLf ss.flatten)).length = (splitLines (crToLf ls.flatten)).length ∧ ¬ NlEnded ls.flatten) := by
  induction h with
  | nil => exact ⟨GSubRel.nil _ _, fun h => absurd rfl h⟩
  | @cons s l ss ls hsl hrest ih =>
    obtain ⟨pre, rfl, hpre⟩ := hsl
    have hp := nl_not_mem_of_noBreak pre (hR.noBreak pre hpre)
    by_cases hls : ls = []
    · subst hls
      cases hrest
      simp only [List.flatten_cons, List.flatten_nil, List.append_nil]
      exact ⟨(splitLines_prefix_rel hR pre s hpre).1, fun hs hnn =>
        ⟨((splitLines_prefix_rel hR pre s hpre).2 hs).length_eq, fun h => hnn (nlEnded_of_append pre s h hp)⟩⟩
    · have hnl : NlEnded (pre ++ s) := hok.head_nlEnded hls
      have hnl' : NlEnded s := nlEnded_of_append pre s hnl hp
      have hhead := (splitLines_prefix_rel hR pre s hpre).2 hnl'.ne_nil
      obtain ⟨ih1, ih2⟩ := ih hok.tail
      simp only [List.flatten_cons]
      rw [splitLines_crToLf_nlEnded_append _ _ hnl, splitLines_crToLf_nlEnded_append _ _ hnl']
      refine ⟨GSubRel.append hhead ih1, fun _ hnn => ?_⟩
      have hss : ss.flatten ≠ [] := by
        intro e
        rw [e, List.append_nil] at hnn
        exact hnn hnl'
      obtain ⟨hlen, hnl2⟩ := ih2 hss (fun h => hnn (nlEnded_append _ _ h))
      have hlsf : ls.flatten ≠ [] := by
        cases ls with
        | nil => contradiction
        | cons x xs => simp [hok.tail.head.1]
      exact ⟨by rw [List.length_append, List.length_append, hhead.length_eq, hlen],
        fun h => hnl2 (nlEnded_of_append_ne_nil _ _ h hlsf)⟩

theorem linesOk_of_prel {R : Str → Prop} (hR : PrefixClass R) (ss ls : List Str) (h : Forall2 (PRel R) ss ls)
    (hok : LinesOk ls) (hne : ∀ s ∈ ss, s ≠ []) : LinesOk ss := by
  induction h with
  | nil => trivial
  | @cons s l ss ls hsl hrest ih =>
    obtain ⟨pre, rfl, hpre⟩ := hsl
    refine ⟨mdLine_of_append pre s hok.head (hne _ (by simp)), ?_, ih hok.tail (fun x hx => hne x (List.mem_cons_of_mem _ hx))⟩
    intro hss
    have hls : ls ≠ [] := by
      intro e
      subst e
      cases hrest
      exact hss rfl
    exact nlEnded_of_append pre s (hok.head_nlEnded hls) (nl_not_mem_of_noBreak pre (hR.noBreak pre hpre))

def KRel (n : Nat) (s d : Str) : Prop := ∃ p, p ≤ n ∧ (∀ c ∈ d.take p, c = ' ') ∧ s = d.drop p

def SubRel (n : Nat) (S D : List Str) : Prop := ∀ (j : Nat) (s : Str), S[j]? = some s → ∃ d, D[j]? = some d ∧ KRel n s d

theorem SubRel.extend {n : Nat} {S D : List Str} (h : SubRel n S D) (E : List Str) : SubRel n S (D ++ E) := by
  intro j s hs
  obtain ⟨d, hd, hr⟩ := h j s hs
  have : j < D.length := (List.getElem?_eq_some_iff.mp hd).1
  exact ⟨d, by rw [List.getElem?_append_left this]; exact hd, hr⟩

def SpacesLe (n : Nat) (pre : Str) : Prop := ∃ p, p ≤ n ∧ pre = List.replicate p ' '

theorem KRel.of_prel {n : Nat} {s d : Str} (h : PRel (SpacesLe n) s d) : KRel n s d := by
  obtain ⟨_, rfl, p, hp, rfl⟩ := h
  refine ⟨p, hp, fun c hc => ?_, by rw [List.drop_left' (by simp)]⟩
  rw [List.take_left' (by simp)] at hc
  exact (List.mem_replicate.mp hc).2

def Dropped (n : Nat) (s l : Str) : Prop := ∃ p, p ≤ n ∧ p ≤ leadSpaces l ∧ s = l.drop p

theorem Dropped.prel {n : Nat} {s l : Str} (h : Dropped n s l) : PRel (SpacesLe n) s l := by
  obtain ⟨p, hpn, hpl, rfl⟩ := h
  exact ⟨List.replicate p ' ', leadSpaces_split l p hpl, p, hpn, rfl⟩

theorem rstripNl_snoc_nl (s : Str) : rstripNl (s ++ ['\n']) = rstripNl s := by
  simp [rstripNl]

theorem rstripNl_spec (s : Str) : ∃ m, s = rstripNl s ++ List.replicate m '\n' := by
  refine ⟨(s.reverse.takeWhile (· == '\n')).length, ?_⟩
  have h := List.takeWhile_append_dropWhile (p := (· == '\n')) (l := s.reverse)
  have h2 : s.reverse.takeWhile (· == '\n') = List.replicate (s.reverse.takeWhile (· == '\n')).length '\n' := by
    rw [List.eq_replicate_iff]
    refine ⟨rfl, ?_⟩
    intro c hc
    have := mem_takeWhile_imp hc
    simpa using this
  have h3 : s = (s.reverse.dropWhile (· == '\n')).reverse ++ (s.reverse.takeWhile (· == '\n')).reverse := by
    rw [← List.reverse_append, h, List.reverse_reverse]
  conv => lhs; rw [h3]
  rw [rstripNl]
  congr 1
  rw [h2, List.reverse_replicate, List.length_replicate]

/-- the lines of `T.rstrip("\n") + "\n"` are lines of `T`, except possibly an empty last one: `rstrip` removed `m`
    newlines; for `m = 0` the appended `"\n"` may add one empty last line, for `m > 0` it restores one of them -/
theorem splitLines_code_tail (T : Str) (j : Nat) (s : Str)
    (h : (splitLines (crToLf (rstripNl T ++ ['\n'])))[j]? = some s) :
    (splitLines (crToLf T))[j]? = some s ∨
      (s = [] ∧ j + 1 = (splitLines (crToLf (rstripNl T ++ ['\n']))).length ∧ j = (splitLines (crToLf T)).length ∧
        T = rstripNl T) := by
  obtain ⟨m, hm⟩ := rstripNl_spec T
  rw [crToLf_append, crToLf_nl] at h ⊢
  cases m with
  | zero =>
    simp only [List.replicate_zero, List.append_nil] at hm
    rw [← hm] at h ⊢
    rw [splitLines_snoc_nl _ (not_cr_mem_crToLf T)] at h ⊢
    by_cases he : endsBreak (crToLf T) = true
    · simp only [he, if_true] at h ⊢
      by_cases hj : j < (splitLines (crToLf T)).length
      · rw [List.getElem?_append_left hj] at h
        exact Or.inl h
      · right
        rw [List.getElem?_append_right (by omega)] at h
        have hj' : j - (splitLines (crToLf T)).length = 0 := by
          by_cases h0 : j - (splitLines (crToLf T)).length = 0
          · exact h0
          · rw [List.getElem?_eq_none (by simp; omega)] at h
            cases h
        rw [hj'] at h
        simp at h
        refine ⟨h, ?_, by omega, trivial⟩
        simp
        omega
    · simp only [he] at h ⊢
      simp at h
      exact Or.inl h
  | succ m =>
    left
    conv => lhs; rw [hm]
    rw [List.replicate_succ, crToLf_append]
    have : crToLf ('\n' :: List.replicate m '\n') = '\n' :: crToLf (List.replicate m '\n') := by simp [crToLf]
    rw [this, ← List.singleton_append, ← List.append_assoc, splitLines_append _ _ (complete_nl _ _)]
    have hj : j < (splitLines (crToLf (rstripNl T) ++ ['\n'])).length := (List.getElem?_eq_some_iff.mp h).1
    rw [List.getElem?_append_left hj]
    exact h

theorem rstripNl_not_nlEnded (s : Str) : ¬ NlEnded (rstripNl s) := by
  rintro ⟨b, hb⟩
  have h1 : s.reverse.dropWhile (· == '\n') = '\n' :: b.reverse := by
    rw [← List.reverse_reverse (s.reverse.dropWhile _), ← rstripNl, hb]; simp
  have := List.head_dropWhile_not (p := (· == '\n')) (l := s.reverse) (by rw [h1]; simp)
  simp [h1] at this

theorem drop4_ne_nil (l : Str) (h4 : 4 ≤ leadSpaces l) (hb : isBlankLine l = false) : l.drop 4 ≠ [] := by
  intro he
  have := leadSpaces_split l 4 h4
  rw [he, List.append_nil] at this
  rw [this] at hb
  revert hb
  decide

theorem isReSpace_space : isReSpace ' ' = true := by decide
theorem isReSpace_nl : isReSpace '\n' = true := by decide

theorem drop_leadSpaces_head (l : Str) (c : Char) (r : Str) (h : l.drop (leadSpaces l) = c :: r) : c ≠ ' ' := by
  induction l with
  | nil => simp at h
  | cons x l ih =>
    by_cases hx : x = ' '
    · subst hx
      rw [leadSpaces_cons_space, List.drop_succ_cons] at h
      exact ih h
    · rw [leadSpaces_cons_ne _ _ hx, List.drop_zero] at h
      rw [← (List.cons.inj h).1]
      exact hx

def fenceBodyOk (n : Nat) (l : Str) : Bool :=
  decide (n ≤ leadSpaces l) ||
    (match l.drop (leadSpaces l) with
     | [] => true
     | c :: _ => c == '\n' || !isReSpace c)

theorem stripFence_dropped (n : Nat) (l : Str) (hl : MdLine l) (hok : fenceBodyOk n l = true) :
    Dropped n (stripFence n l) l := by
  unfold stripFence
  simp only
  split
  · rename_i h
    exact ⟨n, Nat.le_refl _, h, rfl⟩
  · rename_i h
    have hk : leadSpaces l ≤ n := by omega
    refine ⟨leadSpaces l, hk, Nat.le_refl _, ?_⟩
    have hsplit := leadSpaces_split l (leadSpaces l) (Nat.le_refl _)
    simp only [fenceBodyOk, Bool.or_eq_true, decide_eq_true_eq] at hok
    rcases hok with hok | hok
    · omega
    · split
      · rename_i tail heq
        rw [heq, mdLine_drop_nl hl _ _ heq]
      · rename_i hne
        cases hrest : l.drop (leadSpaces l) with
        | nil =>
          conv => lhs; rw [hsplit, hrest]
          rw [List.dropWhile_append_of_pos (by simp +contextual [isReSpace_space])]; rfl
        | cons c r =>
          rw [hrest] at hok
          simp only [Bool.or_eq_true, beq_iff_eq, Bool.not_eq_true'] at hok
          rcases hok with hc | hc
          · subst hc
            exact absurd hrest (hne r)
          · conv => lhs; rw [hsplit, hrest]
            rw [List.dropWhile_append_of_pos (by simp +contextual [isReSpace_space]), List.dropWhile_cons, hc]
            rfl

def dropCode (t : TLine) : Str := t.text.drop (if 4 ≤ leadSpaces t.text then 4 else leadSpaces t.text)

theorem dropCode_dropped (t : TLine) : Dropped 4 (dropCode t) t.text := by
  unfold dropCode
  split
  · rename_i h; exact ⟨4, Nat.le_refl _, h, rfl⟩
  · exact ⟨leadSpaces t.text, by omega, Nat.le_refl _, rfl⟩

def CodeLine (t : TLine) : Prop := t.tag = .codeStart ∨ t.tag = .codeCont ∨ t.tag = .codeBlank

theorem stripCode_eq (t : TLine) (hc : CodeLine t) (hs : TagSound t) (hok : t.ok = true) (hl : MdLine t.text) :
    (NlEnded t.text → stripCode t = dropCode t) ∧
      ∃ e, (e = [] ∨ e = ['\n']) ∧ stripCode t = dropCode t ++ e := by
  obtain ⟨tag, l⟩ := t
  simp only [CodeLine] at hc
  rcases hc with hc | hc | hc
  · subst hc
    have h4 : 4 ≤ leadSpaces l := hs.1
    simp only [stripCode, dropCode, h4, if_true]
    refine ⟨fun _ => ?_, [], Or.inl rfl, ?_⟩ <;> simp
  · subst hc
    have h4 : 4 ≤ leadSpaces l := hs
    simp only [stripCode, dropCode, h4, if_true]
    refine ⟨fun _ => ?_, [], Or.inl rfl, ?_⟩ <;> simp
  · subst hc
    simp only [stripCode, dropCode, stripCodeBlank]
    simp only [TLine.ok, Bool.or_eq_true, decide_eq_true_eq] at hok
    by_cases h4 : 4 ≤ leadSpaces l
    · simp only [h4, if_true]
      by_cases he : l.drop 4 = []
      · simp only [he, List.isEmpty_nil, if_true, List.nil_append]
        refine ⟨?_, ['\n'], Or.inr rfl, rfl⟩
        intro hnl
        exact absurd he (nlEnded_drop l 4 hnl h4).ne_nil
      · have : (l.drop 4).isEmpty = false := by simpa using he
        simp only [this]
        exact ⟨fun _ => rfl, [], Or.inl rfl, by simp⟩
    · simp only [h4, if_false, List.isEmpty_nil, if_true]
      rcases hok with hok | hok
      · omega
      · cases hrest : l.drop (leadSpaces l) with
        | nil =>
          refine ⟨?_, ['\n'], Or.inr rfl, by simp⟩
          intro hnl
          exact absurd hrest (nlEnded_drop l _ hnl (Nat.le_refl _)).ne_nil
        | cons c r =>
          rw [hrest] at hok
          have hc : c = '\n' := by simpa using hok
          subst hc
          rw [mdLine_drop_nl hl _ _ hrest]
          exact ⟨fun _ => rfl, [], Or.inl rfl, by simp⟩

theorem codeSource_eq (lines : List TLine) (hok : LinesOk (lines.map (·.text)))
    (h : ∀ t ∈ lines, CodeLine t ∧ TagSound t ∧ t.ok = true) :
    codeSource lines = rstripNl (lines.map dropCode).flatten ++ ['\n'] := by
  -- `stripCode` and `dropCode` differ at most by a newline behind a last, blank line
  obtain ⟨e, he, hflat⟩ : ∃ e, (e = [] ∨ e = ['\n']) ∧
      (lines.map stripCode).flatten = (lines.map dropCode).flatten ++ e := by
    induction lines with
    | nil => exact ⟨[], Or.inl rfl, rfl⟩
    | cons t ts ih =>
      obtain ⟨hc, hs, ho⟩ := h t (by simp)
      obtain ⟨h1, e, he, h2⟩ := stripCode_eq t hc hs ho hok.head
      by_cases hts : ts = []
      · subst hts
        exact ⟨e, he, by simp [h2]⟩
      · have hnl : NlEnded t.text := hok.head_nlEnded (by simpa using hts)
        obtain ⟨e', he', h3⟩ := ih hok.tail (fun x hx => h x (List.mem_cons_of_mem _ hx))
        exact ⟨e', he', by simp only [List.map_cons, List.flatten_cons, h1 hnl, h3, List.append_assoc]⟩
  rw [codeSource, hflat]
  rcases he with rfl | rfl
  · simp
  · rw [rstripNl_snoc_nl]

theorem Dropped.mono {n m : Nat} {s l : Str} (h : Dropped n s l) (hnm : n ≤ m) : Dropped m s l := by
  obtain ⟨p, h1, h2, h3⟩ := h
  exact ⟨p, by omega, h2, h3⟩

theorem getElem?_splitLines_padded (k : Nat) (S : Str) (j : Nat) :
    (splitLines (List.replicate k '\n' ++ S))[k + j]? = (splitLines S)[j]? := by
  rw [splitLines_replicate_nl, List.getElem?_append_right (by simp), List.length_replicate, Nat.add_sub_cancel_left]

section
variable {doc : Str} {A O B : List TLine2}

theorem Tags.linesOk_parts (h : Tags doc (A ++ (O ++ B))) :
    LinesOk (A.map (·.text) ++ (O.map (·.text) ++ B.map (·.text))) := by
  have := mdLines_ok (normaliseCrLf doc)
  rwa [← h.text, List.map_append, List.map_append] at this

theorem Tags.norm_parts (h : Tags doc (A ++ (O ++ B))) :
    normaliseCrLf doc = (A.map (·.text)).flatten ++ ((O.map (·.text)).flatten ++ (B.map (·.text)).flatten) := by
  conv => lhs; rw [← mdLines_flatten (normaliseCrLf doc), ← h.text]
  simp

/-- the tagged lines of a document divided into `A`, `O`, `B`: Python's line `j` of the marko lines `O` is line `j` of the
    document behind the lines that `A` counts -/
theorem Tags.doc_line (h : Tags doc (A ++ (O ++ B))) (j : Nat) (d : Str)
    (hd : (splitLines (crToLf (O.map (·.text)).flatten))[j]? = some d) :
    (splitLines (crToLf (normaliseCrLf doc)))[lineSum2 A + j]? = some d := by
  have hok := h.linesOk_parts
  have hO : O ≠ [] := by
    rintro rfl
    simp [crToLf, splitLines_nil] at hd
  have hA : ∀ l ∈ A.map (·.text), NlEnded l := hok.nlEnded_left (by simp [hO])
  -- the lines of `O` are followed by nothing, or end in a newline
  have hC : splitLines (crToLf ((O.map (·.text)).flatten ++ (B.map (·.text)).flatten)) =
      splitLines (crToLf (O.map (·.text)).flatten) ++ splitLines (crToLf (B.map (·.text)).flatten) := by
    by_cases hB : B = []
    · subst hB
      simp [crToLf, splitLines_nil]
    · exact splitLines_flatten_nl _ ((hok.append_right).nlEnded_left (by simpa using hB)) _
  rw [h.norm_parts, splitLines_flatten_nl _ hA, hC, lineSum2_eq, sum_pyLineCount_eq _ hA,
    List.getElem?_append_right (by omega), Nat.add_sub_cancel_left,
    List.getElem?_append_left (List.getElem?_eq_some_iff.mp hd).1]
  exact hd

end

def BPrefix (R : Str → Prop) (n : Nat) (pre : Str) : Prop :=
  ∃ a p, pre = a ++ List.replicate p ' ' ∧ R a ∧ p ≤ n

theorem BPrefix.prefixClass {R : Str → Prop} (hR : PrefixClass R) (n : Nat) : PrefixClass (BPrefix R n) where
  nil := ⟨[], 0, rfl, hR.nil, Nat.zero_le _⟩
  noBreak := by
    rintro pre ⟨a, p, rfl, ha, _⟩ c hc
    rcases List.mem_append.1 hc with hc | hc
    · exact hR.noBreak a ha c hc
    · rw [(List.mem_replicate.mp hc).2]; exact isLineBreak_space

theorem PRel.bprefix_split {R : Str → Prop} {n : Nat} {s d : Str} (h : PRel (BPrefix R n) s d) :
    ∃ q p, R (d.take q) ∧ p ≤ n ∧ (∀ c ∈ (d.drop q).take p, c = ' ') ∧ s = d.drop (q + p) ∧
      q + p + s.length = d.length := by
  obtain ⟨_, rfl, a, p, rfl, ha, hp⟩ := h
  refine ⟨a.length, p, ?_, hp, fun c hc => ?_, ?_, ?_⟩
  · rw [List.append_assoc, List.take_left' rfl]; exact ha
  · rw [List.append_assoc, List.drop_left' rfl, List.take_left' (by simp)] at hc
    exact (List.mem_replicate.mp hc).2
  · rw [List.drop_left' (by simp)]
  · simp; omega

theorem prel_compose {R : Str → Prop} {n : Nat} {s i d : Str} (h1 : PRel (SpacesLe n) s i) (h2 : PRel R i d) :
    PRel (BPrefix R n) s d := by
  obtain ⟨_, rfl, p, hp, rfl⟩ := h1
  obtain ⟨a, rfl, ha⟩ := h2
  exact ⟨a ++ List.replicate p ' ', by simp, a, p, rfl, ha, hp⟩

theorem isCPrefix_chars (a : Str) (h : isCPrefix a = true) : ∀ c ∈ a, c = ' ' ∨ c = '>' := by
  intro c hc
  simp only [isCPrefix, Bool.or_eq_true, Bool.and_eq_true, List.all_eq_true, beq_iff_eq, decide_eq_true_eq] at h
  rcases h with h | ⟨_, h⟩
  · exact Or.inl (h c hc)
  · rw [← List.takeWhile_append_dropWhile (p := (· == ' ')) (l := a)] at hc
    rcases List.mem_append.1 hc with hc | hc
    · have := mem_takeWhile_imp hc
      exact Or.inl (by simpa using this)
    · rcases h with h | h
      · rw [h] at hc
        simp at hc
        exact Or.inr hc
      · rw [h] at hc
        simp at hc
        rcases hc with hc | hc
        · exact Or.inr hc
        · exact Or.inl hc

theorem isLineBreak_gt : isLineBreak '>' = false := by decide

/-- the container prefixes of the tagged lines `L`, as a class: `isCPrefix`, and empty when no line of `L` carries one —
    the second clause is what lets a document of **D** (no container, hence no prefix recorded) read the statements for
    **D2** as "spaces only" (`C19.KRel.of_inDoc`) -/
def CP (L : List TLine2) (pre : Str) : Prop := isCPrefix pre = true ∧ ((∀ x ∈ L, x.pfx = 0) → pre = [])

theorem CP.prefixClass (L : List TLine2) : PrefixClass (CP L) where
  nil := ⟨isCPrefix_nil, fun _ => rfl⟩
  noBreak := by
    intro pre h c hc
    rcases isCPrefix_chars pre h.1 c hc with rfl | rfl
    · exact isLineBreak_space
    · exact isLineBreak_gt

theorem CP.take {L : List TLine2} {x : TLine2} (hx : x ∈ L) (h : isCPrefix (x.text.take x.pfx) = true) :
    CP L (x.text.take x.pfx) :=
  ⟨h, fun h0 => by rw [h0 x hx, List.take_zero]⟩

theorem stripFence_nil (n : Nat) : stripFence n [] = [] := by
  unfold stripFence
  simp only [leadSpaces, List.takeWhile_nil, List.length_nil, List.drop_nil, List.dropWhile_nil]
  split <;> rfl

theorem stripFence_prel (doc : Str) (hD : inDoc2 doc = true) (n : Nat) (x : TLine2) (hxL : x ∈ tagDoc2 doc)
    (htag : x.tag = .fenceBody n) :
    PRel (BPrefix (CP (tagDoc2 doc)) n) (stripFence n x.inner.text) x.text := by
  obtain ⟨hx, hl, hok⟩ := tagDoc2_mem doc hD x hxL
  simp only [TLine2.ok, Bool.and_eq_true] at hok
  obtain ⟨⟨hreg, hin⟩, _⟩ := hok
  have hcp := CP.take hxL (hx.cprefix hreg (by rw [htag]; rfl))
  simp only [TLine2.inner] at hin ⊢
  simp only [TLine.ok, htag] at hin
  by_cases hi : x.text.drop x.pfx = []
  · rw [hi, stripFence_nil]
    refine ⟨x.text.take x.pfx, ?_, x.text.take x.pfx, 0, by simp, hcp, Nat.zero_le _⟩
    conv => lhs; rw [← List.take_append_drop x.pfx x.text, hi]
  · obtain ⟨p, hpn, hpl, hs⟩ := stripFence_dropped n _ (mdLine_of_append (x.text.take x.pfx) _ (by rwa [List.take_append_drop]) hi) hin
    refine ⟨x.text.take x.pfx ++ List.replicate p ' ', ?_, x.text.take x.pfx, p, rfl, hcp, hpn⟩
    rw [hs, List.append_assoc, ← leadSpaces_split _ p hpl, List.take_append_drop]

/-- the lines of a fenced block of **D2**: the opening fence is one line of the document, and line `j` of the captured text
    is the `j`-th line of the document behind it, less its container prefix and at most `f.indent` spaces -/
theorem fenced2_block_lines (doc : Str) (hD : inDoc2 doc = true) (pre : List TLine2) (t : TLine2) (rest : List TLine2)
    (f : FenceInfo) (hts : tagDoc2 doc = pre ++ t :: rest) (ht : t.tag = .fenceOpen f) :
    pyLineCount t.text = 1 ∧
    ∀ (j : Nat) (s : Str),
      (splitLines (crToLf (fencedSource f.indent ((rest.takeWhile (·.tag.isFenceBody)).map TLine2.inner))))[j]? = some s →
      ∃ d, (splitLines (crToLf (normaliseCrLf doc)))[lineSum2 pre + pyLineCount t.text + j]? = some d ∧
        PRel (BPrefix (CP (tagDoc2 doc)) f.indent) s d := by
  obtain ⟨body, rest', hbr, hbody⟩ : ∃ body rest', rest = body ++ rest' ∧ body = rest.takeWhile (·.tag.isFenceBody) :=
    ⟨_, _, (List.takeWhile_append_dropWhile (p := fun x : TLine2 => x.tag.isFenceBody) (l := rest)).symm, rfl⟩
  have hT : Tags doc ((pre ++ [t]) ++ (body ++ rest')) := by
    have := Tags.doc2 doc
    rwa [hts, hbr, List.append_cons] at this
  have hok := hT.linesOk_parts
  have htok : hasInnerBreak t.text = false := by
    have := inDoc2_ok doc hD t (by rw [hts]; simp)
    simp only [TLine2.ok, ht, Bool.and_eq_true, Bool.not_eq_true'] at this
    exact this.2
  refine ⟨pyLineCount_fence_line _ (hok.mdLine t.text (by simp)) htok, ?_⟩
  rw [← hbody]
  have hbtag : ∀ x ∈ body, x.tag = .fenceBody f.indent := by
    rw [hbody]; exact tagLines2_body_indent _ _ pre t rest f hts ht
  have hdrop : Forall2 (PRel (BPrefix (CP (tagDoc2 doc)) f.indent)) (body.map fun x => stripFence f.indent x.inner.text)
      (body.map (·.text)) :=
    forall2_map_of_forall _ _ _ _ fun x hx =>
      have hxm : x ∈ tagDoc2 doc := by rw [hts, hbr]; simp [hx]
      stripFence_prel doc hD f.indent x hxm (hbtag x hx)
  have hrel := (splitLines_drop_rel (BPrefix.prefixClass (CP.prefixClass _) f.indent) _ _ hdrop hok.append_right.append_left).1
  have hk : lineSum2 pre + pyLineCount t.text = lineSum2 (pre ++ [t]) := by simp [lineSum2]
  intro j s hs
  obtain ⟨d, hd, hr⟩ := hrel j s (by simpa only [fencedSource, List.map_map, Function.comp_def] using hs)
  exact ⟨d, hk ▸ hT.doc_line j d hd, hr⟩

theorem code_line_inner (doc : Str) (hD : inDoc2 doc = true) (x : TLine2) (hxL : x ∈ tagDoc2 doc)
    (hc : x.tag.isCode = true) :
    PRel (CP (tagDoc2 doc)) x.inner.text x.text ∧ x.inner.text ≠ [] ∧ CodeLine x.inner ∧ TagSound x.inner ∧
      x.inner.ok = true := by
  obtain ⟨hx, hl, hok⟩ := tagDoc2_mem doc hD x hxL
  simp only [TLine2.ok, Bool.and_eq_true] at hok
  obtain ⟨⟨hreg, hin⟩, _⟩ := hok
  have hcp := CP.take hxL (hx.cprefix hreg (by rw [hc]; simp))
  refine ⟨⟨x.text.take x.pfx, by simp [TLine2.inner], hcp⟩, ?_, ?_, hx.inner, hin⟩
  · by_cases hn : x.ctx = .none
    · have hp := hx.pfx_zero hn
      simp only [TLine2.inner, hp, List.drop_zero]
      exact hl.1
    · exact hx.inner_ne hreg hn
  · simp only [CodeLine, TLine2.inner]
    cases htag : x.tag <;> simp [htag, LineTag.isCode] at hc ⊢

theorem isCodeMore_isCode (tag : LineTag) (h : tag.isCodeMore = true) : tag.isCode = true := by
  cases tag <;> simp [LineTag.isCodeMore, LineTag.isCode] at h ⊢

theorem code2_lines_inner (doc : Str) (hD : inDoc2 doc = true) (ls : List TLine2)
    (hmem : ∀ x ∈ ls, x ∈ tagDoc2 doc ∧ x.tag.isCode = true) (hok : LinesOk (ls.map (·.text))) :
    LinesOk ((ls.map TLine2.inner).map (·.text)) ∧
      (∀ y ∈ ls.map TLine2.inner, CodeLine y ∧ TagSound y ∧ y.ok = true) ∧
      Forall2 (PRel (BPrefix (CP (tagDoc2 doc)) 4)) ((ls.map TLine2.inner).map dropCode) (ls.map (·.text)) := by
  have hinner := fun x hx => code_line_inner doc hD x (hmem x hx).1 (hmem x hx).2
  have hO : Forall2 (PRel (CP (tagDoc2 doc))) ((ls.map TLine2.inner).map (·.text)) (ls.map (·.text)) := by
    rw [List.map_map]
    exact forall2_map_of_forall _ _ _ _ fun x hx => (hinner x hx).1
  have hlines : ∀ y ∈ ls.map TLine2.inner, y.text ≠ [] ∧ CodeLine y ∧ TagSound y ∧ y.ok = true := by
    intro y hy
    obtain ⟨x, hx, rfl⟩ := List.mem_map.1 hy
    exact (hinner x hx).2
  exact ⟨linesOk_of_prel (CP.prefixClass _) _ _ hO hok (List.forall_mem_map.2 fun y hy => (hlines y hy).1),
    fun y hy => (hlines y hy).2,
    (forall2_map_of_forall _ _ _ _ fun t _ => dropCode_dropped t).trans hO fun _ _ _ h1 h2 => prel_compose h1.prel h2⟩

/-- the lines of an indented block of **D2**: line `j` of the captured text is the `j`-th line of the document from the block's
    first line on, less its container prefix and at most 4 spaces — except possibly an empty last line, the line just past the
    end of the document, which `rstrip("\n") + "\n"` of `CodeBlock.parse` makes of a document that ends in a line-break
    character other than the newline -/
theorem code2_block_lines (doc : Str) (hD : inDoc2 doc = true) (pre : List TLine2) (t : TLine2) (rest : List TLine2)
    (hts : tagDoc2 doc = pre ++ t :: rest) (ht : t.tag = .codeStart) :
    let S := crToLf (codeSource ((t :: rest.takeWhile (·.tag.isCodeMore)).map TLine2.inner))
    ∀ (j : Nat) (s : Str), (splitLines S)[j]? = some s →
      (∃ d, (splitLines (crToLf (normaliseCrLf doc)))[lineSum2 pre + j]? = some d ∧
          PRel (BPrefix (CP (tagDoc2 doc)) 4) s d) ∨
        (s = [] ∧ j + 1 = (splitLines S).length ∧
          lineSum2 pre + j = (splitLines (crToLf (normaliseCrLf doc))).length) := by
  -- the block's lines behind their prefixes are code lines `L` of the container-free model (`code2_lines_inner`), so the
  -- text is `rstripNl (L.map dropCode).flatten ++ "\n"` (`codeSource_eq`); up to its last line that has the lines of
  -- `(L.map dropCode).flatten` (`splitLines_code_tail`), which are document lines less a prefix (`splitLines_drop_rel`,
  -- `Tags.doc_line`); the last line may be an empty one the stripped text does not have: then the counts show where it lies.
  intro S
  obtain ⟨more, rest', hbr, hmore⟩ : ∃ more rest', rest = more ++ rest' ∧ more = rest.takeWhile (·.tag.isCodeMore) :=
    ⟨_, _, (List.takeWhile_append_dropWhile (p := fun x : TLine2 => x.tag.isCodeMore) (l := rest)).symm, rfl⟩
  have hT : Tags doc (pre ++ ((t :: more) ++ rest')) := by
    have := Tags.doc2 doc
    rwa [hts, hbr] at this
  have hok := hT.linesOk_parts
  have hOok : LinesOk ((t :: more).map (·.text)) := hok.append_right.append_left
  have hpre : ∀ x ∈ pre.map (·.text), NlEnded x := hok.nlEnded_left (by simp)
  have hmem : ∀ x ∈ t :: more, x ∈ tagDoc2 doc ∧ x.tag.isCode = true := by
    intro x hx
    rcases List.mem_cons.1 hx with rfl | hx
    · exact ⟨by rw [hts]; simp, by rw [ht]; rfl⟩
    · refine ⟨by rw [hts, hbr]; simp [hx], ?_⟩
      rw [hmore] at hx
      exact isCodeMore_isCode _ (mem_takeWhile_imp (p := fun x : TLine2 => x.tag.isCodeMore) hx)
  obtain ⟨hlok, hlines, hdrop⟩ := code2_lines_inner doc hD (t :: more) hmem hOok
  -- the first line of the block holds code
  have hTne : (((t :: more).map TLine2.inner).map dropCode).flatten ≠ [] := by
    have hs := (hlines t.inner (by simp)).2.1.codeStart ht
    have : dropCode t.inner ≠ [] := by
      rw [dropCode, if_pos hs.1]
      exact drop4_ne_nil _ hs.1 hs.2
    simp [this]
  have hS : S = crToLf (codeSource ((t :: more).map TLine2.inner)) := by simp only [S, ← hmore]
  rw [hS]
  generalize (t :: more).map TLine2.inner = L at *
  have hsrc := codeSource_eq L hlok hlines
  obtain ⟨hrel, hcount⟩ := splitLines_drop_rel (BPrefix.prefixClass (CP.prefixClass _) 4) _ _ hdrop hOok
  intro j s hs
  rw [hsrc] at hs ⊢
  rcases splitLines_code_tail _ j s hs with h | ⟨hse, hlast, hj, hrs⟩
  · obtain ⟨d, hd, hr⟩ := hrel j s h
    exact Or.inl ⟨d, hT.doc_line j d hd, hr⟩
  · -- the text ends without a newline: it is the end of the document, and its lines are counted exactly
    refine Or.inr ⟨hse, hlast, ?_⟩
    obtain ⟨hlen, hnlO⟩ := hcount hTne (by rw [hrs]; exact rstripNl_not_nlEnded _)
    have hB : rest' = [] := Decidable.byContradiction fun hB =>
      hnlO (nlEnded_flatten _ (hok.append_right.nlEnded_left (by simpa using hB)) (by simp))
    subst hB
    have hk : lineSum2 pre = (splitLines (crToLf (pre.map (·.text)).flatten)).length := by
      rw [← sum_pyLineCount_eq _ hpre]; exact lineSum2_eq pre
    rw [hT.norm_parts, List.map_nil, List.flatten_nil, List.append_nil, splitLines_flatten_nl _ hpre, List.length_append, ← hk]
    omega

end RG
