import RecipeGrid.Model.ReExt
import RecipeGrid.Lemmas.Peg
/-! Lemmas about the regular-expression engine of `Model/ReExt.lean`: its equations (`run_alt … run_cls`, sequences and
    branches as lists), a greedy `*` / `+` over a character class in closed form (`tryDown`: the positions of the run are
    offered to the continuation from the far end back; `tryDown_span_commit`: when nothing is given back), and the index
    facts about `spanEnd` that tie the closed forms to the scanners of `Model/Parser.lean`. -/
namespace RG
namespace Rx
open Parser

variable {α : Type}

theorem run_seqs_cons (t : Array Char) (base : Nat) (a : Rx) (as : List Rx) (i : Nat) (k : K α) :
    run t base (seqs (a :: as)) i k = run t base a i (fun j => run t base (seqs as) j k) := by
  cases as with
  | nil => simp only [seqs, run]
  | cons b bs => simp only [seqs, run]

theorem run_seqs_nil (t : Array Char) (base : Nat) (i : Nat) (k : K α) : run t base (seqs []) i k = k i := by
  simp only [seqs, run]

theorem run_seqs_append (t : Array Char) (base : Nat) (xs ys : List Rx) (i : Nat) (k : K α) :
    run t base (seqs (xs ++ ys)) i k = run t base (seqs xs) i (fun j => run t base (seqs ys) j k) := by
  induction xs generalizing i k with
  | nil => simp only [List.nil_append, run_seqs_nil]
  | cons x xs ih =>
    simp only [List.cons_append, run_seqs_cons]
    congr 1
    funext j
    exact ih j k

def orE {α} (a b : Option α) : Option α :=
  match a with
  | some r => some r
  | none => b

@[simp] theorem orE_some {α} (r : α) (b : Option α) : orE (some r) b = some r := rfl
@[simp] theorem orE_none {α} (b : Option α) : orE none b = b := rfl

theorem orE_assoc {α} (a b c : Option α) : orE (orE a b) c = orE a (orE b c) := by cases a <;> rfl

theorem run_alt {α} (t : Array Char) (base : Nat) (a b : Rx) (i : Nat) (k : K α) :
    run t base (alt a b) i k = orE (run t base a i k) (run t base b i k) := by
  rw [run]; cases run t base a i k <;> rfl

theorem run_opt {α} (t : Array Char) (base : Nat) (a : Rx) (i : Nat) (k : K α) :
    run t base (opt a) i k = orE (run t base a i k) (k i) := by
  rw [run]; cases run t base a i k <;> rfl

theorem run_grp {α} (t : Array Char) (base : Nat) (n : Nat) (a : Rx) (i : Nat) (k : K α) :
    run t base (grp n a) i k = run t base a i k := by rw [run]

theorem run_bound {α} (t : Array Char) (base : Nat) (i : Nat) (k : K α) :
    run t base bound i k = if boundaryAt t base i then k i else none := by rw [run]

theorem run_chr {α} (t : Array Char) (base : Nat) (c : Char) (i : Nat) (k : K α) :
    run t base (chr c) i k = step t (· == c) i k := by rw [run]

theorem run_ichr {α} (t : Array Char) (base : Nat) (c : Char) (i : Nat) (k : K α) :
    run t base (ichr c) i k = step t (ciMatches · c) i k := by rw [run]

theorem run_any {α} (t : Array Char) (base : Nat) (i : Nat) (k : K α) :
    run t base any i k = step t (fun _ => true) i k := by rw [run]

theorem run_cls {α} (t : Array Char) (base : Nat) (neg : Bool) (items : List ClsItem) (i : Nat) (k : K α) :
    run t base (cls neg items) i k = step t (clsTest neg items) i k := by rw [run]

theorem run_alts_cons (t : Array Char) (base : Nat) (a b : Rx) (bs : List Rx) (i : Nat) (k : K α) :
    run t base (alts (a :: b :: bs)) i k = orE (run t base a i k) (run t base (alts (b :: bs)) i k) :=
  run_alt t base a (alts (b :: bs)) i k

theorem run_alts_one (t : Array Char) (base : Nat) (a : Rx) (i : Nat) (k : K α) :
    run t base (alts [a]) i k = run t base a i k := rfl

theorem findSome?_congr {β : Type} {f g : β → Option α} : ∀ {l : List β}, (∀ b ∈ l, f b = g b) →
    l.findSome? f = l.findSome? g
  | [], _ => rfl
  | b :: l, h => by
    rw [List.findSome?_cons, List.findSome?_cons, h b List.mem_cons_self,
      findSome?_congr fun c hc => h c (List.mem_cons_of_mem _ hc)]

/-- a `BRANCH`: the first alternative that gives an answer (`alts []` is the empty class, which matches nothing) -/
theorem run_alts (t : Array Char) (base : Nat) : ∀ (as : List Rx) (i : Nat) (k : K α),
    run t base (alts as) i k = as.findSome? fun a => run t base a i k
  | [], i, k => by
    rw [alts, run, step]
    cases t[i]? <;> rfl
  | [a], i, k => by
    rw [run_alts_one, List.findSome?_cons]
    cases run t base a i k <;> rfl
  | a :: b :: bs, i, k => by
    rw [run_alts_cons, run_alts t base (b :: bs), List.findSome?_cons (a := a)]
    cases run t base a i k <;> rfl

theorem lt_size_of_getElem? {t : Array Char} {i : Nat} {c : Char} (h : t[i]? = some c) : i < t.size := by
  rcases Nat.lt_or_ge i t.size with h' | h'
  · exact h'
  · simp [Array.getElem?_eq_none h'] at h

theorem step_eq (t : Array Char) (p : Char → Bool) (i : Nat) (k : K α) :
    step t p i k = match t[i]? with
      | some ch => if p ch then k (i + 1) else none
      | none => none := rfl

theorem step_of_some {t : Array Char} {p : Char → Bool} {i : Nat} {c : Char} (k : K α) (h : t[i]? = some c) (hp : p c = true) :
    step t p i k = k (i + 1) := by simp [step, h, hp]

theorem step_of_not {t : Array Char} {p : Char → Bool} {i : Nat} (k : K α) (h : ∀ c, t[i]? = some c → p c = false) :
    step t p i k = none := by
  unfold step
  cases hc : t[i]? with
  | none => rfl
  | some c => simp [h c hc]

theorem step_of_none {t : Array Char} {p : Char → Bool} {i : Nat} (k : K α) (h : t[i]? = none) : step t p i k = none := by
  simp [step, h]

theorem step_of_false {t : Array Char} {p : Char → Bool} {i : Nat} {c : Char} (k : K α) (h : t[i]? = some c)
    (hp : p c = false) : step t p i k = none := by
  simp [step, h, hp]

theorem step_bind {α β} (t : Array Char) (p : Char → Bool) (i : Nat) (k : K α) (g : α → Option β) :
    (step t p i k).bind g = step t p i (fun j => (k j).bind g) := by
  simp only [step]
  cases t[i]? with
  | none => rfl
  | some c => cases hp : p c <;> simp [hp]

theorem step_congr {α} {t : Array Char} {p : Char → Bool} {i : Nat} {k k' : K α} (h : k (i + 1) = k' (i + 1)) :
    step t p i k = step t p i k' := by
  simp only [step]
  cases t[i]? with
  | none => rfl
  | some c => cases hp : p c <;> simp [hp, h]

theorem sat_eq_step (p : Char → Bool) (t : Array Char) (i : Nat) (z : Bool) :
    (sat p t ⟨i, z⟩).map (fun r => ((), r.2)) = step t p i (fun j => some ((), (⟨j, z⟩ : PState))) := by
  simp only [sat, step]
  cases t[i]? with
  | none => rfl
  | some c => cases p c <;> simp

theorem starK_succ (ma : Nat → K α → Option α) (fuel i : Nat) (k : K α) :
    starK ma (fuel + 1) i k = orE (ma i fun j => starK ma fuel j k) (k i) := by
  rw [starK]
  cases ma i fun j => starK ma fuel j k <;> rfl

def tryDown (k : K α) (lo : Nat) : Nat → Option α
  | 0 => k lo
  | n + 1 =>
    match k (lo + n + 1) with
    | some a => some a
    | none => tryDown k lo n

theorem tryDown_succ (k : K α) (lo n : Nat) : tryDown k lo (n + 1) = orE (k (lo + n + 1)) (tryDown k lo n) := rfl

theorem tryDown_shift (k : K α) (lo : Nat) : ∀ n, tryDown k lo (n + 1) = orE (tryDown k (lo + 1) n) (k lo)
  | 0 => rfl
  | n + 1 => by
    rw [tryDown_succ, tryDown_shift k lo n, ← orE_assoc, tryDown_succ, show lo + 1 + n + 1 = lo + (n + 1) + 1 by omega]

theorem tryDown_some (lo : Nat) : ∀ n, tryDown (α := Nat) some lo n = some (lo + n)
  | 0 => rfl
  | _ + 1 => rfl

theorem tryDown_first (k : K α) (lo : Nat) {a : α} : ∀ n, k (lo + n) = some a → tryDown k lo n = some a
  | 0, h => h
  | n + 1, h => by rw [tryDown, show lo + n + 1 = lo + (n + 1) by omega, h]

theorem tryDown_last (k : K α) (lo : Nat) : ∀ n, (∀ m, lo ≤ m → m < lo + n → k m = none) → tryDown k lo n = k (lo + n)
  | 0, _ => rfl
  | n + 1, h => by
    rw [tryDown]
    cases hk : k (lo + n + 1) with
    | some a => rfl
    | none =>
      rw [tryDown_last k lo n (fun m h1 h2 => h m h1 (by omega))]
      rw [h (lo + n) (by omega) (by omega)]

theorem tryDown_none (k : K α) (lo : Nat) : ∀ n, (∀ m, lo ≤ m → m ≤ lo + n → k m = none) → tryDown k lo n = none :=
  fun n h => (tryDown_last k lo n fun m h1 h2 => h m h1 (Nat.le_of_lt h2)).trans (h _ (Nat.le_add_right ..) (Nat.le_refl _))

theorem tryDown_congr (k k' : K α) (lo : Nat) : ∀ n, (∀ m, lo ≤ m → m ≤ lo + n → k m = k' m) → tryDown k lo n = tryDown k' lo n
  | 0, h => h lo (Nat.le_refl _) (by omega)
  | n + 1, h => by
    rw [tryDown, tryDown, h (lo + n + 1) (by omega) (by omega),
      tryDown_congr k k' lo n (fun m h1 h2 => h m h1 (by omega))]

theorem starK_step (t : Array Char) (p : Char → Bool) (k : K α) (fuel i : Nat) :
    starK (fun i k => step t p i k) fuel i k = tryDown k i (spanEnd.go p t fuel i - i) := by
  fun_induction spanEnd.go p t fuel i with
  | case1 i => rw [Nat.sub_self]; rfl
  | case2 fuel i c hc hp ih =>
    have hge := spanEnd_go_ge p t fuel (i + 1)
    obtain ⟨n, hn⟩ : ∃ n, spanEnd.go p t fuel (i + 1) - i = n + 1 := ⟨spanEnd.go p t fuel (i + 1) - i - 1, by omega⟩
    rw [starK_succ, step_of_some _ hc hp, ih, hn, tryDown_shift, show spanEnd.go p t fuel (i + 1) - (i + 1) = n by omega]
  | case3 fuel i c hc hp => rw [starK_succ, step_of_false _ hc (by simpa using hp), Nat.sub_self]; rfl
  | case4 fuel i hc => rw [starK_succ, step_of_none _ hc, Nat.sub_self]; rfl

theorem run_star_cls (t : Array Char) (base : Nat) (neg : Bool) (items : List ClsItem) (i : Nat) (k : K α) :
    run t base (star (cls neg items)) i k = tryDown k i (spanEnd (clsTest neg items) t i - i) := by
  simp only [run]
  exact starK_step t (clsTest neg items) k (t.size - i) i

theorem run_star_chr (t : Array Char) (base : Nat) (c : Char) (i : Nat) (k : K α) :
    run t base (star (chr c)) i k = tryDown k i (spanEnd (· == c) t i - i) := by
  simp only [run]
  exact starK_step t (· == c) k (t.size - i) i

theorem run_plus (t : Array Char) (base : Nat) (a : Rx) (i : Nat) (k : K α) :
    run t base (plus a) i k = run t base a i (fun j => run t base (star a) j k) := by simp only [run]

theorem run_plus_cls (t : Array Char) (base : Nat) (neg : Bool) (items : List ClsItem) (i : Nat) (k : K α) :
    run t base (plus (cls neg items)) i k =
      step t (clsTest neg items) i (fun j => tryDown k j (spanEnd (clsTest neg items) t j - j)) := by
  simp only [run_plus, run_cls, run_star_cls]

theorem spanEnd_go_spec (p : Char → Bool) (t : Array Char) (fuel j : Nat) (hf : t.size - j ≤ fuel) :
    (∀ m, j ≤ m → m < spanEnd.go p t fuel j → ∃ c, t[m]? = some c ∧ p c = true)
      ∧ ∀ c, t[spanEnd.go p t fuel j]? = some c → p c = false := by
  fun_induction spanEnd.go p t fuel j with
  | case1 j => exact ⟨fun m h1 h2 => by omega, fun c hc => by have := lt_size_of_getElem? hc; omega⟩
  | case2 fuel j c hc hp ih =>
    refine ⟨fun m h1 h2 => ?_, (ih (by omega)).2⟩
    rcases Nat.eq_or_lt_of_le h1 with rfl | hlt
    · exact ⟨c, hc, hp⟩
    · exact (ih (by omega)).1 m hlt h2
  | case3 fuel j c hc hp => exact ⟨fun m h1 h2 => by omega, fun d hd => by rw [hc] at hd; cases hd; simpa using hp⟩
  | case4 fuel j hc => exact ⟨fun m h1 h2 => by omega, fun d hd => by rw [hc] at hd; cases hd⟩

theorem spanEnd_ge (p : Char → Bool) (t : Array Char) (i : Nat) : i ≤ spanEnd p t i := spanEnd_go_ge p t _ i

theorem spanEnd_all {p : Char → Bool} {t : Array Char} {i m : Nat} (h1 : i ≤ m) (h2 : m < spanEnd p t i) :
    ∃ c, t[m]? = some c ∧ p c = true := (spanEnd_go_spec p t _ i (Nat.le_refl _)).1 m h1 h2

theorem spanEnd_stop {p : Char → Bool} {t : Array Char} {i : Nat} {c : Char} (h : t[spanEnd p t i]? = some c) :
    p c = false := (spanEnd_go_spec p t _ i (Nat.le_refl _)).2 c h

theorem spanEnd_unique {p : Char → Bool} {t : Array Char} {i e : Nat} (hie : i ≤ e)
    (hall : ∀ m, i ≤ m → m < e → ∃ c, t[m]? = some c ∧ p c = true)
    (hstop : ∀ c, t[e]? = some c → p c = false) : spanEnd p t i = e := by
  rcases Nat.lt_trichotomy (spanEnd p t i) e with h | h | h
  · obtain ⟨c, hc, hp⟩ := hall _ (spanEnd_ge p t i) h
    rw [spanEnd_stop hc] at hp; cases hp
  · exact h
  · obtain ⟨c, hc, hp⟩ := spanEnd_all hie h
    rw [hstop c hc] at hp; cases hp

theorem spanEnd_of_head {p : Char → Bool} {t : Array Char} {i : Nat} {c : Char} (hc : t[i]? = some c) (hp : p c = true) :
    spanEnd p t i = spanEnd p t (i + 1) := by
  apply spanEnd_unique (Nat.le_trans (Nat.le_succ i) (spanEnd_ge p t (i + 1)))
  · intro m h1 h2
    rcases Nat.eq_or_lt_of_le h1 with rfl | hlt
    · exact ⟨c, hc, hp⟩
    · exact spanEnd_all hlt h2
  · intro d hd; exact spanEnd_stop hd

theorem spanEnd_of_not {p : Char → Bool} {t : Array Char} {i : Nat} (h : ∀ c, t[i]? = some c → p c = false) :
    spanEnd p t i = i :=
  spanEnd_unique (Nat.le_refl _) (fun m h1 h2 => by omega) h

theorem spanEnd_from_inside {p : Char → Bool} {t : Array Char} {i j : Nat} (hij : i ≤ j)
    (hall : ∀ m, i ≤ m → m < j → ∃ c, t[m]? = some c ∧ p c = true) : spanEnd p t i = spanEnd p t j := by
  apply spanEnd_unique (Nat.le_trans hij (spanEnd_ge p t j))
  · intro m h1 h2
    rcases Nat.lt_or_ge m j with h | h
    · exact hall m h1 h
    · exact spanEnd_all h h2
  · intro d hd; exact spanEnd_stop hd

theorem tryDown_span_commit {p : Char → Bool} {t : Array Char} {k : K α} (i : Nat)
    (h : ∀ m c, t[m]? = some c → p c = true → k m = none) : tryDown k i (spanEnd p t i - i) = k (spanEnd p t i) := by
  have hge := spanEnd_ge p t i
  rw [tryDown_last, show i + (spanEnd p t i - i) = spanEnd p t i by omega]
  intro m h1 h2
  obtain ⟨c, hc, hp⟩ := spanEnd_all h1 (by omega : m < spanEnd p t i)
  exact h m c hc hp

theorem boundaryAt_eq {t : Array Char} {base i : Nat} (h : base < i) : boundaryAt t base i = wordBoundaryAt t i := by
  unfold boundaryAt wordBoundaryAt
  have h1 : ¬ i ≤ base := by omega
  have h2 : i ≠ 0 := by omega
  simp only [h1, h2, if_false]

end Rx
end RG
