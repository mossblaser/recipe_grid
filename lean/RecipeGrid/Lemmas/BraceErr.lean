import RecipeGrid.Lemmas.BraceTotal
import RecipeGrid.Lemmas.BraceRound
import RecipeGrid.Lemmas.FloatErr
/-! Showing a number read from at most 300 characters raises nothing (`renderNumErr_lexNumber`; `C13.braceExpr_total` follows
    from it); what the constructor does on a run of more than 4300 digits and on a source that is a single number.
    300 characters: a decimal of that length is below `10^300`, its nearest double at most twice that, and
    `2·10^300 < 2^1024 − 2^970`, from where on `float()` gives `inf`; in `i n/d` of 300 characters `i` and `n` have at most 298
    digits each, so the value is below `10^300` too. -/
-- for `2 ^ 1024` in `floatInfThreshold`, which `two_mul_pow10_lt_threshold` and the bounds below evaluate
set_option exponentiation.threshold 1100

namespace RG.Brace
open Re Parser

theorem digitsVal_cons (c : Char) (d : Str) : digitsVal (c :: d) = (c.toNat - 48) * 10 ^ d.length + digitsVal d := by
  have := digitsVal_append [c] d
  simpa [digitsVal] using this

theorem digitsVal_lt (d : Str) (hd : ∀ ch ∈ d, isDigit ch = true) : digitsVal d < 10 ^ d.length := by
  induction d with
  | nil => simp [digitsVal]
  | cons c d ih =>
    rw [digitsVal_cons]
    have hc := hd c (List.mem_cons_self ..)
    have hd' := ih (fun ch hch => hd ch (List.mem_cons_of_mem _ hch))
    simp only [isDigit, Bool.and_eq_true, decide_eq_true_eq] at hc
    have h9 : c.toNat - 48 ≤ 9 := by omega
    have hmul : (c.toNat - 48) * 10 ^ d.length ≤ 9 * 10 ^ d.length := Nat.mul_le_mul_right _ h9
    simp only [List.length_cons, Nat.pow_succ]
    omega

theorem two_mul_pow10_lt_threshold : 2 * 10 ^ 300 < floatInfThreshold := by decide +kernel

theorem mkRat_nat_le (n d : Nat) (hd : d ≠ 0) : mkRat (n : Int) d ≤ (n : Rat) ∧ 0 ≤ mkRat (n : Int) d := by
  rw [Rat.mkRat_eq_div, Rat.intCast_natCast]
  have hdpos : (0 : Rat) < (d : Rat) := Rat.natCast_pos.2 (Nat.pos_of_ne_zero hd)
  have hd1 : (1 : Rat) ≤ (d : Rat) := by
    have : ((1 : Nat) : Rat) ≤ (d : Rat) := Rat.natCast_le_natCast.2 (Nat.pos_of_ne_zero hd)
    simpa using this
  have hn : (0 : Rat) ≤ (n : Rat) := Rat.natCast_nonneg
  have hmul : (n : Rat) / (d : Rat) * (d : Rat) = (n : Rat) := Rat.div_mul_cancel (Rat.ne_of_gt hdpos)
  have hx0 : 0 ≤ (n : Rat) / (d : Rat) := by
    rw [Rat.div_def]
    exact Rat.mul_nonneg hn (Rat.le_of_lt (Rat.inv_pos.2 hdpos))
  refine ⟨?_, hx0⟩
  have := Rat.mul_le_mul_of_nonneg_left hd1 hx0
  rw [Rat.mul_one, hmul] at this
  exact this

theorem floor_nat_bound (q : Rat) (h0 : 0 ≤ q) (S : Nat) (h : q ≤ (S : Rat)) : q.num.natAbs / q.den ≤ S := by
  have hf : (q.floor : Rat) ≤ ((S : Int) : Rat) := by
    rw [Rat.intCast_natCast]
    exact Rat.le_trans (Rat.floor_le q) h
  have hfi : q.floor ≤ (S : Int) := Rat.intCast_le_intCast.1 hf
  rw [Rat.floor_def] at hfi
  have hnum : (q.num.natAbs : Int) = q.num := Int.natAbs_of_nonneg (Rat.num_nonneg.2 h0)
  rw [← hnum, ← Int.natCast_ediv] at hfi
  exact Int.ofNat_le.1 hfi

theorem natDigits_len_300 (x : Nat) (h : x < 10 ^ 300) : ¬ intMaxStrDigits < (natDigits x).length := by
  have := natDigits_length_le (k := 300) (by decide) h
  simp only [intMaxStrDigits]
  omega

theorem renderNumErr_int (w : Str) (hw : ∀ ch ∈ w, isDigit ch = true) (hl : w.length ≤ 300) :
    renderNumErr (intValue w) = none := by
  have hlt : natOfDigits w < 10 ^ 300 := Nat.lt_of_lt_of_le (digitsVal_lt w hw) (Nat.pow_le_pow_right (by decide) hl)
  have hv : (intValue w).val.num.natAbs = natOfDigits w := by
    simp [intValue, Rat.num_natCast]
  unfold renderNumErr
  have hk : (intValue w).kind = .int := rfl
  rw [hk]
  simp only
  split
  · rename_i h
    rw [hv] at h
    exact absurd h (natDigits_len_300 _ hlt)
  · rfl

theorem renderNumErr_float (w f : Str) (hw : ∀ ch ∈ w, isDigit ch = true) (hf : ∀ ch ∈ f, isDigit ch = true)
    (hl : w.length + f.length ≤ 300) : renderNumErr (floatValue w f) = none := by
  have hM : natOfDigits (w ++ f) < 10 ^ 300 := by
    have := digitsVal_lt (w ++ f) (by
      intro ch hch
      rcases List.mem_append.1 hch with h | h
      · exact hw ch h
      · exact hf ch h)
    exact Nat.lt_of_lt_of_le this (Nat.pow_le_pow_right (by decide) (by simpa using hl))
  have hD : 10 ^ f.length ≠ 0 := Nat.ne_of_gt (Nat.pow_pos (by decide))
  obtain ⟨hxM, hx0⟩ := mkRat_nat_le (natOfDigits (w ++ f)) (10 ^ f.length) hD
  generalize hx : mkRat ((natOfDigits (w ++ f) : Nat) : Int) (10 ^ f.length) = x at hxM hx0
  -- `toDouble x ≤ 2·x ≤ 2·(w ++ f) < 2·10^300 <` the threshold
  have h2 := toDouble_le_two_mul hx0
  have hMr : ((natOfDigits (w ++ f) : Nat) : Rat) < ((10 ^ 300 : Nat) : Rat) := Rat.natCast_lt_natCast.2 hM
  have hT : ((2 * 10 ^ 300 : Nat) : Rat) < ((floatInfThreshold : Nat) : Rat) :=
    Rat.natCast_lt_natCast.2 two_mul_pow10_lt_threshold
  have hT' : (2 : Rat) * ((10 ^ 300 : Nat) : Rat) < ((floatInfThreshold : Nat) : Rat) := by
    have : ((2 * 10 ^ 300 : Nat) : Rat) = (2 : Rat) * ((10 ^ 300 : Nat) : Rat) := by
      rw [Rat.natCast_mul]; rfl
    rw [← this]; exact hT
  have hlt : toDouble x < ((floatInfThreshold : Nat) : Rat) := by grind
  simp only [renderNumErr, floatValue, hx]
  rw [if_neg (Rat.not_le.2 hlt)]

theorem renderNumErr_frac (q : Rat) (h0 : 0 ≤ q) (S : Nat) (hq : q ≤ (S : Rat)) (hS : S < 10 ^ 300) :
    renderNumErr ⟨q, .frac⟩ = none := by
  have hfl := floor_nat_bound q h0 S hq
  have hT : (S : Rat) < ((floatInfThreshold : Nat) : Rat) :=
    Rat.natCast_lt_natCast.2 (by have := two_mul_pow10_lt_threshold; omega)
  have hqT : ¬ ((floatInfThreshold : Nat) : Rat) ≤ q := Rat.not_le.2 (Std.lt_of_le_of_lt hq hT)
  have hC : ¬ intMaxStrDigits < (natDigits (q.num.natAbs / q.den)).length := natDigits_len_300 _ (by omega)
  unfold renderNumErr
  simp only
  by_cases hden : (q.den == 1) = true
  · have e : q.num.natAbs = q.num.natAbs / q.den := by rw [beq_iff_eq.1 hden, Nat.div_one]
    rw [if_pos hden, e, if_neg hC]
  · rw [if_neg hden, if_neg hqT, if_neg hC]
    simp only [ite_self]
theorem renderNumErr_fracValue (i : Option Str) (n d : Str)
    (hi : ∀ ds, i = some ds → (∀ ch ∈ ds, isDigit ch = true) ∧ ds.length ≤ 298)
    (hn : ∀ ch ∈ n, isDigit ch = true) (hnl : n.length ≤ 298) (hd : natOfDigits d ≠ 0) :
    renderNumErr (fracValue i n d) = none := by
  have hnv : natOfDigits n < 10 ^ 298 := Nat.lt_of_lt_of_le (digitsVal_lt n hn) (Nat.pow_le_pow_right (by decide) hnl)
  obtain ⟨hle, h0⟩ := mkRat_nat_le (natOfDigits n) (natOfDigits d) hd
  have key : ∀ iv : Nat, iv < 10 ^ 298 →
      renderNumErr ⟨(iv : Rat) + mkRat ((natOfDigits n : Nat) : Int) (natOfDigits d), .frac⟩ = none := by
    intro iv hiv
    apply renderNumErr_frac _ _ (iv + natOfDigits n)
    · rw [Rat.natCast_add]
      exact Rat.add_le_add_left.2 hle
    · have : (10 : Nat) ^ 300 = 100 * 10 ^ 298 := by
        rw [show (300 : Nat) = 2 + 298 from rfl, Nat.pow_add]
      omega
    · exact Rat.add_nonneg Rat.natCast_nonneg h0
  unfold fracValue
  cases i with
  | none => exact key 0 (Nat.pow_pos (by decide))
  | some ds =>
    obtain ⟨hds, hdl⟩ := hi ds rfl
    exact key (natOfDigits ds) (Nat.lt_of_lt_of_le (digitsVal_lt ds hds) (Nat.pow_le_pow_right (by decide) hdl))

theorem renderNumErr_lexNumber (s : Str) (hl : s.length ≤ 300) : renderNumErr (lexNumber s).1 = none := by
  unfold lexNumber
  cases hm : lexMixed s with
  | some t =>
    obtain ⟨i, n, d, r⟩ := t
    obtain ⟨rr, hi, ht⟩ := lexMixed_some hm
    obtain ⟨h1, -, hs, hid, -⟩ := lexFracInt_some hi
    obtain ⟨h2, h3, -, hf, -⟩ := lexFracTail_some ht
    have hl2 := lexFracTail_lengths ht
    have hlen := congrArg List.length hs
    simp only [List.length_append] at hlen
    exact renderNumErr_fracValue (some i) n d (fun ds hds => by cases hds; exact ⟨hid.2, by omega⟩) hf.num.2 (by omega)
      hf.den_ne_zero
  | none =>
    simp only
    cases ht : lexFracTail s with
    | some t =>
      obtain ⟨n, d, r⟩ := t
      obtain ⟨h2, h3, -, hf, -⟩ := lexFracTail_some ht
      have hl2 := lexFracTail_lengths ht
      exact renderNumErr_fracValue none n d (fun ds hds => by cases hds) hf.num.2 (by omega) hf.den_ne_zero
    | none =>
      simp only
      unfold lexDecimal
      have hw : ∀ ch ∈ s.takeWhile isDigit, isDigit ch = true := fun ch hch => mem_takeWhile_imp hch
      have hsplit := congrArg List.length (List.takeWhile_append_dropWhile (p := isDigit) (l := s))
      simp only [List.length_append] at hsplit
      cases hdw : s.dropWhile isDigit with
      | nil =>
        simp only
        exact renderNumErr_int _ hw (by omega)
      | cons x r =>
        simp only
        rw [hdw] at hsplit
        simp only [List.length_cons] at hsplit
        split
        · simp only
          have := (List.takeWhile_sublist isDigit (l := r)).length_le
          exact renderNumErr_float _ _ hw (fun ch hch => mem_takeWhile_imp hch) (by omega)
        · simp only
          exact renderNumErr_int _ hw (by omega)

theorem lexTok_num {s s' : Str} {n : Num} : lexTok s = some (.num n, s') → n = (lexNumber s).1 := by
  fun_cases lexTok s with
  | case2 =>
    intro h
    cases h
    rfl
  | _ =>
    intro h
    cases h

theorem renderSvsErr_none : ∀ (s : SVS), (∀ n, Part.num n ∈ s → renderNumErr n = none) → renderSvsErr s = none
  | [], _ => rfl
  | .text _ :: rest, h => by
    simp only [renderSvsErr]
    exact renderSvsErr_none rest (fun n hn => h n (List.mem_cons_of_mem _ hn))
  | .num n :: rest, h => by
    simp only [renderSvsErr, h n (List.mem_cons_self ..)]
    exact renderSvsErr_none rest (fun n hn => h n (List.mem_cons_of_mem _ hn))

theorem matches_single {s : Str} {c : Caps} (h : lexCaps s = some ([], c)) : Brace.matches s = [c] := by
  cases s with
  | nil => cases h
  | cons ch rest =>
    rw [← partAt_eq_lexCaps] at h
    simp only [Brace.matches, List.length_cons, matchesF, h, matchesF_nil]

theorem renderSvsErr_single (n : Num) : renderSvsErr [.num n] = renderNumErr n := by
  cases h : renderNumErr n with
  | none => simp only [renderSvsErr, h]
  | some e => cases e <;> simp only [renderSvsErr, h]

theorem lexCaps_digits (w : Str) (hne : w ≠ []) (hw : ∀ ch ∈ w, isDigit ch = true) :
    lexCaps w = some ([], [(gDecimal, w)]) := by
  have t := span_run isDigit w [] hw (by simp)
  rw [List.append_nil] at t
  cases w with
  | nil => exact absurd rfl hne
  | cons ch rest =>
    have hm : lexMixed (ch :: rest) = none := by simp [lexMixed, lexFracInt, t.2]
    have ht : lexFracTail (ch :: rest) = none := by simp [lexFracTail, t.2]
    simp only [lexCaps, hw ch (List.mem_cons_self ..), if_true, hm, ht, t.1, t.2]

theorem braceExpr_long_digits (w : Str) (hw : ∀ ch ∈ w, isDigit ch = true) (hl : intMaxStrDigits < w.length) :
    braceExpr w = .error .valueError := by
  have hne : w ≠ [] := by intro h; subst h; cases hl
  have hdot : '.' ∉ w := fun h => absurd (hw _ h) (by decide)
  simp [braceExpr, matches_single (lexCaps_digits w hne hw), capsIntTooLong, Caps.get, gNumerator, gDecimal, hdot, hl]

theorem braceExpr_single_num {s : Str} {n : Num} (hl : s.length ≤ intMaxStrDigits) (h : lexTok s = some (.num n, [])) :
    braceExpr s = match renderNumErr n with | some e => .error e | none => .ok [.num n] := by
  have hp : braceParts s = [.num n] := by
    rw [braceParts, braceTokens_eq_lexTokens, lexTokens_step h]; rfl
  rw [braceExpr, matches_no_intTooLong s hl, hp, renderSvsErr_single]
  rfl

end RG.Brace
