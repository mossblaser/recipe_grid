import RecipeGrid.Lemmas.Heading
/-! The serving split of a heading text, and the model's matcher and search in its terms.  `ServingSplit` is a candidate
    decomposition `pre ++ ws₁ ++ phrase ++ ws₂ ++ digits ++ ws₃`; all splits of a text agree from the last phrase word on
    (`splits_agree`: the digits are the last token), so a split is determined by where it starts (`ServingSplit.eq_of_start`),
    which is also why the matcher's loop over the phrases reports the same groups whichever phrase it meets first.
    `matchServingsAt` succeeds exactly on the splits with empty `pre`
    (`matchServingsAt_of_split`, `split_of_matchServingsAt`), so the pattern matches at offset `k` exactly when a split starts
    there (`SplitStart`, `matchServingsAt_drop_eq_none_iff`); `searchServings` finds THE left-most split
    (`searchServings_eq_some_iff`), and which split that is can be said without the search (`leftmost_iff_explicit`).  Last,
    what `render_heading` records for a plain heading text (`Plain`, `headingInfo_plain`).  For `Props/C18.lean`, `C18b.lean`
    and `Lemmas/MdHeadingSplit.lean`. -/
namespace RG.C18

theorem rstripStr_tail (s : Str) : ∃ r, s = rstripStr s ++ r ∧ WsRun r := by
  refine ⟨(s.reverse.takeWhile isStripSpace).reverse, ?_, fun c hc => ?_⟩
  · rw [rstripStr, ← List.reverse_append, List.takeWhile_append_dropWhile, List.reverse_reverse]
  · rw [← isStripSpace_eq_isReSpace]
    exact mem_takeWhile_imp (List.mem_reverse.mp hc)

/-- a candidate split of a heading text: `pre`, a non-empty `\s` run, an accepted phrase in any letter case (its
    words separated by non-empty `\s` runs), a non-empty `\s` run, a non-empty run of `[0-9]`, a `\s` run, end -/
structure ServingSplit (text pre ws₁ phrase ws₂ digits ws₃ : Str) : Prop where
  text_eq : text = pre ++ ws₁ ++ phrase ++ ws₂ ++ digits ++ ws₃
  ws₁_run : SpaceRun ws₁
  phrase_ok : ∃ p ∈ Gen.servingPhrases, PhraseText p phrase
  ws₂_run : SpaceRun ws₂
  digits_ne : digits ≠ []
  digits_ok : ∀ c ∈ digits, isDigit c = true
  ws₃_run : WsRun ws₃

theorem ServingSplit.retext {t pre ws₁ phrase ws₂ digits ws₃ : Str} (h : ServingSplit t pre ws₁ phrase ws₂ digits ws₃)
    {t' pre' ws₁' : Str} (he : t' = pre' ++ ws₁' ++ phrase ++ ws₂ ++ digits ++ ws₃) (hws : SpaceRun ws₁') :
    ServingSplit t' pre' ws₁' phrase ws₂ digits ws₃ :=
  ⟨he, hws, h.phrase_ok, h.ws₂_run, h.digits_ne, h.digits_ok, h.ws₃_run⟩

def IsLastPhraseWord (w : String) : Prop := ∃ p ∈ Gen.servingPhrases, p.getLast? = some w

theorem IsLastPhraseWord.wf {w : String} (h : IsLastPhraseWord w) : w.toList ≠ [] ∧ ∀ l ∈ w.toList, IsLower l := by
  obtain ⟨p, hp, hw⟩ := h
  exact (servingPhrases_wf p hp).2 w (List.mem_of_getLast? hw)

theorem ServingSplit.tokens {t pre ws₁ phrase ws₂ digits ws₃ : Str} (h : ServingSplit t pre ws₁ phrase ws₂ digits ws₃) :
    ∃ x wd w, t = x ++ wd ++ ws₂ ++ digits ++ ws₃ ∧ x ≠ [] ∧ EndsWs x ∧ IsLastPhraseWord w ∧ CiWord w.toList wd ∧
      pre ++ ws₁ ++ phrase = x ++ wd := by
  obtain ⟨p, hp, hph⟩ := h.phrase_ok
  obtain ⟨w, hw, y, wd, rfl, hwd, hy⟩ := PhraseText_last hph
  refine ⟨pre ++ ws₁ ++ y, wd, w, by rw [h.text_eq]; simp, ?_, ?_, ⟨p, hp, hw⟩, hwd, by simp⟩
  · have := h.ws₁_run.1
    simp [this]
  · cases y with
    | nil => simpa using EndsWs.append_spaceRun pre h.ws₁_run
    | cons c y => exact EndsWs.append_of_endsWs_ne_nil _ hy (by simp)

/-- all splits of a text agree on everything from the last phrase word on: the digits are the last token of the
    text ("Tea for 2 for 4": only "for 4" is a candidate), the phrase ends at the token before them; splits differ
    only in where the phrase (and the space run before it) STARTS -/
theorem splits_agree {t pre ws₁ phrase ws₂ digits ws₃ pre' ws₁' phrase' ws₂' digits' ws₃' : Str}
    (h : ServingSplit t pre ws₁ phrase ws₂ digits ws₃) (h' : ServingSplit t pre' ws₁' phrase' ws₂' digits' ws₃') :
    ws₂ = ws₂' ∧ digits = digits' ∧ ws₃ = ws₃' ∧ pre ++ ws₁ ++ phrase = pre' ++ ws₁' ++ phrase' := by
  obtain ⟨x, wd, wl, hx, _, hxe, hwl, hwd, e⟩ := h.tokens
  obtain ⟨x', wd', wl', hx', _, hxe', hwl', hwd', e'⟩ := h'.tokens
  rw [hx] at hx'
  obtain ⟨e1, rfl, rfl⟩ := last_token_unique (x := x ++ wd ++ ws₂) (x' := x' ++ wd' ++ ws₂') hx'
    (EndsWs.append_spaceRun _ h.ws₂_run) (EndsWs.append_spaceRun _ h'.ws₂_run) (digits_noWs h.digits_ok)
    (digits_noWs h'.digits_ok) h.digits_ne h'.digits_ne h.ws₃_run h'.ws₃_run
  obtain ⟨rfl, rfl, rfl⟩ := last_token_unique e1 hxe hxe' (CiWord_noWs hwl.wf.2 hwd) (CiWord_noWs hwl'.wf.2 hwd')
    (CiWord_ne_nil hwl.wf.1 hwd) (CiWord_ne_nil hwl'.wf.1 hwd') h.ws₂_run.wsRun h'.ws₂_run.wsRun
  exact ⟨rfl, rfl, rfl, e.trans e'.symm⟩

theorem split_of_matchServingsAt {s sp prep ds : Str} (h : matchServingsAt s = some (sp, prep, ds)) :
    ∃ phrase ws₂ ws₃, prep = phrase ++ ws₂ ∧ ServingSplit s [] sp phrase ws₂ ds ws₃ := by
  unfold matchServingsAt at h
  split at h
  · cases h
  · rename_i after hafter
    obtain ⟨sp0, rfl, hsp0, _⟩ := spaces1_eq_some hafter
    obtain ⟨p, hp, hf⟩ := List.exists_of_findSome?_eq_some h
    split at hf
    · rename_i afterPrep hprep
      split at hf
      · rename_i ds0 hds
        obtain ⟨ph, sp2, rfl, hph, hsp2, _⟩ := phrasePrefix_eq_some (servingPhrases_wf p hp).1 hprep
        obtain ⟨tail, rfl, hne, hdig, htail⟩ := digitsToEnd_eq_some hds
        simp only [Option.some.injEq, Prod.mk.injEq] at hf
        obtain ⟨h1, h2, h3⟩ := hf
        rw [take_length_sub_append] at h1
        rw [take_length_sub_append] at h2
        subst h1 h2 h3
        exact ⟨ph, sp2, tail, rfl, by simp, hsp0, ⟨p, hp, hph⟩, hsp2, hne, hdig, htail⟩
      · cases hf
    · cases hf

/-- all splits agree from the end of the phrase on (`splits_agree`), and the space run ends where the phrase's first letter
    stands -/
theorem ServingSplit.eq_of_start {t pre ws₁ phrase ws₂ digits ws₃ pre' ws₁' phrase' ws₂' digits' ws₃' : Str}
    (h : ServingSplit t pre ws₁ phrase ws₂ digits ws₃) (h' : ServingSplit t pre' ws₁' phrase' ws₂' digits' ws₃')
    (hlen : pre.length = pre'.length) :
    pre = pre' ∧ ws₁ = ws₁' ∧ phrase = phrase' ∧ ws₂ = ws₂' ∧ digits = digits' ∧ ws₃ = ws₃' := by
  obtain ⟨rfl, rfl, rfl, e⟩ := splits_agree h h'
  rw [List.append_assoc, List.append_assoc] at e
  obtain ⟨rfl, e₂⟩ := List.append_inj e hlen
  obtain ⟨p, hp, hph⟩ := h.phrase_ok
  obtain ⟨q, hq, hqph⟩ := h'.phrase_ok
  obtain ⟨rfl, rfl⟩ := prefix_split_unique isReSpace e₂ h.ws₁_run.2 h'.ws₁_run.2
    (PhraseText_head_noWs (servingPhrases_wf p hp).2 hph) (PhraseText_head_noWs (servingPhrases_wf q hq).2 hqph)
  exact ⟨rfl, rfl, rfl, rfl, rfl, rfl⟩

/-- the loop over the phrases may meet another accepted phrase first, but what it reports is a split of the same text from
    the same start (`split_of_matchServingsAt`), hence the same split (`ServingSplit.eq_of_start`) -/
theorem matchServingsAt_of_split {s sp phrase ws₂ ds ws₃ : Str} (h : ServingSplit s [] sp phrase ws₂ ds ws₃) :
    matchServingsAt s = some (sp, phrase ++ ws₂, ds) := by
  obtain ⟨p, hp, hph⟩ := h.phrase_ok
  have hwf := (servingPhrases_wf p hp).2
  have hrest : ∀ c, (ds ++ ws₃).head? = some c → isReSpace c = false :=
    fun c hc => isDigit_not_space (head_append_of_ne (p := fun x => isDigit x = true) h.digits_ne h.digits_ok c hc)
  have hs : s = sp ++ (phrase ++ ws₂ ++ (ds ++ ws₃)) := by rw [h.text_eq]; simp
  have hspaces : spaces1 s = some (phrase ++ ws₂ ++ (ds ++ ws₃)) := by
    rw [hs]
    refine spaces1_append h.ws₁_run fun c hc => ?_
    obtain ⟨⟨c0, r0, rfl, hc0⟩, _⟩ := PhraseText_chars hwf hph
    cases hc
    exact letterLike_not_space hc0
  have hsome : (matchServingsAt s).isSome = true := by
    rw [matchServingsAt, hspaces]
    refine List.findSome?_isSome_iff.mpr ⟨p, hp, ?_⟩
    rw [phrasePrefix_complete hwf hph h.ws₂_run hrest]
    simp only
    rw [digitsToEnd_complete h.digits_ne h.digits_ok h.ws₃_run]
    rfl
  obtain ⟨⟨sp', prep', ds'⟩, hm⟩ := Option.isSome_iff_exists.mp hsome
  obtain ⟨phrase', ws₂', ws₃', rfl, h'⟩ := split_of_matchServingsAt hm
  obtain ⟨-, rfl, rfl, rfl, rfl, -⟩ := h.eq_of_start h' rfl
  exact hm

/-- no split of `text` has a shorter `pre`: the regex search reports the left-most start -/
def Leftmost (text pre : Str) : Prop :=
  ∀ pre' ws₁' phrase' ws₂' digits' ws₃', ServingSplit text pre' ws₁' phrase' ws₂' digits' ws₃' → pre.length ≤ pre'.length

def HasServingSplit (text : Str) : Prop :=
  ∃ pre ws₁ phrase ws₂ digits ws₃, ServingSplit text pre ws₁ phrase ws₂ digits ws₃

theorem ServingSplit.match_at {text pre ws₁ phrase ws₂ digits ws₃ : Str}
    (h : ServingSplit text pre ws₁ phrase ws₂ digits ws₃) :
    matchServingsAt (text.drop pre.length) = some (ws₁, phrase ++ ws₂, digits) :=
  matchServingsAt_of_split (h.retext (by rw [h.text_eq]; simp [List.append_assoc]) h.ws₁_run)

theorem split_of_match_at {text : Str} {k : Nat} {sp prep ds : Str}
    (h : matchServingsAt (text.drop k) = some (sp, prep, ds)) :
    ∃ phrase ws₂ ws₃, prep = phrase ++ ws₂ ∧ ServingSplit text (text.take k) sp phrase ws₂ ds ws₃ ∧ (text.take k).length = k := by
  obtain ⟨ph, sp2, tail, rfl, hs⟩ := split_of_matchServingsAt h
  refine ⟨ph, sp2, tail, rfl, hs.retext ?_ hs.ws₁_run, ?_⟩
  · have : text = text.take k ++ text.drop k := (List.take_append_drop k text).symm
    rw [hs.text_eq] at this
    simpa [List.append_assoc] using this
  · rw [List.length_take]
    have : text.drop k ≠ [] := by
      intro e
      rw [e, matchServingsAt_nil] at h
      cases h
    have : k < text.length := by
      rcases Nat.lt_or_ge k text.length with h1 | h1
      · exact h1
      · exact absurd (List.drop_eq_nil_of_le h1) this
    omega

/-- some split starts (its `ws₁`) at offset `k` -/
def SplitStart (t : Str) (k : Nat) : Prop :=
  ∃ pre ws₁ phrase ws₂ digits ws₃, ServingSplit t pre ws₁ phrase ws₂ digits ws₃ ∧ pre.length = k

theorem leftmost_iff_splitStart (t pre : Str) : Leftmost t pre ↔ ∀ k, SplitStart t k → pre.length ≤ k := by
  constructor
  · rintro h k ⟨pre', _, _, _, _, _, hs, rfl⟩
    exact h _ _ _ _ _ _ hs
  · intro h pre' _ _ _ _ _ hs
    exact h _ ⟨pre', _, _, _, _, _, hs, rfl⟩

theorem matchServingsAt_drop_eq_none_iff (t : Str) (k : Nat) : matchServingsAt (t.drop k) = none ↔ ¬ SplitStart t k := by
  constructor
  · rintro h ⟨pre, ws₁, phrase, ws₂, digits, ws₃, hs, rfl⟩
    rw [hs.match_at] at h
    cases h
  · intro h
    cases hm : matchServingsAt (t.drop k) with
    | none => rfl
    | some r =>
      obtain ⟨sp, prep, ds⟩ := r
      obtain ⟨_, _, _, _, hs, hlen⟩ := split_of_match_at hm
      exact absurd ⟨_, _, _, _, _, _, hs, hlen⟩ h

theorem leftmost_iff_no_match (t pre : Str) :
    Leftmost t pre ↔ ∀ k, k < pre.length → matchServingsAt (t.drop k) = none := by
  simp only [leftmost_iff_splitStart, matchServingsAt_drop_eq_none_iff]
  exact ⟨fun h k hk hs => Nat.not_le.mpr hk (h k hs), fun h k hs => Nat.le_of_not_lt fun hk => h k hk hs⟩

theorem searchServings_eq_some_iff (text before space prep ds : Str) :
    searchServings text = some (before, space, prep, ds) ↔
      ∃ phrase ws₂ ws₃, prep = phrase ++ ws₂ ∧ ServingSplit text before space phrase ws₂ ds ws₃ ∧ Leftmost text before := by
  rw [searchServings, searchServingsAux_eq_some_iff]
  constructor
  · rintro ⟨n, hb, hm, hlt⟩
    simp only [List.reverse_nil, List.nil_append] at hb
    obtain ⟨phrase, ws₂, ws₃, hprep, hsplit, hlen⟩ := split_of_match_at hm
    rw [← hb] at hsplit hlen
    exact ⟨phrase, ws₂, ws₃, hprep, hsplit, (leftmost_iff_no_match _ _).mpr (hlen.symm ▸ hlt)⟩
  · rintro ⟨phrase, ws₂, ws₃, rfl, hsplit, hleft⟩
    exact ⟨before.length, by rw [hsplit.text_eq]; simp [List.append_assoc], hsplit.match_at,
      (leftmost_iff_no_match _ _).mp hleft⟩

theorem searchServings_eq_none_iff (text : Str) : searchServings text = none ↔ ¬ HasServingSplit text := by
  rw [searchServings, searchServingsAux_eq_none]
  simp only [matchServingsAt_drop_eq_none_iff]
  constructor
  · rintro h ⟨pre, ws₁, phrase, ws₂, digits, ws₃, hs⟩
    exact h pre.length ⟨_, _, _, _, _, _, hs, rfl⟩
  · rintro h k ⟨pre, ws₁, phrase, ws₂, digits, ws₃, hs, -⟩
    exact h ⟨_, _, _, _, _, _, hs⟩

theorem leftmost_pre_not_endsWs {t pre ws₁ phrase ws₂ digits ws₃ : Str}
    (h : ServingSplit t pre ws₁ phrase ws₂ digits ws₃) (hl : Leftmost t pre) :
    EndsNoWs pre := by
  intro c hc
  cases hsp : isReSpace c with
  | false => rfl
  | true =>
    exfalso
    obtain ⟨pre₀, rfl⟩ : ∃ pre₀, pre = pre₀ ++ [c] := by
      have hne : pre ≠ [] := by intro e; rw [e] at hc; cases hc
      have hc' : pre.getLast hne = c := by
        rw [List.getLast?_eq_some_getLast hne] at hc
        exact Option.some.inj hc
      exact ⟨pre.dropLast, by rw [← hc', List.dropLast_concat_getLast]⟩
    have h' : ServingSplit t pre₀ (c :: ws₁) phrase ws₂ digits ws₃ :=
      h.retext (by rw [h.text_eq]; simp) ⟨by simp, fun d hd => by
        rcases List.mem_cons.mp hd with rfl | hd
        · exact hsp
        · exact h.ws₁_run.2 d hd⟩
    have := hl _ _ _ _ _ _ h'
    simp only [List.length_append, List.length_singleton] at this
    omega

/-- the title `pre` ends in the text of extra leading phrase words `u` (preceded by a space run) that, put in front
    of `p`, give another accepted phrase: e.g. `p = ["serve"]`, `pre = "Food to"`, `u = ["to"]` -/
def EndsInPhraseWords (p : List String) (pre : Str) : Prop :=
  ∃ u, u ≠ [] ∧ u ++ p ∈ Gen.servingPhrases ∧ ∃ pre₀ ws₀ z, pre = pre₀ ++ ws₀ ++ z ∧ SpaceRun ws₀ ∧ PhraseText u z

/-- **which split the search finds, explicitly.**  A split (with phrase `p`) is the left-most one iff
    (1) `ws₁` is the whole space run — `pre` does not end in whitespace — and
    (2) `pre` does not end in words that extend `p` to a longer accepted phrase ("… to" before "serve 4"). -/
theorem leftmost_iff_explicit {t pre ws₁ phrase ws₂ digits ws₃ : Str} {p : List String}
    (h : ServingSplit t pre ws₁ phrase ws₂ digits ws₃) (hp : p ∈ Gen.servingPhrases) (hph : PhraseText p phrase) :
    Leftmost t pre ↔ (∀ c, pre.getLast? = some c → isReSpace c = false) ∧ ¬ EndsInPhraseWords p pre := by
  have hwp := (servingPhrases_wf p hp).2
  constructor
  · intro hl
    refine ⟨leftmost_pre_not_endsWs h hl, ?_⟩
    rintro ⟨u, hu, hup, pre₀, ws₀, z, rfl, hws₀, hz⟩
    have h' : ServingSplit t pre₀ ws₀ (z ++ ws₁ ++ phrase) ws₂ digits ws₃ :=
      ⟨by rw [h.text_eq]; simp, hws₀, ⟨u ++ p, hup, PhraseText_append (servingPhrases_wf p hp).1 hz h.ws₁_run hph⟩,
        h.ws₂_run, h.digits_ne, h.digits_ok, h.ws₃_run⟩
    have := hl _ _ _ _ _ _ h'
    have := List.length_pos_iff.mpr hws₀.1
    simp only [List.length_append] at *
    omega
  · rintro ⟨hnows, hnoext⟩ pre' ws₁' phrase' ws₂' digits' ws₃' h'
    rcases Nat.lt_or_ge pre'.length pre.length with hlt | hge
    · exfalso
      obtain ⟨q, hq, hqph⟩ := h'.phrase_ok
      -- the earlier split starts inside `pre`: its space run ends there too (`z` follows it), and its phrase is `z ws₁ phrase`
      have he : pre' ++ (ws₁' ++ phrase') = pre ++ (ws₁ ++ phrase) := by
        simpa [List.append_assoc] using (splits_agree h h').2.2.2.symm
      obtain ⟨z, hz, rfl, rfl⟩ := spaceRun_inside he hlt h'.ws₁_run hnows
      obtain ⟨u, hu, eu, huz⟩ := PhraseText_lead (servingPhrases_wf q hq).2 hwp (by rw [List.append_assoc]; exact hqph)
        (fun d hd => hnows d (by rw [getLast?_append_ne _ hz]; exact hd)) h.ws₁_run hph
      exact hnoext ⟨u, hu, eu ▸ hq, pre', ws₁', z, rfl, h'.ws₁_run, huz⟩
    · exact hge


/-- in the current pattern the only such extension is a leading "to" (decided on the regenerated table) -/
theorem phrase_extensions_are_to : ∀ q ∈ Gen.servingPhrases, ∀ p ∈ Gen.servingPhrases, p.length < q.length →
    q.drop (q.length - p.length) = p → q.take (q.length - p.length) = ["to"] := by decide +kernel

theorem endsInPhraseWords_iff_to {p : List String} (hp : p ∈ Gen.servingPhrases) (pre : Str) :
    EndsInPhraseWords p pre ↔
      "to" :: p ∈ Gen.servingPhrases ∧ ∃ pre₀ ws₀ z, pre = pre₀ ++ ws₀ ++ z ∧ SpaceRun ws₀ ∧ CiWord "to".toList z := by
  constructor
  · rintro ⟨u, hu, hup, pre₀, ws₀, z, e, hws, hz⟩
    have hlen : 0 < u.length := List.length_pos_iff.mpr hu
    have := phrase_extensions_are_to (u ++ p) hup p hp (by simp; omega) (by simp)
    have hu' : u = ["to"] := by simpa using this
    subst hu'
    exact ⟨hup, pre₀, ws₀, z, e, hws, hz⟩
  · rintro ⟨hto, pre₀, ws₀, z, e, hws, hz⟩
    exact ⟨["to"], by simp, hto, pre₀, ws₀, z, e, hws, hz⟩

/-- **the disambiguation, in words**: the split found is the one whose space run `ws₁` is maximal and whose phrase
    includes a preceding "to" whenever "to <phrase>" is accepted ("Food to serve 4" is "Food" + "to serve 4") -/
theorem leftmost_iff_explicit_to {t pre ws₁ phrase ws₂ digits ws₃ : Str} {p : List String}
    (h : ServingSplit t pre ws₁ phrase ws₂ digits ws₃) (hp : p ∈ Gen.servingPhrases) (hph : PhraseText p phrase) :
    Leftmost t pre ↔ EndsNoWs pre ∧
      ¬ ("to" :: p ∈ Gen.servingPhrases ∧
          ∃ pre₀ ws₀ z, pre = pre₀ ++ ws₀ ++ z ∧ SpaceRun ws₀ ∧ CiWord "to".toList z) := by
  rw [leftmost_iff_explicit h hp hph, endsInPhraseWords_iff_to hp]
  rfl

/-- a heading text without markup that contains none of the placeholders issued so far -/
def Plain (t : Str) (phs : List Str) : Prop := '<' ∉ t ∧ ∀ q ∈ phs, isInfixOfStr q t = false

theorem headingInfo_plain {t : Str} {phs : List Str} (h : Plain t phs) :
    headingInfo true 1 t phs =
      match searchServings t with
      | none => .unscalable (unescapeEntities (stripStr t))
      | some (before, space, prep, ds) =>
        .scalable (unescapeEntities (stripStr (before ++ space))) (natOfDigitChars ds) (before ++ space) prep := by
  have hany : phs.any (isInfixOfStr · t) = false := by simpa using h.2
  cases hs : searchServings t with
  | none => simp [headingInfo, h.1, hany, hs]
  | some r => obtain ⟨b, sp, prep, ds⟩ := r; simp [headingInfo, h.1, hany, hs]

theorem ServingSplit.strip_pre {text pre ws₁ phrase ws₂ digits ws₃ : Str}
    (h : ServingSplit text pre ws₁ phrase ws₂ digits ws₃) : stripStr (pre ++ ws₁) = stripStr pre :=
  stripStr_append_ws pre ws₁ h.ws₁_run.wsRun

end RG.C18
