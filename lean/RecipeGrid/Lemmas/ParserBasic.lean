import RecipeGrid.Props.C06Spec
import RecipeGrid.Lemmas.Fmt
/-! The parser monad on a text: the equations of its combinators, "the text from offset `i` on is `s`"
    (`t.toList.drop i = s`), what the character scanners (`sat`, `lit`, `skipMany`, `digits`, `hsp` …) do in front of a
    given text, and `many` through a chain of successive runs.

    Names: `x_run` is what the scanner `x` does in front of a run of characters it takes, followed by one it does not;
    `x_of_head` / `x_fail_of_head` go by the first character alone; `x_spec` is the closed form, the result of `x` as a
    function of the text, whatever that is; `x_some` goes back from `x t s = some r`.  The rules of the grammar are
    spoken of through `Reads` / `Fails` (`Lemmas/ParserRun.lean`), which rest on these. -/
namespace RG

/-- `Lemmas/Compiler.lean` derives `DecidableEq Num` under the default name; this one has a name of its own,
    so that a module may import both -/
instance instDecidableEqNumForParser : DecidableEq Num := fun a b =>
  match a, b with
  | ⟨v1, k1⟩, ⟨v2, k2⟩ =>
    if h : v1 = v2 ∧ k1 = k2 then isTrue (by rw [h.1, h.2])
    else isFalse (by intro e; cases e; exact h ⟨rfl, rfl⟩)

deriving instance DecidableEq for SubStr

deriving instance DecidableEq for AAmount

deriving instance DecidableEq for Parser.PState

namespace Parser

open C06 (NextNot IsBlanks IsSpaces)

@[simp] theorem pure_apply {α} (a : α) (t : Array Char) (s : PState) :
    (pure a : P α) t s = some (a, s) := rfl

@[simp] theorem bind_apply {α β} (m : P α) (f : α → P β) (t : Array Char) (s : PState) :
    (m >>= f) t s = match m t s with
      | none => none
      | some (a, s') => f a t s' := rfl

@[simp] theorem map_apply {α β} (f : α → β) (m : P α) (t : Array Char) (s : PState) :
    (f <$> m) t s = match m t s with
      | none => none
      | some (a, s') => some (f a, s') := by
  show (m >>= fun a => pure (f a)) t s = _
  rw [bind_apply]; cases m t s <;> rfl

@[simp] theorem fail_apply {α} (t : Array Char) (s : PState) : (fail : P α) t s = none := rfl

@[simp] theorem orElse_apply {α} (p q : P α) (t : Array Char) (s : PState) :
    (p <|> q) t s = match p t s with
      | some r => some r
      | none => q t s := rfl

theorem orElse_of_some {α} {p q : P α} {t : Array Char} {s : PState} {r} (h : p t s = some r) :
    (p <|> q) t s = some r := by simp [h]

theorem orElse_of_none {α} {p q : P α} {t : Array Char} {s : PState} (h : p t s = none) :
    (p <|> q) t s = q t s := by simp [h]

theorem bind_some {α β} {m : P α} {f : α → P β} {t s b s'} (e : (m >>= f) t s = some (b, s')) :
    ∃ a s1, m t s = some (a, s1) ∧ f a t s1 = some (b, s') := by
  rw [bind_apply] at e
  cases hm : m t s with
  | none => rw [hm] at e; cases e
  | some r => obtain ⟨a, s1⟩ := r; rw [hm] at e; exact ⟨a, s1, rfl, e⟩

theorem opt_of_some {α} {p : P α} {t : Array Char} {s s' : PState} {a} (h : p t s = some (a, s')) :
    opt p t s = some (some a, s') := by simp [opt, h]

theorem opt_of_none {α} {p : P α} {t : Array Char} {s : PState} (h : p t s = none) :
    opt p t s = some (none, s) := by simp [opt, h]

@[simp] theorem getPos_apply (t : Array Char) (s : PState) : getPos t s = some (s.pos, s) := rfl

@[simp] theorem remaining_apply (t : Array Char) (s : PState) :
    remaining t s = some (t.size - s.pos, s) := rfl

theorem getElem?_of_drop {t : Array Char} {i : Nat} {s : Str} (h : t.toList.drop i = s) (k : Nat) :
    t[i + k]? = s[k]? := by
  rw [← h, List.getElem?_drop, Array.getElem?_toList]

theorem getElem?_eq_head?_of_drop {t : Array Char} {i : Nat} {s : Str} (h : t.toList.drop i = s) :
    t[i]? = s.head? := by
  have := getElem?_of_drop h 0
  simpa [List.head?_eq_getElem?] using this

theorem drop_add_of_drop {t : Array Char} {i : Nat} {xs rest : Str} (h : t.toList.drop i = xs ++ rest) :
    t.toList.drop (i + xs.length) = rest := by
  rw [← List.drop_drop, h]; simp

theorem drop_succ_of_drop_cons {t : Array Char} {i : Nat} {c : Char} {s : Str}
    (h : t.toList.drop i = c :: s) : t.toList.drop (i + 1) = s := by
  have := drop_add_of_drop (xs := [c]) (rest := s) (by simpa using h)
  simpa using this

theorem size_of_drop {t : Array Char} {i : Nat} {s : Str} (h : t.toList.drop i = s) :
    t.size - i = s.length := by
  rw [← h]; simp

theorem extract_of_drop {t : Array Char} {i : Nat} {xs rest : Str} (h : t.toList.drop i = xs ++ rest) :
    (t.extract i (i + xs.length)).toList = xs := by
  rw [Array.toList_extract, List.extract_eq_take_drop, h]; simp

theorem drop_toArray (pre s : Str) : (pre ++ s).toArray.toList.drop pre.length = s := by simp

/-- the final statements speak of the text `pre ++ txt ++ rest` read from offset `pre.length`: a rule
    that recovers `txt` in front of `rest` at that offset of any text recovers it there -/
theorem run_after_prefix {α} {p : P α} {txt rest : Str} {v : α} (pre : Str) (z : Bool)
    (h : ∀ {t : Array Char}, t.toList.drop pre.length = txt ++ rest →
      p t ⟨pre.length, z⟩ = some (v, ⟨pre.length + txt.length, z⟩)) :
    p (pre ++ txt ++ rest).toArray ⟨pre.length, z⟩ = some (v, ⟨(pre ++ txt).length, z⟩) := by
  rw [List.length_append]
  exact h (by simp)

theorem le_size_of_drop_append {t : Array Char} {i : Nat} {xs rest : Str}
    (h : t.toList.drop i = xs ++ rest) (hne : xs ≠ []) : i + xs.length ≤ t.size := by
  have := size_of_drop h
  have : 0 < xs.length := List.length_pos_iff.mpr hne
  simp only [List.length_append] at *
  omega

theorem drop_takeWhile {t : Array Char} {i : Nat} {s : Str} (p : Char → Bool) (h : t.toList.drop i = s) :
    t.toList.drop (i + (s.takeWhile p).length) = s.dropWhile p := by
  apply drop_add_of_drop (xs := s.takeWhile p)
  rw [List.takeWhile_append_dropWhile]; exact h

theorem drop_add_drop {t : Array Char} {i : Nat} {s : Str} (h : t.toList.drop i = s) (n : Nat) :
    t.toList.drop (i + n) = s.drop n := by
  rw [← h, List.drop_drop]

theorem drop_of_getElem? {t : Array Char} {k : Nat} {c : Char} (h : t[k]? = some c) :
    t.toList.drop k = c :: t.toList.drop (k + 1) := by
  have : t.toList[k]? = some c := by rw [Array.getElem?_toList]; exact h
  obtain ⟨hk, e⟩ := List.getElem?_eq_some_iff.mp this
  rw [List.drop_eq_getElem_cons hk, e]

theorem mem_of_getElem?_ge {t : Array Char} {i j : Nat} {s : Str} {c : Char}
    (h : t.toList.drop i = s) (hij : i ≤ j) (hc : t[j]? = some c) : c ∈ s := by
  have := getElem?_of_drop h (j - i)
  rw [show i + (j - i) = j by omega, hc] at this
  exact List.mem_of_getElem? this.symm

theorem isHsp_of_isDigit {c : Char} (h : isDigit c = true) : isHsp c = false := by
  cases hc : isHsp c with
  | false => rfl
  | true =>
    simp only [isHsp, Bool.or_eq_true, beq_iff_eq] at hc
    rcases hc with rfl | rfl <;> simp [isDigit] at h

theorem isDigit_of_isHsp {c : Char} (h : isHsp c = true) : isDigit c = false :=
  Bool.eq_false_iff.mpr fun hc => by rw [isHsp_of_isDigit hc] at h; cases h

theorem isReSpace_of_isNewline {c : Char} (h : isNewline c = true) : isReSpace c = true := by
  simp only [isNewline, Bool.or_eq_true, beq_iff_eq] at h
  rcases h with rfl | rfl <;> decide

theorem isReSpace_of_isHsp {c : Char} (h : isHsp c = true) : isReSpace c = true := by
  simp only [isHsp, Bool.or_eq_true, beq_iff_eq] at h
  rcases h with rfl | rfl <;> decide

theorem isNewline_of_isHsp {c : Char} (h : isHsp c = true) : isNewline c = false := by
  simp only [isHsp, Bool.or_eq_true, beq_iff_eq] at h
  rcases h with rfl | rfl <;> decide

theorem isHsp_of_isNewline {c : Char} (h : isNewline c = true) : isHsp c = false :=
  Bool.eq_false_iff.mpr fun hh => by rw [isNewline_of_isHsp hh] at h; cases h

theorem newline_not_hsp : ∀ c, isNewline c = true → isHsp c = false := fun _ h => isHsp_of_isNewline h

theorem newline_not_digit : ∀ c, isNewline c = true → isDigit c = false := by
  intro c h
  simp only [isNewline, Bool.or_eq_true, beq_iff_eq] at h
  rcases h with rfl | rfl <;> decide

theorem sat_of_head {p : Char → Bool} {t : Array Char} {i : Nat} {c : Char} {rest : Str} (z : Bool)
    (h : t.toList.drop i = c :: rest) (hc : p c = true) :
    sat p t ⟨i, z⟩ = some (c, ⟨i + 1, z⟩) := by
  have := getElem?_eq_head?_of_drop h
  simp only [List.head?_cons] at this
  simp [sat, this, hc]

theorem sat_fail_of_head {p : Char → Bool} {t : Array Char} {i : Nat} {s : Str} (z : Bool)
    (h : t.toList.drop i = s) (hc : NextNot p s) :
    sat p t ⟨i, z⟩ = none := by
  have := getElem?_eq_head?_of_drop h
  simp only [sat, this]
  cases hs : s.head? with
  | none => rfl
  | some c => simp [hc c hs]

theorem sat_some {p : Char → Bool} {t : Array Char} {s : PState} {r}
    (h : sat p t s = some r) : ∃ c, t[s.pos]? = some c ∧ p c = true ∧ r = (c, { s with pos := s.pos + 1 }) := by
  simp only [sat] at h
  split at h
  · next c hc =>
    split at h
    · next hp => exact ⟨c, hc, hp, by cases h; rfl⟩
    · cases h
  · cases h

theorem lit_some {c : Char} {t : Array Char} {s : PState} {r}
    (h : lit c t s = some r) : t[s.pos]? = some c ∧ r = ((), { s with pos := s.pos + 1 }) := by
  simp only [lit, bind_apply] at h
  cases hs : sat (· == c) t s with
  | none => rw [hs] at h; cases h
  | some r' =>
    obtain ⟨d, hd, hp, rfl⟩ := sat_some hs
    rw [hs] at h
    simp only [beq_iff_eq] at hp
    subst hp
    exact ⟨hd, by cases h; rfl⟩

theorem lit_of_head {c : Char} {t : Array Char} {i : Nat} {rest : Str} (z : Bool)
    (h : t.toList.drop i = c :: rest) :
    lit c t ⟨i, z⟩ = some ((), ⟨i + 1, z⟩) := by
  simp [lit, sat_of_head (p := (· == c)) z h]

theorem lit_fail_of_head {c : Char} {t : Array Char} {i : Nat} {s : Str} (z : Bool)
    (h : t.toList.drop i = s) (hc : s.head? ≠ some c) :
    lit c t ⟨i, z⟩ = none := by
  have : sat (· == c) t ⟨i, z⟩ = none := by
    apply sat_fail_of_head z h
    intro d hd
    show (d == c) = false
    cases hdc : d == c with
    | false => rfl
    | true => simp only [beq_iff_eq] at hdc; subst hdc; exact absurd hd hc
  simp [lit, this]

theorem eof_of_nil {t : Array Char} {i : Nat} (z : Bool) (h : t.toList.drop i = []) :
    eof t ⟨i, z⟩ = some ((), ⟨i, z⟩) := by
  have := size_of_drop h
  simp only [List.length_nil] at this
  simp only [eof]
  rw [if_pos (by omega)]

theorem eof_fail_of_cons {t : Array Char} {i : Nat} {c : Char} {s : Str} (z : Bool)
    (h : t.toList.drop i = c :: s) : eof t ⟨i, z⟩ = none := by
  have := size_of_drop h
  simp only [List.length_cons] at this
  simp only [eof]
  rw [if_neg (by omega)]

theorem spanEnd_go_run (p : Char → Bool) (t : Array Char) (rest : Str)
    (hrest : NextNot p rest) :
    ∀ (xs : Str) (fuel j : Nat), t.toList.drop j = xs ++ rest → xs.length ≤ fuel →
      (∀ x ∈ xs, p x = true) → spanEnd.go p t fuel j = j + xs.length := by
  intro xs
  induction xs with
  | nil =>
    intro fuel j h _ _
    cases fuel with
    | zero => simp [spanEnd.go]
    | succ f =>
      have h0 := getElem?_eq_head?_of_drop h
      simp only [List.nil_append] at h0
      simp only [spanEnd.go, h0]
      cases hr : rest.head? with
      | none => simp
      | some c => simp [hrest c hr]
  | cons x xs ih =>
    intro fuel j h hf hp
    cases fuel with
    | zero => simp at hf
    | succ f =>
      have h0 := getElem?_eq_head?_of_drop h
      simp only [List.cons_append, List.head?_cons] at h0
      have hx : p x = true := hp x (by simp)
      have h1 : t.toList.drop (j + 1) = xs ++ rest := drop_succ_of_drop_cons (by simpa using h)
      have := ih f (j + 1) h1 (by simpa using hf) (fun y hy => hp y (by simp [hy]))
      simp only [spanEnd.go, h0, hx, if_true, this, List.length_cons]
      omega

theorem spanEnd_run {p : Char → Bool} {t : Array Char} {i : Nat} {xs rest : Str}
    (h : t.toList.drop i = xs ++ rest) (hp : ∀ x ∈ xs, p x = true)
    (hrest : NextNot p rest) :
    spanEnd p t i = i + xs.length := by
  unfold spanEnd
  apply spanEnd_go_run p t rest hrest xs _ _ h _ hp
  have := size_of_drop h
  simp at this; omega

theorem skipMany_run {p : Char → Bool} {t : Array Char} {i : Nat} {xs rest : Str} (z : Bool)
    (h : t.toList.drop i = xs ++ rest) (hp : ∀ x ∈ xs, p x = true)
    (hrest : NextNot p rest) :
    skipMany p t ⟨i, z⟩ = some ((), ⟨i + xs.length, z⟩) := by
  simp [skipMany, spanEnd_run h hp hrest]

theorem skipMany1_run {p : Char → Bool} {t : Array Char} {i : Nat} {xs rest : Str} (z : Bool)
    (h : t.toList.drop i = xs ++ rest) (hne : xs ≠ []) (hp : ∀ x ∈ xs, p x = true)
    (hrest : NextNot p rest) :
    skipMany1 p t ⟨i, z⟩ = some ((), ⟨i + xs.length, z⟩) := by
  cases xs with
  | nil => exact absurd rfl hne
  | cons x xs =>
    have h1 : t.toList.drop (i + 1) = xs ++ rest := drop_succ_of_drop_cons (by simpa using h)
    have hs := sat_of_head (p := p) z (by simpa using h) (hp x (by simp))
    have hm := skipMany_run z h1 (fun y hy => hp y (by simp [hy])) hrest
    simp only [skipMany1, bind_apply, hs, hm, List.length_cons]
    simp; omega

theorem skipMany1_fail {p : Char → Bool} {t : Array Char} {i : Nat} {s : Str} (z : Bool)
    (h : t.toList.drop i = s) (hc : NextNot p s) :
    skipMany1 p t ⟨i, z⟩ = none := by
  simp [skipMany1, sat_fail_of_head z h hc]

theorem withText_of {α} {p : P α} {t : Array Char} {i : Nat} {xs rest : Str} {a : α} (z : Bool)
    (h : t.toList.drop i = xs ++ rest) (hp : p t ⟨i, z⟩ = some (a, ⟨i + xs.length, z⟩)) :
    withText p t ⟨i, z⟩ = some ((a, xs), ⟨i + xs.length, z⟩) := by
  have := extract_of_drop h
  simp only [withText, hp, this]

theorem textOf_of {p : P Unit} {t : Array Char} {i : Nat} {xs rest : Str} (z : Bool)
    (h : t.toList.drop i = xs ++ rest) (hp : p t ⟨i, z⟩ = some ((), ⟨i + xs.length, z⟩)) :
    textOf p t ⟨i, z⟩ = some (xs, ⟨i + xs.length, z⟩) := by
  simp [textOf, withText_of z h hp]

theorem textOf_fail {p : P Unit} {t : Array Char} {s : PState} (hp : p t s = none) :
    textOf p t s = none := by
  simp [textOf, withText, hp]

theorem digits_fail {t : Array Char} {i : Nat} {s : Str} (z : Bool)
    (h : t.toList.drop i = s) (hc : NextNot isDigit s) :
    digits t ⟨i, z⟩ = none := textOf_fail (skipMany1_fail z h hc)

theorem skipMany1_spec (p : Char → Bool) {t : Array Char} {i : Nat} {s : Str} (z : Bool)
    (h : t.toList.drop i = s) :
    skipMany1 p t ⟨i, z⟩ =
      if s.head?.any p then some ((), ⟨i + (s.takeWhile p).length, z⟩) else none := by
  cases hh : s.head?.any p with
  | false =>
    have := skipMany1_fail (p := p) z h (by
      intro c hc; rw [hc] at hh; simpa using hh)
    simp [this]
  | true =>
    have hsplit : s = s.takeWhile p ++ s.dropWhile p := List.takeWhile_append_dropWhile.symm
    have hne : s.takeWhile p ≠ [] := by
      cases s with
      | nil => simp at hh
      | cons c s => simp at hh; simp [hh]
    have := skipMany1_run (p := p) z (xs := s.takeWhile p) (rest := s.dropWhile p)
      (by rw [← hsplit]; exact h) hne (fun x hx => mem_takeWhile_imp hx)
      (fun c hc => head_dropWhile_false hc)
    simp [this]

theorem hsp_spec {t : Array Char} {i : Nat} {s : Str} (z : Bool) (h : t.toList.drop i = s) :
    hsp t ⟨i, z⟩ = if s.head?.any isHsp then some ((), ⟨i + (s.takeWhile isHsp).length, z⟩) else none :=
  skipMany1_spec isHsp z h

theorem skipMany_spec (p : Char → Bool) {t : Array Char} {i : Nat} {s : Str} (z : Bool) (h : t.toList.drop i = s) :
    skipMany p t ⟨i, z⟩ = some ((), ⟨i + (s.takeWhile p).length, z⟩) := by
  have h' : t.toList.drop i = s.takeWhile p ++ s.dropWhile p := by
    rw [List.takeWhile_append_dropWhile]; exact h
  exact skipMany_run z h' (fun x hx => mem_takeWhile_imp hx) (fun c hc => head_dropWhile_false hc)

theorem ohsp_spec {t : Array Char} {i : Nat} {s : Str} (z : Bool) (h : t.toList.drop i = s) :
    ohsp t ⟨i, z⟩ = some ((), ⟨i + (s.takeWhile isHsp).length, z⟩) := skipMany_spec isHsp z h

theorem natOfDigits_eq (ds : Str) : natOfDigits ds = digitsVal ds := rfl

theorem natOfDigits_natDigits (n : Nat) : natOfDigits (natDigits n) = n := digitsVal_natDigits n

theorem foldl_digits_init (b : Str) : ∀ init : Nat,
    b.foldl (fun n d => 10 * n + (d.toNat - 48)) init
      = init * 10 ^ b.length + b.foldl (fun n d => 10 * n + (d.toNat - 48)) 0 := by
  induction b with
  | nil => intro init; simp
  | cons c b ih =>
    intro init
    simp only [List.foldl_cons, List.length_cons]
    rw [ih (10 * init + (c.toNat - 48)), ih (10 * 0 + (c.toNat - 48)), Nat.pow_succ]
    grind

theorem digitsVal_append (a b : Str) : digitsVal (a ++ b) = digitsVal a * 10 ^ b.length + digitsVal b := by
  simp only [digitsVal, List.foldl_append]
  exact foldl_digits_init b _

theorem forall_head_cons {Q : Char → Prop} {x : Char} {s : Str} (h : Q x) : ∀ c, (x :: s).head? = some c → Q c := by
  intro c hc
  cases hc
  exact h

/-- the shape of every follow condition of the grammar: `s` is a run of characters satisfying `A`, then the end of
    the text or a character satisfying `Q`.  The conditions themselves are written out where they are defined; each
    unfolds to an `AfterRun A Q s`, and `AfterRun.resplit` is the one way from one to another. -/
def AfterRun (A Q : Char → Prop) (s : Str) : Prop :=
  ∃ a b, s = a ++ b ∧ (∀ c ∈ a, A c) ∧ ∀ c, b.head? = some c → Q c

theorem AfterRun.of_head {A Q : Char → Prop} {s : Str} (h : ∀ c, s.head? = some c → Q c) : AfterRun A Q s :=
  ⟨[], s, rfl, (fun _ hc => nomatch hc), h⟩

/-- split again after the characters of the class `p` that the run starts with: they satisfy `A'`; what comes next
    is a character of the run outside `p` or, when the run lies in `p`, the character after it: it satisfies `Q'` -/
theorem AfterRun.resplit (p : Char → Bool) {A Q A' Q' : Char → Prop} {s : Str} (h : AfterRun A Q s)
    (hA : ∀ c, A c → p c = true → A' c) (hAQ : ∀ c, A c → p c = false → Q' c) (hQ : ∀ c, Q c → Q' c) :
    AfterRun A' Q' s := by
  obtain ⟨ws, r, rfl, hws, hr⟩ := h
  refine ⟨ws.takeWhile p, ws.dropWhile p ++ r, ?_, fun c hc => ?_, fun c hc => ?_⟩
  · rw [← List.append_assoc, List.takeWhile_append_dropWhile]
  · exact hA c (hws c ((List.takeWhile_sublist p).subset hc)) (mem_takeWhile_imp hc)
  · cases hd : ws.dropWhile p with
    | nil =>
      rw [hd] at hc
      exact hQ c (hr c hc)
    | cons x xs =>
      rw [hd] at hc
      cases hc
      exact hAQ c (hws c ((List.dropWhile_sublist p).subset (by rw [hd]; simp))) (head_dropWhile_false (by rw [hd]; rfl))

theorem AfterRun.mono {A Q A' Q' : Char → Prop} {s : Str} (h : AfterRun A Q s) (hA : ∀ c, A c → A' c)
    (hQ : ∀ c, Q c → Q' c) : AfterRun A' Q' s :=
  h.resplit (fun _ => true) (fun c ha _ => hA c ha) (fun _ _ hf => nomatch hf) hQ

theorem AfterRun.blanks {A Q Q' : Char → Prop} {s : Str} (h : AfterRun A Q s) (hA : ∀ c, A c → isHsp c = false → Q' c)
    (hQ : ∀ c, Q c → isHsp c = false ∧ Q' c) : AfterRun (fun c => isHsp c = true) (fun c => isHsp c = false ∧ Q' c) s :=
  h.resplit isHsp (fun _ _ hb => hb) (fun c ha hb => ⟨hb, hA c ha hb⟩) hQ

theorem head_of_some {α} {p : P α} {Q : Char → Prop} {s : Str} {r : α × PState}
    (hfail : (∀ c, s.head? = some c → Q c) → p s.toArray ⟨0, false⟩ = none)
    (h : p s.toArray ⟨0, false⟩ = some r) : ∃ c, s.head? = some c ∧ ¬ Q c := by
  cases hh : s.head? with
  | none => rw [hfail (by simp [hh])] at h; cases h
  | some c =>
    refine ⟨c, rfl, fun hn => ?_⟩
    rw [hfail (by intro d hd; rw [hh] at hd; cases hd; exact hn)] at h
    cases h

/-- `Chain p t z i as j`: starting at offset `i`, successive runs of `p` yield the values `as`
    and end at offset `j`; every run consumes at least one character and leaves the flag alone -/
inductive Chain {α} (p : P α) (t : Array Char) (z : Bool) : Nat → List α → Nat → Prop
  | nil (i : Nat) : Chain p t z i [] i
  | cons {i k j : Nat} {a : α} {as : List α} :
      p t ⟨i, z⟩ = some (a, ⟨k, z⟩) → i < k → Chain p t z k as j → Chain p t z i (a :: as) j

theorem Chain.le {α} {p : P α} {t : Array Char} {z : Bool} {i j : Nat} {as : List α}
    (h : Chain p t z i as j) : i ≤ j := by
  induction h with
  | nil i => exact Nat.le_refl _
  | cons _ hlt _ ih => omega

theorem Chain.append {α} {p : P α} {t : Array Char} {z : Bool} {i j k : Nat} {as bs : List α}
    (h1 : Chain p t z i as j) (h2 : Chain p t z j bs k) : Chain p t z i (as ++ bs) k := by
  induction h1 with
  | nil i => simpa using h2
  | cons hp hlt _ ih => exact Chain.cons hp hlt (ih h2)

theorem Chain.single {α} {p : P α} {t : Array Char} {z : Bool} {i k : Nat} {a : α}
    (hp : p t ⟨i, z⟩ = some (a, ⟨k, z⟩)) (hlt : i < k) : Chain p t z i [a] k :=
  Chain.cons hp hlt (Chain.nil k)

theorem manyF_of_chain {α} {p : P α} {t : Array Char} {z : Bool} {i j : Nat} {as : List α}
    (h : Chain p t z i as j) (hend : p t ⟨j, z⟩ = none) :
    ∀ fuel, j - i ≤ fuel → manyF p fuel t ⟨i, z⟩ = some (as, ⟨j, z⟩) := by
  induction h with
  | nil i =>
    intro fuel _
    cases fuel with
    | zero => rfl
    | succ f => simp only [manyF, orElse_apply, bind_apply, hend, pure_apply]
  | @cons i k j a as hp hlt hc ih =>
    intro fuel hf
    have := hc.le
    cases fuel with
    | zero => omega
    | succ f =>
      have := ih hend f (by omega)
      simp only [manyF, orElse_apply, bind_apply, hp, this, pure_apply]

theorem many_of_chain {α} {p : P α} {t : Array Char} {z : Bool} {i j : Nat} {as : List α}
    (h : Chain p t z i as j) (hj : i = j ∨ j ≤ t.size) (hend : p t ⟨j, z⟩ = none) :
    many p t ⟨i, z⟩ = some (as, ⟨j, z⟩) := by
  simp only [many, bind_apply, remaining_apply]
  exact manyF_of_chain h hend _ (by have := h.le; omega)

end Parser
end RG
