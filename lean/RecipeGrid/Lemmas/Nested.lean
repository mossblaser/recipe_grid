import RecipeGrid.Lemmas.Parser
/-! For `Props/C06b.lean` (round trips of nested expressions, statements and blocks):
    decidable equality of the AST (for `decide +kernel` examples), two facts about what follows a shorthand / an
    action name, and `ArgItemsOk.mono` (more fuel does not hurt the arguments of a step). -/
namespace RG

/-! `AExpr` contains `List AExpr`, which `deriving DecidableEq` does not handle: equality is decided by hand, together
    with the list.  The instances carry names of their own, so that a module may import this file next to one that
    derives them under the default names. -/

mutual
def AExpr.decEq : (a b : AExpr) → Decidable (a = b)
  | .step n1 i1, .step n2 i2 =>
    if hn : n1 = n2 then
      match AExpr.decEqList i1 i2 with
      | isTrue hi => isTrue (by rw [hn, hi])
      | isFalse hi => isFalse (by intro e; cases e; exact hi rfl)
    else isFalse (by intro e; cases e; exact hn rfl)
  | .ref n1 a1, .ref n2 a2 =>
    if h : n1 = n2 ∧ a1 = a2 then isTrue (by rw [h.1, h.2])
    else isFalse (by intro e; cases e; exact h ⟨rfl, rfl⟩)
  | .step .., .ref .. => isFalse (by intro e; cases e)
  | .ref .., .step .. => isFalse (by intro e; cases e)
def AExpr.decEqList : (a b : List AExpr) → Decidable (a = b)
  | [], [] => isTrue rfl
  | a :: as, b :: bs =>
    match AExpr.decEq a b with
    | isTrue h1 =>
      match AExpr.decEqList as bs with
      | isTrue h2 => isTrue (by rw [h1, h2])
      | isFalse h2 => isFalse (by intro e; cases e; exact h2 rfl)
    | isFalse h1 => isFalse (by intro e; cases e; exact h1 rfl)
  | [], _ :: _ => isFalse (by intro e; cases e)
  | _ :: _, [] => isFalse (by intro e; cases e)
end

instance instDecidableEqAExprForParser : DecidableEq AExpr := AExpr.decEq

instance instDecidableEqAStmtForParser : DecidableEq AStmt := fun a b =>
  match a, b with
  | ⟨e1, o1, n1⟩, ⟨e2, o2, n2⟩ =>
    if h : e1 = e2 ∧ o1 = o2 ∧ n1 = n2 then isTrue (by rw [h.1, h.2.1, h.2.2])
    else isFalse (by intro e; cases e; exact h ⟨rfl, rfl, rfl⟩)

instance instDecidableEqParseResultForParser : DecidableEq ParseResult := fun a b =>
  match a, b with
  | .ok s1, .ok s2 => if h : s1 = s2 then isTrue (by rw [h]) else isFalse (by intro e; cases e; exact h rfl)
  | .syntaxError, .syntaxError => isTrue rfl
  | .zeroDivision, .zeroDivision => isTrue rfl
  | .ok _, .syntaxError => isFalse (by intro e; cases e)
  | .ok _, .zeroDivision => isFalse (by intro e; cases e)
  | .syntaxError, .ok _ => isFalse (by intro e; cases e)
  | .syntaxError, .zeroDivision => isFalse (by intro e; cases e)
  | .zeroDivision, .ok _ => isFalse (by intro e; cases e)
  | .zeroDivision, .syntaxError => isFalse (by intro e; cases e)

namespace Parser

theorem noComma_of_spaces_rparen {ws rest : Str} (hws : ∀ c ∈ ws, isReSpace c = true) :
    NoComma (ws ++ ')' :: rest) :=
  AfterRun.blanks (Q := (· = ')')) ⟨ws, ')' :: rest, rfl, hws, forall_head_cons rfl⟩
    (fun c hc _ => by rintro rfl; exact absurd hc (by decide)) (fun c hc => by subst hc; exact ⟨by decide, by decide⟩)

theorem noAssign_of_blanks_lparen {bl rest : Str} (hbl : ∀ c ∈ bl, isHsp c = true) :
    NoAssign (bl ++ '(' :: rest) :=
  ⟨bl, '(' :: rest, rfl, hbl, forall_head_cons ⟨by decide, by decide, by decide⟩, fun r' e => by cases e⟩

theorem ArgItemsOk.mono {d d' : Nat} (hd : d ≤ d') {rest : Str} : ∀ {as : List ArgItem},
    ArgItemsOk d rest as → ArgItemsOk d' rest as
  | [], _ => trivial
  | _ :: _, h => ⟨h.1, h.2.1, h.2.2.1.mono hd, ArgItemsOk.mono hd h.2.2.2⟩

end Parser
end RG
