import RecipeGrid.Lemmas.ParserStrings
/-! What the rules of `Model/Parser.lean` do on printed text: amounts, references, expressions, statements and recipes
    (words and units: `Lemmas/ParserWords.lean`, strings: `Lemmas/ParserStrings.lean`), for the round trips of
    `Props/C06.lean` and `Props/C06b.lean`.  Next to what a rule reads stands where it fails (`…_fails…`), which the
    ordered choices need: `expr` is `reference` where `step` fails (`expr_eq_reference…`), a statement has no target
    where `targetP` fails (`NoTargetAt`).

    "Rule `p` recovers the text `xs` in front of `rest`, with value `a off` at offset `off`" is `Reads p xs rest a`
    (`Lemmas/ParserRun.lean`); `NumberAt`, `StringAt`, `ReferenceAt` say so for one rule each, `ExprAt` and `LtrAt` for
    every fuel from a depth on.  A proof reads the rule from left to right, one step of `Run` per item.  The
    spellings and what may follow them are those of `Props/C06Spec.lean`. -/
namespace RG

namespace Parser

open C06 (NextNot IsBlanks IsSpaces startsWithCI wordAt blanksWordAt remainderWordAt)

/-- the first alternative of `proportion`: a remainder word and the optional preposition -/
def proportionRemainder : P AAmount := do
  let off ← getPos
  let wording ← textOf remainder
  let prep ← hspPreposition
  pure (.prop off none false (some wording) prep)

theorem proportionRemainder_fails {s : Str} (h : remainderWordAt s = false) : Fails proportionRemainder s :=
  fun _ _ _ => .getPos <| .fail (remainder_fails h).textOf

theorem blanksWordAt_of_false {bl : Str} {c : Char} {x : Str} (hbl : IsBlanks bl)
    (hc : isHsp c = false) (hco : ciMatches c 'o' = false) : blanksWordAt ['o', 'f'] (bl ++ c :: x) = false := by
  have := span_run isHsp bl (c :: x) hbl (by simpa using hc)
  simp [blanksWordAt, this.2, wordAt, startsWithCI, hco]

theorem hsp_preposition_fails_of_head {bl : Str} {c : Char} {x : Str} (hbl : IsBlanks bl) (hc : isHsp c = false)
    (hco : ciMatches c 'o' = false) : Fails (textOf (do hsp; preposition)) (bl ++ c :: x) :=
  (hsp_preposition_fails (blanksWordAt_of_false hbl hc hco)).textOf

theorem proportion_fails_number {num after : Str} {v : Num} (hnum : NumberAt num after v)
    (hof : blanksWordAt ['o', 'f'] after = false)
    (hc : ∀ c, (after.dropWhile isHsp).head? = some c → c ≠ '%' ∧ c ≠ '*') : Fails proportion (num ++ after) := by
  have hsplit : after = after.takeWhile isHsp ++ after.dropWhile isHsp := List.takeWhile_append_dropWhile.symm
  exact fun _ _ _ => .altRight (proportionRemainder_fails (remainderWordAt_of_digit hnum.head_isDigit)) <|
    .bind hnum <| .altRight (fun _ _ _ => .fail (hsp_preposition_fails hof).textOf) <|
    .altRight (fun _ _ _ => .fail <| Fails.textOf fun _ _ _ =>
      .bindEq (reads_ohsp_span after) hsplit <| .fail (fails_lit fun hh => (hc _ hh).1 rfl)) <|
    .fail <| Fails.textOf fun _ _ _ =>
      .bindEq (reads_ohsp_span after) hsplit (fails_lit (fun hh => (hc _ hh).2 rfl) _ _ _)

theorem noAtomStart_rbrace (static : Bool) : NoAtomStart static '}' := (stopChar_of_mem (by decide)).noAtomStart

/-- `proportion / explicit_quantity / implicit_quantity` -/
def amount : P AAmount := proportion <|> explicitQuantity <|> implicitQuantity

theorem explicitQuantity_fails {s : Str} (hc : s.head? ≠ some '{') : Fails explicitQuantity s :=
  fun _ _ _ => .getPos <| .fail (fails_lit hc)

theorem proportion_fails_lbrace (s : Str) : Fails proportion ('{' :: s) := fun _ _ _ =>
  .altRight (proportionRemainder_fails (remainderWordAt_of_head (by
    intro c hc
    cases hc
    exact ⟨by decide, by decide⟩))) <|
  .fail (number_fails (.cons (by decide)))

theorem amount_fails {s : Str} (hrem : remainderWordAt s = false) (hdig : NextNot isDigit s)
    (hbr : ∀ s', s = '{' :: s' → NextNot isDigit (s'.dropWhile isHsp)) : Fails amount s := by
  have hnum := number_fails hdig
  have he : Fails explicitQuantity s := by
    by_cases hb : s.head? = some '{'
    · cases s with
      | nil => simp at hb
      | cons c s' =>
        cases hb
        exact fun _ _ _ => .getPos <| .lit <|
          .bindEq (reads_ohsp_span s') List.takeWhile_append_dropWhile.symm <|
          .fail (number_fails (hbr s' rfl))
    · exact explicitQuantity_fails hb
  exact fun _ _ _ => .altRight (fun _ _ _ => .altRight (proportionRemainder_fails hrem) <| .fail hnum) <|
    .altRight he <| .fail hnum

/-- the rule with its first part under the name `amount`.  (`rw [amount]` first, here and in `outputList_eq`,
    `stmt_eq`: with the name out of the way both sides are the same term; a bare `rfl` has the unifier unfold the
    rules instead.) -/
theorem reference_eq : reference = (do
    let amount ← opt (do let a ← amount; ohsp; pure a)
    let name ← string
    pure (.ref name amount)) := by rw [amount]; rfl

/-- "`txt` is a spelling of a reference"; definitionally `Reads reference txt rest val` -/
def ReferenceAt (txt rest : Str) (val : Nat → AExpr) : Prop :=
  ∀ (t : Array Char) (i : Nat) (z : Bool), t.toList.drop i = txt ++ rest →
    reference t ⟨i, z⟩ = some (val i, ⟨i + txt.length, z⟩)

theorem ReferenceAt.reads {txt rest : Str} {val : Nat → AExpr} (h : ReferenceAt txt rest val) :
    Reads reference txt rest val := h

theorem referenceAt_amount {atxt bl ntxt rest : Str} {aval : Nat → AAmount} {nval : Nat → AString}
    (ha : Reads amount atxt (bl ++ ntxt ++ rest) aval) (hbl : IsBlanks bl) (hn : StringAt false ntxt rest nval) :
    ReferenceAt (atxt ++ bl ++ ntxt) rest
      (fun i => .ref (nval (i + atxt.length + bl.length)) (some (aval i))) := by
  intro t i z
  simp only [List.append_assoc] at ha ⊢
  rw [reference_eq]
  refine Run.optSome ?_
  simp only [bind_assoc, pure_bind]
  exact .bind ha <| .bind (reads_ohsp hbl hn.head_not_hsp) <| .bind hn <| .pure rfl (by simp +arith)

theorem referenceAt_plain {ntxt rest : Str} {nval : Nat → AString} (hn : StringAt false ntxt rest nval)
    (hrem : remainderWordAt (ntxt ++ rest) = false) (hdig : NextNot isDigit (ntxt ++ rest))
    (hbr : ∀ s', ntxt ++ rest = '{' :: s' → NextNot isDigit (s'.dropWhile isHsp)) :
    ReferenceAt ntxt rest (fun i => .ref (nval i) none) := by
  intro t i z
  rw [reference_eq]
  exact Run.optNone (fun _ _ _ => .fail (amount_fails hrem hdig hbr)) <| .bind hn <| .pure rfl rfl

/-- **ends of lines** `[ \t]*[\r\n]\s*` (before something that is no white space) or `[ \t]*` at the end of the text -/
theorem eol_reads (e : C06.EolLit) (rest : Str) (h : e.WF) (hf : e.Follow rest) :
    Reads eol e.print rest fun _ => () := by
  intro t i z
  cases e with
  | newline bl nl ws =>
    simp only [C06.EolLit.print, List.append_assoc, List.cons_append]
    exact .altLeft <| .bind (reads_ohsp h.1 (.cons (isHsp_of_isNewline h.2.1))) <| .sat h.2.1 <| .ret <|
      .bind (reads_osp h.2.2 hf) <| .pure rfl (by simp +arith)
  | eof bl =>
    cases hf
    have hsp := reads_ohsp (rest := []) h .nil
    exact .altRight (fun _ _ _ => .bind hsp <| .fail (fails_sat .nil)) <| .bind hsp <| .ret <| .eof <|
      .pure rfl (by simp [C06.EolLit.print])

theorem assign_fails {s : Str} (h1 : s.head? ≠ some '=') (h2 : ∀ s', s = ':' :: s' → s'.head? ≠ some '=') :
    Fails assign s := by
  by_cases hc : s.head? = some ':'
  · cases s with
    | nil => simp at hc
    | cons c s' =>
      cases hc
      exact fun _ _ _ => .altRight (fun _ _ _ => .lit <| .fail (fails_lit (h2 s' rfl))) <| .fail (fails_lit h1)
  · exact fun _ _ _ => .altRight (fun _ _ _ => .fail (fails_lit hc)) <| .fail (fails_lit h1)

theorem assign_some {t : Array Char} {s : PState} {r} (h : assign t s = some r) :
    t[s.pos]? = some '=' ∨ (t[s.pos]? = some ':' ∧ t[s.pos + 1]? = some '=') := by
  simp only [assign, orElse_apply, bind_apply] at h
  cases h3 : lit '=' t s with
  | some r3 => exact Or.inl (lit_some h3).1
  | none =>
    cases h1 : lit ':' t s with
    | none => rw [h1, h3] at h; cases h
    | some r1 =>
      obtain ⟨hc, rfl⟩ := lit_some h1
      cases h2 : lit '=' t { s with pos := s.pos + 1 } with
      | some r2 => exact Or.inr ⟨hc, (lit_some h2).1⟩
      | none => rw [h1, h3] at h; simp only [h2] at h; cases h

/-- `sp? "," sp? expr`: one further argument of a step -/
def commaExpr (e : P AExpr) : P AExpr := osp >>= fun _ => lit ',' >>= fun _ => osp >>= fun _ => e

theorem step_eq (e : P AExpr) : step e = (string false >>= fun name => ohsp >>= fun _ => lit '(' >>= fun _ =>
    osp >>= fun _ => e >>= fun first => many (commaExpr e) >>= fun rest =>
    opt (osp >>= fun _ => lit ',') >>= fun _ => osp >>= fun _ => lit ')' >>= fun _ =>
    pure (.step name (first :: rest))) := rfl

theorem step_some_lparen {e : P AExpr} {t : Array Char} {s : PState} {r} (h : step e t s = some r) :
    ∃ j, s.pos ≤ j ∧ t[j]? = some '(' := by
  obtain ⟨v, s'⟩ := r
  rw [step_eq] at h
  obtain ⟨name, s1, h1, h⟩ := bind_some h
  obtain ⟨_, s2, h2, h⟩ := bind_some h
  obtain ⟨_, s3, h3, _⟩ := bind_some h
  have := mono_string false _ _ _ _ h1
  have := mono_skipMany isHsp _ _ _ _ h2
  exact ⟨s2.pos, by omega, (lit_some h3).1⟩

theorem step_fails_of_string {e : P AExpr} {s : Str} (h : Fails (string false) s) : Fails (step e) s :=
  fun _ _ _ => by rw [step_eq]; exact .fail h

theorem step_fails_of_noParen {e : P AExpr} {stxt srest : Str} {sval : Nat → AString}
    (hs : StringAt false stxt srest sval) (hnp : C06.NoParen srest) : Fails (step e) (stxt ++ srest) := by
  obtain ⟨bl, r, rfl, hbl, hr⟩ := hnp
  intro t i z
  rw [step_eq]
  exact .bind hs <| .bind (reads_ohsp hbl fun c hc => (hr c hc).1) <| .fail (fails_lit fun hc => (hr _ hc).2 rfl)

theorem expr_succ (fuel : Nat) : expr (fuel + 1) = (step (expr fuel) <|> reference <|>
    (lit '(' >>= fun _ => osp >>= fun _ => ltrShorthand (expr fuel) >>= fun e =>
      osp >>= fun _ => lit ')' >>= fun _ => pure e)) := rfl

theorem expr_eq_reference_of_step_none {fuel : Nat} {t : Array Char} {i : Nat} {z : Bool}
    (hstep : step (expr fuel) t ⟨i, z⟩ = none) (hp : t[i]? ≠ some '(') :
    expr (fuel + 1) t ⟨i, z⟩ = reference t ⟨i, z⟩ := by
  have h3 : lit '(' t ⟨i, z⟩ = none := by
    cases h : lit '(' t ⟨i, z⟩ with
    | none => rfl
    | some r => exact absurd (lit_some h).1 hp
  simp only [expr_succ, orElse_apply, bind_apply, hstep, h3]
  cases reference t ⟨i, z⟩ <;> rfl

theorem expr_eq_reference {fuel : Nat} {t : Array Char} {i : Nat} {z : Bool}
    (h : ∀ j, i ≤ j → t[j]? ≠ some '(') : expr (fuel + 1) t ⟨i, z⟩ = reference t ⟨i, z⟩ := by
  apply expr_eq_reference_of_step_none _ (h i (Nat.le_refl _))
  cases hs : step (expr fuel) t ⟨i, z⟩ with
  | none => rfl
  | some r =>
    obtain ⟨j, hj, hc⟩ := step_some_lparen hs
    exact absurd hc (h j hj)

theorem expr_eq_reference_of_text {fuel : Nat} {t : Array Char} {i : Nat} {z : Bool} {s : Str}
    (hd : t.toList.drop i = s) (h : ∀ c ∈ s, c ≠ '(') :
    expr (fuel + 1) t ⟨i, z⟩ = reference t ⟨i, z⟩ :=
  expr_eq_reference fun _ hj hc => h _ (mem_of_getElem?_ge hd hj hc) rfl

/-- `hsp? "," hsp? string`: one action of the shorthand, one further output of an output list -/
def commaString : P AString := ohsp >>= fun _ => lit ',' >>= fun _ => ohsp >>= fun _ => string false

theorem ltrShorthand_eq (e : P AExpr) : ltrShorthand e = (e >>= fun first =>
    many commaString >>= fun actions =>
    pure (actions.foldl (fun e action => .step action [e]) first)) := rfl

theorem outputList_eq : outputList = (string false >>= fun first =>
    many commaString >>= fun rest => pure (first :: rest)) := by rw [commaString]; rfl

/-- what must follow a comma separated list for it to end: after optional blanks, no comma (an `AfterRun`) -/
def NoComma (rest : Str) : Prop :=
  ∃ bl r, rest = bl ++ r ∧ (∀ c ∈ bl, isHsp c = true) ∧ ∀ c, r.head? = some c → isHsp c = false ∧ c ≠ ','

theorem commaString_reads {b1 b2 txt after : Str} {val : Nat → AString} (hb1 : IsBlanks b1) (hb2 : IsBlanks b2)
    (hs : StringAt false txt after val) :
    Reads commaString (b1 ++ ',' :: b2 ++ txt) after fun i => val (i + b1.length + 1 + b2.length) := by
  intro t i z
  simp only [List.append_assoc, List.cons_append]
  exact .bind (reads_ohsp hb1 (.cons (by decide))) <| .lit <| .bind (reads_ohsp hb2 hs.head_not_hsp) <| .ret <|
    .bind hs <| .pure rfl (by simp +arith)

theorem commaString_fails {rest : Str} (hf : NoComma rest) : Fails commaString rest := by
  obtain ⟨bl, r, rfl, hbl, hr⟩ := hf
  exact fun _ _ _ => .bind (reads_ohsp hbl fun c hc => (hr c hc).1) <| .fail (fails_lit fun hc => (hr _ hc).2 rfl)

/-- **the left-to-right shorthand** `expr (hsp? "," hsp? action)*`: a first expression (any parser `e` that
    recovers it), then the `, action` items `xs`; the value nests the actions from the left -/
theorem ltrShorthand_reads {e : P AExpr} {etxt xs rest : Str} {eval : Nat → AExpr} {vs : Nat → List AString}
    (he : Reads e etxt (xs ++ rest) eval) (hm : ReadsMany commaString rest xs vs) :
    Reads (ltrShorthand e) (etxt ++ xs) rest fun i =>
      (vs (i + etxt.length)).foldl (fun e action => .step action [e]) (eval i) := by
  intro t i z
  rw [List.append_assoc]
  exact .bind he <| .bind hm.reads <| .pure rfl (by simp +arith)

/-- **output lists** `output (hsp? "," hsp? output)*` -/
theorem outputList_reads {otxt xs rest : Str} {oval : Nat → AString} {vs : Nat → List AString}
    (ho : StringAt false otxt (xs ++ rest) oval) (hm : ReadsMany commaString rest xs vs) :
    Reads outputList (otxt ++ xs) rest fun i => oval i :: vs (i + otxt.length) := by
  intro t i z
  rw [List.append_assoc]
  exact .bind ho <| .bind hm.reads <| .pure rfl (by simp +arith)

theorem reference_fails_of_head {s : Str} (hc : ∀ c, s.head? = some c → NoAtomStart false c) :
    Fails reference s := by
  have hrem : remainderWordAt s = false := by
    refine remainderWordAt_of_head fun c hs => ?_
    have hn := (hc c hs).1
    refine ⟨Bool.eq_false_iff.mpr fun hm => ?_, Bool.eq_false_iff.mpr fun hm => ?_⟩
    · rcases ciMatches_rl (Or.inl hm) with rfl | rfl | rfl | rfl <;> exact absurd hn (by decide)
    · rcases ciMatches_rl (Or.inr hm) with rfl | rfl | rfl | rfl <;> exact absurd hn (by decide)
  have hdig : NextNot isDigit s := fun c hs =>
    Bool.eq_false_iff.mpr fun hd => by have := (hc c hs).1; rw [isNakedEdge_of_isDigit hd] at this; cases this
  have ha : Fails amount s := amount_fails hrem hdig (by
    intro s' e c _
    subst e
    exact absurd rfl ((hc '{' rfl).2.2.2 rfl))
  intro t i z
  rw [reference_eq]
  exact .optNone (fun _ _ _ => .fail ha) (.fail (string_fails_of_head hc))

/-- no `expr` where no atom can start and no `(` stands: at the end of the text, at white space,
    at `,:=/)}` -/
theorem expr_fails_of_head {s : Str} (hc : ∀ c, s.head? = some c → NoAtomStart false c ∧ c ≠ '(') :
    ∀ fuel, Fails (expr fuel) s
  | 0 => fun _ _ _ _ => rfl
  | f + 1 => fun _ _ _ => by
    have hs := fun c h => (hc c h).1
    rw [expr_succ]
    exact .altRight (step_fails_of_string (string_fails_of_head hs)) <| .altRight (reference_fails_of_head hs) <|
      .fail (fails_lit fun h => (hc _ h).2 rfl)

theorem noAtomStart_rparen : NoAtomStart false ')' := (stopChar_of_mem (by decide)).noAtomStart
theorem noAtomStart_lparen : NoAtomStart false '(' := (stopChar_of_mem (by decide)).noAtomStart

/-- "`txt` is a spelling of an expression with value `val off` (at offset `off`) when followed by
    `rest`", for every fuel from `d` on (`d` bounds the nesting depth) -/
def ExprAt (d : Nat) (txt rest : Str) (val : Nat → AExpr) : Prop :=
  ∀ (t : Array Char) (i : Nat) (z : Bool) (fuel : Nat), t.toList.drop i = txt ++ rest → d ≤ fuel →
    expr fuel t ⟨i, z⟩ = some (val i, ⟨i + txt.length, z⟩)

theorem ExprAt.mono {d d' : Nat} {txt rest : Str} {val : Nat → AExpr} (h : ExprAt d txt rest val)
    (hd : d ≤ d') : ExprAt d' txt rest val :=
  fun t i z fuel ht hf => h t i z fuel ht (Nat.le_trans hd hf)

theorem ExprAt.reads {d f : Nat} {txt rest : Str} {val : Nat → AExpr} (h : ExprAt d txt rest val) (hf : d ≤ f) :
    Reads (expr f) txt rest val := fun t i z ht => h t i z f ht hf

theorem exprAt_succ {d : Nat} {txt rest : Str} {val : Nat → AExpr}
    (h : ∀ f, d ≤ f → Reads (expr (f + 1)) txt rest val) : ExprAt (d + 1) txt rest val
  | _, _, _, 0, _, hf => by omega
  | t, i, z, f + 1, ht, hf => h f (by omega) t i z ht

theorem ExprAt.head {d : Nat} {txt rest : Str} {val : Nat → AExpr} (h : ExprAt d txt rest val) :
    ∃ c, (txt ++ rest).head? = some c ∧ ¬ (NoAtomStart false c ∧ c ≠ '(') :=
  (h.reads (Nat.le_refl d)).head fun _ hq => expr_fails_of_head hq d

theorem not_exprStart_of_isReSpace {c : Char} (hs : isReSpace c = true) : NoAtomStart false c ∧ c ≠ '(' :=
  ⟨noAtomStart_of_isReSpace hs, by rintro rfl; exact absurd hs (by decide)⟩

theorem not_space_of_exprStart {s : Str} (h : ∃ c, s.head? = some c ∧ ¬ (NoAtomStart false c ∧ c ≠ '(')) :
    NextNot isReSpace s := by
  obtain ⟨x, hx, hn⟩ := h
  intro c hc
  cases Option.some.inj (hx.symm.trans hc)
  exact Bool.eq_false_iff.mpr fun hs => hn (not_exprStart_of_isReSpace hs)

theorem ExprAt.head_not_space {d : Nat} {txt rest : Str} {val : Nat → AExpr} (h : ExprAt d txt rest val) :
    NextNot isReSpace (txt ++ rest) := not_space_of_exprStart h.head

theorem exprAt_reference {txt rest : Str} {val : Nat → AExpr} (hr : ReferenceAt txt rest val)
    (hno : ∀ c ∈ txt ++ rest, c ≠ '(') : ExprAt 1 txt rest val := by
  intro t i z fuel ht hf
  cases fuel with
  | zero => omega
  | succ f => rw [expr_eq_reference_of_text ht hno]; exact hr t i z ht

/-- a reference is an expression when the `string` at its start is not followed by blanks and `(`
    (the `string` is the one `step` tries first; for a reference without amount it is the name) -/
theorem exprAt_reference_of_string {txt rest stxt srest : Str} {val : Nat → AExpr} {sval : Nat → AString}
    (hr : ReferenceAt txt rest val) (hs : StringAt false stxt srest sval) (e : stxt ++ srest = txt ++ rest)
    (hnp : C06.NoParen srest) : ExprAt 1 txt rest val := by
  refine exprAt_succ fun f _ t i z => ?_
  rw [expr_succ, ← e]
  exact .altRight (step_fails_of_noParen hs hnp) <| .altLeft (e ▸ hr t i z)

/-- one `, expr` item as written -/
structure ArgItem where
  ws1 : Str
  ws2 : Str
  txt : Str
  val : Nat → AExpr

def ArgItem.print (a : ArgItem) : Str := a.ws1 ++ ',' :: (a.ws2 ++ a.txt)

def printArgItems : List ArgItem → Str
  | [] => []
  | a :: as => a.print ++ printArgItems as

def ArgItemsOk (d : Nat) (rest : Str) : List ArgItem → Prop
  | [] => True
  | a :: as => (∀ c ∈ a.ws1, isReSpace c = true) ∧ (∀ c ∈ a.ws2, isReSpace c = true)
      ∧ ExprAt d a.txt (printArgItems as ++ rest) a.val ∧ ArgItemsOk d rest as

def argItemVals (off : Nat) : List ArgItem → List AExpr
  | [] => []
  | a :: as => a.val (off + a.ws1.length + 1 + a.ws2.length) :: argItemVals (off + a.print.length) as

theorem ArgItem.print_length_pos (a : ArgItem) : 0 < a.print.length := by
  simp only [ArgItem.print, List.length_append, List.length_cons]; omega

theorem commaExpr_reads {d f : Nat} (hdf : d ≤ f) {a : ArgItem} {after : Str} (h1 : IsSpaces a.ws1)
    (h2 : IsSpaces a.ws2) (he : ExprAt d a.txt after a.val) :
    Reads (commaExpr (expr f)) a.print after fun i => a.val (i + a.ws1.length + 1 + a.ws2.length) := by
  intro t i z
  simp only [ArgItem.print, List.append_assoc, List.cons_append]
  exact .bind (reads_osp h1 (.cons (by decide))) <| .lit <| .bind (reads_osp h2 he.head_not_space) <| .ret <|
    .bind (he.reads hdf) <| .pure rfl (by simp +arith)

theorem argItems_reads {d f : Nat} (hdf : d ≤ f) {rest : Str} (hend : Fails (commaExpr (expr f)) rest) :
    ∀ args : List ArgItem, ArgItemsOk d rest args →
      ReadsMany (commaExpr (expr f)) rest (printArgItems args) fun i => argItemVals i args
  | [], _ => .nil hend
  | a :: as, ⟨h1, h2, he, has⟩ =>
    .cons (List.length_pos_iff.mp a.print_length_pos) (commaExpr_reads hdf h1 h2 he) (argItems_reads hdf hend as has)

/-- **steps**: `name blanks "(" sp? e1 (sp? "," sp? ei)* (sp? ",")? sp? ")"`.  What ends the arguments is the
    end of the step (`C06.printClose`: an optional trailing comma after white space, white space, `)`); a further
    `, expr` fails there on the `)`. -/
theorem exprAt_step {d : Nat} {ntxt bl ws0 a1txt : Str} {nval : Nat → AString} {a1val : Nat → AExpr}
    {args : List ArgItem} {trail : Option Str} {ws2 rest : Str}
    (hn : StringAt false ntxt
      (bl ++ '(' :: (ws0 ++ (a1txt ++ (printArgItems args ++ (C06.printClose trail ws2 ++ rest))))) nval)
    (hbl : IsBlanks bl) (hws0 : IsSpaces ws0)
    (ha1 : ExprAt d a1txt (printArgItems args ++ (C06.printClose trail ws2 ++ rest)) a1val)
    (hargs : ArgItemsOk d (C06.printClose trail ws2 ++ rest) args)
    (htrail : ∀ ws1, trail = some ws1 → IsSpaces ws1) (hws2 : IsSpaces ws2) :
    ExprAt (d + 1) (ntxt ++ (bl ++ '(' :: (ws0 ++ (a1txt ++ (printArgItems args ++ C06.printClose trail ws2))))) rest
      (fun i => .step (nval i)
        (a1val (i + ntxt.length + bl.length + 1 + ws0.length)
          :: argItemVals (i + ntxt.length + bl.length + 1 + ws0.length + a1txt.length) args)) := by
  refine exprAt_succ fun f hdf t i z => ?_
  have hrp : Fails (expr f) (')' :: rest) :=
    expr_fails_of_head (forall_head_cons ⟨noAtomStart_rparen, by decide⟩) f
  have hsp2 := reads_osp (rest := ')' :: rest) hws2 (.cons (by decide))
  rw [expr_succ, step_eq]
  simp only [List.append_assoc, List.cons_append]
  refine .altLeft <| .bind hn <| .bind (reads_ohsp hbl (.cons (by decide))) <| .lit <|
    .bind (reads_osp hws0 ha1.head_not_space) <| .bind (ha1.reads hdf) ?_
  cases trail with
  | none =>
    simp only [C06.printClose, List.append_assoc, List.cons_append, List.nil_append] at hargs ⊢
    exact .bind (argItems_reads hdf (fun _ _ _ => .bind hsp2 <| .fail (fails_lit (by simp))) args hargs).reads <|
      .optNone (fun _ _ _ => .bind hsp2 (fails_lit (by simp) _ _ _)) <| .bind hsp2 <| .lit <|
      .pure rfl (by simp +arith)
  | some ws1 =>
    simp only [C06.printClose, List.append_assoc, List.cons_append, List.nil_append] at hargs ⊢
    have hsp1 := reads_osp (rest := ',' :: (ws2 ++ ')' :: rest)) (htrail ws1 rfl) (.cons (by decide))
    refine .bind (argItems_reads hdf (fun _ _ _ => .bind hsp1 <| .lit <| .bind hsp2 (hrp _ _ _)) args hargs).reads <|
      .optSome ?_
    simp only [bind_assoc]
    exact .bind hsp1 <| .lit <| .bind hsp2 <| .lit <| .pure rfl (by simp +arith)

/-- "`txt` is a spelling of a left-to-right shorthand (over `expr`, from fuel `d` on)" -/
def LtrAt (d : Nat) (txt rest : Str) (val : Nat → AExpr) : Prop :=
  ∀ (t : Array Char) (i : Nat) (z : Bool) (fuel : Nat), t.toList.drop i = txt ++ rest → d ≤ fuel →
    ltrShorthand (expr fuel) t ⟨i, z⟩ = some (val i, ⟨i + txt.length, z⟩)

theorem LtrAt.reads {d f : Nat} {txt rest : Str} {val : Nat → AExpr} (h : LtrAt d txt rest val) (hf : d ≤ f) :
    Reads (ltrShorthand (expr f)) txt rest val := fun t i z ht => h t i z f ht hf

theorem ltrAt_of {d : Nat} {etxt xs rest : Str} {eval : Nat → AExpr} {vs : Nat → List AString}
    (he : ExprAt d etxt (xs ++ rest) eval) (hm : ReadsMany commaString rest xs vs) :
    LtrAt d (etxt ++ xs) rest
      (fun i => (vs (i + etxt.length)).foldl (fun e action => .step action [e]) (eval i)) :=
  fun t i z _ ht hf => ltrShorthand_reads (he.reads hf) hm t i z ht

theorem ltrAt_of_expr {d : Nat} {etxt rest : Str} {eval : Nat → AExpr} (he : ExprAt d etxt rest eval)
    (hf : NoComma rest) : LtrAt d etxt rest eval := by
  have := ltrAt_of (xs := []) he (.nil (commaString_fails hf))
  simpa using this

theorem LtrAt.head {d : Nat} {txt rest : Str} {val : Nat → AExpr} (h : LtrAt d txt rest val) :
    ∃ c, (txt ++ rest).head? = some c ∧ ¬ (NoAtomStart false c ∧ c ≠ '(') :=
  (h.reads (Nat.le_refl d)).head fun _ hq _ _ _ => .fail (expr_fails_of_head hq d)

theorem LtrAt.head_not_space {d : Nat} {txt rest : Str} {val : Nat → AExpr} (h : LtrAt d txt rest val) :
    NextNot isReSpace (txt ++ rest) := not_space_of_exprStart h.head

/-- **parentheses**: `"(" sp? ltr_shorthand sp? ")"` -/
theorem exprAt_paren {d : Nat} {ws0 ltxt ws1 rest : Str} {lval : Nat → AExpr}
    (hl : LtrAt d ltxt (ws1 ++ ')' :: rest) lval) (hws0 : IsSpaces ws0) (hws1 : IsSpaces ws1) :
    ExprAt (d + 1) ('(' :: (ws0 ++ (ltxt ++ (ws1 ++ [')'])))) rest (fun i => lval (i + 1 + ws0.length)) := by
  refine exprAt_succ fun f hdf t i z => ?_
  have hhead : ∀ s, ∀ c, ('(' :: s).head? = some c → NoAtomStart false c := by
    intro s c hc
    cases hc
    exact noAtomStart_lparen
  rw [expr_succ]
  simp only [List.append_assoc, List.cons_append, List.nil_append]
  exact .altRight (step_fails_of_string (string_fails_of_head (hhead _))) <|
    .altRight (reference_fails_of_head (hhead _)) <| .lit <|
    .bind (reads_osp hws0 hl.head_not_space) <| .bind (hl.reads hdf) <| .bind (reads_osp hws1 (.cons (by decide))) <|
    .lit <| .pure rfl (by simp +arith)

/-- the optional target of a statement: `output_list hsp? r":?=" hsp?` -/
def targetP : P (List AString × Bool) := outputList >>= fun outputs => ohsp >>= fun _ =>
  assign >>= fun named => ohsp >>= fun _ => pure (outputs, named)

theorem stmt_eq : stmt = (opt targetP >>= fun target => remaining >>= fun n =>
    ltrShorthand (expr (n + 1)) >>= fun e => eol >>= fun _ =>
    pure { expr := e, outputs := target.map (·.1), named := (target.map (·.2)).getD false }) := by
  rw [targetP]; rfl

/-- **statements**, with or without outputs: `ttxt` is what `(output_list hsp? r":?=" hsp?)?` reads (nothing, when no
    target is recognised), then the shorthand and the end of the line.  The fuel of `expr` is the length of what is
    left of the text, which bounds the nesting depth `d` of the shorthand. -/
theorem stmt_reads {d : Nat} {ttxt ltxt eoltxt rest : Str} {tval : Nat → Option (List AString × Bool)}
    {lval : Nat → AExpr} (hl : LtrAt d ltxt (eoltxt ++ rest) lval) (he : Reads eol eoltxt rest fun _ => ())
    (hd : d ≤ ltxt.length + 1) (ht : Reads (opt targetP) ttxt (ltxt ++ (eoltxt ++ rest)) tval) :
    Reads stmt (ttxt ++ (ltxt ++ eoltxt)) rest fun i =>
      { expr := lval (i + ttxt.length), outputs := (tval i).map (·.1), named := ((tval i).map (·.2)).getD false } := by
  intro t i z
  simp only [List.append_assoc]
  rw [stmt_eq]
  exact .bind ht <| .remaining <| .bind (hl.reads (by simp; omega)) <| .bind he <| .pure rfl (by simp +arith)

theorem mono_commaString : Mono commaString :=
  mono_bind (mono_skipMany _) fun _ => mono_bind (adv_lit _).mono fun _ =>
    mono_bind (mono_skipMany _) fun _ => mono_string false

theorem mono_outputList : Mono outputList := by
  rw [outputList_eq]
  exact mono_bind (mono_string false) fun _ => mono_bind (mono_many mono_commaString) fun _ => mono_pure _

theorem targetP_some_eq {t : Array Char} {s : PState} {r} (h : targetP t s = some r) :
    ∃ j, s.pos ≤ j ∧ t[j]? = some '=' := by
  obtain ⟨v, s'⟩ := r
  obtain ⟨outs, s1, h1, h⟩ := bind_some h
  obtain ⟨_, s2, h2, h⟩ := bind_some h
  obtain ⟨_, s3, h3, _⟩ := bind_some h
  have := mono_outputList _ _ _ _ h1
  have := mono_skipMany isHsp _ _ _ _ h2
  rcases assign_some h3 with hc | ⟨_, hc⟩
  · exact ⟨s2.pos, by omega, hc⟩
  · exact ⟨s2.pos + 1, by omega, hc⟩

/-- "no target is recognised at the start of `s`"; definitionally `Fails targetP s` -/
def NoTargetAt (s : Str) : Prop :=
  ∀ (t : Array Char) (i : Nat) (z : Bool), t.toList.drop i = s → targetP t ⟨i, z⟩ = none

theorem noTargetAt_of_no_eq {s : Str} (h : ∀ c ∈ s, c ≠ '=') : NoTargetAt s := by
  intro t i z hd
  cases ht : targetP t ⟨i, z⟩ with
  | none => rfl
  | some r =>
    obtain ⟨j, hj, hc⟩ := targetP_some_eq ht
    exact absurd rfl (h _ (mem_of_getElem?_ge hd hj hc))

theorem noTargetAt_of_head {s : Str} (h : ∀ c, s.head? = some c → NoAtomStart false c) : NoTargetAt s := by
  intro t i z
  exact Run.fail (p := outputList) fun _ _ _ => .fail (string_fails_of_head h)

/-- what must follow an output list for it not to be a target: after optional blanks neither `=`
    nor `:=` (nor a comma, which would continue the list); `:=` takes a look at two characters, so this one is no
    `AfterRun` -/
def NoAssign (rest : Str) : Prop :=
  ∃ bl r, rest = bl ++ r ∧ IsBlanks bl ∧ (∀ c, r.head? = some c → isHsp c = false ∧ c ≠ ',' ∧ c ≠ '=')
    ∧ ∀ r', r = ':' :: r' → r'.head? ≠ some '='

theorem NoAssign.noComma {rest : Str} (h : NoAssign rest) : NoComma rest := by
  obtain ⟨bl, r, e, hbl, hr, _⟩ := h
  exact ⟨bl, r, e, hbl, fun c hc => ⟨(hr c hc).1, (hr c hc).2.1⟩⟩

/-- no target where the text starts with a list of strings that is not followed by an assignment sign
    (for a statement `name, action, …` this is the statement itself) -/
theorem noTargetAt_of_outputs {otxt xs rest : Str} {oval : Nat → AString} {vs : Nat → List AString}
    (ho : StringAt false otxt (xs ++ rest) oval) (hm : ReadsMany commaString rest xs vs) (hf : NoAssign rest) :
    NoTargetAt (otxt ++ (xs ++ rest)) := by
  obtain ⟨bl, r, rfl, hbl, hr, hr2⟩ := hf
  intro t i z
  exact Run.bindEq (outputList_reads ho hm) (by simp) <| .bind (reads_ohsp hbl fun c hc => (hr c hc).1) <|
    .fail (assign_fails (fun hc => (hr _ hc).2.2 rfl) hr2)

theorem noComma_assign {b1 : Str} (hb1 : IsBlanks b1) (named : Bool) (s : Str) :
    NoComma (b1 ++ (C06.printAssign named ++ s)) :=
  ⟨b1, _, rfl, hb1, fun c hc => by cases named <;> (cases hc; exact ⟨by decide, by decide⟩)⟩

theorem assign_reads (named : Bool) (rest : Str) : Reads assign (C06.printAssign named) rest fun _ => named := by
  intro t i z
  cases named <;> simp only [C06.printAssign, List.cons_append, List.nil_append]
  · exact .altRight (fun _ _ _ => .fail (fails_lit (by simp))) <| .lit <| .pure rfl rfl
  · exact .altLeft <| .lit <| .lit <| .pure rfl rfl

/-- **targets** `output_list hsp? r":?=" hsp?` -/
theorem targetP_reads {otxt xs b1 b2 after : Str} {oval : Nat → AString} {vs : Nat → List AString} {named : Bool}
    (ho : StringAt false otxt (xs ++ (b1 ++ (C06.printAssign named ++ (b2 ++ after)))) oval)
    (hm : ReadsMany commaString (b1 ++ (C06.printAssign named ++ (b2 ++ after))) xs vs)
    (hb1 : IsBlanks b1) (hb2 : IsBlanks b2) (hafter : NextNot isHsp after) :
    Reads targetP (otxt ++ (xs ++ (b1 ++ (C06.printAssign named ++ b2)))) after fun i =>
      (oval i :: vs (i + otxt.length), named) := by
  have hsign : NextNot isHsp (C06.printAssign named ++ (b2 ++ after)) := by
    cases named <;> exact .cons (by decide)
  intro t i z
  simp only [List.append_assoc]
  exact .bindEq (outputList_reads ho hm) (by simp) <| .bind (reads_ohsp hb1 hsign) <|
    .bind (assign_reads named _) <| .bind (reads_ohsp hb2 hafter) <| .pure rfl (by simp +arith)

theorem stmt_fails_of_head {s : Str} (hc : ∀ c, s.head? = some c → NoAtomStart false c ∧ c ≠ '(') :
    Fails stmt s := fun _ _ _ => by
  rw [stmt_eq]
  exact .optNone (noTargetAt_of_head fun c hs => (hc c hs).1) <| .remaining <|
    .fail fun _ _ _ => .fail (expr_fails_of_head hc _)

theorem stmt_fails_nil : Fails stmt [] := stmt_fails_of_head (by simp)

theorem stmt_head_not_space {txt rest : Str} {val : Nat → AStmt} (h : Reads stmt txt rest val) :
    NextNot isReSpace (txt ++ rest) :=
  not_space_of_exprStart (h.head fun _ hq => stmt_fails_of_head hq)

theorem recipe_eq : recipe = (osp >>= fun _ => stmt >>= fun first => many stmt >>= fun rest =>
    eof >>= fun _ => pure (first :: rest)) := rfl

/-- **recipes** `sp? stmt+ eof`: white space, a first statement, the further statements `xs`, up to the end of the
    text -/
theorem recipe_reads {ws0 stxt xs : Str} {sval : Nat → AStmt} {vs : Nat → List AStmt} (hws0 : IsSpaces ws0)
    (hs : Reads stmt stxt xs sval) (hm : ReadsMany stmt [] xs vs) :
    Reads recipe (ws0 ++ (stxt ++ xs)) [] fun i =>
      sval (i + ws0.length) :: vs (i + ws0.length + stxt.length) := by
  intro t i z
  simp only [List.append_nil]
  rw [← List.append_nil xs] at hs ⊢
  exact .bind (reads_osp hws0 (stmt_head_not_space hs)) <| .bind hs <| .bind hm.reads <| .eof <|
    .pure rfl (by simp +arith)

/-- **`parse` recovers every recipe**: leading white space and a non-empty list of statements -/
theorem parse_ok {ws0 stxt xs : Str} {sval : Nat → AStmt} {vs : Nat → List AStmt} (hws0 : IsSpaces ws0)
    (hs : Reads stmt stxt xs sval) (hm : ReadsMany stmt [] xs vs) :
    parse (ws0 ++ (stxt ++ xs)) = .ok (sval ws0.length :: vs (ws0.length + stxt.length)) := by
  have := recipe_reads hws0 hs hm (ws0 ++ (stxt ++ xs)).toArray 0 false (by simp)
  unfold parse
  rw [this]
  simp

section Examples

private theorem nk (txt : Str) (h : txt ≠ [] ∧ (∀ c ∈ txt, isNakedInner c = true)
    ∧ (∀ c, txt.head? = some c → isNakedEdge c = true) ∧ (∀ c, txt.getLast? = some c → isNakedEdge c = true))
    {rest : Str} (hrest : ∀ c, rest.head? = some c → StopChar false c) :
    StringAt false txt rest (fun i => [.sub i txt]) := by
  have := stringAt_naked (static := false) (ws := []) h (by simp) hrest
  simpa using this

example : parse "flour, sift\n".toList
    = .ok [{ expr := .step [.sub 7 "sift".toList] [.ref [.sub 0 "flour".toList] none],
             outputs := none, named := false }] := by
  have hflour : StringAt false "flour".toList ", sift\n".toList (fun i => [.sub i "flour".toList]) :=
    nk _ (by decide) (forall_head_cons (stopChar_of_mem (by decide)))
  have hsift : StringAt false "sift".toList "\n".toList (fun i => [.sub i "sift".toList]) :=
    nk _ (by decide) (forall_head_cons (stopChar_of_isNewline (by decide)))
  have href := referenceAt_plain hflour (by decide +kernel) (.cons (by decide)) (by intro s' e; cases e)
  have hexpr := exprAt_reference href (by decide)
  have hltr := ltrAt_of (xs := ", sift".toList) (rest := "\n".toList) hexpr
    (.cons (ys := []) (by decide) (commaString_reads (b1 := []) (b2 := [' ']) (by decide) (by decide) hsift)
      (.nil (commaString_fails ⟨[], "\n".toList, rfl, by decide, by decide⟩)))
  have heol := eol_reads (.newline [] '\n' []) [] ⟨by decide, by decide, by decide⟩ .nil
  have hstmt := stmt_reads (ttxt := []) hltr heol (by decide) (.optNone (noTargetAt_of_no_eq (by decide)))
  have key := parse_ok (ws0 := []) (xs := []) (by decide) hstmt (.nil stmt_fails_nil)
  simpa [C06.EolLit.print] using key

example : parse "b := mix(a, c)".toList
    = .ok [{ expr := .step [.sub 5 "mix".toList] [.ref [.sub 9 ['a']] none, .ref [.sub 12 ['c']] none],
             outputs := some [[.sub 0 ['b']]], named := true }] := by
  have hb : StringAt false ['b'] " := mix(a, c)".toList (fun i => [.sub i ['b']]) :=
    stringAt_naked (ws := [' ']) (rest := ":= mix(a, c)".toList) ⟨by decide, by decide, by decide, by decide⟩
      (by decide) (forall_head_cons (stopChar_of_mem (by decide)))
  have hmix : StringAt false "mix".toList "(a, c)".toList (fun i => [.sub i "mix".toList]) :=
    nk _ (by decide) (forall_head_cons (stopChar_of_mem (by decide)))
  have ha : StringAt false ['a'] ", c)".toList (fun i => [.sub i ['a']]) :=
    nk _ (by decide) (forall_head_cons (stopChar_of_mem (by decide)))
  have hc : StringAt false ['c'] ")".toList (fun i => [.sub i ['c']]) :=
    nk _ (by decide) (forall_head_cons (stopChar_of_mem (by decide)))
  have hea := exprAt_reference (referenceAt_plain ha (by decide +kernel) (.cons (by decide)) (by intro s' e; cases e))
    (by decide)
  have hec := exprAt_reference (referenceAt_plain hc (by decide +kernel) (.cons (by decide)) (by intro s' e; cases e))
    (by decide)
  have hstep := exprAt_step (d := 1) (ntxt := "mix".toList) (bl := []) (ws0 := []) (a1txt := ['a'])
    (args := [⟨[], [' '], ['c'], fun i => .ref [.sub i ['c']] none⟩]) (trail := none) (ws2 := []) (rest := [])
    hmix (by decide) (by decide) hea ⟨by decide, by decide, hec, trivial⟩ (by intro _ e; cases e) (by decide)
  have hltr := ltrAt_of_expr hstep ⟨[], [], rfl, by decide, by simp⟩
  have heol := eol_reads (.eof []) [] (fun _ h => by cases h) rfl
  have htarget := targetP_reads (otxt := ['b']) (xs := []) (b1 := [' ']) (b2 := [' ']) (named := true) hb
    (.nil (commaString_fails ⟨[' '], _, rfl, by decide, by decide⟩)) (by decide) (by decide) (.cons (by decide))
  have hstmt := stmt_reads (eoltxt := []) (rest := []) hltr heol (by decide) htarget.opt
  have key := parse_ok (ws0 := []) (xs := []) (by decide) hstmt (.nil stmt_fails_nil)
  simpa [C06.printAssign, C06.printClose, C06.EolLit.print, printArgItems, argItemVals, ArgItem.print] using key

end Examples

end Parser
end RG
