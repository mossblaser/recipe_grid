import RecipeGrid.Model.PegRegex
import RecipeGrid.Lemmas.ReTermCi
/-! The generic PEG recogniser depends on its table of terminals only through what each terminal of the grammar does: two
    tables that agree on the terminals occurring in the rules give the same run (for every grammar, text, fuel, rule). -/
namespace RG
namespace Peg
open Parser

theorem pegExpr_congr {call call' : String → Nat → PegRes} {terms terms' : String → Option (P Unit)} {t : Array Char}
    (hcall : ∀ n i, call n i = call' n i) : ∀ (e : PExpr),
    (∀ re ∈ e.terminals, ∀ i, pegExpr call terms t (.term re) i = pegExpr call' terms' t (.term re) i) →
    ∀ i, pegExpr call terms t e i = pegExpr call' terms' t e i
  | .empty, _, _ | .unsupported _, _, _ => rfl
  | .term re, h, i => h re List.mem_cons_self i
  | .rule name, _, i => hcall name i
  | .cat a b, h, i => by
    have ha := pegExpr_congr hcall a fun re hre => h re (List.mem_append_left _ hre)
    have hb := pegExpr_congr hcall b fun re hre => h re (List.mem_append_right _ hre)
    simp only [pegExpr, ha i]
    cases pegExpr call' terms' t a i <;> simp only [hb]
  | .alt a b, h, i => by
    have ha := pegExpr_congr hcall a fun re hre => h re (List.mem_append_left _ hre)
    have hb := pegExpr_congr hcall b fun re hre => h re (List.mem_append_right _ hre)
    simp only [pegExpr, ha i, hb i]
  | .star e, h, i | .plus e, h, i => by
    have he : pegExpr call terms t e = pegExpr call' terms' t e := funext (pegExpr_congr hcall e h)
    simp only [pegExpr, he]
  | .maybe e, h, i | .notp e, h, i | .andp e, h, i => by
    have he := pegExpr_congr hcall e h
    simp only [pegExpr, he i]

theorem mem_of_lookup {α} {name : String} {body : α} :
    ∀ {rules : List (String × α)}, rules.lookup name = some body → (name, body) ∈ rules
  | [], h => by cases h
  | (n, b) :: rs, h => by
    rw [List.lookup_cons] at h
    cases hn : name == n with
    | true => rw [hn] at h; cases h; cases eq_of_beq hn; exact List.mem_cons_self
    | false => rw [hn] at h; exact List.mem_cons_of_mem _ (mem_of_lookup h)

theorem pegRun_congr (rules : List (String × PExpr)) {terms terms' : String → Option (P Unit)} (t : Array Char)
    (h : ∀ re ∈ rules.flatMap (fun r => r.2.terminals), ∀ i,
      pegExpr (fun _ _ => .fail) terms t (.term re) i = pegExpr (fun _ _ => .fail) terms' t (.term re) i) :
    ∀ fuel name i, pegRun rules terms t fuel name i = pegRun rules terms' t fuel name i
  | 0, _, _ => rfl
  | fuel + 1, name, i => by
    simp only [pegRun]
    cases hl : rules.lookup name with
    | none => rfl
    | some body =>
      refine pegExpr_congr (pegRun_congr rules t h fuel) body (fun re hre j => ?_) i
      have := h re (List.mem_flatMap.2 ⟨(name, body), mem_of_lookup hl, hre⟩) j
      simpa only [pegExpr] using this

theorem term_eq_of_scanIs {call call' : String → Nat → PegRes} {terms terms' : String → Option (P Unit)} {re : String}
    {scan : P Unit} {r : Rx} (h1 : terms re = some scan) (h2 : terms' re = some (regexParser r)) (hs : Rx.ScanIs scan r)
    (t : Array Char) (i : Nat) : pegExpr call terms t (.term re) i = pegExpr call' terms' t (.term re) i := by
  simp only [pegExpr, h1, h2, hs t i false, regexParser]

end Peg
end RG
