import RecipeGrid.Lemmas.ReTermWords
/-! `preposition`, `remainder`, `known_unit`: case-insensitive words, runs of white space between them, `\b` after them. -/
namespace RG
namespace Rx
open Parser Peg

/-- `\b` as a continuation of the engine, in a match started at `base` -/
def rxBound (t : Array Char) (base : Nat) : Nat → Option Nat := fun j => if boundaryAt t base j then some j else none
def wordBound (t : Array Char) : Nat → Option Nat := fun j => if wordBoundaryAt t j then some j else none

theorem rxBound_eq_wordBound {t : Array Char} {base j : Nat} (h : base < j) : rxBound t base j = wordBound t j := by
  simp only [rxBound, wordBound, boundaryAt_eq h]

theorem run_bound_some (t : Array Char) (base i : Nat) : run t base bound i some = rxBound t base i := by rw [run_bound]; rfl

/-! ## `(?i)of([ \t]+the)?\b` -/

theorem ends_preposition {t : Array Char} : Ends preposition t (fun i => (wordEnd t "of".toList i).bind fun j =>
    orE ((step t isHsp j (fun j1 => some (spanEnd isHsp t j1))).bind fun j2 => (wordEnd t "the".toList j2).bind (wordBound t)) (wordBound t j)) := by
  unfold preposition
  exact Ends.bind (ends_ciWord _) fun _ => Ends.orElse
    (Ends.bind (ends_skipMany1 isHsp) fun _ => Ends.bind (ends_ciWord _) fun _ => ends_wordBoundary) ends_wordBoundary

theorem scanIs_preposition :
    ScanIs preposition (seqs ("of".toList.map ichr ++
      [opt (grp 1 (seqs (plus (cls false [.chr ' ', .chr '\t']) :: "the".toList.map ichr))), bound])) := by
  refine ScanIs.of_ends (fun t => ends_preposition) fun t i => ?_
  rw [matchEnd, run_word]
  refine wordEnd_bind_congr fun j hj => ?_
  have hij : i < j := by simp at hj; omega
  rw [run_seqs_cons, run_opt, run_grp, run_seqs_cons, run_plus_cls, cls_hsp]
  simp only [run_word_only, run_seqs_cons, run_seqs_nil, run_bound_some]
  rw [rxBound_eq_wordBound hij, step_bind]
  refine congrArg (orE · _) (step_congr ?_)
  rw [show "the".toList = 't' :: "he".toList from rfl, tryDown_word (fun _ => isReSpace_of_isHsp) (by decide), Option.bind_some]
  have := spanEnd_ge isHsp t (j + 1)
  exact wordEnd_bind_congr fun j' hj' => (rxBound_eq_wordBound (by omega)).symm

/-! ## `(?i)(remaining|remainder|rest|left[ \t]*over)\b` -/

theorem ends_remainder {t : Array Char} : Ends remainder t (fun i =>
    orE ((wordEnd t "remaining".toList i).bind (wordBound t))
      (orE ((wordEnd t "remainder".toList i).bind (wordBound t))
        (orE ((wordEnd t "rest".toList i).bind (wordBound t))
          ((wordEnd t "left".toList i).bind fun j => (some (spanEnd isHsp t j)).bind fun j2 =>
            (wordEnd t "over".toList j2).bind (wordBound t))))) := by
  unfold remainder
  exact Ends.orElse (Ends.bind (ends_ciWord _) fun _ => ends_wordBoundary)
    (Ends.orElse (Ends.bind (ends_ciWord _) fun _ => ends_wordBoundary)
      (Ends.orElse (Ends.bind (ends_ciWord _) fun _ => ends_wordBoundary)
        (Ends.bind (ends_ciWord _) fun _ => Ends.bind (ends_skipMany isHsp) fun _ =>
          Ends.bind (ends_ciWord _) fun _ => ends_wordBoundary)))

theorem wordEnd_rxBound {t : Array Char} {base i : Nat} (h : base ≤ i) {w : Str} (hw : w ≠ []) :
    (wordEnd t w i).bind (rxBound t base) = (wordEnd t w i).bind (wordBound t) :=
  wordEnd_bind_congr fun j hj => rxBound_eq_wordBound (by have := List.length_pos_iff.2 hw; omega)

theorem scanIs_remainder :
    ScanIs remainder (seqs [grp 1 (alts [seqs ("remaining".toList.map ichr), seqs ("remainder".toList.map ichr),
      seqs ("rest".toList.map ichr),
      seqs ("left".toList.map ichr ++ star (cls false [.chr ' ', .chr '\t']) :: "over".toList.map ichr)]), bound]) := by
  refine ScanIs.of_ends (fun t => ends_remainder) fun t i => ?_
  rw [matchEnd, run_seqs_cons, run_grp]
  simp only [run_seqs_cons, run_seqs_nil, run_bound_some]
  rw [show (fun j => rxBound t i j) = rxBound t i from rfl, run_alts_cons, run_alts_cons, run_alts_cons, run_alts_one]
  rw [run_word_only, run_word_only, run_word_only, run_word]
  -- after a word the position is beyond the start `i`, where `\b` of the engine is `\b` of the scanner
  have hb : ∀ w : Str, w ≠ [] → (wordEnd t w i).bind (rxBound t i) = (wordEnd t w i).bind (wordBound t) :=
    fun w hw => wordEnd_rxBound (Nat.le_refl i) hw
  rw [hb _ (by decide), hb _ (by decide), hb _ (by decide)]
  -- the first three alternatives agree now; in the fourth, after "left":
  refine congrArg _ (congrArg _ (congrArg _ (wordEnd_bind_congr fun j hj => ?_)))
  rw [run_seqs_cons, run_star_cls, cls_hsp]
  simp only [run_word_only]
  rw [show "over".toList = 'o' :: "ver".toList from rfl, tryDown_word (fun _ => isReSpace_of_isHsp) (by decide), Option.bind_some]
  have := spanEnd_ge isHsp t j
  exact (wordEnd_rxBound (by omega) (by decide)).symm

/-! ## `(?i)(@KNOWN_UNITS@)\b`: the alternation of the unit names, `\s+` between the words of a name -/

/-- the ops of one alternative: the letters of the words, `\s+` between words -/
def unitRx : List Str → List Rx
  | [] => []
  | [w] => w.map ichr
  | w :: ws => w.map ichr ++ plus (cls false [.space]) :: unitRx ws

def unitsRx (tbl : List (List Str)) : Rx := seqs [grp 1 (alts (tbl.map fun ws => seqs (unitRx ws))), bound]

/-- where `unitPattern ws` ends; `k`: what is done after the last word -/
def unitEnd (t : Array Char) (k : Nat → Option Nat) : List Str → Nat → Option Nat
  | [], i => k i
  | [w], i => (wordEnd t w i).bind k
  | w :: ws, i => (wordEnd t w i).bind fun j =>
      (step t isReSpace j (fun j1 => some (spanEnd isReSpace t j1))).bind (unitEnd t k ws)

theorem unitEnd_cons_cons (t : Array Char) (k : Nat → Option Nat) (w w2 : Str) (ws : List Str) (i : Nat) :
    unitEnd t k (w :: w2 :: ws) i = (wordEnd t w i).bind fun j =>
      (step t isReSpace j (fun j1 => some (spanEnd isReSpace t j1))).bind (unitEnd t k (w2 :: ws)) := by
  rw [unitEnd]
  simp

theorem unitRx_cons_cons (w w2 : Str) (ws : List Str) :
    unitRx (w :: w2 :: ws) = w.map ichr ++ plus (cls false [.space]) :: unitRx (w2 :: ws) := by
  rw [unitRx]
  simp

theorem ends_unitPattern {t : Array Char} : ∀ ws : List Str, Ends (unitPattern ws) t (unitEnd t (wordBound t) ws)
  | [] => ends_wordBoundary
  | [w] => Ends.bind (ends_ciWord w) fun _ => ends_wordBoundary
  | w :: w2 :: ws => by
    rw [unitPattern_cons_cons]
    refine Ends.congr (Ends.bind (ends_ciWord w) fun _ => Ends.bind (ends_skipMany1 isReSpace) fun _ =>
      ends_unitPattern (w2 :: ws)) fun i => ?_
    rw [unitEnd_cons_cons]

theorem run_unitRx (t : Array Char) (base : Nat) (k : Nat → Option Nat) : ∀ (ws : List Str), IsUnitWords ws →
    ∀ i, run t base (seqs (unitRx ws)) i k = unitEnd t k ws i
  | [], _ => fun i => by rw [unitRx, run_seqs_nil, unitEnd]
  | [w], _ => fun i => by rw [unitRx, run_word_only, unitEnd]
  | w :: w2 :: ws, hw => fun i => by
    have ih := run_unitRx t base k (w2 :: ws) (fun x hx => hw x (by simp [hx]))
    obtain ⟨hne, hlow⟩ := hw w2 (by simp)
    obtain ⟨l, ls, rfl⟩ : ∃ l ls, w2 = l :: ls := by
      cases w2 with
      | nil => exact absurd rfl hne
      | cons l ls => exact ⟨l, ls, rfl⟩
    have hl : isLowerAscii l = true := hlow l (by simp)
    rw [unitRx_cons_cons, run_word, unitEnd_cons_cons]
    refine wordEnd_bind_congr fun j _ => ?_
    rw [run_seqs_cons, run_plus_cls, cls_space, step_bind]
    refine step_congr ?_
    rw [Option.bind_some]
    -- only the whole run of white space can be followed by the next word
    rw [tryDown_congr _ (unitEnd t k ((l :: ls) :: ws)) _ _ (fun m _ _ => ih m), tryDown_span_commit]
    intro m c hc hs
    cases ws with
    | nil => rw [unitEnd, wordEnd_none_of_space hl hc hs]; rfl
    | cons w3 ws => rw [unitEnd_cons_cons, wordEnd_none_of_space hl hc hs]; rfl

/-- after a unit name the position is beyond its start: `\b` sees the text before -/
theorem unitEnd_congr (t : Array Char) {k k' : Nat → Option Nat} : ∀ (ws : List Str), ws ≠ [] → IsUnitWords ws →
    ∀ i, (∀ j, i < j → k j = k' j) → unitEnd t k ws i = unitEnd t k' ws i
  | [], h, _ => absurd rfl h
  | [w], _, hw => fun i hk => by
    rw [unitEnd, unitEnd]
    refine wordEnd_bind_congr fun j hj => hk j ?_
    have : w.length ≠ 0 := fun h => (hw w (by simp)).1 (List.eq_nil_of_length_eq_zero h)
    omega
  | w :: w2 :: ws, _, hw => fun i hk => by
    rw [unitEnd_cons_cons, unitEnd_cons_cons]
    refine wordEnd_bind_congr fun j hj => ?_
    rw [step_bind, step_bind]
    refine step_congr ?_
    rw [Option.bind_some, Option.bind_some]
    have hge := spanEnd_ge isReSpace t (j + 1)
    exact unitEnd_congr t (w2 :: ws) (by simp) (fun x hx => hw x (by simp [hx])) _ fun j' hj' => hk j' (by omega)

theorem ends_firstOf_map {t : Array Char} {β} (g : β → P Unit) (d : β → Nat → Option Nat) (h : ∀ b, Ends (g b) t (d b)) :
    ∀ bs : List β, Ends (firstOf (bs.map g)) t (fun i => bs.findSome? fun b => d b i)
  | [] => ends_fail
  | b :: bs => by
    refine Ends.congr (Ends.orElse (h b) (ends_firstOf_map g d h bs)) fun i => ?_
    rw [List.findSome?_cons]
    cases d b i <;> rfl

/-- **the scanner of a table of unit names is the `match` of the regular expression of the table** -/
theorem scanIs_units (tbl : List (List Str)) (hok : tbl.all unitWordsOk = true) :
    ScanIs (firstOf (tbl.map unitPattern)) (unitsRx tbl) := by
  refine ScanIs.of_ends (fun t => ends_firstOf_map unitPattern (unitEnd t (wordBound t)) (fun ws => ends_unitPattern ws) tbl) fun t i => ?_
  rw [matchEnd, unitsRx, run_seqs_cons, run_grp, run_alts, List.findSome?_map]
  refine findSome?_congr fun ws hws => ?_
  obtain ⟨hne, hw⟩ := unitWordsOk_iff (List.all_eq_true.1 hok ws hws)
  simp only [Function.comp, run_seqs_cons, run_seqs_nil, run_bound_some]
  rw [show (fun j => rxBound t i j) = rxBound t i from rfl, run_unitRx t i _ ws hw]
  exact (unitEnd_congr t ws hne hw i fun j hj => rxBound_eq_wordBound hj).symm

theorem scanIs_knownUnit : ScanIs knownUnit (unitsRx unitPatterns) :=
  scanIs_units unitPatterns unitPatterns_words_table

end Rx
end RG
