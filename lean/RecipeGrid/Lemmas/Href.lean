import RecipeGrid.Model.Href
import RecipeGrid.Lemmas.StrLit
/-! Lemmas about `Model/Href.lean`: the path algebra on segment lists. An absolute path is `'/' :: joinSlash segs` with
    `/`-free segments; on such paths `splitSlash` undoes `joinSlash`, `relativePath` is `..` for every directory of the
    source below the common prefix followed by the rest of the target (`relativePath_abs`), `resolveRef` merges a
    segment-wise reference with the directory of the base and removes the dot segments (`resolveRef_segs`), and
    resolving the relative path gives back the target (`relative_resolves_segs`). `Props/C14.lean` states these on paths. -/
namespace RG

theorem dot_lit : ".".toList = ['.'] := toList_lit rfl
theorem dotdot_lit : "..".toList = ['.', '.'] := toList_lit rfl

theorem joinSlash_nil : joinSlash [] = [] := rfl
theorem joinSlash_singleton (a : Str) : joinSlash [a] = a := by
  simp [joinSlash, List.intercalate, List.intersperse]
theorem joinSlash_cons_cons (a b : Str) (t : List Str) : joinSlash (a :: b :: t) = a ++ '/' :: joinSlash (b :: t) := by
  simp [joinSlash, List.intercalate, List.intersperse]

theorem joinSlash_cons_of_ne_nil (a : Str) (t : List Str) (h : t ≠ []) : joinSlash (a :: t) = a ++ '/' :: joinSlash t := by
  cases t with
  | nil => exact absurd rfl h
  | cons b t => exact joinSlash_cons_cons a b t

theorem joinSlash_append_singleton (xs : List Str) (y : Str) (h : xs ≠ []) :
    joinSlash (xs ++ [y]) = joinSlash xs ++ '/' :: y := by
  induction xs with
  | nil => exact absurd rfl h
  | cons a t ih =>
    cases t with
    | nil => simp [joinSlash_cons_cons, joinSlash_singleton]
    | cons b t =>
      have := ih (by simp)
      rw [List.cons_append, List.cons_append, joinSlash_cons_cons, ← List.cons_append, this, joinSlash_cons_cons]
      simp

theorem splitSlash_joinSlash (segs : List Str) (hne : segs ≠ []) (h : ∀ s ∈ segs, '/' ∉ s) :
    splitSlash (joinSlash segs) = segs :=
  List.splitOn_intercalate '/' h hne

theorem splitSlash_abs (segs : List Str) (hne : segs ≠ []) (h : ∀ s ∈ segs, '/' ∉ s) :
    splitSlash ('/' :: joinSlash segs) = [] :: segs := by
  have : '/' :: joinSlash segs = joinSlash ([] :: segs) := by
    rw [joinSlash_cons_of_ne_nil _ _ hne]; rfl
  rw [this]
  apply splitSlash_joinSlash
  · simp
  · intro s hs
    cases hs with
    | head => simp
    | tail _ hs => exact h s hs

theorem joinSlash_cons_prefix (x : Str) (A : List Str) : ∃ t, joinSlash (x :: A) = x ++ t := by
  cases A with
  | nil => exact ⟨[], by rw [joinSlash_singleton, List.append_nil]⟩
  | cons b t => exact ⟨_, joinSlash_cons_cons x b t⟩

theorem commonPrefixLen_spec (a b : List Str) :
    a.take (commonPrefixLen a b) = b.take (commonPrefixLen a b) ∧
      commonPrefixLen a b ≤ a.length ∧ commonPrefixLen a b ≤ b.length := by
  induction a generalizing b with
  | nil => simp [commonPrefixLen]
  | cons x a ih =>
    cases b with
    | nil => simp [commonPrefixLen]
    | cons y b =>
      simp only [commonPrefixLen]
      split
      · rename_i h
        have h' : x = y := by simpa using h
        obtain ⟨h1, h2, h3⟩ := ih b
        refine ⟨by rw [Nat.add_comm, List.take_succ_cons, List.take_succ_cons, h1, h'], ?_, ?_⟩
        · simp; omega
        · simp; omega
      · simp

theorem prefix_of_commonPrefixLen_eq (a b : List Str) (h : commonPrefixLen a b = b.length) : b <+: a := by
  have h1 := (commonPrefixLen_spec a b).1
  rw [h, List.take_length] at h1
  exact ⟨a.drop b.length, by have := List.take_append_drop b.length a; rw [h1] at this; exact this⟩

theorem commonPrefixLen_of_prefix (a b : List Str) (h : b <+: a) : commonPrefixLen a b = b.length := by
  obtain ⟨t, rfl⟩ := h
  induction b with
  | nil => cases t <;> simp [commonPrefixLen]
  | cons y b ih => simp [commonPrefixLen, ih, Nat.add_comm]

theorem commonPrefixLen_cons_self (x : Str) (a b : List Str) :
    commonPrefixLen (x :: a) (x :: b) = 1 + commonPrefixLen a b := by
  simp [commonPrefixLen]

theorem removeDots_normal (acc xs r : List Str) (h : ∀ s ∈ xs, s ≠ ".".toList ∧ s ≠ "..".toList) :
    removeDots acc (xs ++ r) = removeDots (xs.reverse ++ acc) r := by
  induction xs generalizing acc with
  | nil => rfl
  | cons x xs ih =>
    have hx := h x (by simp)
    rw [List.cons_append, removeDots]
    simp only [beq_iff_eq, hx.1, hx.2, if_false]
    rw [ih _ (fun s hs => h s (by simp [hs]))]
    simp

theorem removeDots_all_normal (acc xs : List Str) (h : ∀ s ∈ xs, s ≠ ".".toList ∧ s ≠ "..".toList) :
    removeDots acc xs = acc.reverse ++ xs := by
  have := removeDots_normal acc xs [] h
  rw [List.append_nil] at this
  rw [this, removeDots]
  simp

theorem removeDots_dotdots (acc : List Str) (k : Nat) (r : List Str) (hr : r ≠ []) :
    removeDots acc (List.replicate k "..".toList ++ r) = removeDots (acc.drop k) r := by
  induction k generalizing acc with
  | zero => simp
  | succ k ih =>
    have hne : (List.replicate k "..".toList ++ r).isEmpty = false := by
      cases k <;> cases r <;> simp_all [List.replicate_succ]
    rw [List.replicate_succ, List.cons_append, removeDots, hne]
    have h1 : ("..".toList == ".".toList) = false := by decide
    have h2 : ("..".toList == "..".toList) = true := by decide
    simp only [h1, h2, if_true, Bool.false_eq_true, if_false]
    rw [ih]
    simp

theorem relativePath_abs (fs ts : List Str) (hf : fs ≠ []) (ht : ts ≠ [])
    (hfs : ∀ s ∈ fs, '/' ∉ s) (hts : ∀ s ∈ ts, '/' ∉ s) :
    relativePath ('/' :: joinSlash fs) ('/' :: joinSlash ts) =
      joinSlash (List.replicate (fs.dropLast.length - commonPrefixLen fs.dropLast ts) "..".toList
        ++ ts.drop (commonPrefixLen fs.dropLast ts)) := by
  rw [relativePath, splitSlash_abs fs hf hfs, splitSlash_abs ts ht hts, List.dropLast_cons_of_ne_nil hf,
    commonPrefixLen_cons_self, List.length_cons, Nat.add_comm 1, Nat.add_sub_add_right, List.drop_succ_cons]

theorem joinSlash_head_ne_slash (R : List Str) (hne : R ≠ []) (h : ∀ s ∈ R, s ≠ [] ∧ '/' ∉ s) :
    ∃ c t, joinSlash R = c :: t ∧ c ≠ '/' := by
  match R, hne with
  | [] :: rest, _ => exact absurd rfl (h [] (by simp)).1
  | (c :: x) :: rest, _ =>
    obtain ⟨t, ht⟩ := joinSlash_cons_prefix (c :: x) rest
    exact ⟨c, x ++ t, ht, fun e => (h _ List.mem_cons_self).2 (by subst e; exact List.mem_cons_self)⟩

/-- RFC 3986 §5.2 on segment lists: a reference made of non-empty `/`-free segments is neither empty nor absolute, so it
    is merged with the directory of the base and the dot segments are removed -/
theorem resolveRef_segs (fs R : List Str) (hf : fs ≠ []) (hfs : ∀ s ∈ fs, '/' ∉ s) (hR : R ≠ [])
    (hRs : ∀ s ∈ R, s ≠ [] ∧ '/' ∉ s) :
    resolveRef ('/' :: joinSlash fs) (joinSlash R) = '/' :: joinSlash (removeDots [] (fs.dropLast ++ R)) := by
  obtain ⟨ch, t, hhead, hch⟩ := joinSlash_head_ne_slash R hR hRs
  have h2 : ((ch :: t).head? == some '/') = false := by simpa using hch
  rw [resolveRef, hhead, if_neg (by simp), h2, if_neg (by simp), ← hhead,
    splitSlash_joinSlash R hR (fun s hs => (hRs s hs).2)]
  simp only [List.drop_one, List.tail_cons]
  rw [splitSlash_joinSlash fs hf hfs]

theorem relative_resolves_segs (fs ts : List Str) (hf : fs ≠ []) (ht : ts ≠ [])
    (hfs : ∀ s ∈ fs, s ≠ ".".toList ∧ s ≠ "..".toList ∧ '/' ∉ s)
    (hts : ∀ s ∈ ts, s ≠ [] ∧ s ≠ ".".toList ∧ s ≠ "..".toList ∧ '/' ∉ s)
    (hne : ¬ ts <+: fs.dropLast) :
    resolveRef ('/' :: joinSlash fs) (relativePath ('/' :: joinSlash fs) ('/' :: joinSlash ts)) = '/' :: joinSlash ts := by
  rw [relativePath_abs fs ts hf ht (fun s hs => (hfs s hs).2.2) (fun s hs => (hts s hs).2.2.2)]
  generalize hc : commonPrefixLen fs.dropLast ts = c
  obtain ⟨htake, hcl, hcr⟩ : fs.dropLast.take c = ts.take c ∧ c ≤ fs.dropLast.length ∧ c ≤ ts.length :=
    hc ▸ commonPrefixLen_spec _ _
  have hlt : c < ts.length := Nat.lt_of_le_of_ne hcr fun h => hne (prefix_of_commonPrefixLen_eq _ _ (hc.trans h))
  have hrest : ts.drop c ≠ [] := by simp; omega
  have hRs : ∀ s ∈ List.replicate (fs.dropLast.length - c) "..".toList ++ ts.drop c, s ≠ [] ∧ '/' ∉ s := by
    intro s hs
    rcases List.mem_append.mp hs with h | h
    · rw [List.eq_of_mem_replicate h]; decide
    · exact ⟨(hts s (List.mem_of_mem_drop h)).1, (hts s (List.mem_of_mem_drop h)).2.2.2⟩
  -- `fs.dropLast`, then `..` for all but its first `c` segments, then the rest of `ts`
  rw [resolveRef_segs fs _ hf (fun s hs => (hfs s hs).2.2) (by simp [hrest]) hRs,
    removeDots_normal [] _ _ (fun s hs => (hfs s (List.dropLast_subset _ hs)).imp_right And.left),
    removeDots_dotdots _ _ _ hrest,
    removeDots_all_normal _ _ (fun s hs => (hts s (List.mem_of_mem_drop hs)).2.imp_right And.left),
    List.append_nil, List.drop_reverse, List.reverse_reverse,
    show fs.dropLast.length - (fs.dropLast.length - c) = c by omega, htake, List.take_append_drop]

theorem commonPrefixLen_append_right (a t : List Str) : commonPrefixLen a (a ++ t) = a.length := by
  induction a with
  | nil => cases t <;> rfl
  | cons x a ih => simp [commonPrefixLen, ih, Nat.add_comm]

theorem relativePath_self_segs (fs : List Str) (hf : fs ≠ []) (hfs : ∀ s ∈ fs, '/' ∉ s) :
    relativePath ('/' :: joinSlash fs) ('/' :: joinSlash fs) = fs.getLast hf := by
  rw [relativePath_abs fs fs hf hf hfs hfs]
  have hp : commonPrefixLen fs.dropLast fs = fs.dropLast.length := by
    conv => lhs; rw [← List.dropLast_concat_getLast hf, List.dropLast_concat]
    exact commonPrefixLen_append_right _ _
  rw [hp, Nat.sub_self, List.replicate_zero, List.nil_append]
  have : fs.drop fs.dropLast.length = [fs.getLast hf] := by
    conv => lhs; rw [← List.dropLast_concat_getLast hf]
    simp
  rw [this, joinSlash_singleton]

end RG
