import RecipeGrid.Lemmas.Markdown
/-! White space and letter case in a heading text; declares `WsRun`, `EndsWs`, `NoWs`, `CaseEqChar`, `CaseRel`, in which
    `Lemmas/ServingSplit.lean` and `Props/C18b.lean` are stated.  `str.strip()` and the regex `\s` use the same table; the
    last token of a text is unique; `(?i)` matching determines the pattern letter; `CaseRel` is "the same up to ASCII
    letter case", which the matcher cannot observe; a phrase text read from the left spells one phrase (`PhraseText_inj`),
    and one that goes on with another spells the other's words last (`PhraseText_lead`). -/
namespace RG

/-- `str.isspace` (used by `str.strip`) and the regex class `\s` are the same set; decided on the regenerated tables -/
theorem spaceTables_eq : Gen.reSpaceRanges = Gen.stripSpaceRanges := by decide +kernel

theorem isStripSpace_eq_isReSpace (c : Char) : isStripSpace c = isReSpace c := by
  simp [isStripSpace, isReSpace, inRanges, inTable, spaceTables_eq]

def WsRun (s : Str) : Prop := ∀ c ∈ s, isReSpace c = true

instance (s : Str) : Decidable (WsRun s) := inferInstanceAs (Decidable (∀ c ∈ s, _))

/-- For the other end, "empty or starts with a character that is not `\s`", the statements use `C06.NextNot isReSpace`. -/
def EndsNoWs (x : Str) : Prop := ∀ c, x.getLast? = some c → isReSpace c = false

theorem SpaceRun.wsRun {s : Str} (h : SpaceRun s) : WsRun s := h.2

theorem WsRun.append {a b : Str} (ha : WsRun a) (hb : WsRun b) : WsRun (a ++ b) := by
  intro c hc
  rcases List.mem_append.mp hc with h | h
  · exact ha c h
  · exact hb c h

theorem WsRun.strip {w : Str} (hw : WsRun w) : ∀ c ∈ w, isStripSpace c = true := by
  intro c hc
  rw [isStripSpace_eq_isReSpace]
  exact hw c hc

theorem rstripStr_append_ws (s w : Str) (hw : WsRun w) : rstripStr (s ++ w) = rstripStr s := by
  simp only [rstripStr, List.reverse_append]
  rw [List.dropWhile_append_of_pos]
  intro c hc
  exact hw.strip c (List.mem_reverse.mp hc)

theorem stripStr_ws_append (w s : Str) (hw : WsRun w) : stripStr (w ++ s) = stripStr s := by
  simp only [stripStr, lstripStr]
  rw [List.dropWhile_append_of_pos hw.strip]

theorem stripStr_append_ws (s w : Str) (hw : WsRun w) : stripStr (s ++ w) = stripStr s := by
  induction s with
  | nil =>
    have : stripStr ([] ++ w ++ []) = stripStr [] := stripStr_ws_append w [] hw
    simpa using this
  | cons c s ih =>
    by_cases hc : isStripSpace c = true
    · simpa [stripStr, lstripStr, hc] using ih
    · simp only [stripStr, lstripStr, List.cons_append, List.dropWhile_cons, hc]
      exact rstripStr_append_ws (c :: s) w hw

theorem stripStr_ws (w : Str) (hw : WsRun w) : stripStr w = [] := by
  have : stripStr ([] ++ w) = stripStr [] := stripStr_append_ws [] w hw
  simpa [stripStr, lstripStr, rstripStr] using this

theorem reverse_dropWhile_of_getLast {α} (p : α → Bool) {l : List α} (h : ∀ c, l.getLast? = some c → p c = false) :
    (l.reverse.dropWhile p).reverse = l := by
  cases hr : l.reverse with
  | nil => simpa using hr.symm
  | cons c t =>
    have hl : l.getLast? = some c := by rw [List.getLast?_eq_head?_reverse, hr]; rfl
    simp only [List.dropWhile_cons, h c hl, Bool.false_eq_true, if_false]
    rw [← hr, List.reverse_reverse]

theorem reverse_dropWhile_run {α} {p : α → Bool} {xs run : List α} (hrun : ∀ c ∈ run, p c = true)
    (hx : ∀ c, xs.getLast? = some c → p c = false) : ((xs ++ run).reverse.dropWhile p).reverse = xs := by
  rw [List.reverse_append, List.dropWhile_append_of_pos fun c hc => hrun c (List.mem_reverse.mp hc)]
  exact reverse_dropWhile_of_getLast p hx

theorem rstripStr_of_getLast {s : Str} (h : EndsNoWs s) : rstripStr s = s :=
  reverse_dropWhile_of_getLast _ fun c hc => by rw [isStripSpace_eq_isReSpace]; exact h c hc

theorem lstripStr_of_head {s : Str} (h : C06.NextNot isReSpace s) : lstripStr s = s := by
  unfold lstripStr
  cases s with
  | nil => rfl
  | cons c t =>
    have hc : isStripSpace c = false := by rw [isStripSpace_eq_isReSpace]; exact h c rfl
    simp [hc]

theorem stripStr_of_ends {s : Str} (h1 : C06.NextNot isReSpace s)
    (h2 : EndsNoWs s) : stripStr s = s := by
  rw [stripStr, lstripStr_of_head h1, rstripStr_of_getLast h2]

theorem stripStr_padded {a body c : Str} (ha : WsRun a) (hc : WsRun c) (hh : C06.NextNot isReSpace body)
    (hl : EndsNoWs body) : stripStr (a ++ body ++ c) = body := by
  rw [stripStr_append_ws _ _ hc, stripStr_ws_append _ _ ha]
  exact stripStr_of_ends hh hl

def EndsWs (x : Str) : Prop := ∀ c, x.getLast? = some c → isReSpace c = true
def NoWs (t : Str) : Prop := ∀ c ∈ t, isReSpace c = false

instance (x : Str) : Decidable (EndsWs x) :=
  match h : x.getLast? with
  | none => isTrue (by intro c hc; rw [h] at hc; cases hc)
  | some d => if hd : isReSpace d = true then isTrue (by intro c hc; rw [h] at hc; cases hc; exact hd)
              else isFalse (fun hx => hd (hx d h))
instance (t : Str) : Decidable (NoWs t) := inferInstanceAs (Decidable (∀ c ∈ t, _))

theorem EndsWs.nil : EndsWs [] := by intro c hc; cases hc

theorem EndsWs.append_spaceRun (x : Str) {w : Str} (hw : SpaceRun w) : EndsWs (x ++ w) := by
  intro c hc
  rw [getLast?_append_ne _ hw.1] at hc
  exact hw.2 c (List.mem_of_getLast? hc)

theorem EndsWs.append_of_endsWs_ne_nil (x : Str) {w : Str} (hw : EndsWs w) (hne : w ≠ []) : EndsWs (x ++ w) := by
  intro c hc
  rw [getLast?_append_ne _ hne] at hc
  exact hw c hc

theorem last_token_unique {x d s x' d' s' : Str} (h : x ++ d ++ s = x' ++ d' ++ s')
    (hx : EndsWs x) (hx' : EndsWs x') (hd : NoWs d) (hd' : NoWs d') (hne : d ≠ []) (hne' : d' ≠ [])
    (hs : WsRun s) (hs' : WsRun s') : x = x' ∧ d = d' ∧ s = s' := by
  have hr := congrArg List.reverse h
  simp only [List.reverse_append, List.append_assoc] at hr
  have hhead : ∀ {d x : Str}, NoWs d → d ≠ [] → ∀ c, (d.reverse ++ x.reverse).head? = some c → isReSpace c = false := by
    intro d x hd hne c hc
    have hne' : d.reverse ≠ [] := by simpa using hne
    rw [head?_append_ne _ hne'] at hc
    exact hd c (List.mem_reverse.mp (List.mem_of_head? hc))
  obtain ⟨e1, e2⟩ := prefix_split_unique isReSpace hr
    (fun c hc => hs c (List.mem_reverse.mp hc)) (fun c hc => hs' c (List.mem_reverse.mp hc))
    (hhead hd hne) (hhead hd' hne')
  obtain ⟨e3, e4⟩ := prefix_split_unique (fun c => !isReSpace c) e2
    (fun c hc => by simp [hd c (List.mem_reverse.mp hc)]) (fun c hc => by simp [hd' c (List.mem_reverse.mp hc)])
    (fun c hc => by rw [List.head?_reverse] at hc; simp [hx c hc])
    (fun c hc => by rw [List.head?_reverse] at hc; simp [hx' c hc])
  exact ⟨List.reverse_inj.mp e4, List.reverse_inj.mp e3, List.reverse_inj.mp e1⟩

theorem digits_noWs {ds : Str} (h : ∀ c ∈ ds, isDigit c = true) : NoWs ds :=
  fun c hc => isDigit_not_space (h c hc)

theorem CiWord_noWs {w : List Char} {a : Str} (hw : ∀ l ∈ w, IsLower l) (h : CiWord w a) : NoWs a :=
  fun c hc => letterLike_not_space (CiWord_letterLike hw h c hc)

theorem ciPartners_lower_self : ∀ q ∈ Gen.ciPartners, 97 ≤ q.1 → q.1 ≤ 122 → q.1 = q.2 := by decide +kernel
theorem ciPartners_lookup : ∀ q ∈ Gen.ciPartners, Gen.ciPartners.lookup q.1 = some q.2 := by decide +kernel

theorem ciMatches_inj {c l l' : Char} (hl : IsLower l) (hl' : IsLower l')
    (h : ciMatches c l = true) (h' : ciMatches c l' = true) : l = l' := by
  simp only [ciMatches, Bool.or_eq_true, beq_iff_eq] at h h'
  rcases h with rfl | h <;> rcases h' with rfl | h'
  · rfl
  · exact Char.toNat_inj.mp (ciPartners_lower_self _ (List.contains_iff_mem.mp h') hl.1 hl.2)
  · exact (Char.toNat_inj.mp (ciPartners_lower_self _ (List.contains_iff_mem.mp h) hl'.1 hl'.2)).symm
  · exact Char.toNat_inj.mp (Option.some.inj
      ((ciPartners_lookup (c.toNat, l.toNat) (List.contains_iff_mem.mp h)).symm.trans
        (ciPartners_lookup (c.toNat, l'.toNat) (List.contains_iff_mem.mp h'))))

theorem CiWord_inj {w w' : List Char} {a : Str} (hw : ∀ l ∈ w, IsLower l) (hw' : ∀ l ∈ w', IsLower l)
    (h : CiWord w a) (h' : CiWord w' a) : w = w' := by
  induction w generalizing w' a with
  | nil =>
    rw [CiWord_nil h] at h'
    cases w' with
    | nil => rfl
    | cons _ _ => obtain ⟨_, _, e, _⟩ := CiWord_cons h'; cases e
  | cons l ls ih =>
    obtain ⟨c, cs, rfl, h1, h2⟩ := CiWord_cons h
    cases w' with
    | nil => cases CiWord_nil h'
    | cons l' ls' =>
      obtain ⟨_, _, e, h1', h2'⟩ := CiWord_cons h'
      cases e
      rw [ciMatches_inj (hw l (by simp)) (hw' l' (by simp)) h1 h1',
        ih (fun x hx => hw x (by simp [hx])) (fun x hx => hw' x (by simp [hx])) h2 h2']

theorem CiWord_length {w : List Char} {a : Str} (h : CiWord w a) : a.length = w.length := by
  induction w generalizing a with
  | nil => rw [CiWord_nil h]
  | cons l ls ih =>
    obtain ⟨c, cs, rfl, -, hcs⟩ := CiWord_cons h
    simp [ih hcs]

theorem CiWord_append_right {u w : List Char} {x a : Str} (hlen : x.length = u.length) (h : CiWord (u ++ w) (x ++ a)) :
    CiWord w a := by
  induction u generalizing x with
  | nil => cases x with
    | nil => exact h
    | cons _ _ => cases hlen
  | cons l ls ih => cases x with
    | nil => cases hlen
    | cons c x => exact ih (by simpa using hlen) h.2

def asciiLowerNat (n : Nat) : Nat := if 65 ≤ n ∧ n ≤ 90 then n + 32 else n
def isAsciiLetterNat (n : Nat) : Bool := (65 ≤ n && n ≤ 90) || (97 ≤ n && n ≤ 122)

/-- the same character, or the same ASCII letter in the other case (on code points, as the `(?i)` table `Gen.ciPartners` is) -/
def CaseEqChar (c c' : Char) : Prop := asciiLowerNat c.toNat = asciiLowerNat c'.toNat
instance (c c' : Char) : Decidable (CaseEqChar c c') := inferInstanceAs (Decidable (_ = _))

theorem CaseEqChar.refl (c : Char) : CaseEqChar c c := rfl
theorem CaseEqChar.symm {c c' : Char} (h : CaseEqChar c c') : CaseEqChar c' c := Eq.symm h

theorem CaseEqChar.cases {c c' : Char} (h : CaseEqChar c c') :
    c = c' ∨ (isAsciiLetterNat c.toNat = true ∧ isAsciiLetterNat c'.toNat = true) := by
  simp only [CaseEqChar, asciiLowerNat] at h
  by_cases e : c.toNat = c'.toNat
  · exact Or.inl (Char.toNat_inj.mp e)
  · right
    simp only [isAsciiLetterNat, Bool.or_eq_true, Bool.and_eq_true, decide_eq_true_eq]
    split at h <;> split at h <;> omega

theorem isAsciiLetterNat_letterLike {n : Nat} (h : isAsciiLetterNat n = true) : letterLike n = true := by
  simp only [isAsciiLetterNat, Bool.or_eq_true, Bool.and_eq_true, decide_eq_true_eq] at h
  simp only [letterLike, Bool.or_eq_true, Bool.and_eq_true, decide_eq_true_eq, beq_iff_eq]
  omega

theorem CaseEqChar.isReSpace_eq {c c' : Char} (h : CaseEqChar c c') : isReSpace c = isReSpace c' := by
  rcases h.cases with rfl | ⟨h1, h2⟩
  · rfl
  · rw [letterLike_not_space (isAsciiLetterNat_letterLike h1), letterLike_not_space (isAsciiLetterNat_letterLike h2)]

theorem CaseEqChar.eq_of_isDigit {c c' : Char} (h : CaseEqChar c c') (hd : isDigit c = true) : c = c' := by
  rcases h.cases with rfl | ⟨h1, _⟩
  · rfl
  · rw [letterLike_not_digit (isAsciiLetterNat_letterLike h1)] at hd
    cases hd

theorem ciPartners_asciiLower : ∀ q ∈ Gen.ciPartners, isAsciiLetterNat q.1 = true → asciiLowerNat q.1 = q.2 := by decide +kernel
theorem ciPartners_upper : ∀ n, n < 91 → 65 ≤ n → (n, n + 32) ∈ Gen.ciPartners := by decide +kernel

theorem ciMatches_asciiLetter {c l : Char} (hc : isAsciiLetterNat c.toNat = true) (hl : IsLower l) :
    ciMatches c l = true ↔ asciiLowerNat c.toNat = l.toNat := by
  simp only [ciMatches, Bool.or_eq_true, beq_iff_eq]
  constructor
  · rintro (rfl | h)
    · have := hl.1
      have := hl.2
      simp only [asciiLowerNat]; split <;> omega
    · exact ciPartners_asciiLower _ (List.contains_iff_mem.mp h) hc
  · intro h
    simp only [asciiLowerNat] at h
    split at h
    · rename_i hu
      right
      rw [← h]
      exact List.contains_iff_mem.mpr (ciPartners_upper _ (by omega) hu.1)
    · exact Or.inl (Char.toNat_inj.mp h)

theorem CaseEqChar.ciMatches_eq {c c' l : Char} (h : CaseEqChar c c') (hl : IsLower l) : ciMatches c l = ciMatches c' l := by
  rcases h.cases with rfl | ⟨h1, h2⟩
  · rfl
  · have e1 := ciMatches_asciiLetter h1 hl
    have e2 := ciMatches_asciiLetter h2 hl
    rw [show asciiLowerNat c.toNat = asciiLowerNat c'.toNat from h] at e1
    exact Bool.eq_iff_iff.mpr (e1.trans e2.symm)

def CaseRel : Str → Str → Prop
  | [], [] => True
  | c :: s, c' :: s' => CaseEqChar c c' ∧ CaseRel s s'
  | _, _ => False

instance CaseRel.dec : (s s' : Str) → Decidable (CaseRel s s')
  | [], [] => isTrue trivial
  | _ :: s, _ :: s' => @instDecidableAnd _ _ _ (CaseRel.dec s s')
  | [], _ :: _ => isFalse (by simp [CaseRel])
  | _ :: _, [] => isFalse (by simp [CaseRel])

theorem CaseRel.nil_left {t : Str} (h : CaseRel [] t) : t = [] := by
  cases t with
  | nil => rfl
  | cons _ _ => exact absurd h (by simp [CaseRel])

theorem CaseRel.cons_left {c : Char} {s t : Str} (h : CaseRel (c :: s) t) :
    ∃ c' s', t = c' :: s' ∧ CaseEqChar c c' ∧ CaseRel s s' := by
  cases t with
  | nil => exact absurd h (by simp [CaseRel])
  | cons c' s' => exact ⟨c', s', rfl, h⟩

theorem CaseRel.refl : (s : Str) → CaseRel s s
  | [] => trivial
  | c :: s => ⟨CaseEqChar.refl c, CaseRel.refl s⟩

theorem CaseRel.symm {s s' : Str} (h : CaseRel s s') : CaseRel s' s := by
  induction s generalizing s' with
  | nil => rw [h.nil_left]; trivial
  | cons c s ih =>
    obtain ⟨c', t, rfl, hc, ht⟩ := h.cons_left
    exact ⟨hc.symm, ih ht⟩

theorem CaseRel.length_eq {s s' : Str} (h : CaseRel s s') : s.length = s'.length := by
  induction s generalizing s' with
  | nil => rw [h.nil_left]
  | cons c s ih =>
    obtain ⟨c', t, rfl, -, ht⟩ := h.cons_left
    simp [ih ht]

theorem CaseRel.append {a a' b b' : Str} (ha : CaseRel a a') (hb : CaseRel b b') : CaseRel (a ++ b) (a' ++ b') := by
  induction a generalizing a' with
  | nil => rw [ha.nil_left]; exact hb
  | cons c a ih =>
    obtain ⟨c', t, rfl, hc, ht⟩ := ha.cons_left
    exact ⟨hc, ih ht⟩

theorem CaseRel.split_append {a b t : Str} (h : CaseRel (a ++ b) t) : ∃ a' b', t = a' ++ b' ∧ CaseRel a a' ∧ CaseRel b b' := by
  induction a generalizing t with
  | nil => exact ⟨[], t, rfl, trivial, h⟩
  | cons c a ih =>
    obtain ⟨c', t', rfl, hc, ht⟩ := h.cons_left
    obtain ⟨a', b', rfl, ha, hb⟩ := ih ht
    exact ⟨c' :: a', b', rfl, ⟨hc, ha⟩, hb⟩

theorem CaseRel.wsRun {s s' : Str} (h : CaseRel s s') (hs : WsRun s) : WsRun s' := by
  induction s generalizing s' with
  | nil => rw [h.nil_left]; exact hs
  | cons c s ih =>
    obtain ⟨c', t, rfl, hc, ht⟩ := h.cons_left
    intro d hd
    rcases List.mem_cons.mp hd with rfl | hd
    · rw [← hc.isReSpace_eq]
      exact hs c (by simp)
    · exact ih ht (fun x hx => hs x (by simp [hx])) d hd

theorem CaseRel.spaceRun {s s' : Str} (h : CaseRel s s') (hs : SpaceRun s) : SpaceRun s' := by
  refine ⟨?_, h.wsRun hs.2⟩
  intro e
  subst e
  have := h.length_eq
  exact hs.1 (List.eq_nil_of_length_eq_zero (by simpa using this))

theorem CaseRel.eq_of_digits {s s' : Str} (h : CaseRel s s') (hs : ∀ c ∈ s, isDigit c = true) : s = s' := by
  induction s generalizing s' with
  | nil => rw [h.nil_left]
  | cons c s ih =>
    obtain ⟨c', t, rfl, hc, ht⟩ := h.cons_left
    rw [hc.eq_of_isDigit (hs c (by simp)), ih ht (fun x hx => hs x (by simp [hx]))]

theorem CaseRel.ciWord {w : List Char} {a a' : Str} (hw : ∀ l ∈ w, IsLower l) (h : CaseRel a a') (ha : CiWord w a) :
    CiWord w a' := by
  induction w generalizing a a' with
  | nil =>
    rw [CiWord_nil ha] at h
    rw [h.nil_left]
    trivial
  | cons l ls ih =>
    obtain ⟨c, cs, rfl, hc, hcs⟩ := CiWord_cons ha
    obtain ⟨c', t, rfl, hcc, ht⟩ := h.cons_left
    refine ⟨?_, ih (fun x hx => hw x (by simp [hx])) ht hcs⟩
    rw [← hcc.ciMatches_eq (hw l (by simp))]
    exact hc

theorem CaseRel.phraseText {p : List String} (hp : WfPhrase p) {s s' : Str} (h : CaseRel s s') (hs : PhraseText p s) :
    PhraseText p s' := by
  refine PhraseText.ind (motive := fun p s => WfPhrase p → ∀ s', CaseRel s s' → PhraseText p s') ?_ ?_ hs hp s' h
  · intro w s hs hp s' h
    exact CaseRel.ciWord (hp w (by simp)).2 h hs
  · intro w w' ws a sp r ha hsp _ ih hp s' h
    rw [List.append_assoc] at h
    obtain ⟨a', t, rfl, haa, ht⟩ := h.split_append
    obtain ⟨sp', r', rfl, hspp, hrr⟩ := ht.split_append
    exact ⟨a', sp', r', by simp, CaseRel.ciWord (hp w (by simp)).2 haa ha, hspp.spaceRun hsp,
      ih (fun x hx => hp x (by simp [hx])) r' hrr⟩

theorem PhraseText_last {p : List String} {ph : Str} (h : PhraseText p ph) :
    ∃ w, p.getLast? = some w ∧ ∃ y wd, ph = y ++ wd ∧ CiWord w.toList wd ∧ EndsWs y := by
  refine PhraseText.ind (motive := fun p ph => ∃ w, p.getLast? = some w ∧ ∃ y wd, ph = y ++ wd ∧ CiWord w.toList wd ∧ EndsWs y)
    ?_ ?_ h
  · intro w s hs
    exact ⟨w, rfl, [], s, rfl, hs, EndsWs.nil⟩
  · intro w w' ws a sp r _ hsp _ ih
    obtain ⟨v, hv, y, wd, rfl, hwd, hy⟩ := ih
    refine ⟨v, by simpa using hv, a ++ sp ++ y, wd, by simp, hwd, ?_⟩
    cases y with
    | nil => simpa using EndsWs.append_spaceRun a hsp
    | cons c y => exact EndsWs.append_of_endsWs_ne_nil _ hy (by simp)

theorem PhraseText_head_noWs {p : List String} (hp : WfPhrase p) {s : Str} (h : PhraseText p s) :
    C06.NextNot isReSpace s := by
  obtain ⟨⟨c, r, rfl, hc⟩, _⟩ := PhraseText_chars hp h
  intro d hd
  cases hd
  exact letterLike_not_space hc

theorem CiWord_not_spaced {w : List Char} (hw : ∀ l ∈ w, IsLower l) {a sp r : Str} (h : CiWord w (a ++ sp ++ r))
    (hsp : SpaceRun sp) : False := by
  obtain ⟨c, cs, rfl⟩ := List.exists_cons_of_ne_nil hsp.1
  have h1 := CiWord_noWs hw h c (by simp)
  rw [hsp.2 c (by simp)] at h1
  cases h1

theorem first_token_unique {a sp r a' sp' r' : Str} (h : a ++ sp ++ r = a' ++ sp' ++ r')
    (ha : NoWs a) (ha' : NoWs a') (hsp : SpaceRun sp) (hsp' : SpaceRun sp')
    (hr : C06.NextNot isReSpace r) (hr' : C06.NextNot isReSpace r') :
    a = a' ∧ sp = sp' ∧ r = r' := by
  simp only [List.append_assoc] at h
  have hhead : ∀ {sp r : Str}, SpaceRun sp → ∀ c, (sp ++ r).head? = some c → (!isReSpace c) = false := by
    intro sp r hsp c hc
    rw [head?_append_ne _ hsp.1] at hc
    simp [hsp.2 c (List.mem_of_head? hc)]
  obtain ⟨e1, e2⟩ := prefix_split_unique (fun c => !isReSpace c) h (fun c hc => by simp [ha c hc])
    (fun c hc => by simp [ha' c hc]) (hhead hsp) (hhead hsp')
  obtain ⟨e3, e4⟩ := prefix_split_unique isReSpace e2 hsp.2 hsp'.2 hr hr'
  exact ⟨e1, e3, e4⟩

theorem PhraseText_inj {p q : List String} (hp : WfPhrase p) (hq : WfPhrase q) {s : Str}
    (h : PhraseText p s) (h' : PhraseText q s) : p = q := by
  induction p generalizing q s with
  | nil => exact absurd h (by simp [PhraseText])
  | cons w ws ih =>
    have hw := (hp w (by simp)).2
    cases q with
    | nil => exact absurd h' (by simp [PhraseText])
    | cons w' ws' =>
      have hw' := (hq w' (by simp)).2
      cases ws with
      | nil =>
        cases ws' with
        | nil => rw [String.toList_inj.mp (CiWord_inj hw hw' h h')]
        | cons _ _ => obtain ⟨a, sp, r, rfl, _, hsp, _⟩ := h'; exact (CiWord_not_spaced hw h hsp).elim
      | cons w1 ws1 =>
        cases ws' with
        | nil => obtain ⟨a, sp, r, rfl, _, hsp, _⟩ := h; exact (CiWord_not_spaced hw' h' hsp).elim
        | cons w1' ws1' =>
          obtain ⟨a, sp, r, rfl, ha, hsp, hr⟩ := h
          obtain ⟨a', sp', r', e, ha', hsp', hr'⟩ := h'
          have hwf : WfPhrase (w1 :: ws1) := fun x hx => hp x (by simp [hx])
          have hwf' : WfPhrase (w1' :: ws1') := fun x hx => hq x (by simp [hx])
          obtain ⟨rfl, -, rfl⟩ := first_token_unique e (CiWord_noWs hw ha) (CiWord_noWs hw' ha') hsp hsp'
            (PhraseText_head_noWs hwf hr) (PhraseText_head_noWs hwf' hr')
          rw [String.toList_inj.mp (CiWord_inj hw hw' ha ha'), ih hwf hwf' hr hr']

theorem spaceRun_inside {a sp r z rest : Str} (e : a ++ (sp ++ r) = z ++ rest) (hlt : a.length < z.length) (hsp : SpaceRun sp)
    (hz : EndsNoWs z) : ∃ y, y ≠ [] ∧ z = a ++ sp ++ y ∧ r = y ++ rest := by
  obtain ⟨x, e1, e2⟩ := append_eq_append_of_le e (Nat.le_of_lt hlt)
  have hx : x ≠ [] := by rintro rfl; simp [e1] at hlt
  rcases Nat.lt_or_ge sp.length x.length with hlt' | hge'
  · obtain ⟨y, e3, e4⟩ := append_eq_append_of_le e2 (Nat.le_of_lt hlt')
    exact ⟨y, by rintro rfl; simp [e3] at hlt', by rw [e1, e3, List.append_assoc], e4⟩
  · -- `sp` would reach the last character of `z`
    obtain ⟨y, e3, _⟩ := append_eq_append_of_le e2.symm hge'
    obtain ⟨d, hd⟩ := Option.isSome_iff_exists.mp (List.getLast?_isSome.mpr hx)
    have := hsp.2 d (by rw [e3]; exact List.mem_append_left _ (List.mem_of_getLast? hd))
    rw [hz d (by rw [e1, getLast?_append_ne _ hx]; exact hd)] at this
    cases this

theorem PhraseText_lead {q p : List String} (hq : WfPhrase q) (hp : WfPhrase p) {z ws phrase : Str}
    (h : PhraseText q (z ++ ws ++ phrase)) (hz : EndsNoWs z)
    (hws : SpaceRun ws) (hph : PhraseText p phrase) : ∃ u, u ≠ [] ∧ q = u ++ p ∧ PhraseText u z := by
  induction q generalizing z with
  | nil => exact absurd h (by simp [PhraseText])
  | cons w q' ih =>
    have hw := (hq w (by simp)).2
    cases q' with
    | nil => exact (CiWord_not_spaced hw h hws).elim
    | cons w1 q1 =>
      have hq' : WfPhrase (w1 :: q1) := fun x hx => hq x (by simp [hx])
      obtain ⟨a, sp, r, e, ha, hsp, hr⟩ := h
      have e' : a ++ (sp ++ r) = z ++ (ws ++ phrase) := by simpa using e.symm
      rcases Nat.lt_or_ge a.length z.length with hlt | hge
      · -- the first word and the run behind it end inside `z`: go on with what is left of `z`
        obtain ⟨y, hy, rfl, rfl⟩ := spaceRun_inside e' hlt hsp hz
        obtain ⟨u, hu, eu, huz⟩ := ih hq' (by rw [List.append_assoc]; exact hr)
          fun c hc => hz c (by rw [getLast?_append_ne _ hy]; exact hc)
        obtain ⟨u0, us, rfl⟩ := List.exists_cons_of_ne_nil hu
        exact ⟨w :: u0 :: us, by simp, by rw [eu]; rfl, a, sp, y, rfl, ha, hsp, huz⟩
      · -- `z` lies inside the first word, so it is a token, and the first one: the first word
        obtain ⟨x, e1, -⟩ := append_eq_append_of_le e'.symm hge
        have hzn : NoWs z := fun c hc => CiWord_noWs hw ha c (by rw [e1]; exact List.mem_append_left _ hc)
        obtain ⟨rfl, -, rfl⟩ := first_token_unique e hzn (CiWord_noWs hw ha) hws hsp (PhraseText_head_noWs hp hph)
          (PhraseText_head_noWs hq' hr)
        exact ⟨[w], by simp, by rw [PhraseText_inj hp hq' hph hr]; rfl, ha⟩

theorem PhraseText_append {u v : List String} (hv : v ≠ []) {z sp r : Str} (hz : PhraseText u z) (hsp : SpaceRun sp)
    (hr : PhraseText v r) : PhraseText (u ++ v) (z ++ sp ++ r) := by
  obtain ⟨v0, vs, rfl⟩ := List.exists_cons_of_ne_nil hv
  refine PhraseText.ind (motive := fun u z => PhraseText (u ++ v0 :: vs) (z ++ sp ++ r)) ?_ ?_ hz
  · intro w z hz
    exact ⟨z, sp, r, rfl, hz, hsp, hr⟩
  · intro w w' us a s z' ha hs _ ih
    exact ⟨a, s, z' ++ sp ++ r, by simp, ha, hs, ih⟩

end RG
