import RecipeGrid.Lemmas.Parser
import RecipeGrid.Lemmas.Shift
import RecipeGrid.Lemmas.Fold
import RecipeGrid.Lemmas.Readback
import RecipeGrid.Lemmas.Html
import RecipeGrid.Lemmas.Anchors
/-! For `Props/C02c.lean` and `Props/C04c.lean`: every tree `compile` returns is well-formed (`compile_ok_wf`: the
    grammar gives every step an input, elaboration and the inlining pass keep that) and has multi-output sub recipes
    only at the root (`compile_ok_singleRoot`). -/
namespace RG

theorem parse_stepsNonempty (src : Str) (stmts : List AStmt) (h : parse src = .ok stmts) :
    ∀ s ∈ stmts, s.expr.stepsNonempty = true :=
  fun st hst => (parse_ok_bd src stmts h st hst).2.2

theorem parseAll_stepsNonempty (srcs : List Str) (i : Nat) (asts : List (List AStmt)) (h : parseAll i srcs = .ok asts) :
    ∀ b ∈ asts, ∀ s ∈ b, s.expr.stepsNonempty = true := by
  obtain ⟨hl, hk⟩ := parseAll_ok srcs i asts h
  intro b hb
  obtain ⟨k, hkb⟩ := List.mem_iff_getElem?.mp hb
  have hlt : k < srcs.length := hl ▸ (List.getElem?_eq_some_iff.mp hkb).1
  obtain ⟨a, ha, hp⟩ := hk k srcs[k] (List.getElem?_eq_getElem hlt)
  cases hkb.symm.trans ha
  exact parse_stepsNonempty _ _ hp

/-- with `epost_bind` the calculus of the walk `compileExpr_wf … compileBlocks_wf` below -/
def EPost {ε α} (m : Except ε α) (Q : α → Prop) : Prop := ∀ a, m = .ok a → Q a

theorem epost_ok {ε α} {Q : α → Prop} {a : α} (h : Q a) : EPost (.ok a : Except ε α) Q := by
  intro b e
  cases e
  exact h

theorem epost_error {ε α} {Q : α → Prop} {e : ε} : EPost (.error e : Except ε α) Q := by
  intro b h
  cases h

theorem epost_bind {ε α β} {m : Except ε α} {f : α → Except ε β} {R : α → Prop} {Q : β → Prop} (hm : EPost m R)
    (hf : ∀ a, R a → EPost (f a) Q) : EPost (m >>= f) Q := by
  intro b e
  cases m with
  | error x => cases e
  | ok a => exact hf a (hm a rfl) b e

mutual
theorem compileExpr_wf (block : Nat) : ∀ (e : AExpr) (st : CState), e.stepsNonempty = true →
    EPost (compileExpr block st e) (fun p => wf p.1 = true)
  | .step name inputs, st, he => by
    simp only [AExpr.stepsNonempty, Bool.and_eq_true] at he
    rw [compileExpr]
    refine epost_bind (compileExprs_wf block inputs st he.2) ?_
    rintro ⟨ts, st'⟩ ⟨h1, h2⟩
    refine epost_ok ?_
    show wf (.step (compileString name) ts) = true
    simp only [wf, Bool.and_eq_true]
    refine ⟨?_, h1⟩
    cases ts with
    | nil => cases inputs with
      | nil => simp at he
      | cons a as => simp at h2
    | cons a as => rfl
  | .ref name amount, st, _ => by
    simp only [compileExpr]
    split
    · exact epost_ok rfl
    · split
      · exact epost_error
      · exact epost_ok rfl
      · exact epost_ok rfl
theorem compileExprs_wf (block : Nat) : ∀ (es : List AExpr) (st : CState), AExpr.stepsNonemptyList es = true →
    EPost (compileExprs block st es) (fun p => wfList p.1 = true ∧ p.1.length = es.length)
  | [], st, _ => by rw [compileExprs]; exact epost_ok ⟨rfl, rfl⟩
  | e :: es, st, he => by
    simp only [AExpr.stepsNonemptyList, Bool.and_eq_true] at he
    rw [compileExprs]
    refine epost_bind (compileExpr_wf block e st he.1) ?_
    rintro ⟨t, st1⟩ h1
    refine epost_bind (compileExprs_wf block es st1 he.2) ?_
    rintro ⟨ts, st2⟩ ⟨h2, h3⟩
    refine epost_ok ⟨?_, ?_⟩
    · show wfList (t :: ts) = true
      simp only [wfList, Bool.and_eq_true]
      exact ⟨h1, h2⟩
    · show (t :: ts).length = (e :: es).length
      simp only [List.length_cons, h3]
end

theorem nameStmt_wf (block : Nat) (s : AStmt) (tree : Tree) (st1 : CState) (h : wf tree = true) :
    EPost (nameStmt block s tree st1) (fun p => wf p.1 = true) := by
  rw [nameStmt_eq]
  cases stmtNames s tree with
  | none => exact epost_ok h
  | some p =>
    exact epost_bind (R := fun _ => True) (fun _ _ => trivial) fun st2 _ => epost_ok (by simpa only [wf] using h)
theorem compileStmt_wf (block : Nat) (st : CState) (s : AStmt) (hs : s.expr.stepsNonempty = true) :
    EPost (compileStmt block st s) (fun p => wf p.1 = true) := by
  rw [compileStmt_eq]
  exact epost_bind (compileExpr_wf block s.expr st hs) fun p hp => nameStmt_wf block s p.1 p.2 hp

theorem compileStmts_wf (block : Nat) : ∀ (ss : List AStmt) (st : CState), (∀ s ∈ ss, s.expr.stepsNonempty = true) →
    EPost (compileStmts block st ss) (fun p => ∀ t ∈ p.1, wf t = true)
  | [], st, _ => by rw [compileStmts]; exact epost_ok (by simp)
  | s :: ss, st, h => by
    rw [compileStmts]
    refine epost_bind (compileStmt_wf block st s (h s (List.mem_cons_self ..))) ?_
    rintro ⟨t, st1⟩ h1
    refine epost_bind (compileStmts_wf block ss st1 fun x hx => h x (List.mem_cons_of_mem _ hx)) ?_
    rintro ⟨ts, st2⟩ h2
    refine epost_ok ?_
    intro x hx
    have hx' : x ∈ t :: ts := hx
    simp only [List.mem_cons] at hx'
    rcases hx' with rfl | hx'
    · exact h1
    · exact h2 x hx'

theorem compileBlocks_wf : ∀ (asts : List (List AStmt)) (i : Nat) (st : CState),
    (∀ b ∈ asts, ∀ s ∈ b, s.expr.stepsNonempty = true) →
    EPost (compileBlocks i st asts) (fun p => ∀ T ∈ p.1.flatten, wf T = true)
  | [], i, st, _ => by rw [compileBlocks]; exact epost_ok (by simp)
  | b :: bs, i, st, h => by
    rw [compileBlocks_cons]
    have h1 := compileStmts_wf i b st (h b (List.mem_cons_self ..))
    cases hc : compileStmts i st b with
    | error e => exact epost_error
    | ok p =>
      obtain ⟨trees, st1⟩ := p
      have h1' := h1 _ hc
      have h2 := compileBlocks_wf bs (i + 1) st1 fun b' hb' => h b' (List.mem_cons_of_mem _ hb')
      simp only
      cases hr : compileBlocks (i + 1) st1 bs with
      | error e => exact epost_error
      | ok q =>
        obtain ⟨rest, st2⟩ := q
        have h2' := h2 _ hr
        refine epost_ok ?_
        intro T hT
        simp only [List.flatten_cons, List.mem_append] at hT
        rcases hT with hT | hT
        · exact h1' T hT
        · exact h2' T hT

mutual
theorem wf_subst (old new : Tree) (hn : wf new = true) : ∀ t : Tree, wf t = true → wf (Tree.subst old new t) = true := by
  intro t h
  rw [Tree.subst_eq]
  split
  · exact hn
  · match t, h with
    | .ingredient d q, h => exact h
    | .step d i, h =>
      rw [wf_step] at h ⊢
      refine ⟨?_, wfList_subst old new hn i h.2⟩
      cases i with
      | nil => exact absurd rfl h.1
      | cons a as => exact List.cons_ne_nil _ _
    | .reference s n a, _ => rfl
    | .sub b ns sh, h =>
      rw [wf_sub] at h ⊢
      exact wf_subst old new hn b h
theorem wfList_subst (old new : Tree) (hn : wf new = true) : ∀ ts : List Tree, wfList ts = true →
    wfList (Tree.substList old new ts) = true
  | [], _ => rfl
  | t :: ts, h => by
    simp only [Tree.substList, wfList, Bool.and_eq_true] at h ⊢
    exact ⟨wf_subst old new hn t h.1, wfList_subst old new hn ts h.2⟩
end

/-- every step of every root has an input (`wf` of `Lemmas/Table.lean`); `WFAll` of `Lemmas/Fold.lean` is the other
    well-formedness, "the constructors accept every node" -/
def WFT (blocks : List Block) : Prop := ∀ T ∈ blocks.flatten, wf T = true

theorem FoldData.Ok.wfT {d : FoldData} {i : Nat} {blocks : List Block} {outs : List NamedOutput}
    (hd : d.Ok i blocks outs) (hw : WFT blocks) : WFT (d.blocks' blocks) := by
  intro T' hT'
  obtain ⟨T, hT, rfl⟩ := hd.root_of_new hT'
  exact wf_subst d.ref d.new ((hd.new_eq wf wf_sub).trans (hw _ hd.sub_mem_flat)) T (hw T hT)

theorem compile_ok_wf (srcs : List Str) (bs : List Block) (h : compile srcs = .ok bs) :
    ∀ b ∈ bs, ∀ t ∈ b, wf t = true := by
  obtain ⟨asts, bs0, st, outs', hp, hc, _, hf⟩ := compile_ok_phases h
  have h0 : WFT bs0 := compileBlocks_wf asts 0 {} (parseAll_stepsNonempty srcs 0 asts hp) _ hc
  intro b hb t ht
  exact foldAll_preserves (fun b _ => WFT b) (fun _ _ _ _ hd _ _ hp => hd.wfT hp) _ 0 bs0 st.outputs
    (foldInv_init asts bs0 st hc) (refCount_init asts bs0 st hc) h0 bs outs' hf t (List.mem_flatten.mpr ⟨b, hb, ht⟩)

theorem singleRoot_of_wfB (t : Tree) (h : t.wfB = true) : singleRoot t = true :=
  t.multiAtRootOnly_eq_singleRoot ▸ multiAtRootOnly_of_wfB t h

theorem compile_ok_singleRoot (srcs : List Str) (bs : List Block) (h : compile srcs = .ok bs) :
    ∀ b ∈ bs, ∀ t ∈ b, singleRoot t = true := by
  obtain ⟨asts, bs0, st, outs', _, hc, _, hf⟩ := compile_ok_phases h
  intro b hb t ht
  exact singleRoot_of_wfB t (foldAll_wfAll asts bs0 st hc _ bs outs' hf t (List.mem_flatten.mpr ⟨b, hb, ht⟩))

end RG
