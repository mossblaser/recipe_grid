import RecipeGrid.Model.Fmt
import RecipeGrid.Model.Chars
import RecipeGrid.Lemmas.Run
/-! What `Model/Fmt.lean` and `Model/Num.lean` compute: digit strings (`digitsVal`, `natDigits`, `padLeftZeros`, `rstripZeros`),
    `roundHalfEven`, the cases of `formatFloatSig`.  Used by `Props/C11.lean` and wherever digits are written or read (parser,
    HTML, `{…}` expressions). -/
namespace RG

/-- value of a digit string (fold over the digits, most significant first).
    The same fold stands under four more names: `Parser.natOfDigits`, `NumberReader.readNat`, `natOfDigitChars` (the models of three
    `int(...)` calls in three modules of recipe_grid), `C06.digitsValue` (Props/C06Spec.lean, which states its theorems without the
    lemma modules), and inline in `C11.readDigits`.  All are this one by `rfl` (`Parser.natOfDigits_eq`, `readNat_eq_digitsValue`,
    `C06.natOfDigits_eq_digitsValue`, `natOfDigitChars_eq_digitsVal`); the lemmas are proved for `digitsVal`. -/
def digitsVal (s : Str) : Nat := s.foldl (fun a c => 10 * a + (c.toNat - 48)) 0

theorem digitsVal_eq (s : Str) : digitsVal s = Nat.ofDigitChars 10 s 0 := rfl

theorem digitsVal_natDigits (n : Nat) : digitsVal (natDigits n) = n := by
  simp [digitsVal_eq, natDigits]

theorem natDigits_inj {i j : Nat} (h : natDigits i = natDigits j) : i = j := by
  rw [← digitsVal_natDigits i, ← digitsVal_natDigits j, h]

theorem digitsVal_append_zeros (s : Str) (k : Nat) :
    digitsVal (s ++ List.replicate k '0') = 10 ^ k * digitsVal s := by
  simp [digitsVal_eq, Nat.ofDigitChars_append]

theorem digitsVal_zeros_append (s : Str) (k : Nat) :
    digitsVal (List.replicate k '0' ++ s) = digitsVal s := by
  simp [digitsVal_eq, Nat.ofDigitChars_append]

theorem foldl_digits_eq_zero (s : Str) : ∀ n,
    s.foldl (fun a c => 10 * a + (c.toNat - 48)) n = 0 ↔ n = 0 ∧ ∀ c ∈ s, c.toNat - 48 = 0 := by
  induction s with
  | nil => intro n; simp
  | cons c s ih =>
    intro n
    simp only [List.foldl_cons, ih, List.mem_cons, forall_eq_or_imp]
    constructor
    · rintro ⟨h1, h2⟩; exact ⟨by omega, by omega, h2⟩
    · rintro ⟨h1, h2, h3⟩; exact ⟨by omega, h3⟩

theorem digitsVal_eq_zero (s : Str) : digitsVal s = 0 ↔ ∀ c ∈ s, c.toNat - 48 = 0 := by
  unfold digitsVal; rw [foldl_digits_eq_zero]; simp

theorem natDigits_ne_nil (n : Nat) : natDigits n ≠ [] := by
  simp [natDigits]

/-- for core's `Char.isDigit`, which Model/Fmt.lean and `C11.readDigits` use; `natDigits_all_digit` below is the same for
    `RG.isDigit` (Model/Chars.lean, the `[0-9]` of the grammar and the regular expressions): `isDigit_of_charIsDigit` -/
theorem natDigits_isDigit (n : Nat) : ∀ c ∈ natDigits n, c.isDigit = true := by
  intro c hc
  exact Nat.isDigit_of_mem_toDigits (by decide) (by decide) hc

theorem isDigit_of_charIsDigit {c : Char} (h : c.isDigit = true) : isDigit c = true := by
  simp only [Char.isDigit, Bool.and_eq_true, decide_eq_true_eq] at h
  simp only [isDigit, Bool.and_eq_true, decide_eq_true_eq, Char.toNat]
  have h1 : '0'.val ≤ c.val := h.1
  have h2 := h.2
  rw [UInt32.le_iff_toNat_le] at h1 h2
  exact ⟨h1, h2⟩

theorem natDigits_all_digit (n : Nat) : ∀ c ∈ natDigits n, isDigit c = true :=
  fun c hc => isDigit_of_charIsDigit (natDigits_isDigit n c hc)

theorem natDigits_length_le {n k : Nat} (hk : 0 < k) (h : n < 10 ^ k) : (natDigits n).length ≤ k :=
  (Nat.length_toDigits_le_iff (by decide) hk).mpr h

theorem dot_not_mem_of_isDigit {s : Str} (h : ∀ c ∈ s, c.isDigit = true) : ∀ c ∈ s, (c != '.') = true := by
  intro c hc
  have := h c hc
  simp only [bne_iff_ne, ne_eq]
  rintro rfl
  simp [Char.isDigit] at this

theorem rstripZeros_append_zeros (s : Str) :
    ∃ k, s = rstripZeros s ++ List.replicate k '0' := by
  refine ⟨(s.reverse.takeWhile (· == '0')).length, ?_⟩
  have h1 : s.reverse = s.reverse.takeWhile (· == '0') ++ s.reverse.dropWhile (· == '0') :=
    List.takeWhile_append_dropWhile.symm
  have h2 : s.reverse.takeWhile (· == '0') = List.replicate (s.reverse.takeWhile (· == '0')).length '0' := by
    rw [List.eq_replicate_iff]
    refine ⟨rfl, fun b hb => ?_⟩
    have h := List.all_takeWhile (p := (· == '0')) (l := s.reverse)
    rw [List.all_eq_true] at h
    simpa using h b hb
  have h3 : s = (s.reverse.dropWhile (· == '0')).reverse ++ (s.reverse.takeWhile (· == '0')).reverse := by
    rw [← List.reverse_append, ← h1, List.reverse_reverse]
  have h4 : (s.reverse.takeWhile (· == '0')).reverse = List.replicate (s.reverse.takeWhile (· == '0')).length '0' := by
    rw [h2]; simp
  rw [h4] at h3
  exact h3

theorem rstripZeros_getLast? (s : Str) : (rstripZeros s).getLast? ≠ some '0' := by
  simp only [rstripZeros, List.getLast?_reverse]
  have := List.head?_dropWhile_not (· == '0') s.reverse
  intro h
  rw [h] at this
  simp at this

theorem rstripZeros_sublist (s : Str) : ∀ c ∈ rstripZeros s, c ∈ s := by
  intro c hc
  simp only [rstripZeros, List.mem_reverse] at hc
  have := (List.dropWhile_sublist (· == '0') (l := s.reverse)).mem hc
  simpa using this

theorem rstripZeros_length_le (s : Str) : (rstripZeros s).length ≤ s.length := by
  obtain ⟨k, hk⟩ := rstripZeros_append_zeros s
  have := congrArg List.length hk
  simp at this; omega

theorem padLeftZeros_length {w : Nat} {s : Str} (h : s.length ≤ w) : (padLeftZeros w s).length = w := by
  simp [padLeftZeros]; omega

theorem padLeftZeros_isDigit {w : Nat} {s : Str} (h : ∀ c ∈ s, c.isDigit = true) :
    ∀ c ∈ padLeftZeros w s, c.isDigit = true := by
  intro c hc
  simp only [padLeftZeros, List.mem_append, List.mem_replicate] at hc
  rcases hc with ⟨_, rfl⟩ | hc
  · decide
  · exact h c hc

theorem digitsVal_padLeftZeros (w : Nat) (s : Str) : digitsVal (padLeftZeros w s) = digitsVal s := by
  simp [padLeftZeros, digitsVal_zeros_append]

theorem roundHalfEven_cases (q : Rat) :
    (roundHalfEven q = q.floor ∧ 2 * (q - (q.floor : Rat)) ≤ 1) ∨
    (roundHalfEven q = q.floor + 1 ∧ 1 ≤ 2 * (q - (q.floor : Rat))) := by
  simp only [roundHalfEven]
  split
  · exact Or.inr ⟨rfl, Rat.le_of_lt ‹_›⟩
  · split
    · rename_i h; exact Or.inr ⟨rfl, Std.le_of_eq h.1.symm⟩
    · exact Or.inl ⟨rfl, Rat.not_lt.1 ‹_›⟩

theorem roundHalfEven_bounds (q : Rat) :
    2 * (((roundHalfEven q : Int) : Rat) - q) ≤ 1 ∧ 2 * (q - ((roundHalfEven q : Int) : Rat)) ≤ 1 := by
  have h1 := Rat.floor_le q
  have h2 := Rat.lt_floor_add_one q
  rcases roundHalfEven_cases q with ⟨hr, h⟩ | ⟨hr, h⟩ <;> rw [hr]
  · exact ⟨by grind, h⟩
  · rw [Rat.intCast_add] at h2 ⊢
    constructor <;> grind

theorem roundHalfEven_add_even (q : Rat) (n : Int) (hn : n % 2 = 0) :
    roundHalfEven (q + (n : Rat)) = roundHalfEven q + n := by
  have h3 : q + (n : Rat) - ((q.floor + n : Int) : Rat) = q - (q.floor : Rat) := by
    rw [Rat.intCast_add]; grind
  have h4 : (q.floor + n) % 2 = q.floor % 2 := by omega
  simp only [roundHalfEven, Rat.floor_add_intCast, h3, h4]
  split
  · omega
  · split <;> omega

theorem floor_nonneg {x : Rat} (hx : 0 ≤ x) : 0 ≤ x.floor := Rat.le_floor_iff.mpr (by simpa using hx)

theorem roundHalfEven_nonneg {q : Rat} (hq : 0 ≤ q) : 0 ≤ roundHalfEven q := by
  have h0 := floor_nonneg hq
  rcases roundHalfEven_cases q with ⟨hr, -⟩ | ⟨hr, -⟩ <;> omega

theorem roundHalfEven_le_of_lt {q : Rat} {n : Int} (hq : q < (n : Rat)) : roundHalfEven q ≤ n := by
  have h0 : q.floor < n := Rat.floor_lt_iff.mpr hq
  rcases roundHalfEven_cases q with ⟨hr, -⟩ | ⟨hr, -⟩ <;> omega

theorem roundHalfEven_of_lt_half {q : Rat} (h : 2 * (q - (q.floor : Rat)) < 1) : roundHalfEven q = q.floor := by
  rcases roundHalfEven_cases q with ⟨hr, -⟩ | ⟨-, h'⟩
  · exact hr
  · exact absurd (Std.lt_of_le_of_lt h' h) Rat.lt_irrefl

theorem roundHalfEven_of_gt_half {q : Rat} (h : 1 < 2 * (q - (q.floor : Rat))) : roundHalfEven q = q.floor + 1 := by
  rcases roundHalfEven_cases q with ⟨-, h'⟩ | ⟨hr, -⟩
  · exact absurd (Std.lt_of_lt_of_le h h') Rat.lt_irrefl
  · exact hr

theorem floor_toNat_cast {x : Rat} (hx : 0 ≤ x) : ((x.floor.toNat : Nat) : Rat) = (x.floor : Rat) := by
  have h0 := floor_nonneg hx
  rw [← Rat.intCast_natCast, Int.toNat_of_nonneg h0]

theorem frac_bounds {x : Rat} (hx : 0 ≤ x) :
    0 ≤ x - (x.floor.toNat : Rat) ∧ x - (x.floor.toNat : Rat) < 1 := by
  have h1 := Rat.floor_le x
  have h2 := Rat.lt_floor_add_one x
  rw [Rat.intCast_add] at h2
  rw [floor_toNat_cast hx]
  constructor <;> grind

theorem pow10_cast_pos (d : Nat) : (0 : Rat) < ((10 ^ d : Nat) : Rat) :=
  Rat.natCast_pos.mpr (Nat.pow_pos (by decide))

theorem roundHalfEven_div_err (x : Rat) {P : Rat} (hP : 0 < P) :
    2 * P * (((roundHalfEven (x * P) : Int) : Rat) / P - x) ≤ 1 ∧
    2 * P * (x - ((roundHalfEven (x * P) : Int) : Rat) / P) ≤ 1 := by
  have hb := roundHalfEven_bounds (x * P)
  generalize ((roundHalfEven (x * P) : Int) : Rat) = R at *
  have h1 : P * (R / P) = R := by
    rw [Rat.mul_comm, Rat.div_mul_cancel (Rat.ne_of_gt hP)]
  constructor <;> grind

theorem pow10_cast_ge {d : Nat} (hd : 0 < d) : (10 : Rat) ≤ ((10 ^ d : Nat) : Rat) := by
  have : 10 ^ 1 ≤ 10 ^ d := Nat.pow_le_pow_right (by decide) hd
  have := Rat.natCast_le_natCast.mpr this
  simpa using this

theorem even_mul_pow10 (i : Nat) {d : Nat} (hd : 0 < d) : ((i * 10 ^ d : Nat) : Int) % 2 = 0 := by
  obtain ⟨d', rfl⟩ : ∃ d', d = d' + 1 := ⟨d - 1, by omega⟩
  rw [Nat.pow_succ, ← Nat.mul_assoc]; omega

theorem roundHalfEven_split (x : Rat) {d : Nat} (hd : 0 < d) :
    roundHalfEven (x * ((10 ^ d : Nat) : Rat)) =
      roundHalfEven ((x - (x.floor.toNat : Rat)) * ((10 ^ d : Nat) : Rat)) + ((x.floor.toNat * 10 ^ d : Nat) : Int) := by
  rw [← roundHalfEven_add_even _ _ (even_mul_pow10 _ hd)]
  congr 1
  rw [Rat.intCast_natCast, Rat.natCast_mul]
  grind

theorem round_frac_nonneg {x : Rat} (hx : 0 ≤ x) (d : Nat) :
    0 ≤ roundHalfEven ((x - (x.floor.toNat : Rat)) * ((10 ^ d : Nat) : Rat)) :=
  roundHalfEven_nonneg (Rat.mul_nonneg (frac_bounds hx).1 (Rat.le_of_lt (pow10_cast_pos d)))

theorem round_frac_le {x : Rat} (hx : 0 ≤ x) (d : Nat) :
    roundHalfEven ((x - (x.floor.toNat : Rat)) * ((10 ^ d : Nat) : Rat)) ≤ ((10 ^ d : Nat) : Int) := by
  apply roundHalfEven_le_of_lt
  have := Rat.mul_lt_mul_of_pos_right (frac_bounds hx).2 (pow10_cast_pos d)
  rw [Rat.intCast_natCast]
  simpa using this

theorem roundHalfEven_of_carry {x : Rat} (hx : 0 ≤ x) {d : Nat} (hd : 0 < d)
    (h : roundHalfEven ((x - (x.floor.toNat : Rat)) * ((10 ^ d : Nat) : Rat)) = ((10 ^ d : Nat) : Int)) :
    roundHalfEven x = (x.floor.toNat : Int) + 1 := by
  have hb := (roundHalfEven_bounds ((x - (x.floor.toNat : Rat)) * ((10 ^ d : Nat) : Rat))).1
  rw [h, Rat.intCast_natCast] at hb
  have hP := pow10_cast_ge hd
  have h0 := floor_nonneg hx
  rw [Int.toNat_of_nonneg h0]
  apply roundHalfEven_of_gt_half
  rw [floor_toNat_cast hx] at hb
  apply Rat.not_le.mp
  intro hle
  have := Rat.mul_le_mul_of_nonneg_right hle (Rat.le_of_lt (pow10_cast_pos d))
  grind

theorem roundHalfEven_of_zero {x : Rat} (hx : 0 ≤ x) {d : Nat} (hd : 0 < d)
    (h : roundHalfEven ((x - (x.floor.toNat : Rat)) * ((10 ^ d : Nat) : Rat)) = 0) :
    roundHalfEven x = (x.floor.toNat : Int) := by
  have hb := (roundHalfEven_bounds ((x - (x.floor.toNat : Rat)) * ((10 ^ d : Nat) : Rat))).2
  rw [h] at hb
  have hP := pow10_cast_ge hd
  have h0 := floor_nonneg hx
  rw [Int.toNat_of_nonneg h0]
  apply roundHalfEven_of_lt_half
  rw [floor_toNat_cast hx] at hb
  apply Rat.not_le.mp
  intro hle
  have := Rat.mul_le_mul_of_nonneg_right hle (Rat.le_of_lt (pow10_cast_pos d))
  grind

theorem intStr_of_nonneg {n : Int} (h : 0 ≤ n) : intStr n = natDigits n.toNat := by
  have : ¬ n < 0 := by omega
  have h2 : n.natAbs = n.toNat := by omega
  simp [intStr, this, h2]

theorem intStr_natCast (n : Nat) : intStr (n : Int) = natDigits n := by
  rw [intStr_of_nonneg (by omega)]; simp

/-- `formatFloatSig` shows the digits of a whole number (nothing of the fraction fits, or it rounds to nothing, or it carries) or
    `⌊x⌋ "." s` with `s` the rounded fraction without its trailing zeros; in both cases with the rounded value the text denotes. -/
theorem formatFloatSig_cases (sig : Nat) (x : Rat) (hx : 0 ≤ x) :
    (∃ n : Nat, formatFloatSig sig x = natDigits n ∧
        roundHalfEven (x * ((10 ^ fracDigits sig x : Nat) : Rat)) = ((n * 10 ^ fracDigits sig x : Nat) : Int)) ∨
    (∃ (s : Str) (k : Nat), formatFloatSig sig x = natDigits x.floor.toNat ++ '.' :: s ∧ s ≠ [] ∧
        (∀ c ∈ s, c.isDigit = true) ∧ s.getLast? ≠ some '0' ∧ s.length + k = fracDigits sig x ∧
        roundHalfEven (x * ((10 ^ fracDigits sig x : Nat) : Rat)) =
          ((x.floor.toNat * 10 ^ fracDigits sig x + 10 ^ k * digitsVal s : Nat) : Int)) := by
  simp only [formatFloatSig]
  generalize fracDigits sig x = d
  by_cases hd : d = 0
  · subst hd
    left
    refine ⟨(roundHalfEven x).toNat, ?_, ?_⟩
    · simp [intStr_of_nonneg (roundHalfEven_nonneg hx)]
    · have := roundHalfEven_nonneg hx
      simp [Rat.mul_one]; omega
  · have hd' : 0 < d := Nat.pos_of_ne_zero hd
    have hR0 := round_frac_nonneg hx d
    have hR1 := round_frac_le hx d
    have hsplit := roundHalfEven_split x hd'
    generalize hR : roundHalfEven ((x - (x.floor.toNat : Rat)) * ((10 ^ d : Nat) : Rat)) = R at *
    have hdb : (d == 0) = false := by simp [hd]
    simp only [hdb, Bool.false_eq_true, if_false]
    by_cases hc : R.toNat ≥ 10 ^ d
    · left
      have hRP : R = ((10 ^ d : Nat) : Int) := by omega
      have := roundHalfEven_of_carry hx hd' (hR.trans hRP)
      refine ⟨x.floor.toNat + 1, ?_, ?_⟩
      · simp only [hc, if_true, List.isEmpty_nil]
        rw [this, ← intStr_natCast]; rfl
      · rw [hsplit, hRP, Nat.add_mul, Nat.one_mul]; omega
    · simp only [hc, if_false]
      have hlt : R.toNat < 10 ^ d := by omega
      have hlen := natDigits_length_le hd' hlt
      obtain ⟨k, hk⟩ := rstripZeros_append_zeros (padLeftZeros d (natDigits R.toNat))
      have hval : R.toNat = 10 ^ k * digitsVal (rstripZeros (padLeftZeros d (natDigits R.toNat))) := by
        rw [← digitsVal_append_zeros, ← hk, digitsVal_padLeftZeros, digitsVal_natDigits]
      have hklen : (rstripZeros (padLeftZeros d (natDigits R.toNat))).length + k = d := by
        have := congrArg List.length hk
        rw [padLeftZeros_length hlen] at this
        simpa using this.symm
      have hdig : ∀ c ∈ rstripZeros (padLeftZeros d (natDigits R.toNat)), c.isDigit = true :=
        fun c hc => padLeftZeros_isDigit (natDigits_isDigit _) c (rstripZeros_sublist _ c hc)
      have hlast := rstripZeros_getLast? (padLeftZeros d (natDigits R.toNat))
      generalize rstripZeros (padLeftZeros d (natDigits R.toNat)) = s at *
      by_cases hs : s = []
      · left
        subst hs
        have hRz : R = 0 := by simp [digitsVal] at hval; omega
        have := roundHalfEven_of_zero hx hd' (hR.trans hRz)
        refine ⟨x.floor.toNat, ?_, ?_⟩
        · simp only [List.isEmpty_nil, if_true]
          rw [this, intStr_natCast]
        · rw [hsplit, hRz]; simp
      · right
        refine ⟨s, k, ?_, hs, hdig, hlast, hklen, ?_⟩
        · have : s.isEmpty = false := by simpa using hs
          simp [this]
        · have hRR : R = ((10 ^ k * digitsVal s : Nat) : Int) := by omega
          rw [hsplit, hRR, Int.add_comm]; rfl

theorem natCast_div_add_mod (n : Nat) {d : Nat} (hd : 0 < d) :
    ((n / d : Nat) : Rat) + ((n % d : Nat) : Rat) / (d : Rat) = (n : Rat) / (d : Rat) := by
  have hdm : (n : Rat) = ((n / d : Nat) : Rat) * (d : Rat) + ((n % d : Nat) : Rat) := by
    rw [← Rat.natCast_mul, ← Rat.natCast_add, Nat.div_add_mod']
  have hdpos : (0 : Rat) < (d : Rat) := Rat.natCast_pos.mpr hd
  rw [hdm]
  generalize ((n / d : Nat) : Rat) = A
  generalize ((n % d : Nat) : Rat) = B
  generalize (d : Rat) = D at hdpos
  grind

theorem takeWhile_digits_dot {a : Str} (ha : ∀ c ∈ a, c.isDigit = true) (b : Str) :
    (a ++ '.' :: b).takeWhile (· != '.') = a :=
  takeWhile_run (dot_not_mem_of_isDigit ha) (by simp)

theorem dropWhile_digits_dot {a : Str} (ha : ∀ c ∈ a, c.isDigit = true) (b : Str) :
    (a ++ '.' :: b).dropWhile (· != '.') = '.' :: b :=
  dropWhile_run (dot_not_mem_of_isDigit ha) (by simp)

theorem takeWhile_digits {a : Str} (ha : ∀ c ∈ a, c.isDigit = true) :
    a.takeWhile (· != '.') = a := by
  simpa using takeWhile_run (rest := []) (dot_not_mem_of_isDigit ha) (by simp)

theorem dropWhile_digits {a : Str} (ha : ∀ c ∈ a, c.isDigit = true) :
    a.dropWhile (· != '.') = [] := by
  simpa using dropWhile_run (rest := []) (dot_not_mem_of_isDigit ha) (by simp)

end RG
