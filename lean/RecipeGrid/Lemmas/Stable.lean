import RecipeGrid.Lemmas.Scale
import RecipeGrid.Lemmas.FloatErr
import RecipeGrid.Props.C03c
/-! When does `Quantity.has_equal_value_to` (binary64, `math.isclose` with relative tolerance `1e-9`) answer what the
    exact rational comparison answers?  Whenever the exact relative difference is not within `2⁻²¹·10⁻⁹` of `10⁻⁹`.
    The definitions `tolQ`, `edgeEps`, `relDiff` and `Quantity.hevFactor` are specification-level
    (the statements of `Props/C03d.lean`, `Props/C12b.lean` and `Props/C12c.lean` use them). -/
namespace RG

/-- the relative tolerance as written in `units.py`: `10⁻⁹` (the program uses the double nearest to it) -/
def tolQ : Rat := 1 / 1000000000

/-- the guard band around the tolerance, relative to it: `2⁻²¹` (≈ 4.8·10⁻⁷).  What the analysis needs is a little more
    than `4·2⁻⁵³/10⁻⁹ ≈ 4.45·10⁻⁷`: the two compared doubles carry up to `2⁻⁵³` and `3·2⁻⁵³` of relative error, which
    is that much *relative to the tolerance*. -/
def edgeEps : Rat := 1 / 2097152

/-- `1e-9` as a double: `4835703278458517 · 2⁻⁸²` -/
theorem relTolDefault_eq : relTolDefault = 4835703278458517 / 4835703278458516698824704 := by decide +kernel

theorem abs_eq_ite (x : Rat) : (if x < 0 then -x else x) = x.abs := by
  simp only [Rat.abs]; split <;> split <;> grind

/-- the `a == b` shortcut of `isclose` is subsumed by the comparison (non-negative tolerance) -/
theorem isclose_eq (x y r : Rat) (hr : 0 ≤ r) : isclose x y r =
    (decide ((toDouble (y - x)).abs ≤ toDouble (r * y.abs)) || decide ((toDouble (y - x)).abs ≤ toDouble (r * x.abs))) := by
  unfold isclose
  by_cases h : x = y
  · subst h
    have h0 : x - x = 0 := by grind
    have : 0 ≤ toDouble (r * x.abs) := toDouble_nonneg (Rat.mul_nonneg hr Rat.abs_nonneg)
    simp [h0, toDouble_zero, this]
  · have hne : (x == y) = false := by simpa using h
    simp only [hne, Bool.false_eq_true, if_false, abs_eq_ite]

theorem relTolDefault_nonneg : 0 ≤ relTolDefault := by rw [relTolDefault_eq]; decide +kernel

/-- the rounded `1e-9·|x|` for an `x` near `P`: `|x|` is within `|x − P|` of `|P|`, and the product is rounded once (`2⁻⁵³` of it,
    `9007199254740992 = 2⁵³`) -/
theorem rounded_tol_bounds (x P : Rat) :
    9007199254740991 * (relTolDefault * (P.abs - (x - P).abs)) ≤ 9007199254740992 * toDouble (relTolDefault * x.abs) ∧
    9007199254740992 * toDouble (relTolDefault * x.abs) ≤ 9007199254740993 * (relTolDefault * (P.abs + (x - P).abs)) := by
  have b := toDouble_bounds_of_nonneg (Rat.mul_nonneg relTolDefault_nonneg (@Rat.abs_nonneg x))
  have a1 := abs_le_abs_add_rev P x
  have a2 := abs_le_abs_add x P
  -- the absolute values are made atoms for `grind`, which adds these up
  rw [relTolDefault_eq] at *
  generalize toDouble _ = R at *
  generalize (x - P).abs = ex at *
  generalize P.abs = p at *
  generalize x.abs = ax at *
  constructor <;> grind

/-- one evaluation of `isclose x y 1e-9`, seen from what `x` and `y` approximate: `d` is the rounded `|y − x|`, `Rx`, `Ry` the
    rounded `1e-9·|x|`, `1e-9·|y|`; each is bounded, up to its own rounding, in terms of the errors `|x − P|`, `|y − Q|`, the
    distance `|P − Q|` and `|P|`, `|Q|`, all linearly -/
theorem isclose_facts (x y P Q : Rat) :
    ∃ d Ry Rx : Rat,
      isclose x y relTolDefault = (decide (d ≤ Ry) || decide (d ≤ Rx)) ∧
      (9007199254740992 * d ≤ 9007199254740993 * ((x - P).abs + (P - Q).abs + (y - Q).abs) ∧
       9007199254740991 * ((P - Q).abs - (x - P).abs - (y - Q).abs) ≤ 9007199254740992 * d) ∧
      (9007199254740991 * (relTolDefault * (P.abs - (x - P).abs)) ≤ 9007199254740992 * Rx ∧
       9007199254740992 * Rx ≤ 9007199254740993 * (relTolDefault * (P.abs + (x - P).abs))) ∧
      (9007199254740991 * (relTolDefault * (Q.abs - (y - Q).abs)) ≤ 9007199254740992 * Ry ∧
       9007199254740992 * Ry ≤ 9007199254740993 * (relTolDefault * (Q.abs + (y - Q).abs))) := by
  refine ⟨(toDouble (y - x)).abs, toDouble (relTolDefault * y.abs), toDouble (relTolDefault * x.abs),
    isclose_eq x y _ relTolDefault_nonneg, ?_, rounded_tol_bounds x P, rounded_tol_bounds y Q⟩
  -- `|y − x|` is within `|x − P| + |y − Q|` of `|P − Q|`, and the difference is rounded once
  have b := toDouble_abs_bounds (y - x)
  have t1 := abs_tri3 y Q P x
  have t2 := abs_tri3 P x y Q
  rw [Rat.abs_sub_comm (x := Q), Rat.abs_sub_comm (x := P) (y := x)] at t1
  rw [Rat.abs_sub_comm (x := x) (y := y), Rat.abs_sub_comm (x := P) (y := x)] at t2
  generalize (toDouble (y - x)).abs = d at *
  generalize (y - x).abs = dxy at *
  constructor <;> grind

/-- **inside**: `x`, `y` approximate `P`, `Q` to `2⁻⁵³`, `3·2⁻⁵³`; `|P − Q| ≤ 10⁻⁹(1 − 2⁻²¹)·max(|P|,|Q|)`; then
    `isclose(x, y, rel_tol=1e-9)` is `True` -/
theorem isclose_true_of_close {x y P Q : Rat}
    (hx : 9007199254740992 * (x - P).abs ≤ P.abs) (hy : 9007199254740992 * (y - Q).abs ≤ 3 * Q.abs)
    (h : (P - Q).abs ≤ tolQ * (1 - edgeEps) * P.abs ∨ (P - Q).abs ≤ tolQ * (1 - edgeEps) * Q.abs) :
    isclose x y relTolDefault = true := by
  -- say `|P − Q| ≤ τ(1 − ε)|P|` (`τ = 10⁻⁹`, `ε = 2⁻²¹`); then `d ≤ Rx`:
  --   `d ≤ (1 + 2⁻⁵³)(3·2⁻⁵³|Q| + τ(1 − ε)|P| + 2⁻⁵³|P|)`, `|Q| ≤ |P| + |P − Q|`, `Rx ≥ (1 − 2⁻⁵³)·rd(τ)·(1 − 2⁻⁵³)|P|`;
  --   the slack `τε|P|` is more than all the `2⁻⁵³` terms together because `ε·τ > 5·2⁻⁵³`
  obtain ⟨d, Ry, Rx, he, ⟨d1, _⟩, ⟨x1, _⟩, ⟨y1, _⟩⟩ := isclose_facts x y P Q
  rw [he]
  have a3 := abs_le_abs_add P Q
  have a4 := abs_le_abs_add_rev Q P
  have n1 : 0 ≤ P.abs := Rat.abs_nonneg
  have n2 : 0 ≤ Q.abs := Rat.abs_nonneg
  rw [relTolDefault_eq] at x1 y1
  simp only [tolQ, edgeEps] at h
  rcases h with h | h
  · have : d ≤ Rx := by grind
    simp [this]
  · have : d ≤ Ry := by grind
    simp [this]

/-- **outside**: `|P − Q| ≥ 10⁻⁹(1 + 2⁻²¹)·max(|P|,|Q|)` and `P ≠ Q`; then `isclose(x, y, rel_tol=1e-9)` is `False` -/
theorem isclose_false_of_far {x y P Q : Rat}
    (hx : 9007199254740992 * (x - P).abs ≤ P.abs) (hy : 9007199254740992 * (y - Q).abs ≤ 3 * Q.abs)
    (h0 : 0 < (P - Q).abs)
    (h1 : tolQ * (1 + edgeEps) * P.abs ≤ (P - Q).abs) (h2 : tolQ * (1 + edgeEps) * Q.abs ≤ (P - Q).abs) :
    isclose x y relTolDefault = false := by
  -- `d > Rx` (and likewise `d > Ry`): `d ≥ (1 − 2⁻⁵³)(τ(1 + ε)|P| − 2⁻⁵³|P| − 3·2⁻⁵³|Q|)`, `|Q| ≤ |P − Q| / (τ(1 + ε))`,
  --   `Rx ≤ (1 + 2⁻⁵³)·rd(τ)·(1 + 2⁻⁵³)|P|`; again `τε` outweighs the `2⁻⁵³` terms
  obtain ⟨d, Ry, Rx, he, ⟨_, d2⟩, ⟨_, x2⟩, ⟨_, y2⟩⟩ := isclose_facts x y P Q
  rw [he]
  have n1 : 0 ≤ P.abs := Rat.abs_nonneg
  have n2 : 0 ≤ Q.abs := Rat.abs_nonneg
  rw [relTolDefault_eq] at x2 y2
  simp only [tolQ, edgeEps] at h1 h2
  have c1 : ¬ d ≤ Rx := by grind
  have c2 : ¬ d ≤ Ry := by grind
  simp [c1, c2]

/-- `float(b * scale)` for an exact `b`: one rounding when the factor is exact (`int`/`Fraction` product, then `float`),
    two when it is a float (`float(b) * scale`), against the rational product -/
theorem mul_toFlt_err {b : Num} (hb : b.kind ≠ .flt) (sc : Num) :
    9007199254740992 * ((b.mul sc).toFlt - b.val * sc.val).abs ≤ 3 * (b.val * sc.val).abs := by
  have n : 0 ≤ (b.val * sc.val).abs := Rat.abs_nonneg
  by_cases hk : sc.kind = .flt
  · have h := C03.scale_float_err_any b sc hk
    rw [Num.toFlt_of_flt (C03.mul_float_val b sc hk).2]
    grind
  · have := (b.mul sc).toFlt_err
    rw [Num.mul_val_exact hb hk] at this
    grind

/-- `ρ(a, b) = |a − b| / max(|a|, |b|)`; `0` when `a = b = 0` (Lean's `x / 0 = 0`), which is the right reading here:
    `isclose(0, 0)` is `True` -/
def relDiff (a b : Rat) : Rat := (a - b).abs / max a.abs b.abs

theorem max_abs_cases (a b : Rat) : (max a.abs b.abs = a.abs ∧ b.abs ≤ a.abs) ∨ (max a.abs b.abs = b.abs ∧ a.abs ≤ b.abs) := by
  rw [Rat.max_def]; split <;> grind

/-- also when the maximum is `0`: then `a = b = 0` -/
theorem relDiff_mul_max (a b : Rat) : relDiff a b * max a.abs b.abs = (a - b).abs := by
  by_cases hm : max a.abs b.abs = 0
  · have na : 0 ≤ a.abs := Rat.abs_nonneg
    have nb : 0 ≤ b.abs := Rat.abs_nonneg
    have h0 : a.abs = 0 ∧ b.abs = 0 := by
      rcases max_abs_cases a b with ⟨e, _⟩ | ⟨e, _⟩ <;> rw [e] at hm <;> grind
    have := abs_le_abs_add_rev (a - b) a
    rw [show a - (a - b) = b by grind] at this
    have n : 0 ≤ (a - b).abs := Rat.abs_nonneg
    rw [hm, Rat.mul_zero]
    grind
  · exact Rat.div_mul_cancel hm

theorem close_of_relDiff {a b c : Rat} (h : relDiff a b ≤ c) : (a - b).abs ≤ c * a.abs ∨ (a - b).abs ≤ c * b.abs := by
  have E := relDiff_mul_max a b
  rcases max_abs_cases a b with ⟨e, _⟩ | ⟨e, _⟩ <;> rw [e] at E <;> rw [← E]
  · exact Or.inl (Rat.mul_le_mul_of_nonneg_right h Rat.abs_nonneg)
  · exact Or.inr (Rat.mul_le_mul_of_nonneg_right h Rat.abs_nonneg)

theorem far_of_relDiff {a b c : Rat} (hc : 0 < c) (h : c ≤ relDiff a b) :
    0 < (a - b).abs ∧ c * a.abs ≤ (a - b).abs ∧ c * b.abs ≤ (a - b).abs := by
  have h0 : 0 < (a - b).abs := by
    -- were `|a − b| = 0`, then `ρ = 0 / … = 0 < c`
    refine Rat.lt_of_le_of_ne Rat.abs_nonneg fun h0 => ?_
    rw [relDiff, ← h0, Rat.div_def, Rat.zero_mul] at h
    exact absurd (Std.lt_of_lt_of_le hc h) (by decide)
  have E := relDiff_mul_max a b
  rcases max_abs_cases a b with ⟨e, h'⟩ | ⟨e, h'⟩ <;> rw [e] at E
  · have ha := Rat.mul_le_mul_of_nonneg_right h (@Rat.abs_nonneg a)
    rw [E] at ha
    exact ⟨h0, ha, Rat.le_trans (Rat.mul_le_mul_of_nonneg_left h' (Rat.le_of_lt hc)) ha⟩
  · have hb := Rat.mul_le_mul_of_nonneg_right h (@Rat.abs_nonneg b)
    rw [E] at hb
    exact ⟨h0, Rat.le_trans (Rat.mul_le_mul_of_nonneg_left h' (Rat.le_of_lt hc)) hb, hb⟩

/-- **`ρ` does not depend on the scale**: multiplying both numbers by `k ≠ 0` leaves it unchanged -/
theorem relDiff_mul_right (a b : Rat) {k : Rat} (hk : k ≠ 0) : relDiff (a * k) (b * k) = relDiff a b := by
  unfold relDiff
  have e1 : a * k - b * k = (a - b) * k := by grind
  have hk' : 0 < k.abs := by
    have := Rat.abs_nonneg (x := k)
    have h2 : k.abs ≠ 0 := by
      simp only [Rat.abs]; split <;> grind
    grind
  have e2 : max (a * k).abs (b * k).abs = max a.abs b.abs * k.abs := by
    rw [abs_mul, abs_mul, Rat.max_def, Rat.max_def]
    by_cases h : a.abs ≤ b.abs
    · have := Rat.mul_le_mul_of_nonneg_right h (Rat.le_of_lt hk')
      simp [h, this]
    · have h' : b.abs < a.abs := by grind
      have := Rat.mul_lt_mul_of_pos_right h' hk'
      have n : ¬ a.abs * k.abs ≤ b.abs * k.abs := by grind
      simp [h, n]
  rw [e1, e2, abs_mul]
  have := Rat.mul_mul_div_mul_cancel (a - b).abs 1 (max a.abs b.abs) k.abs (Rat.ne_of_gt hk')
  simpa using this

/-- **off the edge `isclose(x, y, rel_tol=1e-9)` is the exact comparison of what `x`, `y` approximate**: `x`, `y` within
    `2⁻⁵³`, `3·2⁻⁵³` (relative) of `P`, `Q`, and `ρ = relDiff P Q`: `ρ ≤ 10⁻⁹(1 − 2⁻²¹)` ⇒ `True`,
    `ρ ≥ 10⁻⁹(1 + 2⁻²¹)` ⇒ `False` -/
theorem isclose_off_edge {x y P Q : Rat}
    (hx : 9007199254740992 * (x - P).abs ≤ P.abs) (hy : 9007199254740992 * (y - Q).abs ≤ 3 * Q.abs) :
    (relDiff P Q ≤ tolQ * (1 - edgeEps) → isclose x y relTolDefault = true) ∧
    (tolQ * (1 + edgeEps) ≤ relDiff P Q → isclose x y relTolDefault = false) := by
  constructor
  · intro h
    exact isclose_true_of_close hx hy (close_of_relDiff h)
  · intro h
    obtain ⟨h0, h1, h2⟩ := far_of_relDiff (by decide +kernel) h
    exact isclose_false_of_far hx hy h0 h1 h2

theorem isclose_self (a r : Rat) : isclose a a r = true := by simp [isclose]

/-- the factor by which `Quantity.has_equal_value_to` multiplies the other quantity: `1` without units, the unit
    system's factor (Python arithmetic: exact or float) between known units, `1` between equal unknown units;
    `none`: the quantities are not comparable and the test says no -/
def Quantity.hevFactor (self other : Quantity) : Option Num :=
  match self.unit, other.unit with
  | none, none => some ⟨1, .int⟩
  | none, some _ => none
  | some _, none => none
  | some su, some ou =>
    match convertBetween false (lowerStr ou) (lowerStr su) with
    | some sc => some sc
    | none => if lowerStr su == lowerStr ou then some ⟨1, .int⟩ else none

theorem hasEqualValueTo_eq (q iq : Quantity) : q.hasEqualValueTo iq =
    match q.hevFactor iq with
    | none => false
    | some sc => isclose q.value.toFlt (iq.value.mul sc).toFlt relTolDefault := by
  unfold Quantity.hasEqualValueTo Quantity.hevFactor
  cases q.unit <;> cases iq.unit <;> simp only []
  rename_i su ou
  cases hc : convertBetween false (lowerStr ou) (lowerStr su) with
  | some sc => rfl
  | none => simp only []; split <;> rfl

theorem hevFactor_scale (k : Num) (q iq : Quantity) : (q.scale k).hevFactor (iq.scale k) = q.hevFactor iq := rfl

/-- two exact quantities with the same value that `has_equal_value_to` compares through an exact factor 1 (no units, or
    two names of one unit): it says yes, before and after scaling by an exact factor -/
theorem hasEqualValueTo_scale_of_eq {k : Num} (hk : k.kind ≠ .flt) {q iq : Quantity}
    (hq : q.value.kind ≠ .flt) (hiq : iq.value.kind ≠ .flt) (hv : q.value.val = iq.value.val) {sc : Num}
    (hf : q.hevFactor iq = some sc) (hsc : sc.kind ≠ .flt) (hsc1 : sc.val = 1) :
    (q.scale k).hasEqualValueTo (iq.scale k) = true ∧ q.hasEqualValueTo iq = true := by
  have go : ∀ a b : Num, a.kind ≠ .flt → b.kind ≠ .flt → a.val = b.val →
      isclose a.toFlt (b.mul sc).toFlt relTolDefault = true := by
    intro a b ha hb hab
    rw [Num.toFlt_of_exact ha, Num.toFlt_of_exact (Num.mul_kind_exact hb hsc), Num.mul_val_exact hb hsc, hsc1,
      Rat.mul_one, hab]
    exact isclose_self _ _
  rw [hasEqualValueTo_eq, hasEqualValueTo_eq, hevFactor_scale, hf]
  exact ⟨go _ _ (Quantity.scale_exact hq hk) (Quantity.scale_exact hiq hk)
    (by rw [Quantity.scale_val hq hk, Quantity.scale_val hiq hk, hv]), go _ _ hq hiq hv⟩

theorem hev_off_edge {q iq : Quantity} (hq : q.value.kind ≠ .flt) (hiq : iq.value.kind ≠ .flt) {sc : Num}
    (hf : q.hevFactor iq = some sc) :
    (relDiff q.value.val (iq.value.val * sc.val) ≤ tolQ * (1 - edgeEps) → q.hasEqualValueTo iq = true) ∧
    (tolQ * (1 + edgeEps) ≤ relDiff q.value.val (iq.value.val * sc.val) → q.hasEqualValueTo iq = false) := by
  rw [hasEqualValueTo_eq, hf, Num.toFlt_of_exact hq]
  exact isclose_off_edge (toDouble_err_mul _) (mul_toFlt_err hiq sc)

theorem hev_none {q iq : Quantity} (hf : q.hevFactor iq = none) : q.hasEqualValueTo iq = false := by
  rw [hasEqualValueTo_eq, hf]

end RG
