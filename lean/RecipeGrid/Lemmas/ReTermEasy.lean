import RecipeGrid.Lemmas.ReTermScan
/-! The terminals of `grammar.peg` whose scanner is a literal, a class, a run of a class, or a short sequence of those
    (`:?=`, `decimal`, the first regex of `eol`, and the denominator `0*[1-9][0-9]*`, whose scanner reads a run of digits
    and checks its value afterwards): each scanner of `Peg.terminalScanner` is the `match` of the regular expression
    (`ScanIs`). -/
namespace RG
namespace Rx
open Parser Peg

/-- the scanner `scan` is `pattern.match` for the regular expression `r` -/
def ScanIs (scan : P Unit) (r : Rx) : Prop :=
  ∀ (t : Array Char) (i : Nat) (z : Bool), scan t ⟨i, z⟩ = (r.matchEnd t i).map fun j => ((), (⟨j, z⟩ : PState))

theorem ScanIs.of_ends {scan : P Unit} {r : Rx} {f : Array Char → Nat → Option Nat} (h : ∀ t, Ends scan t (f t))
    (hf : ∀ t i, f t i = r.matchEnd t i) : ScanIs scan r := by
  intro t i z
  rw [(h t).unit i z, hf]

theorem cls_hsp : clsTest false [.chr ' ', .chr '\t'] = isHsp := by
  funext c; simp [clsTest, ClsItem.test, isHsp]

theorem cls_digit : clsTest false [.range '0' '9'] = isDigit := by
  funext c; simp [clsTest, ClsItem.test, isDigit]

theorem cls_space : clsTest false [.space] = isReSpace := by
  funext c; simp [clsTest, ClsItem.test]

theorem cls_newline : clsTest false [.chr '\r', .chr '\n'] = isNewline := by
  funext c; simp [clsTest, ClsItem.test, isNewline, Bool.or_comm]

theorem cls_dq : clsTest true [.chr '"', .chr '\n', .chr '\r'] = fun c => c != '"' && !isNewline c := by
  funext c; simp [clsTest, ClsItem.test, isNewline, bne]

theorem cls_sq : clsTest true [.chr '\'', .chr '\n', .chr '\r'] = fun c => c != '\'' && !isNewline c := by
  funext c; simp [clsTest, ClsItem.test, isNewline, bne]

theorem cls_br : clsTest true [.range '0' '9', .chr '{', .chr '}', .chr '\n', .chr '\r']
    = fun c => !isDigit c && c != '{' && c != '}' && !isNewline c := by
  funext c; simp [clsTest, ClsItem.test, isNewline, isDigit, bne, Bool.and_assoc]

theorem cls_edge :
    clsTest true [.chr '"', .chr '\'', .chr ',', .chr ':', .chr '=', .chr '/', .chr '(', .chr ')', .chr '{', .chr '}', .space]
    = isNakedEdge := by
  funext c; simp [clsTest, ClsItem.test, isNakedEdge, isSpecial, Bool.and_assoc, ← Bool.beq_eq_decide_eq]

theorem cls_inner :
    clsTest true [.chr '"', .chr '\'', .chr ',', .chr ':', .chr '=', .chr '/', .chr '(', .chr ')', .chr '{', .chr '}',
      .chr '\n', .chr '\r'] = isNakedInner := by
  funext c; simp [clsTest, ClsItem.test, isNakedInner, isSpecial, isNewline, Bool.and_assoc, ← Bool.beq_eq_decide_eq]

theorem run_star_cls_some (t : Array Char) (base : Nat) (neg : Bool) (items : List ClsItem) (i : Nat) :
    run t base (star (cls neg items)) i some = some (spanEnd (clsTest neg items) t i) := by
  rw [run_star_cls, tryDown_some]
  have := spanEnd_ge (clsTest neg items) t i
  congr 1; omega

theorem run_plus_cls_some (t : Array Char) (base : Nat) (neg : Bool) (items : List ClsItem) (i : Nat) :
    run t base (plus (cls neg items)) i some
      = step t (clsTest neg items) i (fun j => some (spanEnd (clsTest neg items) t j)) := by
  simp only [run_plus, run_cls, run_star_cls_some]

theorem scanIs_lit (c : Char) : ScanIs (lit c) (chr c) :=
  ScanIs.of_ends (fun _ => ends_lit c) fun t i => by rw [matchEnd, run_chr]

theorem scanIs_any : ScanIs (void anyChar) any :=
  ScanIs.of_ends (fun _ => (ends_sat _).void) fun t i => by rw [matchEnd, run_any]

theorem scanIs_cls {neg : Bool} {items : List ClsItem} {p : Char → Bool} (h : clsTest neg items = p) :
    ScanIs (void (sat p)) (cls neg items) :=
  ScanIs.of_ends (fun _ => (ends_sat _).void) fun t i => by rw [matchEnd, run_cls, h]

/-! ## runs of a class: `[ \t]+`, `\s+`, `[ \t]*`, `[0-9]+` -/

theorem scanIs_plus_cls {neg : Bool} {items : List ClsItem} {p : Char → Bool} (h : clsTest neg items = p) :
    ScanIs (skipMany1 p) (plus (cls neg items)) :=
  ScanIs.of_ends (fun _ => ends_skipMany1 p) fun t i => by rw [matchEnd, run_plus_cls_some, h]

theorem scanIs_star_cls {neg : Bool} {items : List ClsItem} {p : Char → Bool} (h : clsTest neg items = p) :
    ScanIs (skipMany p) (star (cls neg items)) :=
  ScanIs.of_ends (fun _ => ends_skipMany p) fun t i => by rw [matchEnd, run_star_cls_some, h]

theorem ends_digits {t : Array Char} : Ends digits t (fun i => step t isDigit i (fun j => some (spanEnd isDigit t j))) :=
  (ends_skipMany1 isDigit).textOf

theorem scanIs_digits : ScanIs (void digits) (plus (cls false [.range '0' '9'])) :=
  ScanIs.of_ends (fun _ => ends_digits.void) fun t i => by rw [matchEnd, run_plus_cls_some, cls_digit]

/-! ## `:?=` -/

theorem scanIs_assign : ScanIs (void assign) (seqs [opt (chr ':'), chr '=']) := by
  refine ScanIs.of_ends (fun t => Ends.void (Ends.orElse
    (Ends.bind (ends_lit ':') fun _ => Ends.bind (ends_lit '=') fun _ => ends_pure true)
    (Ends.bind (ends_lit '=') fun _ => ends_pure false))) fun t i => ?_
  rw [matchEnd, run_seqs_cons, run_opt, run_chr]
  simp only [run_seqs_cons, run_seqs_nil, run_chr, step_bind, Option.bind_some]

/-! ## `[0-9]+(\.[0-9]*)?` -/

theorem ends_decimal {t : Array Char} : Ends decimal t (fun i =>
    step t isDigit i fun j => orE (step t (· == '.') (spanEnd isDigit t j) fun j' => some (spanEnd isDigit t j'))
      (some (spanEnd isDigit t j))) := by
  unfold decimal
  refine Ends.congr (Ends.bind ends_getPos fun _ => Ends.bind ends_digits fun _ => Ends.bind
    (Ends.opt (Ends.bind (ends_lit '.') fun _ => (ends_skipMany isDigit).textOf))
    (g := some) fun frac => by cases frac <;> exact ends_pure _) fun i => ?_
  simp only [Option.bind_some, step_bind, Option.bind_fun_some]

theorem scanIs_decimal :
    ScanIs (void decimal) (seqs [plus (cls false [.range '0' '9']), opt (grp 1 (seqs [chr '.', star (cls false [.range '0' '9'])]))]) := by
  refine ScanIs.of_ends (fun t => Ends.void ends_decimal) fun t i => ?_
  · -- what follows the digits, from `m`
    have hk : ∀ m, run t i (seqs [opt (grp 1 (seqs [chr '.', star (cls false [.range '0' '9'])]))]) m some
        = orE (step t (· == '.') m (fun m' => some (spanEnd isDigit t m'))) (some m) := by
      intro m
      rw [run_seqs_cons, run_opt, run_grp, run_seqs_cons, run_chr]
      simp only [run_seqs_cons, run_seqs_nil, run_star_cls_some, cls_digit]
    rw [matchEnd, run_seqs_cons, run_plus_cls, cls_digit]
    congr 1; funext j
    have hge := spanEnd_ge isDigit t j
    -- it always has an answer, so the whole run of digits is taken
    obtain ⟨a, ha⟩ : ∃ a, run t i (seqs [opt (grp 1 (seqs [chr '.', star (cls false [.range '0' '9'])]))])
        (spanEnd isDigit t j) some = some a := by
      rw [hk]; cases step t (· == '.') (spanEnd isDigit t j) (fun m' => some (spanEnd isDigit t m')) with
      | none => exact ⟨_, rfl⟩
      | some a => exact ⟨a, rfl⟩
    rw [tryDown_first _ _ _ (by rw [show j + (spanEnd isDigit t j - j) = spanEnd isDigit t j by omega]; exact ha), ← ha, hk]

/-! ## `[ \t]*[\r\n]\s*` -/

theorem scanIs_eolBreak :
    ScanIs eolBreak (seqs [star (cls false [.chr ' ', .chr '\t']), cls false [.chr '\r', .chr '\n'], star (cls false [.space])]) := by
  refine ScanIs.of_ends (fun t => Ends.bind (ends_skipMany isHsp) fun _ => Ends.bind (ends_sat isNewline) fun _ => ends_skipMany isReSpace)
    fun t i => ?_
  rw [matchEnd, run_seqs_cons, run_star_cls, cls_hsp, tryDown_span_commit]
  · rw [run_seqs_cons, run_cls, cls_newline]
    simp only [run_seqs_cons, run_seqs_nil, run_star_cls_some, cls_space, Option.bind_some, step_bind]
  · intro m c hc hp
    rw [run_seqs_cons, run_cls, cls_newline]
    exact step_of_false _ hc (isNewline_of_isHsp hp)

/-! ## `0*[1-9][0-9]*` -/

theorem digits_eq (t : Array Char) (i : Nat) (z : Bool) :
    digits t ⟨i, z⟩ = step t isDigit i (fun j => some ((t.extract i (spanEnd isDigit t j)).toList, (⟨spanEnd isDigit t j, z⟩ : PState))) := by
  simp only [digits, textOf, withText, skipMany1, skipMany, sat, bind_apply, step]
  cases t[i]? with
  | none => rfl
  | some c => cases hp : isDigit c <;> simp [hp]

theorem mem_extract {t : Array Char} {i e : Nat} {c : Char} :
    c ∈ (t.extract i e).toList ↔ ∃ m, i ≤ m ∧ m < e ∧ t[m]? = some c := by
  rw [Array.mem_toList_iff, Array.mem_iff_getElem?]
  constructor
  · rintro ⟨k, hk⟩
    rw [Array.getElem?_extract] at hk
    split at hk
    · exact ⟨i + k, by omega, by omega, hk⟩
    · cases hk
  · rintro ⟨m, h1, h2, h3⟩
    refine ⟨m - i, ?_⟩
    rw [Array.getElem?_extract]
    have := lt_size_of_getElem? h3
    rw [if_pos (by omega), show i + (m - i) = m by omega, h3]

theorem cls_nz : clsTest false [.range '1' '9'] = Brace.isNonZeroDigit := by
  funext c; simp [clsTest, ClsItem.test, Brace.isNonZeroDigit]

/-- the scanner reads the whole run of digits and then rejects the value 0; the expression reads the zeros, one non-zero
    digit and the rest of the run.  Both end at the end of the run of digits when a non-zero digit ends the zeros, and both
    fail otherwise: then the run of digits is the run of zeros -/
theorem scanIs_denominator :
    ScanIs denominator (seqs [star (chr '0'), cls false [.range '1' '9'], star (cls false [.range '0' '9'])]) := by
  intro t i z
  have hz0 := spanEnd_ge (· == '0') t i
  have hzeros : ∀ m, i ≤ m → m < spanEnd (· == '0') t i → t[m]? = some '0' := by
    intro m h1 h2
    obtain ⟨c, hc, hp⟩ := spanEnd_all h1 h2
    simp only [beq_iff_eq] at hp; rw [hc, hp]
  have hdig : spanEnd isDigit t i = spanEnd isDigit t (spanEnd (· == '0') t i) :=
    spanEnd_from_inside hz0 fun m h1 h2 => ⟨'0', hzeros m h1 h2, by decide⟩
  have hE : (seqs [star (chr '0'), cls false [.range '1' '9'], star (cls false [.range '0' '9'])]).matchEnd t i
      = step t Brace.isNonZeroDigit (spanEnd (· == '0') t i) (fun m => some (spanEnd isDigit t m)) := by
    rw [matchEnd, run_seqs_cons, run_star_chr, tryDown_span_commit]
    · rw [run_seqs_cons, run_cls, cls_nz]
      simp only [run_seqs_cons, run_seqs_nil, run_star_cls_some, cls_digit]
    · intro m c hc hp
      rw [run_seqs_cons, run_cls, cls_nz]
      cases eq_of_beq hp
      exact step_of_false _ hc (by decide)
  rw [hE]
  simp only [denominator, bind_apply, digits_eq]
  by_cases hnz : ∃ c, t[spanEnd (· == '0') t i]? = some c ∧ Brace.isNonZeroDigit c = true
  · -- a non-zero digit ends the zeros: the whole run of digits, which is not zero
    obtain ⟨c, hc, hn⟩ := hnz
    rw [step_of_some _ hc hn]
    have hi : ∃ d, t[i]? = some d ∧ isDigit d = true := by
      rcases Nat.eq_or_lt_of_le hz0 with h | h
      · exact ⟨c, by rw [h]; exact hc, Brace.isDigit_of_nonZero hn⟩
      · exact ⟨'0', hzeros i (Nat.le_refl _) h, by decide⟩
    obtain ⟨d, hd, hdd⟩ := hi
    rw [step_of_some _ hd hdd]
    have he : spanEnd isDigit t (i + 1) = spanEnd isDigit t (spanEnd (· == '0') t i + 1) := by
      rw [← spanEnd_of_head hd hdd, hdig, spanEnd_of_head hc (Brace.isDigit_of_nonZero hn)]
    have hne : natOfDigits (t.extract i (spanEnd isDigit t (i + 1))).toList ≠ 0 := by
      intro h0
      rw [natOfDigits_eq, digitsVal_eq_zero] at h0
      have := h0 c (mem_extract.2 ⟨_, hz0, by rw [he]; exact spanEnd_ge isDigit t _, hc⟩)
      simp only [Brace.isNonZeroDigit, Bool.and_eq_true, decide_eq_true_eq] at hn
      omega
    rw [he] at hne
    simp only [he, Option.map_some]
    rw [if_neg hne]; rfl
  · -- otherwise the run of digits is the run of zeros
    have hnot : ∀ c, t[spanEnd (· == '0') t i]? = some c → isDigit c = false := by
      intro c hc
      cases hd : isDigit c with
      | false => rfl
      | true =>
        refine absurd ⟨c, hc, Brace.nonZero_of_digit_ne_zero hd fun h0 => ?_⟩ hnz
        subst h0
        have := spanEnd_stop hc; simp at this
    rw [step_of_not (p := Brace.isNonZeroDigit) _ fun c hc => by
      cases h : Brace.isNonZeroDigit c with
      | false => rfl
      | true => exact absurd ⟨c, hc, h⟩ hnz]
    have he : spanEnd isDigit t i = spanEnd (· == '0') t i := by rw [hdig]; exact spanEnd_of_not hnot
    cases hi : t[i]? with
    | none => rw [step_of_none _ hi]; rfl
    | some d =>
      cases hdd : isDigit d with
      | false => rw [step_of_false _ hi hdd]; rfl
      | true =>
        rw [step_of_some _ hi hdd]
        have h0 : natOfDigits (t.extract i (spanEnd isDigit t (i + 1))).toList = 0 := by
          rw [natOfDigits_eq, digitsVal_eq_zero]
          intro x hx
          obtain ⟨m, h1, h2, h3⟩ := mem_extract.1 hx
          rw [← spanEnd_of_head hi hdd, he] at h2
          rw [hzeros m h1 h2] at h3
          cases h3; rfl
        simp only [h0, if_true, fail_apply, Option.map_none]

end Rx
end RG
