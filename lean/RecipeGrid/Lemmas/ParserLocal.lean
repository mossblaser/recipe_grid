import RecipeGrid.Lemmas.Parser
/-! Without backslashes no rule below `string` / `outputList` / `number` reads across the end of the line (`Local`):
    the only way an atom can swallow a newline character is the escape `\` + any character.  So on such a line without
    `(` a reference is not mistaken for a step, and without `=` no target is found: for the statements of
    `Props/C06.lean` and `Props/C06b.lean` whose reference has an amount. -/
namespace RG

namespace Parser

structure Barrier (t : Array Char) (lo B : Nat) : Prop where
  stop : ∀ c, t[B]? = some c → isNewline c = true
  noEsc : ∀ j, lo ≤ j → j < B → t[j]? ≠ some '\\'

theorem Barrier.lt_of_char {t : Array Char} {lo B j : Nat} (hb : Barrier t lo B) (hj : j ≤ B) {c : Char}
    (hc : t[j]? = some c) (hn : isNewline c = true → False) : j < B := by
  rcases Nat.lt_or_ge j B with h | h
  · exact h
  · have : j = B := by omega
    rw [this] at hc
    exact absurd (hb.stop c hc) hn

def Local {α} (t : Array Char) (lo B : Nat) (p : P α) : Prop :=
  ∀ s a s', lo ≤ s.pos → s.pos ≤ B → p t s = some (a, s') → s.pos ≤ s'.pos ∧ s'.pos ≤ B

section LocalLemmas
variable {t : Array Char} {lo B : Nat}

theorem local_pure {α} (a : α) : Local t lo B (pure a : P α) := by
  intro s b s' _ h2 e
  simp only [pure_apply, Option.some.injEq, Prod.mk.injEq] at e
  rw [← e.2]; exact ⟨Nat.le_refl _, h2⟩

theorem local_fail {α} : Local t lo B (fail : P α) := by intro s a s' _ _ e; cases e

theorem local_getPos : Local t lo B getPos := by
  intro s b s' _ h2 e
  simp only [getPos_apply, Option.some.injEq, Prod.mk.injEq] at e
  rw [← e.2]; exact ⟨Nat.le_refl _, h2⟩

theorem local_remaining : Local t lo B remaining := by
  intro s b s' _ h2 e
  simp only [remaining_apply, Option.some.injEq, Prod.mk.injEq] at e
  rw [← e.2]; exact ⟨Nat.le_refl _, h2⟩

theorem local_bind {α β} {m : P α} {f : α → P β} (hm : Local t lo B m) (hf : ∀ a, Local t lo B (f a)) :
    Local t lo B (m >>= f) := by
  intro s b s' h1 h2 e
  obtain ⟨a, s1, e1, e2⟩ := bind_some e
  have ⟨g1, g2⟩ := hm _ _ _ h1 h2 e1
  have ⟨g3, g4⟩ := hf a _ _ _ (by omega) g2 e2
  exact ⟨by omega, g4⟩

theorem local_orElse {α} {p q : P α} (hp : Local t lo B p) (hq : Local t lo B q) : Local t lo B (p <|> q) := by
  intro s a s' h1 h2 e
  rw [orElse_apply] at e
  cases h : p t s with
  | none => rw [h] at e; exact hq _ _ _ h1 h2 e
  | some r => rw [h] at e; simp only [Option.some.injEq] at e; subst e; exact hp _ _ _ h1 h2 h

theorem local_opt {α} {p : P α} (hp : Local t lo B p) : Local t lo B (opt p) :=
  local_orElse (local_bind hp fun _ => local_pure _) (local_pure none)

theorem local_sat (hb : Barrier t lo B) {p : Char → Bool} (hp : ∀ c, isNewline c = true → p c = false) :
    Local t lo B (sat p) := by
  intro s a s' _ h2 e
  obtain ⟨c, hc, hpc, e'⟩ := sat_some e
  simp only [Prod.mk.injEq] at e'
  rw [e'.2]
  exact ⟨Nat.le_succ _, hb.lt_of_char h2 hc fun hn => by rw [hp c hn] at hpc; cases hpc⟩

theorem local_lit (hb : Barrier t lo B) {c : Char} (hc : isNewline c = false) : Local t lo B (lit c) :=
  local_bind (local_sat hb (by
    intro d hd
    cases h : d == c with
    | false => rfl
    | true => simp only [beq_iff_eq] at h; subst h; rw [hc] at hd; cases hd)) fun _ => local_pure _

theorem spanEnd_go_le (hb : Barrier t lo B) {p : Char → Bool} (hp : ∀ c, isNewline c = true → p c = false) :
    ∀ fuel j, j ≤ B → spanEnd.go p t fuel j ≤ B := by
  intro fuel
  induction fuel with
  | zero => intro j hj; exact hj
  | succ f ih =>
    intro j hj
    simp only [spanEnd.go]
    split
    · next c hc =>
      split
      · next hpc =>
        exact ih _ (hb.lt_of_char hj hc fun hn => by rw [hp c hn] at hpc; cases hpc)
      · exact hj
    · exact hj

theorem local_skipMany (hb : Barrier t lo B) {p : Char → Bool} (hp : ∀ c, isNewline c = true → p c = false) :
    Local t lo B (skipMany p) := by
  intro s a s' _ h2 e
  simp only [skipMany, Option.some.injEq, Prod.mk.injEq] at e
  rw [← e.2]
  exact ⟨spanEnd_go_ge p t _ _, spanEnd_go_le hb hp _ _ h2⟩

theorem local_skipMany1 (hb : Barrier t lo B) {p : Char → Bool} (hp : ∀ c, isNewline c = true → p c = false) :
    Local t lo B (skipMany1 p) :=
  local_bind (local_sat hb hp) fun _ => local_skipMany hb hp

theorem local_withText {α} {p : P α} (hp : Local t lo B p) : Local t lo B (withText p) := by
  intro s r s' h1 h2 e; obtain ⟨a, h⟩ := withText_some e; exact hp _ _ _ h1 h2 h

theorem local_textOf {p : P Unit} (hp : Local t lo B p) : Local t lo B (textOf p) :=
  local_bind (local_withText hp) fun _ => local_pure _

theorem local_manyF {α} {p : P α} (hp : Local t lo B p) : ∀ fuel, Local t lo B (manyF p fuel)
  | 0 => local_pure _
  | f + 1 => local_orElse (local_bind hp fun _ => local_bind (local_manyF hp f) fun _ => local_pure _) (local_pure _)

theorem local_many {α} {p : P α} (hp : Local t lo B p) : Local t lo B (many p) :=
  local_bind local_remaining fun n => local_manyF hp n

theorem local_digits (hb : Barrier t lo B) : Local t lo B digits :=
  local_textOf (local_skipMany1 hb newline_not_digit)

theorem local_decimal (hb : Barrier t lo B) : Local t lo B decimal := by
  unfold decimal
  refine local_bind local_getPos fun off => local_bind (local_digits hb) fun whole => ?_
  refine local_bind (local_opt ?_) fun frac => ?_
  · exact local_bind (local_lit hb (by decide)) fun _ => local_textOf (local_skipMany hb newline_not_digit)
  · cases frac <;> exact local_pure _

theorem local_fraction (hb : Barrier t lo B) : Local t lo B fraction := by
  unfold fraction
  refine local_bind local_getPos fun start => ?_
  refine local_bind (local_opt ?_) fun integer => ?_
  · exact local_bind (local_digits hb) fun _ => local_bind (local_skipMany1 hb newline_not_hsp) fun _ => local_pure _
  refine local_bind local_getPos fun numerStart => local_bind (local_digits hb) fun numer => ?_
  refine local_bind (local_skipMany hb newline_not_hsp) fun _ => local_bind (local_lit hb (by decide)) fun _ => ?_
  refine local_bind (local_skipMany hb newline_not_hsp) fun _ => local_bind (local_digits hb) fun denom => ?_
  simp only
  split
  · exact local_fail
  · exact local_pure _

theorem local_number (hb : Barrier t lo B) : Local t lo B number :=
  local_orElse (local_fraction hb) (local_decimal hb)

theorem local_escaped (hb : Barrier t lo B) : Local t lo B escaped := by
  intro s a s' h1 h2 e
  obtain ⟨_, s1, e1, _⟩ := bind_some e
  have hc := (lit_some e1).1
  exact absurd hc (hb.noEsc _ h1 (hb.lt_of_char h2 hc (by decide)))

theorem local_nakedTail (hb : Barrier t lo B) : Local t lo B nakedTail := by
  intro s a s' _ h2 e
  simp only [nakedTail, Option.some.injEq, Prod.mk.injEq] at e
  rw [← e.2]
  have g1 : s.pos ≤ spanEnd isNakedInner t s.pos := spanEnd_go_ge _ _ _ _
  have g2 : spanEnd isNakedInner t s.pos ≤ B := spanEnd_go_le hb newline_not_inner _ _ h2
  have g3 := trimBack_le isNakedEdge t s.pos _ g1
  exact ⟨trimBack_ge _ _ _ _, by simp only; omega⟩

theorem local_nakedString (hb : Barrier t lo B) : Local t lo B nakedString := by
  rw [nakedString_eq]
  refine local_bind local_getPos fun off => local_bind (local_withText ?_) fun r => ?_
  · exact local_bind (local_sat hb newline_not_edge) fun _ => local_nakedTail hb
  · obtain ⟨_, text⟩ := r; exact local_pure _

theorem local_quotedString (hb : Barrier t lo B) {q : Char} (hq : isNewline q = false) :
    Local t lo B (quotedString q) := by
  unfold quotedString
  refine local_bind local_getPos fun off => local_bind (local_lit hb hq) fun _ => ?_
  refine local_bind (local_many (local_orElse (local_escaped hb) (local_sat hb ?_))) fun body => ?_
  · intro c hc; simp [hc]
  · exact local_bind (local_lit hb hq) fun _ => local_pure _

theorem local_bracketedItem (hb : Barrier t lo B) : Local t lo B bracketedItem := by
  unfold bracketedItem
  refine local_orElse ?_ (local_orElse ?_ ?_)
  · exact local_bind (local_number hb) fun r => by obtain ⟨off, n⟩ := r; exact local_pure _
  · exact local_bind local_getPos fun off => local_bind (local_escaped hb) fun _ => local_pure _
  · exact local_bind local_getPos fun off => local_bind (local_sat hb (by intro c hc; simp [hc])) fun _ => local_pure _

theorem local_bracketedString (hb : Barrier t lo B) : Local t lo B bracketedString := by
  unfold bracketedString
  refine local_bind local_getPos fun off => local_bind (local_lit hb (by decide)) fun _ => ?_
  refine local_bind (local_many (local_bracketedItem hb)) fun body => ?_
  exact local_bind (local_lit hb (by decide)) fun _ => local_pure _

theorem local_atom (hb : Barrier t lo B) (static : Bool) : Local t lo B (atom static) := by
  unfold atom
  refine local_orElse (local_nakedString hb) (local_orElse (local_quotedString hb (by decide))
    (local_orElse (local_quotedString hb (by decide)) ?_))
  cases static
  · exact local_bracketedString hb
  · exact local_fail

theorem local_stringF (hb : Barrier t lo B) (static : Bool) : ∀ fuel, Local t lo B (stringF static fuel)
  | 0 => local_fail
  | f + 1 => by
    rw [stringF_succ]
    refine local_bind (local_atom hb static) fun first => local_bind (local_opt ?_) fun _ => local_pure _
    exact local_bind local_getPos fun _ => local_bind (local_textOf (local_skipMany hb newline_not_hsp)) fun _ =>
      local_bind (local_stringF hb static f) fun _ => local_pure _

theorem local_string (hb : Barrier t lo B) (static : Bool) : Local t lo B (string static) :=
  local_bind local_remaining fun _ => local_stringF hb static _

theorem local_commaString (hb : Barrier t lo B) : Local t lo B commaString :=
  local_bind (local_skipMany hb newline_not_hsp) fun _ => local_bind (local_lit hb (by decide)) fun _ =>
    local_bind (local_skipMany hb newline_not_hsp) fun _ => local_string hb false

theorem local_outputList (hb : Barrier t lo B) : Local t lo B outputList := by
  rw [outputList_eq]
  exact local_bind (local_string hb false) fun _ => local_bind (local_many (local_commaString hb)) fun _ =>
    local_pure _

theorem step_some_lparen_local (hb : Barrier t lo B) {e : P AExpr} {s : PState} {r}
    (h1 : lo ≤ s.pos) (h2 : s.pos ≤ B) (h : step e t s = some r) :
    ∃ j, s.pos ≤ j ∧ j ≤ B ∧ t[j]? = some '(' := by
  obtain ⟨v, s'⟩ := r
  rw [step_eq] at h
  obtain ⟨name, s1, e1, h⟩ := bind_some h
  obtain ⟨_, s2, e2, h⟩ := bind_some h
  obtain ⟨_, s3, e3, _⟩ := bind_some h
  have ⟨g1, g2⟩ := local_string hb false _ _ _ h1 h2 e1
  have ⟨g3, g4⟩ := local_skipMany hb newline_not_hsp _ _ _ (by omega) g2 e2
  exact ⟨s2.pos, by omega, g4, (lit_some e3).1⟩

theorem targetP_some_eq_local (hb : Barrier t lo B) {s : PState} {r}
    (h1 : lo ≤ s.pos) (h2 : s.pos ≤ B) (h : targetP t s = some r) :
    ∃ j, s.pos ≤ j ∧ j ≤ B ∧ t[j]? = some '=' := by
  obtain ⟨v, s'⟩ := r
  obtain ⟨outs, s1, e1, h⟩ := bind_some h
  obtain ⟨_, s2, e2, h⟩ := bind_some h
  obtain ⟨_, s3, e3, _⟩ := bind_some h
  have ⟨g1, g2⟩ := local_outputList hb _ _ _ h1 h2 e1
  have ⟨g3, g4⟩ := local_skipMany hb newline_not_hsp _ _ _ (by omega) g2 e2
  rcases assign_some e3 with hc | ⟨hc, hc'⟩
  · exact ⟨s2.pos, by omega, g4, hc⟩
  · exact ⟨s2.pos + 1, by omega, hb.lt_of_char g4 hc (by decide), hc'⟩

end LocalLemmas

theorem barrier_of_line {t : Array Char} {i : Nat} {line tail : Str} (h : t.toList.drop i = line ++ tail)
    (hline : ∀ c ∈ line, c ≠ '\\') (htail : ∀ c, tail.head? = some c → isNewline c = true) :
    Barrier t i (i + line.length) := by
  constructor
  · intro c hc
    rw [getElem?_eq_head?_of_drop (drop_add_of_drop h)] at hc
    exact htail c hc
  · intro j h1 h2 hc
    have := getElem?_of_drop h (j - i)
    rw [show i + (j - i) = j by omega, hc, List.getElem?_append_left (by omega)] at this
    exact hline _ (List.mem_of_getElem? this.symm) rfl

theorem line_char {t : Array Char} {i j : Nat} {line tail : Str} {c : Char} (h : t.toList.drop i = line ++ tail)
    (htail : ∀ c, tail.head? = some c → isNewline c = true) (h1 : i ≤ j) (h2 : j ≤ i + line.length)
    (hc : t[j]? = some c) : c ∈ line ∨ isNewline c = true := by
  rcases Nat.lt_or_ge j (i + line.length) with hlt | hge
  · left
    have := getElem?_of_drop h (j - i)
    rw [show i + (j - i) = j by omega, hc, List.getElem?_append_left (by omega)] at this
    exact List.mem_of_getElem? this.symm
  · right
    have e : j = i + line.length := by omega
    rw [e, getElem?_eq_head?_of_drop (drop_add_of_drop h)] at hc
    exact htail c hc

/-- **on a line without `(` and without backslash, `expr` is `reference`** (whatever comes on the
    later lines) -/
theorem expr_eq_reference_of_line {fuel : Nat} {t : Array Char} {i : Nat} {z : Bool} {line tail : Str}
    (h : t.toList.drop i = line ++ tail) (hline : ∀ c ∈ line, c ≠ '(' ∧ c ≠ '\\')
    (htail : ∀ c, tail.head? = some c → isNewline c = true) :
    expr (fuel + 1) t ⟨i, z⟩ = reference t ⟨i, z⟩ := by
  have hb := barrier_of_line h (fun c hc => (hline c hc).2) htail
  have key : ∀ j, i ≤ j → j ≤ i + line.length → t[j]? ≠ some '(' := by
    intro j h1 h2 hc
    rcases line_char h htail h1 h2 hc with hm | hn
    · exact (hline _ hm).1 rfl
    · exact absurd hn (by decide)
  apply expr_eq_reference_of_step_none _ (key i (Nat.le_refl _) (Nat.le_add_right _ _))
  cases hs : step (expr fuel) t ⟨i, z⟩ with
  | none => rfl
  | some r =>
    obtain ⟨j, h1, h2, hc⟩ := step_some_lparen_local hb (Nat.le_refl _) (Nat.le_add_right _ _) hs
    exact absurd hc (key j h1 h2)

theorem exprAt_reference_of_line {txt rest line tail : Str} {val : Nat → AExpr} (hr : ReferenceAt txt rest val)
    (e : txt ++ rest = line ++ tail) (hline : ∀ c ∈ line, c ≠ '(' ∧ c ≠ '\\')
    (htail : ∀ c, tail.head? = some c → isNewline c = true) : ExprAt 1 txt rest val := by
  intro t i z fuel ht hf
  cases fuel with
  | zero => omega
  | succ f =>
    rw [expr_eq_reference_of_line (by rw [← e]; exact ht) hline htail]
    exact hr t i z ht

/-- **on a line without `=` and without backslash no target is recognised** -/
theorem noTargetAt_of_line {line tail : Str} (hline : ∀ c ∈ line, c ≠ '=' ∧ c ≠ '\\')
    (htail : ∀ c, tail.head? = some c → isNewline c = true) : NoTargetAt (line ++ tail) := by
  intro t i z h
  have hb := barrier_of_line h (fun c hc => (hline c hc).2) htail
  cases ht : targetP t ⟨i, z⟩ with
  | none => rfl
  | some r =>
    obtain ⟨j, h1, h2, hc⟩ := targetP_some_eq_local hb (Nat.le_refl _) (Nat.le_add_right _ _) ht
    rcases line_char h htail h1 h2 hc with hm | hn
    · exact absurd rfl (hline _ hm).1
    · exact absurd hn (by decide)

end Parser
end RG
