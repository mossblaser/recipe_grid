import RecipeGrid.Model.Compiler
import RecipeGrid.Lemmas.Recipe
/-! Lemmas about the elaboration part of `Model/Compiler.lean` (`compileExpr`, `registerOutputs`, `compileStmt(s)`,
    `compileBlocks`): equations (`compileStmt_eq` with `nameStmt`, `compileBlocks_cons` with `liftErr`), what a bind in
    `Except` that succeeds or fails looks like (`bind_eq_ok`, `bind_eq_error`: the walks that establish one fact of one
    run use these; the relational walks have calculi of their own, `C01.Sim`, `ExRel`, `EPost`), `list.remove` of the
    inlining pass (`removeFirst_split`, `removeFirst_append`, `removeFirst_isSome`), and decidable equality of trees and
    results.  The by-name meaning and the refinement theorems live in `Props/C01.lean`. -/
namespace RG

theorem Svs.beq_symm (a b : SVS) : (a == b) = (b == a) :=
  Bool.eq_iff_iff.mpr (by rw [Svs.beq_iff_key, Svs.beq_iff_key]; exact eq_comm)

theorem Svs.names_beq_symm (a b : List SVS) : (a == b) = (b == a) :=
  Bool.eq_iff_iff.mpr (by
    rw [List.beq_iff_map_eq (fun s : SVS => s.map Part.key) Svs.beq_iff_key,
      List.beq_iff_map_eq (fun s : SVS => s.map Part.key) Svs.beq_iff_key]
    exact eq_comm)

theorem Svs.beq_trans {a b c : SVS} (h1 : (a == b) = true) (h2 : (b == c) = true) : (a == c) = true := by
  rw [Svs.beq_iff_key] at *
  exact h1.trans h2

/-- `normalise_output_name` looks at the text parts only -/
theorem normaliseName_map {g : Part → Part} (hg : Svs.ShapeKeeping g) (s : SVS) :
    normaliseName (s.map g) = (normaliseName s).map g := by
  rw [normaliseName, Svs.strip_map hg, Svs.lower_map hg, normaliseName]

/-- how `compileBlocks` reports a statement error of block `i` -/
def liftErr (i : Nat) : StmtErr → CompileResult
  | .redefined off => .redefined i off
  | .proportion off => .proportion i off
  | .internal why => .internal why

theorem compileBlocks_cons (i : Nat) (st : CState) (b : List AStmt) (bs : List (List AStmt)) :
    compileBlocks i st (b :: bs) =
      match compileStmts i st b with
      | .error e => .error (liftErr i e)
      | .ok (trees, st1) =>
        match compileBlocks (i + 1) st1 bs with
        | .error e => .error e
        | .ok (rest, st2) => .ok (trees :: rest, st2) := by
  rw [compileBlocks]
  cases h : compileStmts i st b with
  | error e => cases e <;> rfl
  | ok p =>
    obtain ⟨trees, st1⟩ := p
    simp only []
    cases h2 : compileBlocks (i + 1) st1 bs with
    | error e => rfl
    | ok q => rfl

theorem find?_of_map_eq {α β γ : Type} (f : α → γ) (g : β → γ) (q : γ → Bool) (l1 : List α) (l2 : List β)
    (h : l1.map f = l2.map g) :
    (l1.find? (fun a => q (f a))).map f = (l2.find? (fun b => q (g b))).map g := by
  have h1 := List.find?_map (p := q) (f := f) (l := l1)
  have h2 := List.find?_map (p := q) (f := g) (l := l2)
  rw [h] at h1
  rw [h2] at h1
  exact h1.symm

theorem CState.find?_isSome (st : CState) (key : SVS) :
    (st.find? key).isSome = st.outputs.any (fun o => o.key == key) := by
  unfold CState.find?
  induction st.outputs with
  | nil => rfl
  | cons o os ih =>
    simp only [List.find?_cons, List.any_cons]
    cases o.key == key <;> simp [ih]

theorem registerOutputs_fresh (block : Nat) (sub : Tree) (unwrap : Bool) (asts : Option (List AString))
    (st : CState) (i : Nat) (n : SVS) (ns : List SVS) (h : (st.find? (normaliseName n)).isSome = false) :
    registerOutputs block sub unwrap asts st i (n :: ns) =
      registerOutputs block sub unwrap asts
        { st with outputs := st.outputs ++ [{ key := normaliseName n, name := n, defBlock := block, sub := sub, idx := i,
                                              refs := [], unwrap := unwrap }] } (i + 1) ns := by
  simp [registerOutputs, h]

theorem registerOutputs_dup (block : Nat) (sub : Tree) (unwrap : Bool) (l : List AString) (a : AString)
    (st : CState) (i : Nat) (n : SVS) (ns : List SVS) (h : (st.find? (normaliseName n)).isSome = true)
    (ha : l[i]? = some a) :
    registerOutputs block sub unwrap (some l) st i (n :: ns) = .error (.redefined a.offset) := by
  simp [registerOutputs, h, ha]

theorem Except.ok_bind {ε α β : Type} (a : α) (f : α → Except ε β) : (Except.ok a >>= f) = f a := rfl
theorem Except.error_bind {ε α β : Type} (e : ε) (f : α → Except ε β) : (Except.error e >>= f) = .error e := rfl

theorem bind_eq_ok {ε α β : Type} {x : Except ε α} {f : α → Except ε β} {b : β} (h : (x >>= f) = .ok b) :
    ∃ a, x = .ok a ∧ f a = .ok b := by
  cases x with
  | error e => cases h
  | ok a => exact ⟨a, rfl, h⟩

theorem bind_eq_error {ε α β : Type} {m : Except ε α} {f : α → Except ε β} {e : ε}
    (h : (m >>= f) = .error e) : m = .error e ∨ ∃ a, m = .ok a ∧ f a = .error e := by
  cases m with
  | error e' =>
    cases h
    exact Or.inl rfl
  | ok a => exact Or.inr ⟨a, rfl, h⟩

def nameStmt (block : Nat) (s : AStmt) (tree : Tree) (st1 : CState) : Except StmtErr (Tree × CState) :=
  match s.outputs with
  | some (o :: os) =>
    (registerOutputs block (.sub tree ((o :: os).map compileString) true) (!s.named) s.outputs st1 0
        ((o :: os).map compileString)) >>= fun st2 => .ok (.sub tree ((o :: os).map compileString) true, st2)
  | _ =>
    match inferOutputName tree with
    | some n =>
      (registerOutputs block (.sub tree [n] false) (!s.named) s.outputs st1 0 [n]) >>= fun st2 =>
        .ok (.sub tree [n] false, st2)
    | none => .ok (tree, st1)

/-- the names a statement defines and whether they are shown: those written, else the one inferred from the tree -/
def stmtNames (s : AStmt) (tree : Tree) : Option (List SVS × Bool) :=
  match s.outputs with
  | some (o :: os) => some ((o :: os).map compileString, true)
  | _ => (inferOutputName tree).map fun n => ([n], false)

theorem nameStmt_eq (block : Nat) (s : AStmt) (tree : Tree) (st1 : CState) :
    nameStmt block s tree st1 =
      match stmtNames s tree with
      | none => .ok (tree, st1)
      | some (names, shown) =>
        registerOutputs block (.sub tree names shown) (!s.named) s.outputs st1 0 names >>= fun st2 =>
          .ok (.sub tree names shown, st2) := by
  unfold nameStmt stmtNames
  cases s.outputs with
  | none => cases inferOutputName tree <;> rfl
  | some l =>
    cases l with
    | nil => cases inferOutputName tree <;> rfl
    | cons o os => rfl

theorem compileStmt_eq (block : Nat) (st : CState) (s : AStmt) :
    compileStmt block st s = (compileExpr block st s.expr >>= fun p => nameStmt block s p.1 p.2) := by
  unfold compileStmt nameStmt
  cases compileExpr block st s.expr with
  | error e => rfl
  | ok p =>
    obtain ⟨tree, st1⟩ := p
    simp only [Except.ok_bind]
    cases s.outputs with
    | none =>
      simp only []
      cases inferOutputName tree <;> rfl
    | some l =>
      cases l with
      | nil =>
        simp only []
        cases inferOutputName tree <;> rfl
      | cons o os => rfl

mutual
theorem compileExpr_unwrap (block : Nat) : ∀ (e : AExpr) (st : CState) (t : Tree) (st' : CState),
    compileExpr block st e = .ok (t, st') → st'.outputs.map (·.unwrap) = st.outputs.map (·.unwrap)
  | .step name inputs, st, t, st', h => by
    rw [compileExpr] at h
    obtain ⟨p, hs, h⟩ := bind_eq_ok h
    cases h
    exact compileExprs_unwrap block inputs st _ _ hs
  | .ref name amount, st, t, st', h => by
    simp only [compileExpr] at h
    split at h
    · cases h
      rw [List.map_map]
      apply List.map_congr_left
      intro o _
      simp only [Function.comp_def]
      split <;> rfl
    · split at h
      · cases h
      · cases h
        rfl
      · cases h
        rfl
theorem compileExprs_unwrap (block : Nat) : ∀ (es : List AExpr) (st : CState) (ts : List Tree) (st' : CState),
    compileExprs block st es = .ok (ts, st') → st'.outputs.map (·.unwrap) = st.outputs.map (·.unwrap)
  | [], st, ts, st', h => by rw [compileExprs] at h; cases h; rfl
  | e :: es, st, ts, st', h => by
    rw [compileExprs] at h
    obtain ⟨p, h1, h⟩ := bind_eq_ok h
    obtain ⟨q, h2, h⟩ := bind_eq_ok h
    cases h
    rw [compileExprs_unwrap block es p.2 q.1 _ h2, compileExpr_unwrap block e st p.1 p.2 h1]
end

theorem registerOutputs_unwrap {block : Nat} {sub : Tree} {unwrap : Bool} {asts : Option (List AString)}
    {names : List SVS} {st : CState} {i : Nat} {st' : CState}
    (h : registerOutputs block sub unwrap asts st i names = .ok st') :
    st'.outputs.map (·.unwrap) = st.outputs.map (·.unwrap) ++ List.replicate names.length unwrap := by
  induction names generalizing st i with
  | nil =>
    rw [registerOutputs] at h
    cases h
    exact (List.append_nil _).symm
  | cons n ns ih =>
    simp only [registerOutputs] at h
    split at h
    · split at h
      · split at h <;> cases h
      · cases h
    · rw [ih h, List.map_append, List.append_assoc]
      rfl

theorem removeFirst_split (x : Tree) : ∀ (ts ts' : List Tree), removeFirst x ts = some ts' →
    ∃ t1 a t2, ts = t1 ++ a :: t2 ∧ ts' = t1 ++ t2 ∧ Tree.beq a x = true
  | [], _, h => by simp [removeFirst] at h
  | t :: ts, ts', h => by
    simp only [removeFirst] at h
    split at h
    · rename_i hb
      cases h
      exact ⟨[], t, ts, rfl, rfl, hb⟩
    · cases hr : removeFirst x ts with
      | none => simp [hr] at h
      | some r =>
        simp only [hr, Option.map_some, Option.some.injEq] at h
        subst h
        obtain ⟨t1, a, t2, e1, e2, hb⟩ := removeFirst_split x ts r hr
        exact ⟨t :: t1, a, t2, by simp [e1], by simp [e2], hb⟩

theorem removeFirst_append {x a : Tree} {t1 : List Tree} (t2 : List Tree) (h1 : ∀ y ∈ t1, Tree.beq y x = false)
    (ha : Tree.beq a x = true) : removeFirst x (t1 ++ a :: t2) = some (t1 ++ t2) := by
  induction t1 with
  | nil => rw [List.nil_append, removeFirst, if_pos ha, List.nil_append]
  | cons y t1 ih =>
    rw [List.cons_append, removeFirst, if_neg (by rw [h1 y List.mem_cons_self]; exact Bool.false_ne_true),
      ih fun z hz => h1 z (List.mem_cons_of_mem _ hz)]
    rfl

theorem removeFirst_isSome (x : Tree) : ∀ (ts : List Tree), (∃ y ∈ ts, Tree.beq y x = true) →
    ∃ ts', removeFirst x ts = some ts'
  | [], h => by simp at h
  | t :: ts, h => by
    simp only [removeFirst]
    split
    · exact ⟨ts, rfl⟩
    · rename_i hb
      obtain ⟨y, hy, hyb⟩ := h
      simp only [List.mem_cons] at hy
      rcases hy with rfl | hy
      · exact absurd hyb hb
      · obtain ⟨r, hr⟩ := removeFirst_isSome x ts ⟨y, hy, hyb⟩
        exact ⟨t :: r, by simp [hr]⟩

/- decidable equality of trees and of results of `compile`: the evaluated `example`s of the property files compare
   whole results by `decide` -/
deriving instance DecidableEq for Num
deriving instance DecidableEq for Part
deriving instance DecidableEq for Quantity
deriving instance DecidableEq for Amount

mutual
/-- structural equality of trees (unlike `Tree.beq`, numbers are compared with their kind) -/
def Tree.eqb : Tree → Tree → Bool
  | .ingredient d q, .ingredient d' q' => decide (d = d') && decide (q = q')
  | .step d i, .step d' i' => decide (d = d') && Tree.eqbList i i'
  | .reference s n a, .reference s' n' a' => Tree.eqb s s' && decide (n = n') && decide (a = a')
  | .sub b ns sh, .sub b' ns' sh' => Tree.eqb b b' && decide (ns = ns') && decide (sh = sh')
  | _, _ => false
def Tree.eqbList : List Tree → List Tree → Bool
  | [], [] => true
  | a :: as, b :: bs => Tree.eqb a b && Tree.eqbList as bs
  | _, _ => false
end

mutual
theorem Tree.eqb_sound : ∀ a b : Tree, Tree.eqb a b = true → a = b
  | .ingredient d q, .ingredient d' q', h => by
    simp only [Tree.eqb, Bool.and_eq_true, decide_eq_true_eq] at h
    rw [h.1, h.2]
  | .step d i, .step d' i', h => by
    simp only [Tree.eqb, Bool.and_eq_true, decide_eq_true_eq] at h
    rw [h.1, Tree.eqbList_sound i i' h.2]
  | .reference s n a, .reference s' n' a', h => by
    simp only [Tree.eqb, Bool.and_eq_true, decide_eq_true_eq] at h
    rw [Tree.eqb_sound s s' h.1.1, h.1.2, h.2]
  | .sub b ns sh, .sub b' ns' sh', h => by
    simp only [Tree.eqb, Bool.and_eq_true, decide_eq_true_eq] at h
    rw [Tree.eqb_sound b b' h.1.1, h.1.2, h.2]
  | .ingredient .., .step .., h | .ingredient .., .reference .., h | .ingredient .., .sub .., h
  | .step .., .ingredient .., h | .step .., .reference .., h | .step .., .sub .., h
  | .reference .., .ingredient .., h | .reference .., .step .., h | .reference .., .sub .., h
  | .sub .., .ingredient .., h | .sub .., .step .., h | .sub .., .reference .., h => by simp [Tree.eqb] at h
theorem Tree.eqbList_sound : ∀ a b : List Tree, Tree.eqbList a b = true → a = b
  | [], [], _ => rfl
  | [], _ :: _, h | _ :: _, [], h => by simp [Tree.eqbList] at h
  | a :: as, b :: bs, h => by
    simp [Tree.eqbList] at h
    rw [Tree.eqb_sound a b h.1, Tree.eqbList_sound as bs h.2]
end

mutual
theorem Tree.eqb_refl : ∀ a : Tree, Tree.eqb a a = true
  | .ingredient .. => by simp [Tree.eqb]
  | .step d i => by simp [Tree.eqb, Tree.eqbList_refl i]
  | .reference s n a => by simp [Tree.eqb, Tree.eqb_refl s]
  | .sub b ns sh => by simp [Tree.eqb, Tree.eqb_refl b]
theorem Tree.eqbList_refl : ∀ a : List Tree, Tree.eqbList a a = true
  | [] => rfl
  | a :: as => by simp [Tree.eqbList, Tree.eqb_refl a, Tree.eqbList_refl as]
end

instance : DecidableEq Tree := fun a b =>
  if h : Tree.eqb a b = true then isTrue (Tree.eqb_sound a b h)
  else isFalse (fun e => h (e ▸ Tree.eqb_refl a))

deriving instance DecidableEq for CompileResult

instance {ε α : Type} [DecidableEq ε] [DecidableEq α] : DecidableEq (Except ε α)
  | .ok a, .ok b => if h : a = b then isTrue (by rw [h]) else isFalse (fun e => by cases e; exact h rfl)
  | .error a, .error b => if h : a = b then isTrue (by rw [h]) else isFalse (fun e => by cases e; exact h rfl)
  | .ok _, .error _ => isFalse (fun e => by cases e)
  | .error _, .ok _ => isFalse (fun e => by cases e)

end RG
