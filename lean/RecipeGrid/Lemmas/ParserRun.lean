import RecipeGrid.Lemmas.ParserBasic
import RecipeGrid.Props.C06Spec
/-! A calculus for "rule `p` reads the text `xs` in front of `rest`".

    A proof that a rule of the grammar recovers a printed text is the rule read from left to right.  The goal
    `Run (p >>= f) t i z (xs ++ rest) r` says: in a text that continues with `xs ++ rest` at offset `i`, the
    rule `p` followed by `f` gives `r`.  What is known of `p` (`Reads p xs rest a`) turns it into
    `Run (f (a i)) t (i + xs.length) z rest r`: the text is consumed from the goal, the offset grows by what
    was read, and the value is only looked at once, by `Run.pure` at the end of the rule.  So there is one step
    per item of the rule (`Run.bind`, `Run.lit`, `Run.optSome`, `Run.altLeft` …), and the text of the goal is kept
    as a right-nested append (`simp only [List.append_assoc, List.cons_append]` at the start of a proof). -/
namespace RG.Parser

variable {α β : Type}

def Run (p : P α) (t : Array Char) (i : Nat) (z : Bool) (s : Str) (r : Option (α × PState)) : Prop :=
  t.toList.drop i = s → p t ⟨i, z⟩ = r

def Reads (p : P α) (xs rest : Str) (a : Nat → α) : Prop :=
  ∀ (t : Array Char) (i : Nat) (z : Bool), Run p t i z (xs ++ rest) (some (a i, ⟨i + xs.length, z⟩))

def Fails (p : P α) (s : Str) : Prop :=
  ∀ (t : Array Char) (i : Nat) (z : Bool), Run p t i z s none

theorem pure_bind (a : α) (f : α → P β) : (pure a >>= f) = f a := rfl

theorem bind_assoc {γ : Type} (m : P α) (g : α → P β) (f : β → P γ) :
    (m >>= g) >>= f = m >>= fun a => g a >>= f := by
  funext t s
  simp only [bind_apply]
  cases m t s <;> rfl

/-- a rule either fails or gives one result, so what stands in front of a choice may be read in front of each alternative -/
theorem bind_orElse (m : P α) (f g : α → P β) : (m >>= fun a => f a <|> g a) = ((m >>= f) <|> (m >>= g)) := by
  funext t s
  simp only [bind_apply, orElse_apply]
  rcases m t s with _ | ⟨a, s'⟩ <;> rfl

namespace Run
variable {p q : P α} {f : α → P β} {t : Array Char} {i : Nat} {z : Bool} {s xs rest : Str}
  {r : Option (β × PState)} {a : Nat → α}

theorem bind (h : Reads p xs rest a) (k : Run (f (a i)) t (i + xs.length) z rest r) :
    Run (p >>= f) t i z (xs ++ rest) r := fun ht => by
  rw [bind_apply, h t i z ht]
  exact k (drop_add_of_drop ht)

theorem bindEq (h : Reads p xs rest a) (e : s = xs ++ rest) (k : Run (f (a i)) t (i + xs.length) z rest r) :
    Run (p >>= f) t i z s r := e ▸ bind h k

theorem sat {c : Char → Bool} {x : Char} {f : Char → P β} (hx : c x = true) (k : Run (f x) t (i + 1) z rest r) :
    Run (sat c >>= f) t i z (x :: rest) r := fun ht => by
  rw [bind_apply, sat_of_head z ht hx]
  exact k (drop_succ_of_drop_cons ht)

theorem lit {c : Char} {f : Unit → P β} (k : Run (f ()) t (i + 1) z rest r) :
    Run (lit c >>= f) t i z (c :: rest) r := fun ht => by
  rw [bind_apply, lit_of_head z ht]
  exact k (drop_succ_of_drop_cons ht)

theorem getPos {f : Nat → P β} (k : Run (f i) t i z s r) : Run (getPos >>= f) t i z s r := k

theorem remaining {f : Nat → P β} (k : Run (f s.length) t i z s r) : Run (remaining >>= f) t i z s r :=
  fun ht => by
    rw [bind_apply, remaining_apply, size_of_drop ht]
    exact k ht

theorem eof {f : Unit → P β} (k : Run (f ()) t i z [] r) : Run (eof >>= f) t i z [] r := fun ht => by
  rw [bind_apply, eof_of_nil z ht]
  exact k ht

theorem pure {v v' : α} {j : Nat} (hv : v = v') (hj : i = j) :
    Run (Pure.pure v : P α) t i z s (some (v', ⟨j, z⟩)) := fun _ => by
  subst hv hj
  rfl

theorem ret {r : Option (α × PState)} (k : Run (p >>= Pure.pure) t i z s r) : Run p t i z s r := fun ht => by
  have := k ht
  rw [bind_apply] at this
  cases hp : p t ⟨i, z⟩ <;> rw [hp] at this <;> exact this

theorem fail (h : Fails p s) : Run (p >>= f) t i z s none := fun ht => by
  rw [bind_apply, h t i z ht]

/-- a successful result is claimed, so the optional part cannot have failed -/
theorem optSome {f : Option α → P β} {r : β × PState}
    (k : Run (p >>= fun x => f (some x)) t i z s (some r)) : Run (opt p >>= f) t i z s (some r) :=
  fun ht => by
    have := k ht
    simp only [bind_apply] at this ⊢
    cases hp : p t ⟨i, z⟩ with
    | none => rw [hp] at this; cases this
    | some v => rw [hp] at this; rw [opt_of_some (a := v.1) (s' := v.2) hp]; exact this

theorem optNone {f : Option α → P β} (h : Fails p s) (k : Run (f none) t i z s r) :
    Run (opt p >>= f) t i z s r := fun ht => by
  rw [bind_apply, opt_of_none (h t i z ht)]
  exact k ht

theorem altLeft {r : α × PState} (k : Run p t i z s (some r)) : Run (p <|> q) t i z s (some r) :=
  fun ht => orElse_of_some (k ht)

theorem altRight {r : Option (α × PState)} (h : Fails p s) (k : Run q t i z s r) : Run (p <|> q) t i z s r :=
  fun ht => (orElse_of_none (h t i z ht)).trans (k ht)

end Run

namespace Reads
variable {p : P α} {xs rest : Str} {a : Nat → α}

theorem withText (h : Reads p xs rest a) : Reads (withText p) xs rest fun i => (a i, xs) :=
  fun t i z ht => withText_of z ht (h t i z ht)

theorem textOf {p : P Unit} {u : Nat → Unit} (h : Reads p xs rest u) : Reads (textOf p) xs rest fun _ => xs :=
  fun t i z ht => textOf_of z ht (h t i z ht)

theorem opt (h : Reads p xs rest a) : Reads (opt p) xs rest fun i => some (a i) :=
  fun t i z ht => opt_of_some (h t i z ht)

theorem optNone (h : Fails p rest) : Reads (Parser.opt p) [] rest fun _ => none :=
  fun t i z ht => opt_of_none (h t i z ht)

theorem orElse {q : P α} (h : Reads p xs rest a) : Reads (p <|> q) xs rest a :=
  fun t i z ht => orElse_of_some (h t i z ht)

theorem orElse_right {q : P α} (hp : Fails p (xs ++ rest)) (h : Reads q xs rest a) : Reads (p <|> q) xs rest a :=
  fun t i z ht => (orElse_of_none (hp t i z ht)).trans (h t i z ht)

theorem after_prefix (h : Reads p xs rest a) (pre : Str) (z : Bool) :
    p (pre ++ xs ++ rest).toArray ⟨pre.length, z⟩ = some (a pre.length, ⟨(pre ++ xs).length, z⟩) :=
  run_after_prefix pre z fun ht => h _ _ z ht

theorem head {Q : Char → Prop} (h : Reads p xs rest a)
    (hfail : ∀ s : Str, (∀ c, s.head? = some c → Q c) → Fails p s) :
    ∃ c, (xs ++ rest).head? = some c ∧ ¬ Q c :=
  head_of_some (fun hq => hfail _ hq _ 0 false (by simp)) (h _ 0 false (by simp))

end Reads

inductive ReadsMany (p : P α) (rest : Str) : Str → (Nat → List α) → Prop
  | nil : Fails p rest → ReadsMany p rest [] fun _ => []
  | cons {xs ys : Str} {a : Nat → α} {as : Nat → List α} : xs ≠ [] → Reads p xs (ys ++ rest) a →
      ReadsMany p rest ys as → ReadsMany p rest (xs ++ ys) fun i => a i :: as (i + xs.length)

theorem ReadsMany.chain {p : P α} {rest xs : Str} {as : Nat → List α} (h : ReadsMany p rest xs as)
    {t : Array Char} {z : Bool} : ∀ {i : Nat}, t.toList.drop i = xs ++ rest →
      Chain p t z i (as i) (i + xs.length) ∧ p t ⟨i + xs.length, z⟩ = none := by
  induction h with
  | nil hf => exact fun ht => ⟨.nil _, hf t _ z ht⟩
  | @cons xs ys a as hne hx _ ih =>
    intro i ht
    rw [List.append_assoc] at ht
    have := ih (drop_add_of_drop ht)
    have hpos := List.length_pos_iff.mpr hne
    rw [List.length_append, ← Nat.add_assoc]
    exact ⟨.cons (hx t i z ht) (by omega) this.1, this.2⟩

theorem ReadsMany.cons_end {p : P α} {xs ys : Str} {a : Nat → α} {as : Nat → List α} (hne : xs ≠ [])
    (h : Reads p xs ys a) (hm : ReadsMany p [] ys as) :
    ReadsMany p [] (xs ++ ys) fun i => a i :: as (i + xs.length) :=
  .cons hne (by rwa [List.append_nil]) hm

/-- every item consumes a character, so the fuel of `many` (the number of characters left) suffices -/
theorem ReadsMany.reads {p : P α} {rest xs : Str} {as : Nat → List α} (h : ReadsMany p rest xs as) :
    Reads (many p) xs rest as := fun t i z ht => by
  have := h.chain (z := z) ht
  refine many_of_chain this.1 ?_ this.2
  cases xs with
  | nil => exact .inl rfl
  | cons x xs => exact .inr (le_size_of_drop_append ht (by simp))

open C06 (NextNot IsDigits IsBlanks IsSpaces)

theorem reads_skipMany {c : Char → Bool} {xs rest : Str} (hx : ∀ x ∈ xs, c x = true) (hr : NextNot c rest) :
    Reads (skipMany c) xs rest fun _ => () := fun _ _ z ht => skipMany_run z ht hx hr

theorem reads_skipMany1 {c : Char → Bool} {xs rest : Str} (hne : xs ≠ []) (hx : ∀ x ∈ xs, c x = true)
    (hr : NextNot c rest) : Reads (skipMany1 c) xs rest fun _ => () :=
  fun _ _ z ht => skipMany1_run z ht hne hx hr

theorem reads_hsp {bl rest : Str} (hne : bl ≠ []) (h : IsBlanks bl) (hr : NextNot isHsp rest) :
    Reads hsp bl rest fun _ => () := reads_skipMany1 hne h hr

theorem reads_ohsp {bl rest : Str} (h : IsBlanks bl) (hr : NextNot isHsp rest) : Reads ohsp bl rest fun _ => () :=
  reads_skipMany h hr

theorem reads_sp {ws rest : Str} (hne : ws ≠ []) (h : IsSpaces ws) (hr : NextNot isReSpace rest) :
    Reads sp ws rest fun _ => () := reads_skipMany1 hne h hr

theorem reads_osp {ws rest : Str} (h : IsSpaces ws) (hr : NextNot isReSpace rest) : Reads osp ws rest fun _ => () :=
  reads_skipMany h hr

theorem reads_digits {ds rest : Str} (h : IsDigits ds) (hr : NextNot isDigit rest) : Reads digits ds rest fun _ => ds :=
  (reads_skipMany1 h.1 h.2 hr).textOf

theorem reads_ohsp_span (s : Str) : Reads ohsp (s.takeWhile isHsp) (s.dropWhile isHsp) fun _ => () :=
  reads_ohsp (fun _ hx => mem_takeWhile_imp hx) fun _ hc => head_dropWhile_false hc

theorem Fails.textOf {p : P Unit} {s : Str} (h : Fails p s) : Fails (textOf p) s :=
  fun t i z ht => textOf_fail (h t i z ht)

theorem fails_lit {c : Char} {s : Str} (h : s.head? ≠ some c) : Fails (lit c) s :=
  fun _ _ z ht => lit_fail_of_head z ht h

theorem fails_sat {c : Char → Bool} {s : Str} (h : NextNot c s) : Fails (sat c) s :=
  fun _ _ z ht => sat_fail_of_head z ht h

end RG.Parser

namespace RG.C06

theorem NextNot.nil {c : Char → Bool} : NextNot c [] := fun _ h => by cases h

theorem NextNot.cons {c : Char → Bool} {x : Char} {s : Str} (h : c x = false) : NextNot c (x :: s) := by
  intro y hy
  cases hy
  exact h

theorem NextNot.hsp_of_space {s : Str} (h : NextNot isReSpace s) : NextNot isHsp s := fun c hc =>
  Bool.eq_false_iff.mpr fun hh => by
    have := h c hc
    rw [Parser.isReSpace_of_isHsp hh] at this
    cases this

theorem NextNot.of_run {c q : Char → Bool} (hq : ∀ x, q x = true → c x = false) {xs rest : Str}
    (hne : xs ≠ []) (hx : ∀ x ∈ xs, q x = true) : NextNot c (xs ++ rest) :=
  head_append_of_ne hne fun x h => hq x (hx x h)

end RG.C06
