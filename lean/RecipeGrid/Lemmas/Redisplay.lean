import RecipeGrid.Lemmas.FmtSpelling
/-! Showing again what was read back gives the same text: the double nearest to a shown decimal (what both readers return
    when a point is shown) is displayed by `format_float` exactly like the number it came from. -/
namespace RG
open NumberReader C06 C11

theorem roundHalfEven_near {q : Rat} {n : Int} (h1 : 2 * (q - (n : Rat)) < 1) (h2 : 2 * ((n : Rat) - q) < 1) :
    roundHalfEven q = n := by
  -- both are within a half of `q`, so less than one apart
  obtain ⟨hb1, hb2⟩ := roundHalfEven_bounds q
  have a : ((roundHalfEven q : Int) : Rat) < ((n + 1 : Int) : Rat) := by
    rw [Rat.intCast_add, Rat.intCast_one]; grind
  have b : ((n : Int) : Rat) < ((roundHalfEven q + 1 : Int) : Rat) := by
    rw [Rat.intCast_add, Rat.intCast_one]; grind
  have := Rat.intCast_lt_intCast.1 a
  have := Rat.intCast_lt_intCast.1 b
  omega
theorem rstripZeros_zeros (n : Nat) : rstripZeros (List.replicate n '0') = [] := by
  simp [rstripZeros]

theorem dot_not_mem_intStr_roundHalfEven {y : Rat} (hy : 0 ≤ y) : '.' ∉ intStr (roundHalfEven y) := by
  rw [intStr_of_nonneg (roundHalfEven_nonneg hy)]
  exact dot_not_mem_natDigits _

/-- the decimals of `format_float`, from the rounded fractional part -/
def fracText (d : Nat) (fd : Nat) : Str :=
  let s := if fd ≥ 10 ^ d then [] else rstripZeros (padLeftZeros d (natDigits fd))
  if d == 0 then [] else s

theorem formatFloatSig_eq (sig : Nat) (x : Rat) :
    formatFloatSig sig x =
      (if (fracText (fracDigits sig x)
            (roundHalfEven ((x - (x.floor.toNat : Rat)) * ((10 ^ fracDigits sig x : Nat) : Rat))).toNat).isEmpty
       then intStr (roundHalfEven x)
       else natDigits x.floor.toNat ++ '.' ::
          fracText (fracDigits sig x)
            (roundHalfEven ((x - (x.floor.toNat : Rat)) * ((10 ^ fracDigits sig x : Nat) : Rat))).toNat) := rfl

theorem fracText_nonempty {d fd : Nat} (h : (fracText d fd).isEmpty = false) : 0 < d ∧ 0 < fd ∧ fd < 10 ^ d := by
  simp only [fracText] at h
  by_cases hd : d = 0
  · simp [hd] at h
  · have hdb : (d == 0) = false := by simpa using hd
    simp only [hdb, Bool.false_eq_true, if_false] at h
    by_cases hge : fd ≥ 10 ^ d
    · simp [hge] at h
    · simp only [hge, if_false] at h
      refine ⟨Nat.pos_of_ne_zero hd, Nat.pos_of_ne_zero ?_, by omega⟩
      rintro rfl
      have : padLeftZeros d (natDigits 0) = List.replicate d '0' := by
        have h0 : natDigits 0 = ['0'] := by decide
        rw [h0, padLeftZeros]
        have : d = (d - 1) + 1 := by omega
        simp only [List.length_cons, List.length_nil]
        rw [← List.replicate_succ', ← this]
      rw [this, rstripZeros_zeros] at h
      simp at h

theorem fracText_of_point_shown {y : Rat} (hy : 0 ≤ y) (hd : '.' ∈ formatFloat y) :
    (fracText (fracDigits Gen.significantFigures y)
      (roundHalfEven ((y - (y.floor.toNat : Rat)) * ((10 ^ fracDigits Gen.significantFigures y : Nat) : Rat))).toNat).isEmpty = false := by
  cases he : (fracText (fracDigits Gen.significantFigures y)
    (roundHalfEven ((y - (y.floor.toNat : Rat)) * ((10 ^ fracDigits Gen.significantFigures y : Nat) : Rat))).toNat).isEmpty with
  | false => rfl
  | true =>
    have : formatFloat y = intStr (roundHalfEven y) := by
      show formatFloatSig Gen.significantFigures y = _
      rw [formatFloatSig_eq, he]; rfl
    rw [this] at hd
    exact absurd hd (dot_not_mem_intStr_roundHalfEven hy)

/-- the arithmetic of `formatFloat_redisplay`: `D` a decimal of `R = F + I·P ≤ 1000` units `1/P` (`F` the units after
    the point, strictly between 0 and `P`; 1000 = `10^significantFigures`: decimals are shown only while the whole has at
    most three digits, `scaled_le_of_fracDigits_pos`), `v` within `D/2^53` of it.  Then `v` has the integer part `I`, and its
    fractional part, in the same units, is within less than a half of `F`. -/
theorem near_of_scaled {P D v R I F : Rat} (hP : 0 < P) (h1 : P * D = R) (h2 : R ≤ 1000) (h3 : R = F + I * P)
    (h4 : -D ≤ 9007199254740992 * (v - D)) (h5 : 9007199254740992 * (v - D) ≤ D) (h6 : 1 ≤ F) (h7 : F + 1 ≤ P) :
    (I ≤ v ∧ v < I + 1) ∧ 2 * ((v - I) * P - F) < 1 ∧ 2 * (F - (v - I) * P) < 1 := by
  -- `d`: how far `v` is from `D`, in units `1/P`
  have e4 := Rat.mul_le_mul_of_nonneg_left h4 (Rat.le_of_lt hP)
  have e5 := Rat.mul_le_mul_of_nonneg_left h5 (Rat.le_of_lt hP)
  have d1 : 2 * (P * (v - D)) < 1 := by grind
  have d2 : -1 < 2 * (P * (v - D)) := by grind
  have hw : (v - I) * P = F + P * (v - D) := by grind
  have hv : v * P = (F + P * (v - D)) + I * P := by grind
  rw [hw]
  -- from here on only `d1 d2 hv h6 h7` matter; a small context keeps `grind` cheap
  clear hw e4 e5 h1 h2 h3 h4 h5
  generalize P * (v - D) = d at *
  refine ⟨⟨Rat.le_of_mul_le_mul_right (c := P) ?_ hP, (Rat.mul_lt_mul_right hP).1 ?_⟩, by grind, by grind⟩
  · rw [hv]; grind
  · rw [hv]; grind

/-- **display ∘ read ∘ display = display** for decimals: when a point is shown, the double nearest to the shown decimal
    (what both readers return) is shown as the same text -/
theorem formatFloat_redisplay (y : Rat) (hy : 0 ≤ y) (hd : '.' ∈ formatFloat y) :
    formatFloat (toDouble (roundedDecimal y)) = formatFloat y := by
  have hsig : Gen.significantFigures = 3 := rfl
  have hne := fracText_of_point_shown hy hd
  obtain ⟨hdpos, hfd0, hfdlt⟩ := fracText_nonempty hne
  have hP := pow10_cast_pos (fracDigits Gen.significantFigures y)
  have hsplit := roundHalfEven_split y hdpos
  have hR0 := round_frac_nonneg hy (fracDigits Gen.significantFigures y)
  have hD0 := roundedDecimal_nonneg hy
  have hRle := scaled_le_of_fracDigits_pos hy hdpos
  have hdle := fracDigits_le Gen.significantFigures y
  -- the scaled double is within 1000/2^53 of the scaled decimal
  have herr := toDouble_err_mul (roundedDecimal y)
  rw [Rat.abs_of_nonneg hD0, ← abs_mul_of_nonneg (by decide), abs_le_iff] at herr
  have hPD := pow10_mul_roundedDecimal y
  have hRle' : ((roundHalfEven (y * ((10 ^ fracDigits Gen.significantFigures y : Nat) : Rat)) : Int) : Rat) ≤ 1000 := by
    have h1 := Rat.intCast_le_intCast.mpr hRle
    rw [Rat.intCast_natCast] at h1
    have : ((10 ^ Gen.significantFigures : Nat) : Rat) = 1000 := by decide +kernel
    rw [this] at h1; exact h1
  generalize hfdef : roundHalfEven ((y - (y.floor.toNat : Rat)) * ((10 ^ fracDigits Gen.significantFigures y : Nat) : Rat)) = fd at *
  have hfd1 : (1 : Int) ≤ fd := by omega
  have hfd2 : fd + 1 ≤ ((10 ^ fracDigits Gen.significantFigures y : Nat) : Int) := by omega
  have hfd1' : (1 : Rat) ≤ (fd : Rat) := by
    have := Rat.intCast_le_intCast.mpr hfd1; simpa using this
  have hfd2' : (fd : Rat) + 1 ≤ ((10 ^ fracDigits Gen.significantFigures y : Nat) : Rat) := by
    have := Rat.intCast_le_intCast.mpr hfd2
    rw [Rat.intCast_add, Rat.intCast_natCast] at this
    simpa using this
  have hsplit' : ((roundHalfEven (y * ((10 ^ fracDigits Gen.significantFigures y : Nat) : Rat)) : Int) : Rat)
      = (fd : Rat) + ((y.floor.toNat : Nat) : Rat) * ((10 ^ fracDigits Gen.significantFigures y : Nat) : Rat) := by
    rw [hsplit, Rat.intCast_add, Rat.intCast_natCast, Rat.natCast_mul]
  obtain ⟨⟨hlo, hhi⟩, hn1, hn2⟩ := near_of_scaled (v := toDouble (roundedDecimal y)) (I := ((y.floor.toNat : Nat) : Rat))
    hP hPD hRle' hsplit' herr.1 herr.2 hfd1' hfd2'
  have hfloor : (toDouble (roundedDecimal y)).floor.toNat = y.floor.toNat := by
    have a : ((y.floor.toNat : Nat) : Int) ≤ (toDouble (roundedDecimal y)).floor :=
      Rat.le_floor_iff.mpr (by rw [Rat.intCast_natCast]; exact hlo)
    have b : (toDouble (roundedDecimal y)).floor < ((y.floor.toNat : Nat) : Int) + 1 :=
      Rat.floor_lt_iff.mpr (by rw [Rat.intCast_add, Rat.intCast_natCast]; simpa using hhi)
    omega
  have hfrac : fracDigits Gen.significantFigures (toDouble (roundedDecimal y)) = fracDigits Gen.significantFigures y := by
    simp only [fracDigits, hfloor]
  have hround : roundHalfEven ((toDouble (roundedDecimal y) - (y.floor.toNat : Rat))
      * ((10 ^ fracDigits Gen.significantFigures y : Nat) : Rat)) = fd :=
    roundHalfEven_near hn1 hn2
  show formatFloatSig Gen.significantFigures (toDouble (roundedDecimal y)) = formatFloatSig Gen.significantFigures y
  rw [formatFloatSig_eq, formatFloatSig_eq, hfloor, hfrac, hround, hfdef, hne]
  rfl

theorem point_shown_parts (y : Rat) (hy : 0 ≤ y) (hd : '.' ∈ formatFloat y) :
    ∃ fd : Nat, 0 < fd ∧ fd < 10 ^ fracDigits Gen.significantFigures y ∧
      roundHalfEven (y * ((10 ^ fracDigits Gen.significantFigures y : Nat) : Rat))
        = ((fd + y.floor.toNat * 10 ^ fracDigits Gen.significantFigures y : Nat) : Int) := by
  have hne := fracText_of_point_shown hy hd
  obtain ⟨hdpos, hfd0, hfdlt⟩ := fracText_nonempty hne
  have hsplit := roundHalfEven_split y hdpos
  have hR0 := round_frac_nonneg hy (fracDigits Gen.significantFigures y)
  refine ⟨_, hfd0, hfdlt, ?_⟩
  rw [hsplit]
  omega

theorem point_shown_iff (y : Rat) (hy : 0 ≤ y) : '.' ∈ formatFloat y ↔ (roundedDecimal y).den ≠ 1 := by
  constructor
  · intro hd hden
    obtain ⟨fd, hfd0, hfdlt, hR⟩ := point_shown_parts y hy hd
    have hP := pow10_cast_pos (fracDigits Gen.significantFigures y)
    have hPD := pow10_mul_roundedDecimal y
    have hv := intCast_num_of_den_one hden
    have hnn : 0 ≤ (roundedDecimal y).num := Rat.num_nonneg.mpr (roundedDecimal_nonneg hy)
    rw [← hv, hR, ← Rat.intCast_natCast, ← Rat.intCast_mul] at hPD
    have hint := Rat.intCast_inj.mp hPD
    -- 10^d * m = fd + i * 10^d with 0 < fd < 10^d: impossible
    generalize (10 ^ fracDigits Gen.significantFigures y : Nat) = P at *
    generalize y.floor.toNat = i at *
    obtain ⟨m, hm⟩ : ∃ m : Nat, (roundedDecimal y).num = (m : Int) := ⟨_, (Int.toNat_of_nonneg hnn).symm⟩
    rw [hm] at hint
    have hnat : P * m = fd + i * P := by exact_mod_cast hint
    have hdvd : P ∣ fd := by
      have h1 : P ∣ fd + i * P := ⟨m, hnat.symm⟩
      exact (Nat.dvd_add_left (Nat.dvd_mul_left P i)).mp h1
    have := Nat.le_of_dvd hfd0 hdvd
    omega
  · intro hden
    cases Decidable.em ('.' ∈ formatFloat y) with
    | inl h => exact h
    | inr h =>
      obtain ⟨n, -, hn⟩ := formatFloat_of_no_point hy h
      rw [hn] at hden
      exact absurd (Rat.den_natCast n) hden

theorem decimalNum_kind (y : Rat) (hy : 0 ≤ y) :
    (decimalNum y).kind = (if (roundedDecimal y).den = 1 then .int else .flt) := by
  by_cases hd : '.' ∈ formatFloat y
  · have := (point_shown_iff y hy).mp hd
    simp [decimalNum_of_point hd, this]
  · have : ¬ (roundedDecimal y).den ≠ 1 := fun h => hd ((point_shown_iff y hy).mpr h)
    have : (roundedDecimal y).den = 1 := by omega
    simp [decimalNum_of_no_point hd, this]

end RG
