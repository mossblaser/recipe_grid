import RecipeGrid.Model.Html
import RecipeGrid.Lemmas.Fmt
import RecipeGrid.Lemmas.Table
import RecipeGrid.Lemmas.StrLit
import RecipeGrid.Lemmas.Sorted
import RecipeGrid.Lemmas.Decode
/-! About `Model/Html.lean`, below the string level: the escaping functions character by character (a case principle
    each, what a decoder has to know to undo them, where `&` can stand), the shape of `quoteattr`, the class attribute as
    character lists, anchor ids and recipe prefixes, raster order and the emitted rows, the table-forming algorithm of
    HTML (the specification of `Props/C04.lean`) and that it puts the emitted rows back, every row starts a cell. -/
namespace RG

theorem S_append (a b : String) : S (a ++ b) = S a ++ S b := String.toList_append

theorem S_lit {s : String} {l : List Char} (h : String.ofList l = s) : S s = l := toList_lit h

/-- `lit_chars` (`Lemmas/StrLit.lean`) for the literals written `S "lit"`: each becomes its character list -/
macro "S_chars" : tactic => `(tactic| repeat (rw [S_lit]; rotate_left; rfl))

/-- the characters `html.escape` replaces, with their references -/
def escapeTable : List (Char × Str) :=
  [('&', S "&amp;"), ('<', S "&lt;"), ('>', S "&gt;"), ('"', S "&quot;"), ('\'', S "&#x27;")]

/-- those `quoteattr` replaces in its first pass -/
def quoteattrTable : List (Char × Str) :=
  [('&', S "&amp;"), ('>', S "&gt;"), ('<', S "&lt;"), ('\n', S "&#10;"), ('\r', S "&#13;"), ('\t', S "&#9;")]

theorem escapeChar_cases {P : Char → Str → Prop} (tbl : ∀ x ∈ escapeTable, P x.1 x.2)
    (other : ∀ c, c ≠ '&' → c ≠ '<' → c ≠ '>' → c ≠ '"' → c ≠ '\'' → P c [c]) (c : Char) : P c (escapeChar c) := by
  unfold escapeChar
  split
  · exact tbl _ (.head _)
  · exact tbl _ (.tail _ (.head _))
  · exact tbl _ (.tail _ (.tail _ (.head _)))
  · exact tbl _ (.tail _ (.tail _ (.tail _ (.head _))))
  · exact tbl _ (.tail _ (.tail _ (.tail _ (.tail _ (.head _)))))
  · rename_i h1 h2 h3 h4 h5
    exact other c (h1 ·) (h2 ·) (h3 ·) (h4 ·) (h5 ·)

theorem quoteattrChar_cases {P : Char → Str → Prop} (tbl : ∀ x ∈ quoteattrTable, P x.1 x.2)
    (other : ∀ c, c ≠ '&' → c ≠ '>' → c ≠ '<' → c ≠ '\n' → c ≠ '\r' → c ≠ '\t' → P c [c]) (c : Char) :
    P c (quoteattrChar c) := by
  unfold quoteattrChar
  split
  · exact tbl _ (.head _)
  · exact tbl _ (.tail _ (.head _))
  · exact tbl _ (.tail _ (.tail _ (.head _)))
  · exact tbl _ (.tail _ (.tail _ (.tail _ (.head _))))
  · exact tbl _ (.tail _ (.tail _ (.tail _ (.tail _ (.head _)))))
  · exact tbl _ (.tail _ (.tail _ (.tail _ (.tail _ (.tail _ (.head _))))))
  · rename_i h1 h2 h3 h4 h5 h6
    exact other c (h1 ·) (h2 ·) (h3 ·) (h4 ·) (h5 ·) (h6 ·)

/-- the second pass of `quoteattr` when the value contains both kinds of quote -/
def quotEsc (c : Char) : Str := if c == '"' then S "&quot;" else [c]

theorem escapeChar_no_markup (c : Char) : ∀ d ∈ escapeChar c, d ≠ '<' ∧ d ≠ '>' ∧ d ≠ '"' ∧ d ≠ '\'' :=
  escapeChar_cases (P := fun _ s => ∀ d ∈ s, d ≠ '<' ∧ d ≠ '>' ∧ d ≠ '"' ∧ d ≠ '\'') (by decide +kernel)
    (fun c _ h2 h3 h4 h5 d hd => by rw [List.mem_singleton.1 hd]; exact ⟨h2, h3, h4, h5⟩) c

theorem quoteattrChar_no_lt (c : Char) : '<' ∉ quoteattrChar c :=
  quoteattrChar_cases (P := fun _ s => '<' ∉ s) (by decide +kernel)
    (fun c _ _ h3 _ _ _ hm => h3 (List.mem_singleton.1 hm).symm) c

theorem quotEsc_no_quot_lt (c : Char) (h : c ≠ '<') : '"' ∉ quotEsc c ∧ '<' ∉ quotEsc c := by
  by_cases h7 : c = '"'
  · subst h7; decide
  · simp only [quotEsc, beq_iff_eq, h7, if_false, List.mem_singleton]
    exact ⟨Ne.symm h7, Ne.symm h⟩

theorem Decodes.escapeChar {dec : Str → Str} (tbl : ∀ x ∈ escapeTable, ∀ rest, dec (x.2 ++ rest) = x.1 :: dec rest)
    (other : ∀ c, c ≠ '&' → ∀ rest, dec (c :: rest) = c :: dec rest) : Decodes dec escapeChar id :=
  escapeChar_cases (P := fun c s => ∀ rest, dec (s ++ rest) = c :: dec rest) tbl fun c h1 _ _ _ _ => other c h1

def escapeRefs : List String := ["amp;", "lt;", "gt;", "quot;", "#x27;"]

def AmpOK (l : Str) : Prop := ∀ pre post, l = pre ++ '&' :: post → ∃ r ∈ escapeRefs, r.toList <+: post

theorem AmpOK.nil : AmpOK [] := by
  intro pre post h; simp at h

theorem AmpOK.cons_other {l : Str} (h : AmpOK l) {c : Char} (hc : c ≠ '&') : AmpOK (c :: l) := by
  intro pre post e
  cases pre with
  | nil => simp at e; exact absurd e.1 hc
  | cons x pre =>
    simp only [List.cons_append, List.cons.injEq] at e
    exact h pre post e.2

theorem AmpOK.append_other {l : Str} (h : AmpOK l) {s : Str} (hs : '&' ∉ s) : AmpOK (s ++ l) := by
  induction s with
  | nil => exact h
  | cons c s ih =>
    exact (ih fun hm => hs (List.mem_cons_of_mem _ hm)).cons_other fun e => hs (e ▸ List.mem_cons_self ..)

theorem AmpOK.cons_amp {l : Str} (h : AmpOK l) (hr : ∃ r ∈ escapeRefs, r.toList <+: l) : AmpOK ('&' :: l) := by
  intro pre post e
  cases pre with
  | nil => simp at e; subst e; exact hr
  | cons x pre =>
    simp only [List.cons_append, List.cons.injEq] at e
    exact h pre post e.2

theorem escapeTable_refs : ∀ x ∈ escapeTable, ∃ r ∈ escapeRefs, x.2 = '&' :: r.toList ∧ '&' ∉ r.toList := by
  decide +kernel

theorem AmpOK.escapeChar {l : Str} (h : AmpOK l) (c : Char) : AmpOK (escapeChar c ++ l) :=
  escapeChar_cases (P := fun _ s => AmpOK (s ++ l))
    (fun x hx => by
      obtain ⟨r, hr, e, hn⟩ := escapeTable_refs x hx
      rw [e]
      exact (h.append_other hn).cons_amp ⟨r, hr, List.prefix_append ..⟩)
    (fun _ h1 _ _ _ _ => h.cons_other h1) c

theorem ampOK_htmlEscape (s : Str) : AmpOK (htmlEscape s) := by
  induction s with
  | nil => exact AmpOK.nil
  | cons c s ih => exact ih.escapeChar c

theorem quoteattr_shape (s : Str) :
    ∃ q body, (q = '"' ∨ q = '\'') ∧ quoteattr s = q :: body ++ [q] ∧ q ∉ body ∧ '<' ∉ body ∧
      (body = s.flatMap quoteattrChar ∨ body = s.flatMap fun c => (quoteattrChar c).flatMap quotEsc) := by
  have hlt : '<' ∉ s.flatMap quoteattrChar := by
    intro h
    obtain ⟨c, _, hc⟩ := List.mem_flatMap.1 h
    exact quoteattrChar_no_lt c hc
  by_cases h1 : (s.flatMap quoteattrChar).contains '"' = true
  · by_cases h2 : (s.flatMap quoteattrChar).contains '\'' = true
    · refine ⟨'"', (s.flatMap quoteattrChar).flatMap quotEsc, Or.inl rfl, ?_, ?_, ?_, Or.inr List.flatMap_assoc⟩
      · simp only [quoteattr, h1, h2, if_true]; rfl
      · intro h
        obtain ⟨c, hc, hq⟩ := List.mem_flatMap.1 h
        exact (quotEsc_no_quot_lt c (fun e => hlt (e ▸ hc))).1 hq
      · intro h
        obtain ⟨c, hc, hq⟩ := List.mem_flatMap.1 h
        exact (quotEsc_no_quot_lt c (fun e => hlt (e ▸ hc))).2 hq
    · refine ⟨'\'', s.flatMap quoteattrChar, Or.inr rfl, ?_, ?_, hlt, Or.inl rfl⟩
      · simp only [quoteattr, h1, h2, if_true]; rfl
      · simpa using h2
  · refine ⟨'"', s.flatMap quoteattrChar, Or.inl rfl, ?_, ?_, hlt, Or.inl rfl⟩
    · simp only [quoteattr, h1]; rfl
    · simpa using h1

theorem mem_quotEsc {c d : Char} (h : d ∈ quotEsc c) : d = c ∨ d ∈ S "&quot;" := by
  unfold quotEsc at h
  split at h
  · exact Or.inr h
  · exact Or.inl (List.mem_singleton.1 h)

theorem forall_mem_quoteattr {Q : Char → Prop} (hq : Q '"' ∧ Q '\'') (hr : ∀ d ∈ S "&quot;", Q d) {v : Str}
    (hv : ∀ d ∈ v.flatMap quoteattrChar, Q d) : ∀ d ∈ quoteattr v, Q d := by
  obtain ⟨q, body, hq', he, -, -, hb⟩ := quoteattr_shape v
  have hbody : ∀ d ∈ body, Q d := by
    rcases hb with rfl | rfl
    · exact hv
    · intro d hd
      rw [← List.flatMap_assoc] at hd
      obtain ⟨c, hc, hd⟩ := List.mem_flatMap.1 hd
      rcases mem_quotEsc hd with rfl | h
      · exact hv _ hc
      · exact hr d h
  have hQq : Q q := by
    rcases hq' with rfl | rfl
    · exact hq.1
    · exact hq.2
  intro d hd
  rw [he, List.mem_append, List.mem_cons, List.mem_singleton] at hd
  rcases hd with (rfl | hd) | rfl
  · exact hQq
  · exact hbody d hd
  · exact hQq

def cellClassStrs (c : PCell) : List Str :=
  S c.kind.cls :: ([("left", c.bl), ("right", c.br), ("top", c.bt), ("bottom", c.bb)].filterMap fun (e, b) =>
    if b = .normal then none else some (S "rg-border-" ++ S e ++ S "-" ++ S b.cls))

theorem map_S_cellClasses (c : PCell) : (cellClasses c).map S = cellClassStrs c := by
  simp only [cellClasses, cellClassStrs, List.map_cons, List.map_filterMap]
  congr 2
  funext x
  split <;> simp [S_append]

/-- `cellAttrs` with the class attribute put together from character lists: `String` concatenation followed by `S`
    is slow for the kernel, so proofs by evaluation about a rendered table rewrite with `renderRecipeTree_fast` -/
def cellAttrsFast (c : PCell) : List (String × Str) :=
  [("class", (S " ").intercalate (cellClassStrs c))] ++
  (if c.cols ≠ 1 then [("colspan", natDigits c.cols)] else []) ++
  (if c.rows ≠ 1 then [("rowspan", natDigits c.rows)] else [])

theorem cellAttrs_eq (c : PCell) : cellAttrs c = cellAttrsFast c := by
  rw [cellAttrs, cellAttrsFast, S, String.toList_intercalate, ← map_S_cellClasses]; rfl

def renderRecipeTreeFast (pre : Str) (tree : Tree) : Str :=
  let id := match tree with
    | .sub _ [n] _ => some (anchorId pre n)
    | _ => none
  tagBody "table" ([("class", S "rg-table")] ++ (match id with | some i => [("id", i)] | none => []))
    (joinNl ((emitRows (layout tree)).map fun row => tagBody "tr" [] (joinNl (row.map fun c =>
      tagBody "td" (cellAttrsFast c) (renderCellBody pre ((tree.at? c.path).getD tree))))))

theorem renderRecipeTree_fast (pre : Str) (tree : Tree) : renderRecipeTree pre tree = renderRecipeTreeFast pre tree := by
  have : renderCell pre tree = fun c => tagBody "td" (cellAttrsFast c) (renderCellBody pre ((tree.at? c.path).getD tree)) :=
    funext fun c => by rw [renderCell, cellAttrs_eq]
  unfold renderRecipeTree renderTable renderRecipeTreeFast
  rw [this]; rfl

theorem stripDashes_mem (s : Str) : ∀ c ∈ stripDashes s, c ∈ s := by
  intro c hc
  simp only [stripDashes, List.mem_reverse] at hc
  have h1 := (List.dropWhile_sublist (· == '-') (l := (s.dropWhile (· == '-')).reverse)).mem hc
  simp only [List.mem_reverse] at h1
  exact (List.dropWhile_sublist _).mem h1

theorem stripDashes_getLast? (s : Str) : (stripDashes s).getLast? ≠ some '-' := by
  simp only [stripDashes, List.getLast?_reverse]
  intro h
  have := List.head?_dropWhile_not (· == '-') (s.dropWhile (· == '-')).reverse
  rw [h] at this
  simp at this

theorem stripDashes_head? (s : Str) : (stripDashes s).head? ≠ some '-' := by
  have hp : stripDashes s <+: s.dropWhile (· == '-') := by
    have := List.dropWhile_suffix (· == '-') (l := (s.dropWhile (· == '-')).reverse)
    have := List.reverse_prefix.2 this
    simpa [stripDashes] using this
  obtain ⟨t, ht⟩ := hp
  intro h
  have h2 := List.head?_dropWhile_not (· == '-') s
  cases hs : stripDashes s with
  | nil => rw [hs] at h; simp at h
  | cons a l =>
    rw [hs] at h ht
    simp only [List.head?_cons, Option.some.injEq] at h
    rw [← ht] at h2
    simp [h] at h2

theorem stripDashes_eq_self (s : Str) (h1 : s.head? ≠ some '-') (h2 : s.getLast? ≠ some '-') : stripDashes s = s := by
  have e1 : s.dropWhile (· == '-') = s :=
    dropWhile_self_of_next fun a ha => by
      simp only [beq_eq_false_iff_ne, ne_eq]; rintro rfl; exact h1 ha
  have e2 : s.reverse.dropWhile (· == '-') = s.reverse :=
    dropWhile_self_of_next fun a ha => by
      simp only [beq_eq_false_iff_ne, ne_eq]; rintro rfl
      rw [List.head?_reverse] at ha; exact h2 ha
  simp [stripDashes, e1, e2]

/-- the part of an anchor id after the prefix -/
def anchorTail (name : SVS) : Str := stripDashes ((Svs.render name).map fun c => if isIdChar c then c else '-')

theorem anchorId_eq (pre : Str) (name : SVS) : anchorId pre name = pre ++ anchorTail name := rfl

theorem anchorTail_idChars (name : SVS) : ∀ c ∈ anchorTail name, isIdChar c = true := by
  intro c hc
  have := stripDashes_mem _ c hc
  obtain ⟨d, _, rfl⟩ := List.mem_map.1 this
  by_cases h : isIdChar d = true
  · simp [h]
  · simp [h]; decide

theorem map_idChars_self (s : Str) (h : ∀ c ∈ s, isIdChar c = true) :
    (s.map fun c => if isIdChar c then c else '-') = s := by
  induction s with
  | nil => rfl
  | cons a s ih =>
    simp only [List.map_cons, h a (List.mem_cons_self ..), if_true]
    rw [ih fun c hc => h c (List.mem_cons_of_mem _ hc)]

theorem anchorTail_text_of_clean (s : Str) (h : ∀ c ∈ s, isIdChar c = true) (h1 : s.head? ≠ some '-')
    (h2 : s.getLast? ≠ some '-') : anchorTail [.text s] = s := by
  simp only [anchorTail, Svs.render, List.flatMap_cons, List.flatMap_nil, List.append_nil]
  rw [map_idChars_self s h, stripDashes_eq_self s h1 h2]

theorem dash_not_digit : ('-' : Char).isDigit = false := by decide

theorem digits_dash_inj {a b s t : Str} (ha : ∀ c ∈ a, c.isDigit = true) (hb : ∀ c ∈ b, c.isDigit = true)
    (h : a ++ '-' :: s = b ++ '-' :: t) : a = b := by
  have hr : ∀ (r : Str) (c : Char), ('-' :: r).head? = some c → c.isDigit = false := fun _ c hc => by
    cases hc; exact dash_not_digit
  rw [← takeWhile_run ha (hr s), h, takeWhile_run hb (hr t)]

theorem rasterSort_perm (cs : List PCell) : (rasterSort cs).Perm cs := insertionSort_perm _ cs

theorem rasterLt_eq_false {a b : PCell} :
    rasterLt b a = false ↔ a.row < b.row ∨ (a.row = b.row ∧ a.col ≤ b.col) := by
  simp only [rasterLt, Bool.or_eq_false_iff, Bool.and_eq_false_iff, decide_eq_false_iff_not, beq_eq_false_iff_ne]
  omega

theorem rasterSort_sorted (cs : List PCell) : (rasterSort cs).Pairwise (fun a b => rasterLt b a = false) := by
  have := insertionSort_pairwise (fun a b : PCell => !rasterLt b a) cs
    (fun a _ b _ => by simp only [Bool.not_eq_true', rasterLt_eq_false]; omega)
    (fun a _ b _ c _ => by simp only [Bool.not_eq_true', rasterLt_eq_false]; omega)
  exact this.imp (fun h => by simpa using h)

def RowSorted (S : List PCell) : Prop := S.Pairwise (fun a b => a.row ≤ b.row)

theorem rowSorted_of_raster {S : List PCell} (h : S.Pairwise (fun a b => rasterLt b a = false)) : RowSorted S :=
  h.imp (fun {a b} h => by rw [rasterLt_eq_false] at h; omega)

theorem RowSorted.filter_succ {S : List PCell} (h : RowSorted S) (n : Nat) :
    S.filter (fun x => decide (x.row < n + 1)) =
      S.filter (fun x => decide (x.row < n)) ++ S.filter (fun x => x.row == n) := by
  induction S with
  | nil => rfl
  | cons a S ih =>
    have h' := List.pairwise_cons.1 h
    by_cases ha : a.row < n
    · have h1 : a.row < n + 1 := by omega
      have h2 : a.row ≠ n := by omega
      simp [ha, h1, h2, ih h'.2]
    · -- `a` and all behind it are in row `n` or below it
      have e1 : S.filter (fun x => decide (x.row < n)) = [] := by
        rw [List.filter_eq_nil_iff]
        intro x hx; have := h'.1 x hx; simp only [decide_eq_true_eq]; omega
      have e2 : S.filter (fun x => decide (x.row < n + 1)) = S.filter (fun x => x.row == n) :=
        List.filter_congr fun x hx => by
          have := h'.1 x hx
          rw [Bool.eq_iff_iff, decide_eq_true_eq, beq_iff_eq]; omega
      by_cases hn : a.row = n
      · simp [hn, e1, e2]
      · have h1 : ¬ a.row < n + 1 := by omega
        simp [ha, hn, h1, e1, e2]

theorem RowSorted.flatten_rows {S : List PCell} (h : RowSorted S) (n : Nat) :
    ((List.range n).map fun r => S.filter (fun x => x.row == r)).flatten = S.filter (fun x => decide (x.row < n)) := by
  induction n with
  | zero => simp
  | succ n ih => rw [List.range_succ, List.map_append, List.flatten_append, ih, h.filter_succ]; simp

theorem filter_row_lt_self {S : List PCell} {n : Nat} (h : ∀ x ∈ S, x.row < n) :
    S.filter (fun x => decide (x.row < n)) = S := by
  rw [List.filter_eq_self]; intro x hx; simpa using h x hx

namespace C04

/-! The WHATWG "forming a table" algorithm restricted to `<td>` cells with `rowspan`/`colspan` ≥ 1.
    A placed cell is `(row, col, rows, cols)`. -/

/-- the placed cell `p` occupies the slot in row `r`, column `c` -/
def occupies (p : Nat × Nat × Nat × Nat) (r c : Nat) : Bool :=
  p.1 ≤ r && r < p.1 + p.2.2.1 && p.2.1 ≤ c && c < p.2.1 + p.2.2.2
/-- the slot already has a cell assigned to it (possibly one hanging down from an earlier row) -/
def occupied (ps : List (Nat × Nat × Nat × Nat)) (r c : Nat) : Bool := ps.any (occupies · r c)
/-- the width of the table so far: the right-most occupied column + 1 -/
def width (ps : List (Nat × Nat × Nat × Nat)) : Nat := ps.foldr (fun p w => max (p.2.1 + p.2.2.2) w) 0
/-- "while x < width and the slot (x, y) already has a cell assigned to it, increase x by 1";
    the first argument bounds the number of iterations (`width - x`) -/
def skip (ps : List (Nat × Nat × Nat × Nat)) (r : Nat) : Nat → Nat → Nat
  | 0, c => c
  | n + 1, c => if occupied ps r c then skip ps r n (c + 1) else c
/-- process the cells `(rowspan, colspan)` of one `<tr>`, in source order, starting with the cursor at `cur`:
    advance to the first free slot, put the cell there, move the cursor right by its colspan -/
def placeRow (r : Nat) : List (Nat × Nat) → Nat → List (Nat × Nat × Nat × Nat) → List (Nat × Nat × Nat × Nat)
  | [], _, ps => ps
  | (rs, cs) :: rest, cur, ps =>
    let c := skip ps r (width ps - cur) cur
    placeRow r rest (c + cs) (ps ++ [(r, c, rs, cs)])
/-- process the `<tr>`s top to bottom, the cursor starting at column 0 in each -/
def placeRows : Nat → List (List (Nat × Nat)) → List (Nat × Nat × Nat × Nat) → List (Nat × Nat × Nat × Nat)
  | _, [], ps => ps
  | r, row :: rows, ps => placeRows (r + 1) rows (placeRow r row 0 ps)
/-- per row the (rowspan, colspan) of its cells in source order ↦ per cell (row, col, rows, cols), in source order -/
def place (rows : List (List (Nat × Nat))) : List (Nat × Nat × Nat × Nat) := placeRows 0 rows []

end C04

namespace Place
open C04 (skip placeRow placeRows place)

/-! `Place.occupies`, `Place.occupied`, `Place.width` are the functions `C04.occupies`, `C04.occupied`, `C04.width` above
    (`C04.occupied_eq`, `C04.width_eq` in `Props/C04.lean`); the lemmas below speak of the `C04.` ones. -/

def occupies (p : Nat × Nat × Nat × Nat) (r c : Nat) : Bool :=
  p.1 ≤ r && r < p.1 + p.2.2.1 && p.2.1 ≤ c && c < p.2.1 + p.2.2.2
def occupied (ps : List (Nat × Nat × Nat × Nat)) (r c : Nat) : Bool := ps.any (occupies · r c)
def width (ps : List (Nat × Nat × Nat × Nat)) : Nat := ps.foldr (fun p w => max (p.2.1 + p.2.2.2) w) 0
def geom (c : PCell) : Nat × Nat × Nat × Nat := (c.row, c.col, c.rows, c.cols)
def spans (c : PCell) : Nat × Nat := (c.rows, c.cols)

theorem occupied_lt_width (ps : List (Nat × Nat × Nat × Nat)) (r c : Nat) (h : C04.occupied ps r c = true) :
    c < C04.width ps := by
  induction ps with
  | nil => simp [C04.occupied] at h
  | cons p ps ih =>
    simp only [C04.occupied, List.any_cons, Bool.or_eq_true] at h
    simp only [C04.width, List.foldr_cons]
    rcases h with h | h
    · simp only [C04.occupies, Bool.and_eq_true, decide_eq_true_eq] at h
      omega
    · have := ih h; simp only [C04.width] at this; omega

theorem skip_spec (ps : List (Nat × Nat × Nat × Nat)) (r target : Nat) :
    ∀ (n cur : Nat), C04.width ps ≤ n + cur → cur ≤ target →
      (∀ c, cur ≤ c → c < target → C04.occupied ps r c = true) → C04.occupied ps r target = false →
      skip ps r n cur = target := by
  intro n
  induction n with
  | zero =>
    intro cur hw hle hocc hfree
    simp only [skip]
    by_cases h : cur < target
    · have := occupied_lt_width ps r cur (hocc cur (Nat.le_refl _) h); omega
    · omega
  | succ n ih =>
    intro cur hw hle hocc hfree
    simp only [skip]
    by_cases h : cur < target
    · rw [if_pos (hocc cur (Nat.le_refl _) h)]
      exact ih (cur + 1) (by omega) h (fun c h1 h2 => hocc c (by omega) h2) hfree
    · have : cur = target := by omega
      subst this
      simp [hfree]

theorem occupied_geom (P : List PCell) (r c : Nat) :
    C04.occupied (P.map geom) r c = true ↔ ∃ y ∈ P, covers y r c = true := by
  simp only [C04.occupied, List.any_map, List.any_eq_true]
  exact Iff.rfl

structure RasterTiled (S : List PCell) (h w : Nat) : Prop where
  sorted : S.Pairwise (fun a b => rasterLt b a = false)
  pos : ∀ x ∈ S, 0 < x.rows ∧ 0 < x.cols ∧ x.row + x.rows ≤ h ∧ x.col + x.cols ≤ w
  one : ∀ r c, r < h → c < w → cover S r c = 1

theorem occupied_before {S : List PCell} {h w : Nat} (hS : RasterTiled S h w) {P T : List PCell} {x : PCell}
    (e : S = P ++ x :: T) :
    (∀ c, c < x.col → C04.occupied (P.map geom) x.row c = true) ∧ C04.occupied (P.map geom) x.row x.col = false := by
  obtain ⟨hrows, hcols, hdown, hright⟩ := hS.pos x (by rw [e]; simp)
  constructor
  · intro c hc
    -- some cell covers the slot; it is not `x`, and a cell behind `x` that reaches into this row starts right of `x`
    have h1 := hS.one x.row c (by omega) (by omega)
    obtain ⟨y, hy, hyc⟩ : ∃ y ∈ S, covers y x.row c = true := by
      have : 0 < cover S x.row c := by omega
      simpa [cover, List.countP_pos_iff] using this
    rw [occupied_geom]
    rw [e, List.mem_append, List.mem_cons] at hy
    have hyc' := (covers_iff y x.row c).1 hyc
    rcases hy with hy | rfl | hy
    · exact ⟨y, hy, hyc⟩
    · omega
    · have hsorted := hS.sorted
      rw [e, List.pairwise_append] at hsorted
      have := (List.pairwise_cons.1 hsorted.2.1).1 y hy
      rw [rasterLt_eq_false] at this
      omega
  · have h1 := hS.one x.row x.col (by omega) (by omega)
    rw [e, cover_append, ← List.singleton_append, cover_append] at h1
    have hx : covers x x.row x.col = true := by rw [covers_iff]; omega
    have h2 : cover [x] x.row x.col = 1 := by simp [cover, hx]
    have h3 : cover P x.row x.col = 0 := by omega
    simp only [cover, List.countP_eq_zero] at h3
    rw [Bool.eq_false_iff, Ne, occupied_geom]
    rintro ⟨y, hy, hc⟩
    exact h3 y hy hc

theorem placeRow_spec {S : List PCell} {h w : Nat} (hS : RasterTiled S h w) (r : Nat) :
    ∀ (R P Q : List PCell) (cur : Nat), S = P ++ R ++ Q → (∀ x ∈ R, x.row = r) →
      (∀ c, c < cur → C04.occupied (P.map geom) r c = true) →
      placeRow r (R.map spans) cur (P.map geom) = (P ++ R).map geom := by
  intro R
  induction R with
  | nil => intro P Q cur _ _ _; simp [placeRow]
  | cons x R ih =>
    intro P Q cur hSeq hrow hcur
    have hxr : x.row = r := hrow x (List.mem_cons_self ..)
    obtain ⟨hleft, hfree⟩ := occupied_before hS (show S = P ++ x :: (R ++ Q) by rw [hSeq]; simp)
    rw [hxr] at hleft hfree
    have hle : cur ≤ x.col := by
      apply Nat.le_of_not_lt
      intro hlt
      rw [hcur x.col hlt] at hfree; exact absurd hfree (by simp)
    have hskip : skip (P.map geom) r (C04.width (P.map geom) - cur) cur = x.col :=
      skip_spec _ r x.col _ cur (by omega) hle (fun c _ h2 => hleft c h2) hfree
    simp only [List.map_cons, spans, placeRow, hskip]
    have e : P.map geom ++ [(r, x.col, x.rows, x.cols)] = (P ++ [x]).map geom := by
      simp [geom, hxr]
    rw [e, ih (P ++ [x]) Q (x.col + x.cols) (by rw [hSeq]; simp)
      (fun y hy => hrow y (List.mem_cons_of_mem _ hy)) ?_]
    · simp
    · intro c hc
      rw [occupied_geom]
      by_cases h1 : c < x.col
      · obtain ⟨y, hy, hyc⟩ := (occupied_geom P r c).1 (hleft c h1)
        exact ⟨y, by simp [hy], hyc⟩
      · have := (hS.pos x (by rw [hSeq]; simp)).1
        exact ⟨x, by simp, by rw [covers_iff]; omega⟩

theorem flatten_rows_eq {S : List PCell} {h w : Nat} (hS : RasterTiled S h w) :
    ((List.range h).map fun r => S.filter (fun x => x.row == r)).flatten = S := by
  have hlt : ∀ x ∈ S, x.row < h := fun x hx => by have := hS.pos x hx; omega
  rw [(rowSorted_of_raster hS.sorted).flatten_rows, filter_row_lt_self hlt]

theorem placeRows_spec {S : List PCell} {h w : Nat} (hS : RasterTiled S h w) (f : Nat → List PCell)
    (hf : ∀ k, ∀ x ∈ f k, x.row = k) :
    ∀ (n r : Nat) (P Q : List PCell), S = P ++ (List.range' r n).flatMap f ++ Q →
      placeRows r ((List.range' r n).map fun k => (f k).map spans) (P.map geom) =
        (P ++ (List.range' r n).flatMap f).map geom
  | 0, r, P, Q, _ => by simp [placeRows]
  | n + 1, r, P, Q, hSeq => by
    rw [List.range'_succ, List.flatMap_cons] at hSeq ⊢
    rw [List.map_cons, placeRows, placeRow_spec hS r (f r) P ((List.range' (r + 1) n).flatMap f ++ Q) 0
        (by rw [hSeq]; simp) (hf r) (fun c hc => by omega),
      placeRows_spec hS f hf n (r + 1) (P ++ f r) Q (by rw [hSeq]; simp), List.append_assoc]

theorem place_rows_eq {S : List PCell} {h w : Nat} (hS : RasterTiled S h w) :
    place (((List.range h).map fun r => S.filter (fun x => x.row == r)).map (·.map spans)) = S.map geom := by
  have e : (List.range' 0 h).flatMap (fun r => S.filter (fun x => x.row == r)) = S := by
    rw [← List.range_eq_range', List.flatMap_def]; exact flatten_rows_eq hS
  have := placeRows_spec hS (fun r => S.filter (fun x => x.row == r))
    (fun k x hx => by simpa using (List.mem_filter.1 hx).2) h 0 [] [] (by simp [e])
  rw [e] at this
  rw [place, List.range_eq_range', List.map_map]
  exact this

end Place

def RowStarts (t : Tbl) : Prop := ∀ r, r < t.h → ∃ x ∈ t.cells, x.row = r

theorem RowStarts.pad {t : Tbl} (h : RowStarts t) (w : Nat) : RowStarts (pad t w) := by
  unfold RG.pad
  split
  · exact h
  · intro r hr
    obtain ⟨x, hx, hxr⟩ := h r hr
    refine ⟨padCell t.w w x, List.mem_map_of_mem hx, ?_⟩
    unfold padCell; split <;> exact hxr

theorem RowStarts.setBorder {t : Tbl} (h : RowStarts t) (b : Border) : RowStarts (setBorder t b) := by
  intro r hr
  obtain ⟨x, hx, hxr⟩ := h r hr
  exact ⟨borderCell t.h t.w b x, List.mem_map_of_mem hx, hxr⟩

theorem RowStarts.vcat {a b : Tbl} (ha : RowStarts a) (hb : RowStarts b) : RowStarts (vcat a b) := by
  intro r hr
  simp only [RG.vcat] at hr ⊢
  by_cases h : r < a.h
  · obtain ⟨x, hx, hxr⟩ := ha r h
    exact ⟨x, List.mem_append_left _ hx, hxr⟩
  · obtain ⟨x, hx, hxr⟩ := hb (r - a.h) (by omega)
    refine ⟨shiftDown a.h x, List.mem_append_right _ (List.mem_map_of_mem hx), ?_⟩
    simp only [shiftDown]; omega

theorem RowStarts.hcat {a : Tbl} (ha : RowStarts a) (b : Tbl) : RowStarts (hcat a b) := by
  intro r hr
  obtain ⟨x, hx, hxr⟩ := ha r hr
  exact ⟨x, List.mem_append_left _ hx, hxr⟩

theorem RowStarts.vstack (ts : List Tbl) (h : ∀ t ∈ ts, RowStarts t) : RowStarts (vstack ts) := by
  induction ts with
  | nil => intro r hr; simp [RG.vstack] at hr
  | cons a as ih =>
    rw [vstack_cons]
    exact RowStarts.vcat (h a (List.mem_cons_self ..)) (ih fun t ht => h t (List.mem_cons_of_mem _ ht))

theorem RowStarts.single (x : PCell) (w : Nat) (hx : x.row = 0) : RowStarts ⟨1, w, [x]⟩ := by
  intro r hr
  exact ⟨x, List.mem_singleton.2 rfl, by simp only at hr; omega⟩

theorem RowStarts.rootBorder {t : Tbl} (h : RowStarts t) (root : Bool) : RowStarts (rootBorder root t) := by
  unfold RG.rootBorder; split
  · exact h.setBorder _
  · exact h

mutual
theorem layoutAt_rowStarts : ∀ (t : Tree) (p : List Nat) (root : Bool), RowStarts (layoutAt p root t)
  | .ingredient .., p, root => by
    rw [layoutAt_ingredient]; exact (RowStarts.single _ 1 rfl).rootBorder root
  | .reference .., p, root => by
    rw [layoutAt_reference]; exact (RowStarts.single _ 1 rfl).rootBorder root
  | .step _ inputs, p, root => by
    have hi := layoutInputs_rowStarts inputs p 0
    have hs : RowStarts (stackOf p inputs) :=
      RowStarts.vstack _ fun t ht => by
        obtain ⟨t', ht', rfl⟩ := List.mem_map.1 ht
        exact (hi t' ht').pad _
    rw [layoutAt_step]; exact (hs.hcat _).rootBorder root
  | .sub body names showNames, p, root => by
    have hb := layoutAt_rowStarts body (p ++ [0]) false
    simp only [layoutAt]
    split
    · split
      · exact (RowStarts.vcat (RowStarts.single _ _ rfl) hb).setBorder _
      · exact hb.setBorder _
    · exact (hb.setBorder _).hcat _
theorem layoutInputs_rowStarts : ∀ (ts : List Tree) (p : List Nat) (i : Nat), ∀ t ∈ layoutInputs p i ts, RowStarts t
  | [], _, _ => by simp [layoutInputs]
  | a :: as, p, i => by
    intro t ht
    simp only [layoutInputs, List.mem_cons] at ht
    rcases ht with rfl | ht
    · exact layoutAt_rowStarts a (p ++ [i]) false
    · exact layoutInputs_rowStarts as p (i + 1) t ht
end

theorem subNames_scale (k : Num) (t : Tree) : subNames (Tree.scale k t) = (subNames t).map (Svs.scale k) := by
  cases t <;> simp [Tree.scale, subNames]

end RG
