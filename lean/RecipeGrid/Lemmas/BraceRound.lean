import RecipeGrid.Lemmas.BraceLex
/-! The token list of the deterministic lexer (`lexTokens`, equal to `braceTokens`), read one token at a time (`lexTokens_step`: the
    fuel of `lexTokensF` is dealt with here and nowhere else), and what the lexer reads on each spelling of a number: integer part
    and fraction, fraction, decimal, digits alone. -/
namespace RG.Brace
open Re Parser
open C06 (IsDigits IsBlanks)

/-- the deterministic version of `finditer`: characters at which no token starts are skipped -/
def lexTokensF : Nat → Str → List Part
  | 0, _ => []
  | _ + 1, [] => []
  | fuel + 1, ch :: rest =>
    match lexTok (ch :: rest) with
    | some (p, s') => p :: lexTokensF fuel s'
    | none => lexTokensF fuel rest

def lexTokens (src : Str) : List Part := lexTokensF src.length src

theorem matchesF_nil : ∀ fuel, matchesF fuel [] = []
  | 0 => rfl
  | _ + 1 => rfl

theorem lexTokensF_nil : ∀ fuel, lexTokensF fuel [] = []
  | 0 => rfl
  | _ + 1 => rfl

theorem lexTokensF_step {fuel : Nat} {s s' : Str} {p : Part} (h : lexTok s = some (p, s')) :
    lexTokensF (fuel + 1) s = p :: lexTokensF fuel s' := by
  cases s with
  | nil => simp [lexTok] at h
  | cons ch rest => simp [lexTokensF, h]

theorem matchesF_eq_lexTokensF (fuel : Nat) (s : Str) : (matchesF fuel s).map partValue = lexTokensF fuel s := by
  fun_induction matchesF fuel s with
  | case1 => rfl
  | case2 => rfl
  | case3 fuel ch rest s' c hp ih =>
    have h := partAt_eq_lexTok (ch :: rest)
    rw [hp] at h
    rw [lexTokensF_step h.symm, List.map_cons, ih]
  | case4 fuel ch rest hp ih =>
    have h := partAt_eq_lexTok (ch :: rest)
    rw [hp] at h
    rw [lexTokensF, ← h]
    exact ih

/-- **`finditer` with the values of `__init__` is the deterministic lexer** -/
theorem braceTokens_eq_lexTokens (src : Str) : braceTokens src = lexTokens src :=
  matchesF_eq_lexTokensF _ _

theorem lexTok_rest {s s' : Str} {p : Part} (h : lexTok s = some (p, s')) : s'.length < s.length := by
  rw [← partAt_eq_lexTok] at h
  cases hp : partAt s with
  | none =>
    rw [hp] at h
    cases h
  | some r =>
    obtain ⟨x, hx, hs⟩ := partAt_rest (s' := r.1) (c := r.2) hp
    rw [hp] at h
    cases h
    rw [hs, List.length_append]
    have := List.length_pos_iff.2 hx
    omega

theorem lexTokensF_fuel : ∀ (f1 f2 : Nat) (s : Str), s.length ≤ f1 → s.length ≤ f2 → lexTokensF f1 s = lexTokensF f2 s
  | _, _, [], _, _ => by rw [lexTokensF_nil, lexTokensF_nil]
  | 0, _, _ :: _, h1, _ => by cases h1
  | _, 0, _ :: _, _, h2 => by cases h2
  | f1 + 1, f2 + 1, ch :: rest, h1, h2 => by
    simp only [List.length_cons, Nat.add_le_add_iff_right] at h1 h2
    cases hl : lexTok (ch :: rest) with
    | none =>
      simp only [lexTokensF, hl]
      exact lexTokensF_fuel f1 f2 rest h1 h2
    | some r =>
      have := lexTok_rest hl
      simp only [List.length_cons] at this
      simp only [lexTokensF, hl]
      rw [lexTokensF_fuel f1 f2 r.2 (by omega) (by omega)]

theorem lexTokens_step {s s' : Str} {p : Part} (h : lexTok s = some (p, s')) : lexTokens s = p :: lexTokens s' := by
  have hl := lexTok_rest h
  cases s with
  | nil => cases h
  | cons ch rest =>
    rw [lexTokens, List.length_cons, lexTokensF_step h, lexTokens]
    rw [lexTokensF_fuel rest.length s'.length s' (by simpa [Nat.lt_succ_iff] using hl) (Nat.le_refl _)]

theorem lexTok_of_digit_head {w : Str} (hw : IsDigits w) (r : Str) :
    lexTok (w ++ r) = some (.num (lexNumber (w ++ r)).1, (lexNumber (w ++ r)).2) := by
  cases w with
  | nil => exact absurd rfl hw.1
  | cons ch w => simp [lexTok, hw.2 ch (List.mem_cons_self ..)]

theorem lexTok_mixed {i h1 n h2 h3 d r : Str} (hi : IsDigits i) (h1ne : h1 ≠ []) (hh1 : IsBlanks h1)
    (hf : FracTail n h2 h3 d) (hr : ∀ ch, r.head? = some ch → isDigit ch = false) :
    lexTok (i ++ (h1 ++ (n ++ (h2 ++ '/' :: (h3 ++ (d ++ r)))))) = some (.num (fracValue (some i) n d), r) := by
  rw [lexTok_of_digit_head hi]
  unfold lexNumber lexMixed
  rw [lexFracInt_spelling hi h1ne hh1
    (fun ch hch => isHsp_of_isDigit (head_append_of_ne (p := fun x => isDigit x = true) hf.num.1 hf.num.2 ch hch))]
  simp only [lexFracTail_spelling hf hr]

theorem lexTok_frac {n h2 h3 d r : Str} (hf : FracTail n h2 h3 d) (hr : ∀ ch, r.head? = some ch → isDigit ch = false) :
    lexTok (n ++ (h2 ++ '/' :: (h3 ++ (d ++ r)))) = some (.num (fracValue none n d), r) := by
  have hnd := head_blanks_slash h2 (h3 ++ (d ++ r)) hf.before
  have t2 := span_run isHsp h2 ('/' :: (h3 ++ (d ++ r))) hf.before (by simp [isHsp])
  rw [lexTok_of_digit_head hf.num, lexNumber,
    lexMixed_run_none hf.num hnd (by rw [t2.2]; exact lexFracTail_none_of_head _ (by simp [isDigit]))]
  simp only [lexFracTail_spelling hf hr]

theorem lexTok_float {w f r : Str} (hw : IsDigits w) (hf : ∀ ch ∈ f, isDigit ch = true)
    (hr : ∀ ch, r.head? = some ch → isDigit ch = false) :
    lexTok (w ++ '.' :: (f ++ r)) = some (.num (floatValue w f), r) := by
  have hnd : ∀ ch, ('.' :: (f ++ r)).head? = some ch → isDigit ch = false := by simp [isDigit]
  have t2 := span_run isDigit f r hf hr
  rw [lexTok_of_digit_head hw, lexNumber,
    lexMixed_run_none hw hnd (lexFracTail_none_of_head _ (by simp [isHsp, isDigit]))]
  simp only [lexFracTail_run_none hw.2 hnd (by simp [isHsp]), lexDecimal_run hw.2 hnd, if_true, t2.1, t2.2]

/-- what may follow the digits of an integer: no ".", and - after optional blanks - neither a digit nor a "/".
    The grammar's `number` rule needs the same after an integer (`C06.NumLit.Follow (.int _)`, restated as `C11.FollowsNumber`);
    each property file states it in its own words, and `head_not_digit_of_dropWhile_hsp` is the lemma under all three. -/
def IntFollow (r : Str) : Prop :=
  r.head? ≠ some '.' ∧ ∀ ch, (r.dropWhile isHsp).head? = some ch → isDigit ch = false ∧ ch ≠ '/'

theorem lexTok_int {w r : Str} (hw : IsDigits w) (hr : IntFollow r) : lexTok (w ++ r) = some (.num (intValue w), r) := by
  have hnd := head_not_digit_of_dropWhile_hsp fun c hc => (hr.2 c hc).1
  rw [lexTok_of_digit_head hw, lexNumber,
    lexMixed_run_none hw hnd (lexFracTail_none_of_head _ (fun ch hch => (hr.2 ch hch).1))]
  simp only [lexFracTail_run_none hw.2 hnd (fun ch hch => (hr.2 ch hch).2), lexDecimal_run hw.2 hnd]
  cases r with
  | nil => rfl
  | cons x r => simp [show x ≠ '.' from fun hx => hr.1 (by rw [hx]; rfl)]

end RG.Brace
