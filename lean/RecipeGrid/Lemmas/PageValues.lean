import RecipeGrid.Model.PageValues
import RecipeGrid.Lemmas.Html
import RecipeGrid.Props.C13
import RecipeGrid.Props.C03
/-! For `Props/C03e.lean` / `Props/C15d.lean`: the template of a document, `renderDoc` as one chain of replacements, and what
    scaling does to the numbers a table shows.  `toToks` (the template as the token list of `Props/C13.lean`) occurs in
    statements of `Props/C03e.lean`. -/
namespace RG
open RG.C13

def PTok.toTok : PTok → Tok
  | .lit s => .lit s
  | .hole i => .hole i
def toToks (t : List PTok) : List Tok := t.map PTok.toTok

theorem flattenT_toToks (f : Nat → Str) : ∀ t : List PTok, flattenT f (toToks t) = pflatten f t
  | [] => rfl
  | .lit s :: t => by simp [toToks, PTok.toTok, flattenT, pflatten, ← flattenT_toToks f t]
  | .hole i :: t => by simp [toToks, PTok.toTok, flattenT, pflatten, ← flattenT_toToks f t]

theorem holeOffsets_toToks (i : Nat) (f : Nat → Str) : ∀ t : List PTok, holeOffsets i f (toToks t) = holeOffsetsB i f t
  | [] => rfl
  | .lit s :: t => by simp [toToks, PTok.toTok, holeOffsets, holeOffsetsB, ← holeOffsets_toToks i f t]
  | .hole j :: t => by simp [toToks, PTok.toTok, holeOffsets, holeOffsetsB, ← holeOffsets_toToks i f t]

theorem occurrences_cons (p : Str) (c : Char) (rest : Str) :
    occurrences p (c :: rest) = (if isPrefixOfStr p (c :: rest) then [0] else []) ++ (occurrences p rest).map (· + 1) := by
  unfold occurrences
  rw [List.length_cons, List.range_succ_eq_map, List.filter_cons, List.filter_map]
  simp only [List.drop_zero, Function.comp_def, List.drop_succ_cons]
  split <;> simp

theorem occFast_eq (p : Str) : ∀ (s : Str) (k : Nat), occFast p k s = (occurrences p s).map (· + k)
  | [], k => by
    simp only [occFast, occurrences, List.length_nil, Nat.zero_add, List.range_one, List.filter_cons, List.drop_nil, List.filter_nil]
    split <;> simp
  | c :: rest, k => by
    rw [occFast, occFast_eq p rest (k + 1), occurrences_cons]
    split <;> simp [List.map_map, Function.comp_def, Nat.add_comm, Nat.add_left_comm]

/-- the one-pass search of the executable side condition finds exactly the occurrences of C13 -/
theorem occurrencesB_eq (p s : Str) : occurrencesB p s = occurrences p s := by
  simp [occurrencesB, occFast_eq]
theorem filledB_eq (ph : Nat → Str) (vals : List Str) (n : Nat) : filledB ph vals n = filledUpTo ph vals n := rfl

theorem chainOK_of_chainOKb {ph : Nat → Str} {vals : List Str} {t : List PTok} (h : chainOKb ph vals t = true) :
    ChainOK ph vals (toToks t) := by
  intro n hn
  simp only [chainOKb, List.all_eq_true, List.mem_range, Bool.and_eq_true, Bool.not_eq_true', beq_iff_eq] at h
  obtain ⟨h1, h2⟩ := h n hn
  refine ⟨by intro h0; simp [h0] at h1, ?_⟩
  unfold OnlyAtHoles
  rw [flattenT_toToks, holeOffsets_toToks, ← filledB_eq, ← occurrencesB_eq]
  exact h2

theorem holesBelow_iff_holesOf (n : Nat) : ∀ t : List PTok, HolesBelow n (toToks t) ↔ ∀ i ∈ holesOf t, i < n
  | [] => by simp [HolesBelow, toToks, holesOf]
  | .lit s :: t => by
    have ih := holesBelow_iff_holesOf n t
    simp only [HolesBelow, toToks, List.map_cons, List.mem_cons, forall_eq_or_imp, PTok.toTok, holesOf, true_and] at ih ⊢
    exact ih
  | .hole i :: t => by
    have ih := holesBelow_iff_holesOf n t
    simp only [HolesBelow, toToks, List.map_cons, List.mem_cons, forall_eq_or_imp, PTok.toTok, holesOf] at ih ⊢
    rw [ih]

theorem holesBelow_of_holesBelowB {n : Nat} {t : List PTok} (h : holesBelowB n t = true) : HolesBelow n (toToks t) := by
  rw [holesBelow_iff_holesOf]
  simpa [holesBelowB] using h

theorem matchPh_spec (phs : List Str) (i0 : Nat) (s : Str) (i len : Nat) (h : matchPh phs i0 s = some (i, len)) :
    ∃ p, phs[i - i0]? = some p ∧ i0 ≤ i ∧ len = p.length ∧ isPrefixOfStr p s = true := by
  fun_induction matchPh phs i0 s with
  | case1 => cases h
  | case2 p ps i0 s hc =>
    cases h
    simp only [Bool.and_eq_true] at hc
    exact ⟨p, by simp, Nat.le_refl _, rfl, hc.2⟩
  | case3 p ps i0 s hc ih =>
    obtain ⟨q, h1, h2, h3, h4⟩ := ih h
    refine ⟨q, ?_, by omega, h3, h4⟩
    rw [show i - i0 = (i - (i0 + 1)) + 1 by omega]
    simpa using h1

theorem tokeniseAux_flatten (phs : List Str) (fuel : Nat) (acc s : Str) :
    pflatten (fun i => phs.getD i []) (tokeniseAux phs fuel acc s) = acc.reverse ++ s := by
  fun_induction tokeniseAux phs fuel acc s with
  | case1 => simp [pflatten]
  | case2 => simp [pflatten]
  | case3 fuel acc c rest i len hm ih =>
    obtain ⟨p, h1, _, h3, h4⟩ := matchPh_spec phs 0 (c :: rest) i len hm
    obtain ⟨tl, htl⟩ := (isPrefixOfStr_iff p (c :: rest)).1 h4
    have hp : phs.getD i [] = p := by
      simp only [Nat.sub_zero] at h1
      simp [List.getD, h1]
    simp only [pflatten, ih]
    rw [hp, htl, h3]
    simp
  | case4 fuel acc c rest hm ih =>
    rw [ih]
    simp

theorem tokenise_flatten (phs : List Str) (s : Str) : pflatten (fun i => phs.getD i []) (tokenise phs s) = s :=
  tokeniseAux_flatten phs _ [] s

theorem tokeniseAux_holes (phs : List Str) (fuel : Nat) (acc s : Str) :
    ∀ i ∈ holesOf (tokeniseAux phs fuel acc s), i < phs.length := by
  fun_induction tokeniseAux phs fuel acc s with
  | case1 => simp [holesOf]
  | case2 => simp [holesOf]
  | case3 fuel acc c rest i len hm ih =>
    obtain ⟨p, h1, _, _, _⟩ := matchPh_spec phs 0 (c :: rest) i len hm
    simp only [holesOf, List.mem_cons, forall_eq_or_imp]
    exact ⟨(List.getElem?_eq_some_iff.1 h1).1, ih⟩
  | case4 fuel acc c rest hm ih => exact ih

theorem tokenise_holes (phs : List Str) (s : Str) : ∀ i ∈ holesOf (tokenise phs s), i < phs.length :=
  tokeniseAux_holes phs _ [] s

theorem renderRecipesAux_eq_foldl (k : Num) : ∀ (rs : List (Str × Bool × Block)) (i : Nat) (html : Str),
    renderRecipesAux k i rs html = (recipePairs k i rs).foldl (fun h pv => replaceAll pv.1 pv.2 h) html
  | [], _, _ => rfl
  | (ph, isNew, trees) :: rest, i, html => by
    simp only [renderRecipesAux, recipePairs, List.foldl_cons, blockHtml]
    exact renderRecipesAux_eq_foldl k rest _ _

theorem renderDoc_eq_foldl (d : MdDoc) (k : Num) :
    renderDoc d k = (docPairs d k).foldl (fun h pv => replaceAll pv.1 pv.2 h) d.html := by
  have h1 : ∀ h0 : Str, d.svs.foldl (fun h (x : Str × SVS) => replaceAll x.1 (renderSvs (Svs.scale k x.2)) h) h0 =
      (d.svs.map (fun phs => (phs.1, renderSvs (Svs.scale k phs.2)))).foldl (fun h pv => replaceAll pv.1 pv.2 h) h0 := by
    intro h0; rw [List.foldl_map]
  unfold docPairs
  rw [List.foldl_append, List.foldl_append, ← h1, ← renderRecipesAux_eq_foldl]
  unfold renderDoc headerPairs
  cases h1 : d.hasTitle <;> cases h2 : d.prePost
  · rfl
  · rfl
  · rfl
  · rename_i pp; obtain ⟨pre, post⟩ := pp; rfl

theorem recipePairs_fst (k : Num) : ∀ (rs : List (Str × Bool × Block)) (i : Nat), (recipePairs k i rs).map (·.1) = rs.map (·.1)
  | [], _ => rfl
  | (ph, isNew, trees) :: rest, i => by simp [recipePairs, recipePairs_fst k rest]

theorem docPairs_fst (d : MdDoc) (k : Num) : (docPairs d k).map (·.1) = docPhs d := by
  unfold docPairs docPhs headerPairs
  simp only [List.map_append, List.map_map, recipePairs_fst]
  congr 1
  split <;> simp_all

theorem docVals_length (d : MdDoc) (k : Num) : (docVals d k).length = (docPhs d).length := by
  rw [← docPairs_fst d k]; simp [docVals]

theorem renderDoc_eq_chain (d : MdDoc) (k : Num) : renderDoc d k = chainReplace (docPh d) (docVals d k) d.html := by
  rw [renderDoc_eq_foldl, foldl_replaceAll_eq_chainReplace, docPairs_fst]
  rfl

theorem recipePairs_length (k : Num) : ∀ (rs : List (Str × Bool × Block)) (i : Nat), (recipePairs k i rs).length = rs.length
  | [], _ => rfl
  | (ph, isNew, trees) :: rest, i => by simp [recipePairs, recipePairs_length k rest]

theorem recipePairs_getElem? (k : Num) : ∀ (rs : List (Str × Bool × Block)) (i j : Nat) (ph : Str) (isNew : Bool) (trees : Block),
    rs[j]? = some (ph, isNew, trees) →
    (recipePairs k i rs)[j]? = some (ph, blockHtml k ((recipeIdx i rs).getD j 0) trees)
  | [], _, _, _, _, _, h => by simp at h
  | (ph', isNew', trees') :: rest, i, 0, ph, isNew, trees, h => by
    simp only [List.getElem?_cons_zero, Option.some.injEq, Prod.mk.injEq] at h
    obtain ⟨rfl, rfl, rfl⟩ := h
    simp [recipePairs, recipeIdx]
  | (ph', isNew', trees') :: rest, i, j + 1, ph, isNew, trees, h => by
    simp only [List.getElem?_cons_succ] at h
    have := recipePairs_getElem? k rest (if isNew' then i + 1 else i) j ph isNew trees h
    simp [recipePairs, recipeIdx, this]

section
open Svs
def svsPiece (p : Part) : Str := match p with
    | .text t => htmlEscape t
    | .num n => tagBody "span" [("class", S "rg-scaled-value")] (renderNumber n)

theorem flatMap_svsPiece_merge (ps : List Part) : (merge ps).flatMap svsPiece = ps.flatMap svsPiece := by
  fun_induction merge ps with
  | case1 => rfl
  | case2 a rest b rest' hm ih =>
    rw [hm] at ih
    simp only [List.flatMap_cons] at ih ⊢
    rw [← ih]
    simp [svsPiece, htmlEscape]
  | case3 a rest hm ih => simp [ih]
  | case4 p rest hp ih => simp [ih]

theorem flatMap_svsPiece_filter : ∀ l : List Part, (l.filter keep).flatMap svsPiece = l.flatMap svsPiece
  | [] => rfl
  | .num n :: rest => by
    rw [List.filter_cons_of_pos (keep_num n)]
    simp [flatMap_svsPiece_filter rest]
  | .text [] :: rest => by
    rw [List.filter_cons_of_neg (by rw [keep_nil]; simp)]
    simp [flatMap_svsPiece_filter rest, svsPiece, htmlEscape]
  | .text (c :: cs) :: rest => by
    rw [List.filter_cons_of_pos (keep_cons c cs)]
    simp [flatMap_svsPiece_filter rest]

theorem renderSvs_normalise (ps : List Part) : renderSvs (normalise ps) = ps.flatMap svsPiece := by
  show (normalise ps).flatMap svsPiece = _
  rw [normalise_eq, flatMap_svsPiece_filter, flatMap_svsPiece_merge]
end

/-- the page layer (`Model/PageValues.lean`, executable and self-contained) names the numbers of a string itself; it is the
    `svsNums` of C03 -/
theorem Svs.nums_eq (s : SVS) : Svs.nums s = C03.svsNums s := rfl

theorem Svs.scale_nil (k : Num) : Svs.scale k [] = [] := rfl

theorem Svs.shown_scale (k : Num) (s : SVS) : Svs.shown (Svs.scale k s) = (Svs.shown s).map (scaleShown k) := by
  simp [Svs.shown, Svs.nums_eq, C03.svsNums_scale, scaleShown, Function.comp_def]

mutual
theorem layoutAt_scale (k : Num) : ∀ (t : Tree) (p : List Nat) (root : Bool), layoutAt p root (Tree.scale k t) = layoutAt p root t
  | .ingredient d q, p, root => by simp [Tree.scale, layoutAt]
  | .reference s n a, p, root => by simp [Tree.scale, layoutAt]
  | .step d i, p, root => by simp [Tree.scale, layoutAt, layoutInputs_scale k i]
  | .sub b ns sh, p, root => by simp [Tree.scale, layoutAt, layoutAt_scale k b]
theorem layoutInputs_scale (k : Num) : ∀ (ts : List Tree) (p : List Nat) (i : Nat),
    layoutInputs p i (Tree.scaleList k ts) = layoutInputs p i ts
  | [], _, _ => by simp [Tree.scaleList, layoutInputs]
  | t :: ts, p, i => by simp [Tree.scaleList, layoutInputs, layoutAt_scale k t, layoutInputs_scale k ts]
end

theorem layout_scale (k : Num) (t : Tree) : layout (Tree.scale k t) = layout t := layoutAt_scale k t [] true

theorem Tree.at?_scale (k : Num) : ∀ (p : List Nat) (t : Tree), (Tree.scale k t).at? p = (t.at? p).map (Tree.scale k)
  | [], t => by simp [Tree.at?]
  | i :: rest, .ingredient d q => by simp [Tree.scale, Tree.at?]
  | i :: rest, .reference s n a => by simp [Tree.scale, Tree.at?]
  | i :: rest, .step d inputs => by
    simp only [Tree.scale, Tree.at?, Tree.scaleList_eq_map, List.getElem?_map]
    cases h : inputs[i]? with
    | none => simp
    | some c => simpa using Tree.at?_scale k rest c
  | 0 :: rest, .sub b ns sh => by simpa [Tree.scale, Tree.at?] using Tree.at?_scale k rest b
  | (i + 1) :: rest, .sub b ns sh => by simp [Tree.scale, Tree.at?]

theorem Quantity.shown_scale (k : Num) (q : Quantity) : (q.scale k).shown = q.shown.map (scaleShown k) := by
  simp [Quantity.shown, Quantity.scale, scaleShown]

theorem Amount.shown_scale (k : Num) (a : Amount) : (a.scale k).shown = a.shown.map (scaleShown k) := by
  cases a <;> simp [Amount.shown, Amount.scale, Quantity.shown_scale]

theorem cellShown_scale (k : Num) (t : Tree) : cellShown (Tree.scale k t) = (cellShown t).map (scaleShown k) := by
  cases t with
  | ingredient d q =>
    cases q <;> simp [Tree.scale, cellShown, Svs.shown_scale, Quantity.shown_scale]
  | reference s n a =>
    simp only [Tree.scale, cellShown, subNames_scale, List.getElem?_map, List.map_append, Amount.shown_scale]
    cases h : (subNames s)[n]? with
    | none => simp [Svs.shown, Svs.nums]
    | some nm => simp [Svs.shown_scale]
  | step d i => simp [Tree.scale, cellShown, Svs.shown_scale]
  | sub b ns sh =>
    simp [Tree.scale, cellShown, List.flatMap_map, List.map_flatMap, Svs.shown_scale]

theorem tableShown_scale (k : Num) (t : Tree) : tableShown (Tree.scale k t) = (tableShown t).map (scaleShown k) := by
  unfold tableShown
  rw [layout_scale, List.map_flatMap]
  apply flatMap_congr_left
  intro row _
  rw [List.map_flatMap]
  apply flatMap_congr_left
  intro c _
  rw [Tree.at?_scale, ← cellShown_scale]
  cases (t.at? c.path) <;> rfl

theorem blockShown_scale (k : Num) (trees : List Tree) :
    (Tree.scaleList k trees).flatMap tableShown = (trees.flatMap tableShown).map (scaleShown k) := by
  rw [Tree.scaleList_eq_map, List.flatMap_map, List.map_flatMap]
  apply flatMap_congr_left
  intro t _
  exact tableShown_scale k t

theorem holeShown_eq (d : MdDoc) (k : Num) (i : Nat) : holeShown d k i = (holeWritten d i).map (scaleShown k) := by
  unfold holeShown holeWritten
  split
  · exact Svs.shown_scale k _
  · split
    · exact blockShown_scale k _
    · rfl

end RG
