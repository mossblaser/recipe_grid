import RecipeGrid.Lemmas.ParserRun
import RecipeGrid.Lemmas.NumberScan
/-! The grammar's `number` rule as a function of the text in front of it.

    `fraction` and `decimal` walk over maximal runs of digits and blanks; what they do is the scanners of
    Lemmas/NumberScan.lean put together: an integer part as soon as a digit run is followed by a blank (`lexFracInt`), then
    `numerator / denominator` (`lexFracTail`), else a decimal (`lexDecimal`).  Unlike the lexer of the `{…}` expressions the grammar
    does not come back to try the fraction without an integer part (`"1 /2"` is the integer 1).  `number_eq` states this once;
    what `number` does on a permitted spelling (`C06.numberAt_of_wf`), what it can have matched (`number_inv`, Lemmas/NumberInv.lean)
    and where it fails are read off it with the scanners' own lemmas. -/
namespace RG
namespace Parser
open Brace C06

theorem digits_spec {t : Array Char} {i : Nat} {s : Str} (z : Bool) (hs : t.toList.drop i = s) :
    digits t ⟨i, z⟩ =
      if s.takeWhile isDigit = [] then none
      else some (s.takeWhile isDigit, ⟨i + (s.takeWhile isDigit).length, z⟩) := by
  obtain ⟨h, hp, hn⟩ := split_run isDigit s
  by_cases he : s.takeWhile isDigit = []
  · rw [if_pos he]
    apply digits_fail z hs
    rw [he, List.nil_append] at h
    rw [h]; exact hn
  · rw [if_neg he]
    exact reads_digits ⟨he, hp⟩ hn _ _ z (hs.trans h)

theorem digitsOpt_spec {t : Array Char} {i : Nat} {s : Str} (z : Bool) (hs : t.toList.drop i = s) :
    textOf (skipMany isDigit) t ⟨i, z⟩ = some (s.takeWhile isDigit, ⟨i + (s.takeWhile isDigit).length, z⟩) := by
  obtain ⟨h, hp, hn⟩ := split_run isDigit s
  exact textOf_of z (hs.trans h) (skipMany_run z (hs.trans h) hp hn)

theorem lit_spec (c : Char) {t : Array Char} {i : Nat} {s : Str} (z : Bool) (hs : t.toList.drop i = s) :
    lit c t ⟨i, z⟩ = if s.head? = some c then some ((), ⟨i + 1, z⟩) else none := by
  by_cases he : s.head? = some c
  · rw [if_pos he]
    cases s with
    | nil => cases he
    | cons d r =>
      simp only [List.head?_cons, Option.some.injEq] at he; subst he
      exact lit_of_head z hs
  · rw [if_neg he]
    exact lit_fail_of_head z hs he

/-- `fraction` on the list `s` of characters in front (hence `L`; the rule itself works on an array and an offset) -/
def fractionL (s : Str) : Option (Num × Str) :=
  match lexFracInt s with
  | some (w, r) => (lexFracTail r).map fun x => (fracValue (some w) x.1 x.2.1, x.2.2)
  | none => (lexFracTail s).map fun x => (fracValue none x.1 x.2.1, x.2.2)

def numberL (s : Str) : Option (Num × Str) :=
  match fractionL s with
  | some r => some r
  | none => if s.takeWhile isDigit = [] then none else some (lexDecimal s)

def after (i : Nat) (z : Bool) (s : Str) (x : Num × Str) : (Nat × Num) × PState :=
  ((i, x.1), ⟨i + (s.length - x.2.length), z⟩)

theorem after_append (i : Nat) (z : Bool) (xs rest : Str) (v : Num) :
    after i z (xs ++ rest) (v, rest) = ((i, v), ⟨i + xs.length, z⟩) := by
  simp [after]

def fracRest (integer : Option Str) (off : Nat) : P (Nat × Num) := do
  let numer ← digits
  ohsp; lit '/'; ohsp
  let denom ← digits
  let d := natOfDigits denom
  if d = 0 then fail
  else
    let i : Nat := natOfDigits (integer.getD [])
    let n : Nat := natOfDigits numer
    pure (off, ⟨(i : Rat) + mkRat n d, .frac⟩)

theorem fraction_eq_fracRest : fraction = (do
    let start ← getPos
    let integer ← opt (do let ds ← digits; hsp; pure ds)
    let numerStart ← getPos
    fracRest integer (if integer.isSome then start else numerStart)) := by unfold fraction fracRest; rfl

theorem fracValue_getD (integer : Option Str) (n d : Str) :
    (⟨((natOfDigits (integer.getD []) : Nat) : Rat) + mkRat (natOfDigits n : Nat) (natOfDigits d), .frac⟩ : Num)
      = fracValue integer n d := by
  cases integer <;> rfl

theorem fracRest_eq (integer : Option Str) (off : Nat) {t : Array Char} {j : Nat} {s : Str} (z : Bool)
    (hs : t.toList.drop j = s) :
    fracRest integer off t ⟨j, z⟩ = (lexFracTail s).map fun x =>
      ((off, fracValue integer x.1 x.2.1), ⟨j + (s.length - x.2.2.length), z⟩) := by
  have e0 := (List.takeWhile_append_dropWhile (p := isDigit) (l := s)).symm
  have hs1 := drop_takeWhile isDigit hs
  have e1 := (List.takeWhile_append_dropWhile (p := isHsp) (l := s.dropWhile isDigit)).symm
  simp only [fracRest, lexFracTail, bind_apply, digits_spec z hs]
  by_cases h0 : s.takeWhile isDigit = []
  · simp [h0]
  · simp only [h0, if_false, ohsp_spec z hs1, lit_spec '/' z (drop_takeWhile isHsp hs1)]
    cases hr : (s.dropWhile isDigit).dropWhile isHsp with
    | nil => simp
    | cons c r =>
      by_cases hc : c = '/'
      · subst hc
        have hs2 : t.toList.drop (j + (s.takeWhile isDigit).length + ((s.dropWhile isDigit).takeWhile isHsp).length + 1)
            = r := drop_succ_of_drop_cons ((drop_takeWhile isHsp hs1).trans hr)
        have e2 := (List.takeWhile_append_dropWhile (p := isHsp) (l := r)).symm
        have e3 := (List.takeWhile_append_dropWhile (p := isDigit) (l := r.dropWhile isHsp)).symm
        have hq : ∀ ch ∈ (r.dropWhile isHsp).takeWhile isDigit, isDigit ch = true := fun _ h => mem_takeWhile_imp h
        simp only [List.head?_cons, if_true, ohsp_spec z hs2, digits_spec z (drop_takeWhile isHsp hs2)]
        by_cases hq0 : (r.dropWhile isHsp).takeWhile isDigit = []
        · simp [hq0, hasNonZero]
        · simp only [hq0, if_false]
          -- the denominator: the grammar tests its value, the scanner looks for a non-zero digit
          by_cases hz : natOfDigits ((r.dropWhile isHsp).takeWhile isDigit) = 0
          · have : hasNonZero ((r.dropWhile isHsp).takeWhile isDigit) = false := by
              rw [Bool.eq_false_iff, Ne, hasNonZero_iff hq]; exact fun h => h hz
            simp [hz, this]
          · have hlen : s.length = (s.takeWhile isDigit).length + ((s.dropWhile isDigit).takeWhile isHsp).length + 1
                + (r.takeWhile isHsp).length + ((r.dropWhile isHsp).takeWhile isDigit).length
                + ((r.dropWhile isHsp).dropWhile isDigit).length := by
              have l0 := congrArg List.length e0
              have l1 := congrArg List.length e1
              have l2 := congrArg List.length e2
              have l3 := congrArg List.length e3
              rw [hr] at l1
              simp only [List.length_append, List.length_cons] at l0 l1 l2 l3
              omega
            simp only [hz, if_false, (hasNonZero_iff hq).2 hz, if_true, pure_apply, Option.map_some, fracValue_getD]
            congr 3; omega
      · simp [hc]

theorem optInt_eq {t : Array Char} {i : Nat} {s : Str} (z : Bool) (hs : t.toList.drop i = s) :
    opt (do let ds ← digits; hsp; pure ds) t ⟨i, z⟩ =
      match lexFracInt s with
      | some (w, r) => some (some w, ⟨i + (s.length - r.length), z⟩)
      | none => some (none, ⟨i, z⟩) := by
  have e0 := (List.takeWhile_append_dropWhile (p := isDigit) (l := s)).symm
  have e1 := (List.takeWhile_append_dropWhile (p := isHsp) (l := s.dropWhile isDigit)).symm
  have hs1 := drop_takeWhile isDigit hs
  by_cases h0 : s.takeWhile isDigit = []
  · simp only [lexFracInt, h0, true_or, if_true]
    apply opt_of_none; simp [digits_spec z hs, h0]
  · by_cases h1 : (s.dropWhile isDigit).takeWhile isHsp = []
    · simp only [lexFracInt, h1, or_true, if_true]
      apply opt_of_none; simp [digits_spec z hs, h0, hsp_spec z hs1, takeWhile_eq_nil_iff_head.1 h1]
    · simp only [lexFracInt, h0, h1, or_self, if_false]
      have hlen : s.length - ((s.dropWhile isDigit).dropWhile isHsp).length
          = (s.takeWhile isDigit).length + ((s.dropWhile isDigit).takeWhile isHsp).length := by
        have l0 := congrArg List.length e0
        have l1 := congrArg List.length e1
        simp only [List.length_append] at l0 l1
        omega
      rw [hlen, ← Nat.add_assoc]
      have hb : (s.dropWhile isDigit).head?.any isHsp = true :=
        Bool.not_eq_false _ ▸ mt takeWhile_eq_nil_iff_head.2 h1
      apply opt_of_some; simp [digits_spec z hs, h0, hsp_spec z hs1, hb]

theorem fraction_eq {t : Array Char} {i : Nat} {s : Str} (z : Bool) (hs : t.toList.drop i = s) :
    fraction t ⟨i, z⟩ = (fractionL s).map (after i z s) := by
  rw [fraction_eq_fracRest]
  simp only [bind_apply, getPos_apply, optInt_eq z hs, fractionL]
  cases hi : lexFracInt s with
  | none =>
    simp only [Option.isSome_none, Bool.false_eq_true, if_false, fracRest_eq none i z hs, Option.map_map]
    rfl
  | some wr =>
    obtain ⟨w, r⟩ := wr
    obtain ⟨h1, -, e, -⟩ := lexFracInt_some hi
    have hr : t.toList.drop (i + (s.length - r.length)) = r := by
      have : s.length - r.length = (w ++ h1).length := by rw [e]; simp; omega
      rw [this]; exact drop_add_of_drop (by rw [List.append_assoc, ← e]; exact hs)
    simp only [Option.isSome_some, if_true, fracRest_eq (some w) i z hr, Option.map_map]
    cases ht : lexFracTail r with
    | none => rfl
    | some x =>
      obtain ⟨h2, h3, e', -⟩ := lexFracTail_some (n := x.1) (d := x.2.1) (r := x.2.2) ht
      simp only [Option.map_some, Function.comp, after, Option.some.injEq, Prod.mk.injEq, PState.mk.injEq, and_true,
        true_and]
      have l0 := congrArg List.length e
      have l1 := congrArg List.length e'
      simp only [List.length_append, List.length_cons] at l0 l1
      omega

theorem decimal_eq {t : Array Char} {i : Nat} {s : Str} (z : Bool) (hs : t.toList.drop i = s) :
    decimal t ⟨i, z⟩ = if s.takeWhile isDigit = [] then none else some (after i z s (lexDecimal s)) := by
  have e0 := (List.takeWhile_append_dropWhile (p := isDigit) (l := s)).symm
  have hs1 := drop_takeWhile isDigit hs
  simp only [decimal, bind_apply, getPos_apply, digits_spec z hs]
  by_cases h0 : s.takeWhile isDigit = []
  · simp [h0]
  · simp only [h0, if_false, lexDecimal]
    have hl := lit_spec '.' z hs1
    cases hr : s.dropWhile isDigit with
    | nil =>
      rw [hr] at hl e0
      have ho : opt (do lit '.'; textOf (skipMany isDigit)) t ⟨i + (s.takeWhile isDigit).length, z⟩
          = some (none, ⟨i + (s.takeWhile isDigit).length, z⟩) := by
        apply opt_of_none; simp [hl]
      have := congrArg List.length e0
      simp only [ho, pure_apply, after, intValue, List.length_nil, Nat.sub_zero]
      simp only [List.length_append, List.length_nil] at this
      rw [this]; rfl
    | cons c r =>
      rw [hr] at hl e0
      have hlen := congrArg List.length e0
      by_cases hc : c = '.'
      · subst hc
        have hs2 : t.toList.drop (i + (s.takeWhile isDigit).length + 1) = r := drop_succ_of_drop_cons (hs1.trans hr)
        have e1 := (List.takeWhile_append_dropWhile (p := isDigit) (l := r)).symm
        have ho : opt (do lit '.'; textOf (skipMany isDigit)) t ⟨i + (s.takeWhile isDigit).length, z⟩
            = some (some (r.takeWhile isDigit),
                ⟨i + (s.takeWhile isDigit).length + 1 + (r.takeWhile isDigit).length, z⟩) := by
          apply opt_of_some; simp [hl, digitsOpt_spec z hs2]
        have := congrArg List.length e1
        simp only [ho, pure_apply, after, floatValue, if_true]
        simp only [List.length_append, List.length_cons] at this hlen
        congr 3; omega
      · have ho : opt (do lit '.'; textOf (skipMany isDigit)) t ⟨i + (s.takeWhile isDigit).length, z⟩
            = some (none, ⟨i + (s.takeWhile isDigit).length, z⟩) := by
          apply opt_of_none; simp [hl, hc]
        simp only [ho, pure_apply, after, intValue, hc, if_false, List.length_cons]
        simp only [List.length_append, List.length_cons] at hlen
        congr 3; omega

/-- **the grammar's `number` rule, as a function of the text in front of it** -/
theorem number_eq {t : Array Char} {i : Nat} {s : Str} (z : Bool) (hs : t.toList.drop i = s) :
    number t ⟨i, z⟩ = (numberL s).map (after i z s) := by
  show (fraction <|> decimal) t ⟨i, z⟩ = _
  rw [orElse_apply, fraction_eq z hs, decimal_eq z hs, numberL]
  cases fractionL s with
  | some r => rfl
  | none => by_cases h0 : s.takeWhile isDigit = [] <;> simp [h0]

theorem number_fail_of_head {t : Array Char} {i : Nat} {s : Str} (z : Bool)
    (h : t.toList.drop i = s) (hc : ∀ c, s.head? = some c → isDigit c = false) :
    number t ⟨i, z⟩ = none := by
  rw [number_eq z h, numberL, fractionL, lexFracInt_none_of_head s hc, lexFracTail_none_of_head s hc,
    takeWhile_nil_of_next hc]
  rfl

/-- definitionally `Reads number txt rest fun i => (i, v)` -/
def NumberAt (txt rest : Str) (v : Num) : Prop :=
  ∀ (t : Array Char) (i : Nat) (z : Bool), t.toList.drop i = txt ++ rest →
    number t ⟨i, z⟩ = some ((i, v), ⟨i + txt.length, z⟩)

theorem NumberAt.head_isDigit {txt rest : Str} {v : Num} (h : NumberAt txt rest v) :
    ∃ c, (txt ++ rest).head? = some c ∧ isDigit c = true := by
  obtain ⟨c, hc, hn⟩ := head_of_some (s := txt ++ rest) (number_fail_of_head false (by simp))
    (h _ 0 false (by simp))
  exact ⟨c, hc, by simpa using hn⟩

theorem NumberAt.follow_hsp {num rest : Str} {v : Num} (h : NumberAt num rest v) :
    ∀ c, (num ++ rest).head? = some c → isHsp c = false := by
  obtain ⟨d, hd, hdd⟩ := h.head_isDigit
  intro c hc
  rw [hd] at hc; cases hc
  exact isHsp_of_isDigit hdd

theorem reads_fraction_of {xs rest : Str} {v : Num} (h : fractionL (xs ++ rest) = some (v, rest)) :
    Reads fraction xs rest fun i => (i, v) := by
  intro t i z ht
  rw [fraction_eq z ht, h, Option.map_some, after_append]

theorem reads_decimal_of {xs rest : Str} {v : Num} (h0 : (xs ++ rest).takeWhile isDigit ≠ [])
    (h : lexDecimal (xs ++ rest) = (v, rest)) : Reads decimal xs rest fun i => (i, v) := by
  intro t i z ht
  rw [decimal_eq z ht, if_neg h0, h, after_append]

theorem numberAt_of {xs rest : Str} {v : Num} (h : numberL (xs ++ rest) = some (v, rest)) : NumberAt xs rest v := by
  intro t i z ht
  rw [number_eq z ht, h, Option.map_some, after_append]

theorem takeWhile_digits_ne_nil {ds rest : Str} (hd : IsDigits ds) (hr : NextNot isDigit rest) :
    (ds ++ rest).takeWhile isDigit ≠ [] := by
  rw [takeWhile_run hd.2 hr]; exact hd.1

theorem fractionL_frac {p s2 q rest : Str} (h : (NumLit.frac p s2 q).WF) (hr : NextNot isDigit rest) :
    fractionL ((NumLit.frac p s2 q).print ++ rest) = some ((NumLit.frac p s2 q).value, rest) := by
  obtain ⟨hp, hs2, hq, hq0⟩ := h
  have e : p ++ '/' :: s2 ++ q ++ rest = p ++ '/' :: (s2 ++ (q ++ rest)) := by simp
  have ht := lexFracTail_spelling (r := rest) ⟨hp, isBlanks_nil, hs2, hq, hq0⟩ hr
  rw [List.nil_append] at ht
  -- the slash is no blank, so there is no integer part
  have hb : ('/' :: (s2 ++ (q ++ rest))).takeWhile isHsp = [] := takeWhile_nil_of_next (NextNot.cons (by decide))
  rw [NumLit.print, e, fractionL, ht, lexFracInt_run hp (NextNot.cons (by decide)), if_pos hb]
  show some (fracValue none p q, rest) = _
  rw [fracValue_none]
  rfl

theorem fractionL_mixed {w s0 p s1 s2 q rest : Str} (h : (NumLit.mixed w s0 p s1 s2 q).WF) (hr : NextNot isDigit rest) :
    fractionL ((NumLit.mixed w s0 p s1 s2 q).print ++ rest) = some ((NumLit.mixed w s0 p s1 s2 q).value, rest) := by
  obtain ⟨hw, hs0ne, hs0, hp, hs1, hs2, hq, hq0⟩ := h
  have e : w ++ s0 ++ p ++ s1 ++ '/' :: s2 ++ q ++ rest = w ++ (s0 ++ (p ++ (s1 ++ '/' :: (s2 ++ (q ++ rest))))) := by
    simp
  have hi := lexFracInt_spelling (r := p ++ (s1 ++ '/' :: (s2 ++ (q ++ rest)))) hw hs0ne hs0
    (NextNot.of_run (fun _ => isHsp_of_isDigit) hp.1 hp.2)
  have ht := lexFracTail_spelling (r := rest) ⟨hp, hs1, hs2, hq, hq0⟩ hr
  rw [NumLit.print, e, fractionL, hi]
  simp only [ht]
  rfl

theorem fractionL_int {ds rest : Str} (hd : IsDigits ds) (hnd : NextNot isDigit rest)
    (hr : ∀ c, (rest.dropWhile isHsp).head? = some c → isDigit c = false ∧ c ≠ '/') : fractionL (ds ++ rest) = none := by
  have htail := lexFracTail_none_of_head (rest.dropWhile isHsp) fun c hc => (hr c hc).1
  have ht := lexFracTail_run_none hd.2 hnd (fun c hc => (hr c hc).2)
  rw [fractionL, lexFracInt_run hd hnd]
  by_cases hb : rest.takeWhile isHsp = [] <;> simp [hb, htail, ht]

theorem lexDecimal_int {ds rest : Str} (hd : IsDigits ds) (hnd : NextNot isDigit rest) (hdot : rest.head? ≠ some '.') :
    lexDecimal (ds ++ rest) = ((NumLit.int ds).value, rest) := by
  rw [lexDecimal_run hd.2 hnd]
  cases rest with
  | nil => rfl
  | cons x r =>
    simp only [show x ≠ '.' from fun hx => hdot (by rw [hx]; rfl), if_false]
    rfl

theorem lexDecimal_dec {whole fr rest : Str} (h : (NumLit.dec whole fr).WF) (hr : NextNot isDigit rest) :
    lexDecimal ((NumLit.dec whole fr).print ++ rest) = ((NumLit.dec whole fr).value, rest) := by
  have e : whole ++ '.' :: fr ++ rest = whole ++ '.' :: (fr ++ rest) := by simp
  rw [NumLit.print, e, lexDecimal_run h.1.2 (NextNot.cons (by decide))]
  simp only [if_true, takeWhile_run h.2 hr, dropWhile_run h.2 hr]
  rfl

theorem reads_decimal_int {ds rest : Str} (hd : IsDigits ds) (hr : NextNot isDigit rest) (hdot : rest.head? ≠ some '.') :
    Reads decimal (NumLit.int ds).print rest fun i => (i, (NumLit.int ds).value) :=
  reads_decimal_of (takeWhile_digits_ne_nil hd hr) (lexDecimal_int hd hr hdot)

theorem reads_decimal_dec {whole fr rest : Str} (h : (NumLit.dec whole fr).WF) (hr : NextNot isDigit rest) :
    Reads decimal (NumLit.dec whole fr).print rest fun i => (i, (NumLit.dec whole fr).value) := by
  refine reads_decimal_of ?_ (lexDecimal_dec h hr)
  have := takeWhile_digits_ne_nil (rest := '.' :: (fr ++ rest)) h.1 (NextNot.cons (by decide))
  simpa [NumLit.print] using this

end Parser

namespace C06
open Parser Brace

theorem numberAt_of_wf (l : NumLit) (rest : Str) (h : l.WF) (hf : l.Follow rest) :
    NumberAt l.print rest l.value := by
  apply numberAt_of
  cases l with
  | int ds =>
    have hnd : NextNot isDigit rest := head_not_digit_of_dropWhile_hsp fun c hc => (hf.2 c hc).1
    simp only [numberL, NumLit.print, fractionL_int h hnd hf.2, takeWhile_digits_ne_nil h hnd, if_false,
      lexDecimal_int h hnd hf.1]
  | dec whole fr =>
    have hnd : NextNot isDigit ('.' :: (fr ++ rest)) := NextNot.cons (by decide)
    have hfr : fractionL (whole ++ '.' :: (fr ++ rest)) = none := fractionL_int h.1 hnd (by simp [isHsp, isDigit])
    have h0 := takeWhile_digits_ne_nil h.1 hnd
    have hd := lexDecimal_dec h hf
    simp only [NumLit.print, List.append_assoc, List.cons_append] at hd ⊢
    simp only [numberL, hfr, h0, if_false, hd]
  | frac p s2 q => simp only [numberL, fractionL_frac h hf]
  | mixed w s0 p s1 s2 q => simp only [numberL, fractionL_mixed h hf]

theorem digitsValue_natDigits (n : Nat) : digitsValue (natDigits n) = n := digitsVal_natDigits n

end C06

namespace Parser
open Brace C06

theorem numberAt_digits {ds rest : Str} (hne : ds ≠ []) (hd : ∀ x ∈ ds, isDigit x = true)
    (hr : ∀ c, rest.head? = some c → isHsp c = false ∧ isDigit c = false ∧ c ≠ '/' ∧ c ≠ '.') :
    NumberAt ds rest ⟨((natOfDigits ds : Nat) : Rat), .int⟩ := by
  refine numberAt_of_wf (.int ds) rest ⟨hne, hd⟩ ⟨fun hc => (hr _ hc).2.2.2 rfl, fun c hc => ?_⟩
  rw [dropWhile_self_of_next (fun c hc => (hr c hc).1)] at hc
  exact ⟨(hr c hc).2.1, (hr c hc).2.2.1⟩

end Parser
end RG
