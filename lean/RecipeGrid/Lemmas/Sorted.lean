import RecipeGrid.Model.Num
/-! `insertionSort` (`Model/Num.lean`, the model of Python's stable `sorted`) sorts: its result is a permutation of its
    input, pairwise ordered when the comparison is total and transitive on the elements of the list, and therefore the
    same for every listing order of the same elements when the comparison is antisymmetric on them as well. -/
namespace RG

theorem insertSorted_perm {α} (le : α → α → Bool) (x : α) (l : List α) : (insertSorted le x l).Perm (x :: l) := by
  induction l with
  | nil => exact List.Perm.refl _
  | cons y ys ih =>
    simp only [insertSorted]
    split
    · exact List.Perm.refl _
    · exact (List.Perm.cons y ih).trans (List.Perm.swap x y ys)

theorem insertionSort_perm {α} (le : α → α → Bool) (l : List α) : (insertionSort le l).Perm l := by
  induction l with
  | nil => exact List.Perm.refl _
  | cons x xs ih =>
    simp only [insertionSort]
    exact (insertSorted_perm le x _).trans (List.Perm.cons x ih)

theorem mem_insertionSort {α} (le : α → α → Bool) (l : List α) (a : α) : a ∈ insertionSort le l ↔ a ∈ l :=
  (insertionSort_perm le l).mem_iff

theorem mem_flatMap_insertionSort_map {α β γ} (le : β → β → Bool) (f : α → β) (g : β → List γ) (l : List α) (e : γ) :
    e ∈ (insertionSort le (l.map f)).flatMap g ↔ ∃ a ∈ l, e ∈ g (f a) := by
  simp only [List.mem_flatMap, mem_insertionSort, List.mem_map]
  exact ⟨fun ⟨_, ⟨a, ha, e⟩, h⟩ => ⟨a, ha, e ▸ h⟩, fun ⟨a, ha, h⟩ => ⟨_, ⟨a, ha, rfl⟩, h⟩⟩

theorem map_insertSorted {α β} (f : α → β) (le : α → α → Bool) (le' : β → β → Bool)
    (h : ∀ a b, le a b = le' (f a) (f b)) (x : α) (l : List α) :
    (insertSorted le x l).map f = insertSorted le' (f x) (l.map f) := by
  induction l with
  | nil => rfl
  | cons y ys ih =>
    simp only [insertSorted, List.map_cons, ← h]
    split
    · rfl
    · simp only [List.map_cons, ih]

theorem map_insertionSort {α β} (f : α → β) (le : α → α → Bool) (le' : β → β → Bool)
    (h : ∀ a b, le a b = le' (f a) (f b)) (l : List α) :
    (insertionSort le l).map f = insertionSort le' (l.map f) := by
  induction l with
  | nil => rfl
  | cons x xs ih => simp only [insertionSort, List.map_cons, map_insertSorted f le le' h, ih]

theorem insertSorted_pairwise {α} (le : α → α → Bool) {p : α → Prop}
    (total : ∀ a b, p a → p b → le a b = true ∨ le b a = true)
    (trans : ∀ a b c, p a → p b → p c → le a b = true → le b c = true → le a c = true)
    {x : α} {l : List α} (hx : p x) (hl : ∀ a ∈ l, p a) (h : l.Pairwise (fun a b => le a b = true)) :
    (insertSorted le x l).Pairwise (fun a b => le a b = true) := by
  induction l with
  | nil => simp [insertSorted]
  | cons y ys ih =>
    simp only [insertSorted]
    obtain ⟨hy, hys⟩ := List.forall_mem_cons.mp hl
    obtain ⟨hyys, hp⟩ := List.pairwise_cons.mp h
    split
    · rename_i hxy
      refine List.pairwise_cons.mpr ⟨fun z hz => ?_, h⟩
      rcases List.mem_cons.mp hz with rfl | hz
      · exact hxy
      · exact trans x y z hx hy (hys z hz) hxy (hyys z hz)
    · rename_i hxy
      refine List.pairwise_cons.mpr ⟨fun z hz => ?_, ih hys hp⟩
      rcases List.mem_cons.mp ((insertSorted_perm le x ys).mem_iff.mp hz) with rfl | hz
      · exact (total z y hx hy).resolve_left hxy
      · exact hyys z hz

theorem insertionSort_pairwise {α} (le : α → α → Bool) (l : List α) (total : ∀ a ∈ l, ∀ b ∈ l, le a b = true ∨ le b a = true)
    (trans : ∀ a ∈ l, ∀ b ∈ l, ∀ c ∈ l, le a b = true → le b c = true → le a c = true) :
    (insertionSort le l).Pairwise (fun a b => le a b = true) := by
  -- the list being sorted shrinks in the induction; `l`, on whose elements `le` is an order, does not
  suffices ∀ m, (∀ a ∈ m, a ∈ l) → (insertionSort le m).Pairwise (fun a b => le a b = true) from this l fun _ h => h
  intro m hm
  induction m with
  | nil => simp [insertionSort]
  | cons x xs ih =>
    obtain ⟨hx, hxs⟩ := List.forall_mem_cons.mp hm
    exact insertSorted_pairwise le (p := (· ∈ l)) (fun a b ha hb => total a ha b hb)
      (fun a b c ha hb hc => trans a ha b hb c hc) hx (fun a ha => hxs a ((mem_insertionSort le xs a).mp ha)) (ih hxs)

theorem insertionSort_eq_of_perm {α} (le : α → α → Bool) (l₁ l₂ : List α)
    (total : ∀ a ∈ l₁, ∀ b ∈ l₁, le a b = true ∨ le b a = true)
    (trans : ∀ a ∈ l₁, ∀ b ∈ l₁, ∀ c ∈ l₁, le a b = true → le b c = true → le a c = true)
    (antisymm : ∀ a ∈ l₁, ∀ b ∈ l₁, le a b = true → le b a = true → a = b)
    (h : l₁.Perm l₂) : insertionSort le l₁ = insertionSort le l₂ := by
  have m : ∀ a, a ∈ l₂ → a ∈ l₁ := fun a ha => h.mem_iff.mpr ha
  apply List.Perm.eq_of_pairwise (le := fun a b => le a b = true)
  · intro a b ha hb
    exact antisymm a ((mem_insertionSort le l₁ a).mp ha) b (m b ((mem_insertionSort le l₂ b).mp hb))
  · exact insertionSort_pairwise le l₁ total trans
  · exact insertionSort_pairwise le l₂ (fun a ha b hb => total a (m a ha) b (m b hb))
      (fun a ha b hb c hc => trans a (m a ha) b (m b hb) c (m c hc))
  · exact (insertionSort_perm le l₁).trans (h.trans (insertionSort_perm le l₂).symm)

end RG
