import RecipeGrid.Lemmas.BraceRe
/-! `braceMatch` (the backtracking search of `pattern.match`) equals a search that only looks at
    backslashes and braces (`closeAt`). -/
namespace RG.Brace
open Re

/-- Where `\{(?P<source>…*)\}` closes, given the text after the opening brace: the text after the closing
    brace.  Only three characters matter.  A `}` closes.  A `{` cannot be consumed.  A backslash is first read
    as an escape of the next character (unless that is a line feed or the end of the text) and, if no closing
    brace can be reached that way, as an ordinary character.  Everything else is consumed. -/
def closeAt : Str → Option Str
  | [] => none
  | [ch] => if ch = '}' then some [] else none
  | ch :: e :: rest =>
    if ch = '}' then some (e :: rest)
    else if ch = '{' then none
    else if ch = '\\' ∧ e ≠ '\n' then
      match closeAt rest with
      | some r => some r
      | none => closeAt (e :: rest)
    else closeAt (e :: rest)

def isPlain (ch : Char) : Bool := ch != '\\' && ch != '{' && ch != '}'

theorem closeAt_plain_cons (ch : Char) (s : Str) (h : isPlain ch = true) : closeAt (ch :: s) = closeAt s := by
  simp only [isPlain, Bool.and_eq_true, bne_iff_ne, ne_eq] at h
  obtain ⟨⟨h1, h2⟩, h3⟩ := h
  cases s with
  | nil => simp [closeAt, h3]
  | cons e rest => simp [closeAt, h1, h2, h3]

theorem closeAt_plain_append : ∀ (x s : Str), (∀ ch ∈ x, isPlain ch = true) → closeAt (x ++ s) = closeAt s
  | [], _, _ => rfl
  | ch :: x, s, h => by
    rw [List.cons_append, closeAt_plain_cons ch _ (h ch (List.mem_cons_self ..))]
    exact closeAt_plain_append x s (fun c hc => h c (List.mem_cons_of_mem _ hc))

theorem closeAt_close (s : Str) : closeAt ('}' :: s) = some s := by
  cases s <;> simp [closeAt]

theorem closeAt_open (s : Str) : closeAt ('{' :: s) = none := by
  cases s <;> simp [closeAt]

theorem closeAt_backslash_nil : closeAt ['\\'] = none := by simp [closeAt]

theorem closeAt_backslash_nl (s : Str) : closeAt ('\\' :: '\n' :: s) = closeAt ('\n' :: s) := by
  simp [closeAt]

theorem closeAt_backslash (e : Char) (s : Str) (he : e ≠ '\n') :
    closeAt ('\\' :: e :: s) = match closeAt s with | some r => some r | none => closeAt (e :: s) := by
  simp [closeAt, he]

theorem starOK_anyPartRe : StarOK anyPartRe := by
  simp [anyPartRe, fractionRe, fracIntRe, fracTailRe, denomRe, decimalRe, freeTextRe, StarOK, nullable, plus, opt, chr, digit, hspc]

theorem first_fractionRe (ch : Char) : first fractionRe ch = isDigit ch := by
  simp [fractionRe, fracIntRe, fracTailRe, denomRe, first, nullable, plus, opt, chr, digit, hspc]

theorem first_decimalRe (ch : Char) : first decimalRe ch = isDigit ch := by
  simp [decimalRe, first, nullable, plus, opt, chr, digit]

theorem nullable_fractionRe : nullable fractionRe = false := by
  simp [fractionRe, fracIntRe, fracTailRe, denomRe, nullable, plus, opt, chr, digit, hspc]

theorem nullable_decimalRe : nullable decimalRe = false := by
  simp [decimalRe, nullable, plus, opt, chr, digit]

theorem nullable_anyPartRe : nullable anyPartRe = false := by
  simp [anyPartRe, freeTextRe, nullable_fractionRe, nullable_decimalRe, nullable, chr]

theorem first_anyPartRe (ch : Char) : first anyPartRe ch = (isDigit ch || ch == '\\' || isFreeChar ch) := by
  simp [anyPartRe, freeTextRe, first, nullable, first_fractionRe, first_decimalRe, chr, Bool.or_assoc]

theorem run_anyPartRe_nondigit {α : Type} (ch : Char) (rest : Str) (c : Caps) (k : Cont α)
    (hd : isDigit ch = false) :
    run anyPartRe (ch :: rest) c k = run freeTextRe (ch :: rest) c k := by
  unfold anyPartRe
  rw [run_alt_of_left_none, run_alt_of_left_none]
  · exact run_eq_none_of_first _ _ _ _ nullable_decimalRe (by simp [first_decimalRe, hd])
  · exact run_eq_none_of_first _ _ _ _ nullable_fractionRe (by simp [first_fractionRe, hd])

theorem run_freeTextRe {α : Type} (ch : Char) (rest : Str) (c : Caps) (k : Cont α) :
    run freeTextRe (ch :: rest) c k =
      match (if ch = '\\' then
              (match rest with
               | e :: rest' => if isDot e then k rest' ((gEscaped, [e]) :: c) else none
               | [] => none)
             else none) with
      | some r => some r
      | none => if isFreeChar ch then k rest ((gChar, [ch]) :: c) else none := by
  cases rest with
  | nil => simp [freeTextRe, run, chr]
  | cons e rest' =>
    simp [freeTextRe, run, chr]
    rfl

theorem alphabet_number_plain (ch : Char) (h : alphabet fractionRe ch = true ∨ alphabet decimalRe ch = true) :
    isPlain ch = true := by
  cases hp : isPlain ch with
  | true => rfl
  | false =>
    have : ch = '\\' ∨ ch = '{' ∨ ch = '}' := by
      simp only [isPlain, Bool.and_eq_false_iff, bne_eq_false_iff_eq] at hp
      rcases hp with (hp | hp) | hp
      · exact Or.inl hp
      · exact Or.inr (Or.inl hp)
      · exact Or.inr (Or.inr hp)
    rcases this with rfl | rfl | rfl <;> (revert h; decide)

structure ClosesWith {α : Type} (K : Cont α) (h : Str → α) : Prop where
  close : ∀ r c, K ('}' :: r) c = some (h r)
  other : ∀ s c, (∀ r, s ≠ '}' :: r) → K s c = none

theorem matches_decimalRe_digit (ch : Char) (h : isDigit ch = true) : Matches decimalRe [ch] := by
  refine ⟨[ch], [], rfl, ⟨[ch], [], rfl, ⟨ch, h, rfl⟩, ⟨[], rfl, by simp⟩⟩, Or.inr rfl⟩

theorem matches_anyPartRe_digit_plain (ch : Char) (x : Str) (hd : isDigit ch = true)
    (hx : Matches anyPartRe (ch :: x)) : ∀ c ∈ ch :: x, isPlain c = true := by
  intro c hc
  rcases hx with hx | hx | hx
  · exact alphabet_number_plain c (Or.inl (alphabet_of_matches _ _ hx c hc))
  · exact alphabet_number_plain c (Or.inr (alphabet_of_matches _ _ hx c hc))
  · have := first_of_matches _ _ _ hx
    have hne : ch ≠ '\\' := by intro h; subst h; revert hd; decide
    simp [freeTextRe, first, nullable, chr, isFreeChar, hd, hne] at this

/-- **the loop over the parts, followed by the closing brace, is the search `closeAt`**.
    At a digit the engine may try several number words; all of them are plain (digits, blanks, `/`, `.`), so `closeAt` is the
    same before and behind each, and one digit alone is a decimal, so by `run_complete` the loop cannot fail where the search
    succeeds.  At any other character the two alternatives of the free-text pattern are the two branches of `closeAt`. -/
theorem star_anyPart_eq {α : Type} (K : Cont α) (h : Str → α) (hK : ClosesWith K h) :
    ∀ (fuel : Nat) (s : Str) (c : Caps), s.length ≤ fuel →
      starK (run anyPartRe) fuel s c K = (closeAt s).map h := by
  intro fuel
  induction fuel with
  | zero =>
    intro s c hf
    have : s = [] := List.eq_nil_of_length_eq_zero (by omega)
    subst this
    exact hK.other [] c (by simp)
  | succ f ih =>
    intro s c hf
    cases s with
    | nil =>
      simp only [starK, closeAt, Option.map_none]
      rw [run_eq_none_of_first _ _ _ _ nullable_anyPartRe (by simp)]
      exact hK.other [] c (by simp)
    | cons ch rest =>
      simp only [List.length_cons] at hf
      have IH : ∀ (s' : Str) (c' : Caps), s'.length ≤ rest.length →
          starK (run anyPartRe) f s' c' K = (closeAt s').map h :=
        fun s' c' hl => ih s' c' (by omega)
      simp only [starK]
      by_cases hclose : ch = '}'
      · subst hclose
        rw [run_eq_none_of_first _ _ _ _ nullable_anyPartRe (by simp [first_anyPartRe]; decide)]
        simp [hK.close, closeAt_close]
      by_cases hopen : ch = '{'
      · subst hopen
        rw [run_eq_none_of_first _ _ _ _ nullable_anyPartRe (by simp [first_anyPartRe]; decide)]
        simp [closeAt_open]
        exact hK.other _ _ (by simp)
      have hother : K (ch :: rest) c = none := hK.other _ _ (by simp; intro h; exact absurd h hclose)
      cases hd : isDigit ch with
      | true =>
        have hplain : isPlain ch = true := matches_anyPartRe_digit_plain ch [] hd
          (Or.inr (Or.inl (matches_decimalRe_digit ch hd))) ch (List.mem_cons_self ..)
        cases hrun : run anyPartRe (ch :: rest) c (fun s' c' => starK (run anyPartRe) f s' c' K) with
        | some v =>
          obtain ⟨x, s', c', hs, hx, hk⟩ := run_sound _ _ _ _ _ hrun
          cases x with
          | nil =>
            have := nullable_of_matches_nil _ hx
            rw [nullable_anyPartRe] at this; cases this
          | cons d x =>
            simp only [List.cons_append, List.cons.injEq] at hs
            obtain ⟨rfl, hrest⟩ := hs
            have hpl := matches_anyPartRe_digit_plain ch x hd hx
            have hl : s'.length ≤ rest.length := by rw [hrest]; simp
            rw [IH s' c' hl] at hk
            have : closeAt (ch :: rest) = closeAt s' := by
              rw [hrest, ← List.cons_append]
              exact closeAt_plain_append _ _ hpl
            simp only [this]
            exact hk.symm
        | none =>
          simp only [hother]
          cases hc : closeAt (ch :: rest) with
          | none => rfl
          | some r =>
            exfalso
            rw [closeAt_plain_cons ch rest hplain] at hc
            have := run_complete (α := α) anyPartRe starOK_anyPartRe [ch]
              (Or.inr (Or.inl (matches_decimalRe_digit ch hd))) rest c
              (fun s' c' => starK (run anyPartRe) f s' c' K)
              (fun c' => by simp [IH rest c' (Nat.le_refl _), hc])
            simp only [List.cons_append, List.nil_append] at this
            rw [hrun] at this
            cases this
      | false =>
        rw [run_anyPartRe_nondigit _ _ _ _ hd, run_freeTextRe]
        by_cases hbs : ch = '\\'
        · subst hbs
          have hfree : isFreeChar '\\' = true := by decide
          simp only [if_true, hfree]
          cases rest with
          | nil =>
            simp only [IH [] _ (Nat.le_refl _), closeAt_backslash_nil]
            simp [closeAt, hother]
          | cons e rest' =>
            have h1 := IH rest' ((gEscaped, [e]) :: c) (by simp)
            have h2 := IH (e :: rest') ((gChar, ['\\']) :: c) (Nat.le_refl _)
            simp only [h1, h2, hother]
            by_cases he : e = '\n'
            · subst he
              have : isDot '\n' = false := by decide
              simp only [this]
              rw [closeAt_backslash_nl]
              cases closeAt ('\n' :: rest') <;> rfl
            · have : isDot e = true := by simp [isDot, he]
              simp only [this, if_true]
              rw [closeAt_backslash e rest' he]
              cases closeAt rest' <;> cases closeAt (e :: rest') <;> rfl
        · have hfree : isFreeChar ch = true := by simp [isFreeChar, hd, hclose, hopen]
          have hplain : isPlain ch = true := by simp [isPlain, hbs, hclose, hopen]
          simp only [hbs, if_false, hfree, if_true]
          rw [IH rest _ (Nat.le_refl _), closeAt_plain_cons ch rest hplain, hother]
          cases closeAt rest <;> rfl

end RG.Brace

namespace RG
open Re Brace

theorem braceMatch_nil : braceMatch [] = none := rfl

theorem braceMatch_not_open (ch : Char) (t : Str) (h : ch ≠ '{') : braceMatch (ch :: t) = none := by
  simp [braceMatch, patternRe, run, chr, h]

/-- **`pattern.match` is the search `closeAt`** -/
theorem braceMatch_eq_closeAt (t : Str) :
    braceMatch ('{' :: t) = (closeAt t).map (fun r => (t.take (t.length - (r.length + 1)), r)) := by
  have hK : ClosesWith (α := Str × Str)
      (fun s' c' => run (chr '}') s' ((gSource, t.take (t.length - s'.length)) :: c')
        (fun rest c => some ((c.get gSource).getD [], rest)))
      (fun r => (t.take (t.length - (r.length + 1)), r)) := by
    constructor
    · intro r c
      simp [run, chr, Caps.get]
    · intro s c hs
      cases s with
      | nil => rfl
      | cons ch rest =>
        have : ch ≠ '}' := by intro h; subst h; exact hs rest rfl
        simp [run, chr, this]
  have := star_anyPart_eq _ _ hK t.length t [] (Nat.le_refl _)
  rw [← this]
  simp [braceMatch, patternRe, run, chr]

end RG
