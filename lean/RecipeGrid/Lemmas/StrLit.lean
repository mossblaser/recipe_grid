/-! String literals under kernel evaluation.

The kernel reads `"lit".toList` off the UTF-8 bytes of the literal, in time quadratic in its length: for a source text
of 150 characters that is dearer than parsing it.  It also expands a literal to `String.ofList [chars]`, in linear
time, so `String.ofList ?l = "lit"` is solved by `rfl` with `?l` the character list, and `String.toList_ofList` turns
`"lit".toList` into that list.  The hypothesis of `toList_lit` has the literal on the right so that `rw [toList_lit]`
rewrites the literal itself: under a `match` the kernel would otherwise compare the two goals by evaluating both. -/
namespace RG

theorem toList_lit {s : String} {l : List Char} (h : String.ofList l = s) : s.toList = l :=
  h ▸ String.toList_ofList

/-- every `"lit".toList` of the goal becomes its character list, one literal per round (`rw` leaves the hypothesis
    `String.ofList ?l = "lit"` behind the main goal; it is closed first, by `rfl`, because that is what fixes `?l`) -/
macro "lit_chars" : tactic => `(tactic| repeat (rw [toList_lit]; rotate_left; rfl))

end RG
