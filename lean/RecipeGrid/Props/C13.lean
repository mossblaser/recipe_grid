import RecipeGrid.Lemmas.Markdown
/-! C13 — Markdown front end: (1) code blocks are grouped into independent recipes as documented;
    (3) the chained `str.replace` of placeholders in `MarkdownRecipe.render` is a token-level substitution
    whenever every placeholder occurs only at its own holes, so the result mentions no placeholder and does
    not depend on the placeholders chosen. -/
namespace RG.C13

def recipeIndices (blocks : List CodeBlockKind) : List Nat :=
  (blocks.zipIdx.filter (·.1.isRecipe)).map (·.2)

theorem group_flatten (blocks : List CodeBlockKind) : (groupBlocks blocks).flatten = recipeIndices blocks := by
  simp [groupBlocks, recipeIndices, groupBlocksAux_flatten, finGroups]

theorem group_nonempty (blocks : List CodeBlockKind) : ∀ g ∈ groupBlocks blocks, g ≠ [] := by
  rintro g hg rfl
  -- every head the loop records is `some`
  have : none ∈ (groupBlocks blocks).map (·.head?) := List.mem_map.2 ⟨[], hg, rfl⟩
  rw [groupBlocks, groupBlocksAux_heads_nil] at this
  split at this <;> simp at this

/-- C13.1, pointwise: block `i` heads a group iff it is the first recipe block or a `new-recipe` block -/
theorem group_head_iff (blocks : List CodeBlockKind) (i : Nat) :
    (∃ g ∈ groupBlocks blocks, g.head? = some i) ↔
      ∃ n, (recipeIndices blocks)[n]? = some i ∧ (n = 0 ∨ blocks[i]?.map (·.startsNew) = some true) := by
  have hmem : ∀ x ∈ blocks.zipIdx.filter (·.1.isRecipe), blocks[x.2]? = some x.1 := fun x hx => by
    simpa using List.mem_zipIdx_iff_getElem?.mp (List.mem_filter.mp hx).1
  have : (∃ g ∈ groupBlocks blocks, g.head? = some i) ↔ some i ∈ (groupBlocks blocks).map (·.head?) := by
    simp [List.mem_map]
  rw [this, groupBlocks, groupBlocksAux_heads_nil, recipeIndices]
  cases hrs : blocks.zipIdx.filter (·.1.isRecipe) with
  | nil => simp
  | cons p rest =>
    rw [hrs] at hmem
    constructor
    · intro h
      simp only [List.mem_cons, Option.some.injEq, List.mem_map, List.mem_filter] at h
      rcases h with rfl | ⟨q, ⟨hq, hn⟩, rfl⟩
      · exact ⟨0, by simp, Or.inl rfl⟩
      · obtain ⟨m, hm, rfl⟩ := List.mem_iff_getElem.1 hq
        exact ⟨m + 1, by simp [hm], Or.inr (by simp [hmem _ (List.mem_cons_of_mem _ hq), hn])⟩
    · rintro ⟨n, hn, hc⟩
      cases n with
      | zero => simp at hn; simp [hn]
      | succ m =>
        simp only [List.map_cons, List.getElem?_cons_succ, List.getElem?_map, Option.map_eq_some_iff] at hn
        obtain ⟨q, hq, rfl⟩ := hn
        have hq' := List.mem_of_getElem? hq
        simp only [Nat.succ_ne_zero, false_or, hmem _ (List.mem_cons_of_mem _ hq'),
          Option.map_some, Option.some.injEq] at hc
        simp only [List.mem_cons, Option.some.injEq, List.mem_map, List.mem_filter]
        exact Or.inr ⟨q, ⟨hq', hc⟩, rfl⟩

theorem isRecipe_iff (k : CodeBlockKind) :
    k.isRecipe = true ↔ k = .indented ∨ k = .fenced "recipe".toList ∨ k = .fenced "new-recipe".toList := by
  cases k <;> simp [CodeBlockKind.isRecipe]

theorem startsNew_iff (k : CodeBlockKind) : k.startsNew = true ↔ k = .fenced "new-recipe".toList := by
  cases k <;> simp [CodeBlockKind.startsNew]

example : groupBlocks [.indented, .fenced "python".toList, .fenced "recipe".toList, .fenced "new-recipe".toList, .indented]
    = [[0, 2], [3, 4]] := by decide +kernel
example : groupBlocks [.fenced "new-recipe".toList, .fenced "new-recipe".toList] = [[0], [1]] := by decide +kernel
example : groupBlocks [.fenced "sh".toList] = [] := by decide +kernel

theorem replaceAll_nil_pat (v s : Str) : replaceAll [] v s = s := by
  simp [replaceAll]
theorem replaceAll_unfold (p v : Str) (hp : p ≠ []) (c : Char) (rest : Str) :
    replaceAll p v (c :: rest) =
      if isPrefixOfStr p (c :: rest) then v ++ replaceAll p v ((c :: rest).drop p.length) else c :: replaceAll p v rest := by
  have hpe : p.isEmpty = false := List.isEmpty_eq_false_iff.mpr hp
  have hl : 0 < p.length := List.length_pos_iff.mpr hp
  simp only [replaceAll, hpe, Bool.false_eq_true, if_false, List.length_cons, replaceAllAux]
  split
  · congr 1
    apply replaceAllAux_fuel _ _ hp <;> simp only [List.length_drop, List.length_cons] <;> omega
  · rfl
theorem isInfixOfStr_iff (p s : Str) : isInfixOfStr p s = true ↔ ∃ k, isPrefixOfStr p (s.drop k) = true := by
  induction s with
  | nil =>
    cases p <;> simp [isInfixOfStr, isPrefixOfStr]
  | cons c s ih =>
    simp only [isInfixOfStr, Bool.or_eq_true, ih]
    constructor
    · rintro (h | ⟨k, h⟩)
      · exact ⟨0, h⟩
      · exact ⟨k + 1, h⟩
    · rintro ⟨k, h⟩
      cases k with
      | zero => exact Or.inl h
      | succ k => exact Or.inr ⟨k, h⟩
theorem isPrefixOfStr_iff (p s : Str) : isPrefixOfStr p s = true ↔ ∃ t, s = p ++ t := _root_.RG.isPrefixOfStr_iff p s
theorem replaceAll_append_lit (p v : Str) (hp : p ≠ []) (s rest : Str)
    (h : ∀ k, k < s.length → isPrefixOfStr p ((s ++ rest).drop k) = false) :
    replaceAll p v (s ++ rest) = s ++ replaceAll p v rest := by
  induction s with
  | nil => rfl
  | cons c s ih =>
    have h0 := h 0 (by simp)
    simp only [List.drop_zero, List.cons_append] at h0
    rw [List.cons_append, replaceAll_unfold p v hp, if_neg (by simp [h0]), ih]
    · rfl
    · intro k hk
      have := h (k + 1) (by simp; omega)
      simpa using this
theorem replaceAll_no_occurrence (p v s : Str) (h : ¬ isInfixOfStr p s = true) : replaceAll p v s = s := by
  by_cases hp : p = []
  · subst hp
    exact replaceAll_nil_pat v s
  · have := replaceAll_append_lit p v hp s [] (by
      intro k _
      rw [List.append_nil]
      cases hk : isPrefixOfStr p (s.drop k) with
      | false => rfl
      | true => exact absurd ((isInfixOfStr_iff p s).2 ⟨k, hk⟩) h)
    simpa [replaceAll_nil] using this
theorem replaceAll_append_pat (p v : Str) (hp : p ≠ []) (rest : Str) :
    replaceAll p v (p ++ rest) = v ++ replaceAll p v rest := by
  cases p with
  | nil => exact absurd rfl hp
  | cons a p =>
    rw [List.cons_append, replaceAll_unfold _ v hp, ← List.cons_append, if_pos ((isPrefixOfStr_iff _ _).2 ⟨rest, rfl⟩)]
    simp

inductive Tok where
  | lit (s : Str)
  | hole (i : Nat)
deriving Repr, DecidableEq

def flattenT (ph : Nat → Str) : List Tok → Str
  | [] => []
  | .lit s :: t => s ++ flattenT ph t
  | .hole i :: t => ph i ++ flattenT ph t

/-- token-level substitution: hole `i` is written as its value -/
def fill (val : Nat → Str) (t : List Tok) : Str := flattenT val t

def occurrences (p s : Str) : List Nat :=
  (List.range (s.length + 1)).filter (fun k => isPrefixOfStr p (s.drop k))

def holeOffsets (i : Nat) (ph : Nat → Str) : List Tok → List Nat
  | [] => []
  | .lit s :: t => (holeOffsets i ph t).map (· + s.length)
  | .hole j :: t => (if j = i then [0] else []) ++ (holeOffsets i ph t).map (· + (ph j).length)

/-- every occurrence of `p` in the flattened text is exactly a `hole i` token -/
def OnlyAtHoles (p : Str) (i : Nat) (ph : Nat → Str) (t : List Tok) : Prop :=
  occurrences p (flattenT ph t) = holeOffsets i ph t

instance (p : Str) (i : Nat) (ph : Nat → Str) (t : List Tok) : Decidable (OnlyAtHoles p i ph t) :=
  inferInstanceAs (Decidable (_ = _))

theorem mem_occurrences {p : Str} (hp : p ≠ []) (s : Str) (k : Nat) :
    k ∈ occurrences p s ↔ isPrefixOfStr p (s.drop k) = true := by
  simp only [occurrences, List.mem_filter, List.mem_range, and_iff_right_iff_imp]
  intro h
  by_cases hk : k < s.length + 1
  · exact hk
  · rw [List.drop_eq_nil_of_le (by omega)] at h
    cases p with
    | nil => exact absurd rfl hp
    | cons _ _ => cases h

/-- one step of the walk along a template: `X` are the occurrences inside `s`, `H` those in `r` -/
theorem occ_step {p s r : Str} {X H : List Nat} (hX : ∀ x ∈ X, x < s.length)
    (h : ∀ k, isPrefixOfStr p ((s ++ r).drop k) = true ↔ k ∈ X ++ H.map (· + s.length)) :
    (∀ k, k < s.length → k ∉ X → isPrefixOfStr p ((s ++ r).drop k) = false) ∧
      ∀ k, isPrefixOfStr p (r.drop k) = true ↔ k ∈ H := by
  constructor
  · intro k hk hkX
    rw [← Bool.not_eq_true, h]
    simp only [List.mem_append, List.mem_map, not_or, not_exists, not_and]
    exact ⟨hkX, fun a _ => by omega⟩
  · intro k
    have := h (k + s.length)
    rw [Nat.add_comm, ← List.drop_drop, List.drop_left, Nat.add_comm] at this
    rw [this]
    simp only [List.mem_append, List.mem_map, Nat.add_right_cancel_iff, exists_eq_right, or_iff_right_iff_imp]
    intro hx
    have := hX _ hx
    omega

theorem replaceAll_hole_of_mem (p v : Str) (hp : p ≠ []) (t : List Tok) (i : Nat) (ph : Nat → Str) (hpi : ph i = p)
    (hOnly : ∀ k, isPrefixOfStr p ((flattenT ph t).drop k) = true ↔ k ∈ holeOffsets i ph t) :
    replaceAll p v (flattenT ph t) = flattenT (fun j => if j = i then v else ph j) t := by
  induction t with
  | nil => simp [flattenT, replaceAll_nil]
  | cons tok t ih =>
    cases tok with
    | lit s =>
      obtain ⟨h1, h2⟩ := occ_step (X := []) (by simp) (by simpa [flattenT, holeOffsets] using hOnly)
      simp only [flattenT]
      rw [replaceAll_append_lit p v hp _ _ (fun k hk => h1 k hk (by simp)), ih h2]
    | hole j =>
      simp only [flattenT]
      by_cases hj : j = i
      · subst hj
        have hl : 0 < p.length := List.length_pos_iff.mpr hp
        obtain ⟨_, h2⟩ := occ_step (s := ph j) (X := [0]) (by simpa [hpi] using hl) (by simpa [flattenT, holeOffsets] using hOnly)
        rw [hpi, replaceAll_append_pat p v hp, ih h2]
        simp
      · obtain ⟨h1, h2⟩ := occ_step (X := []) (by simp) (by simpa [flattenT, holeOffsets, hj] using hOnly)
        rw [replaceAll_append_lit p v hp _ _ (fun k hk => h1 k hk (by simp)), ih h2]
        simp [hj]

theorem replaceAll_hole (p v : Str) (hp : p ≠ []) (t : List Tok) (i : Nat) (ph : Nat → Str) (hpi : ph i = p)
    (hOnly : OnlyAtHoles p i ph t) :
    replaceAll p v (flattenT ph t) = flattenT (fun j => if j = i then v else ph j) t :=
  replaceAll_hole_of_mem p v hp t i ph hpi fun k => by rw [← mem_occurrences hp, hOnly]


/-- `html.replace(ph 0, v₀).replace(ph 1, v₁)…`: the placeholders `ph n, ph (n+1), …` replaced one after the other -/
def chainFrom (ph : Nat → Str) : Nat → List Str → Str → Str
  | _, [], s => s
  | n, v :: vs, s => chainFrom ph (n + 1) vs (replaceAll (ph n) v s)
def chainReplace (ph : Nat → Str) (vals : List Str) (s : Str) : Str := chainFrom ph 0 vals s

/-- the holes after `n` replacements: the first `n` carry their values, the rest still their placeholders -/
def filledUpTo (ph : Nat → Str) (vals : List Str) (n : Nat) : Nat → Str :=
  fun j => if j < n then vals.getD j [] else ph j

/-- every replacement of the chain meets, in the *current* text, its placeholder only at its own holes -/
def ChainOK (ph : Nat → Str) (vals : List Str) (t : List Tok) : Prop :=
  ∀ n, n < vals.length → ph n ≠ [] ∧ OnlyAtHoles (ph n) n (filledUpTo ph vals n) t

instance (ph : Nat → Str) (vals : List Str) (t : List Tok) : Decidable (ChainOK ph vals t) :=
  inferInstanceAs (Decidable (∀ n, n < vals.length → _))

/-- every hole of the template has a value -/
def HolesBelow (n : Nat) (t : List Tok) : Prop := ∀ tok ∈ t, match tok with | .hole i => i < n | .lit _ => True

theorem chainFrom_filledUpTo (t : List Tok) (vals : List Str) (ph : Nat → Str) (h : ChainOK ph vals t) :
    ∀ d n, n + d = vals.length →
      chainFrom ph n (vals.drop n) (flattenT (filledUpTo ph vals n) t) = flattenT (filledUpTo ph vals vals.length) t := by
  intro d
  induction d with
  | zero =>
    intro n hn
    have : n = vals.length := by omega
    subst this
    simp [chainFrom]
  | succ d ih =>
    intro n hn
    have hlt : n < vals.length := by omega
    rw [List.drop_eq_getElem_cons hlt]
    simp only [chainFrom]
    obtain ⟨hne, hOnly⟩ := h n hlt
    rw [replaceAll_hole (ph n) vals[n] hne t n (filledUpTo ph vals n) (by simp [filledUpTo]) hOnly]
    have : (fun j => if j = n then vals[n] else filledUpTo ph vals n j) = filledUpTo ph vals (n + 1) := by
      funext j
      unfold filledUpTo
      by_cases hj : j = n
      · subst hj
        simp [hlt]
      · by_cases hj2 : j < n
        · have : j < n + 1 := by omega
          simp [hj, hj2, this]
        · have : ¬ j < n + 1 := by omega
          simp [hj, hj2, this]
    rw [this]
    exact ih (n + 1) (by omega)

theorem flattenT_congr (f g : Nat → Str) (t : List Tok) (n : Nat) (hb : HolesBelow n t) (h : ∀ i, i < n → f i = g i) :
    flattenT f t = flattenT g t := by
  induction t with
  | nil => rfl
  | cons tok t ih =>
    have ht : HolesBelow n t := fun x hx => hb x (List.mem_cons_of_mem _ hx)
    cases tok with
    | lit s => simp [flattenT, ih ht]
    | hole i =>
      have := hb (.hole i) (by simp)
      simp [flattenT, ih ht, h i this]

theorem chainReplace_eq_filledUpTo (t : List Tok) (vals : List Str) (ph : Nat → Str) (h : ChainOK ph vals t) :
    chainReplace ph vals (flattenT ph t) = flattenT (filledUpTo ph vals vals.length) t := by
  have := chainFrom_filledUpTo t vals ph h vals.length 0 (by simp)
  have h0 : filledUpTo ph vals 0 = ph := by funext j; simp [filledUpTo]
  simpa [h0, chainReplace] using this

/-- C13.3 the rendered text is the template with every hole filled by its value: it mentions no placeholder -/
theorem render_no_residue (t : List Tok) (vals : List Str) (ph : Nat → Str) (h : ChainOK ph vals t)
    (hb : HolesBelow vals.length t) :
    chainReplace ph vals (flattenT ph t) = fill (fun i => vals.getD i []) t := by
  rw [chainReplace_eq_filledUpTo t vals ph h]
  exact flattenT_congr _ _ t vals.length hb (fun i hi => by simp [filledUpTo, hi])

/-- C13.3 the result does not depend on the placeholders chosen -/
theorem render_placeholder_invariant (t : List Tok) (vals : List Str) (ph ph' : Nat → Str)
    (h : ChainOK ph vals t) (h' : ChainOK ph' vals t) (hb : HolesBelow vals.length t) :
    chainReplace ph vals (flattenT ph t) = chainReplace ph' vals (flattenT ph' t) := by
  rw [render_no_residue t vals ph h hb, render_no_residue t vals ph' h' hb]



/-- the model's replacement loops (`renderDoc`: a fold of `replaceAll` over (placeholder, value) pairs) are `chainReplace` -/
theorem foldl_replaceAll_eq_chainFrom (pairs : List (Str × Str)) (ph : Nat → Str) (n : Nat) (s : Str)
    (hph : ∀ k, (h : k < pairs.length) → ph (n + k) = pairs[k].1) :
    pairs.foldl (fun h pv => replaceAll pv.1 pv.2 h) s = chainFrom ph n (pairs.map (·.2)) s := by
  induction pairs generalizing n s with
  | nil => rfl
  | cons pv rest ih =>
    have h0 := hph 0 (by simp)
    simp only [Nat.add_zero, List.getElem_cons_zero] at h0
    simp only [List.foldl_cons, List.map_cons, chainFrom, h0]
    apply ih
    intro k hk
    have := hph (k + 1) (by simpa using hk)
    simpa [Nat.add_assoc, Nat.add_comm 1 k] using this

theorem foldl_replaceAll_eq_chainReplace (pairs : List (Str × Str)) (s : Str) :
    pairs.foldl (fun h pv => replaceAll pv.1 pv.2 h) s =
      chainReplace (fun i => (pairs.map (·.1)).getD i []) (pairs.map (·.2)) s :=
  foldl_replaceAll_eq_chainFrom pairs _ 0 s (by intro k hk; simp [hk])

theorem renderDoc_svs_loop (d : MdDoc) (k : Num) :
    d.svs.foldl (fun h (phs : Str × SVS) => replaceAll phs.1 (renderSvs (Svs.scale k phs.2)) h) d.html =
      chainReplace (fun i => (d.svs.map (·.1)).getD i []) (d.svs.map fun phs => renderSvs (Svs.scale k phs.2)) d.html := by
  have := foldl_replaceAll_eq_chainReplace (d.svs.map fun phs => (phs.1, renderSvs (Svs.scale k phs.2))) d.html
  simpa [List.foldl_map, Function.comp_def] using this

-- non-vacuity: a two-hole template; the chain is fine with distinct placeholders …
example : ChainOK (fun i => if i = 0 then "@A@".toList else "@B@".toList) ["1".toList, "22".toList]
    [.lit "x ".toList, .hole 0, .lit " y ".toList, .hole 1, .hole 0] := by decide +kernel
example : chainReplace (fun i => if i = 0 then "@A@".toList else "@B@".toList) ["1".toList, "22".toList]
    (flattenT (fun i => if i = 0 then "@A@".toList else "@B@".toList) [.lit "x ".toList, .hole 0, .lit " y ".toList, .hole 1, .hole 0])
    = "x 1 y 221".toList := by decide +kernel
-- … and is rejected when a placeholder also occurs in a literal, straddles a token boundary, or is shared
example : ¬ OnlyAtHoles "@A@".toList 0 (fun _ => "@A@".toList) [.lit "see @A@ ".toList, .hole 0] := by decide +kernel
example : ¬ OnlyAtHoles "aa".toList 0 (fun _ => "aa".toList) [.lit "a".toList, .hole 0] := by decide +kernel
example : ¬ OnlyAtHoles "@A@".toList 0 (fun _ => "@A@".toList) [.hole 0, .hole 1] := by decide +kernel
-- without the side condition `str.replace` is NOT token-level substitution
example : replaceAll "aa".toList "v".toList (flattenT (fun _ => "aa".toList) [.lit "a".toList, .hole 0]) ≠
    flattenT (fun _ => "v".toList) [.lit "a".toList, .hole 0] := by decide +kernel

end RG.C13
