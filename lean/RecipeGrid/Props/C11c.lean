import RecipeGrid.Lemmas.FmtSpelling
import RecipeGrid.Lemmas.NumberInv
import RecipeGrid.Lemmas.Redisplay
import RecipeGrid.Lemmas.ReaderInv
/-! C11 (last clause) — "the shown text reads back, with the tool's own number syntax, to a value within half a
    unit of the last shown digit", stated against the tool's two readers of numbers instead of the
    specification-level `readDecimal` of `Props/C11.lean`:

    (a) the recipe grammar's `number` rule (`Parser.number`, tied to `grammar.peg` + `RecipeTransformer`);
    (b) `number_parser.number` (`numberReader`, `Model/NumberReader.lean`, used by `recipe-grid --scale`).

    `shownNum x` (`Lemmas/FmtSpelling.lean`) is the number both readers return for the text of `format_number x`:
    the `int`/`Fraction` itself when it is shown exactly, otherwise the shown decimal `roundedDecimal y` — as an `int`
    when no point is shown, and as the double nearest to it (`toDouble`) when a point is shown. -/
namespace RG.C11
open RG.NumberReader RG.C06 RG.Parser

/-- **main theorem, reader (b)**: for every non-negative number below `10^290`, `number_parser.number` reads the text
    of `format_number` back as `shownNum x` (it does not raise, and the text is inside the modelled language). -/
theorem reader_reads_format (x : Num) (hx : 0 ≤ x.val) (hb : x.val < ((10 ^ (maxLen - 10) : Nat) : Rat)) :
    numberReader (formatNumber x) = .value (shownNum x) := by
  obtain ⟨l, hwf, hp, hv⟩ := formatNumber_spelling x hx
  have hlen := formatNumber_length x hx hb
  rw [hp] at hlen ⊢
  rw [numberReader_of_wf l hwf hlen, hv]

theorem formatNumber_inL (x : Num) (hx : 0 ≤ x.val) (hb : x.val < ((10 ^ (maxLen - 10) : Nat) : Rat)) :
    inL (formatNumber x) = true :=
  inL_of_ne_outside (by rw [reader_reads_format x hx hb]; exact fun h => nomatch h)

theorem shownNum_kind (x : Num) (hx : 0 ≤ x.val) :
    (shownNum x).kind =
      (if '/' ∈ formatNumber x then .frac else if '.' ∈ formatNumber x then .flt else .int) := by
  have hdec : ∀ y : Rat, 0 ≤ y → '/' ∉ formatFloat y ∧
      (decimalNum y).kind = (if '.' ∈ formatFloat y then .flt else .int) := by
    intro y hy
    constructor
    · obtain ⟨l, hwf, hp, -, ⟨n, rfl, -⟩ | ⟨s, rfl, -, -, -⟩⟩ := formatFloat_spelling y hy
      · rw [hp]; exact not_mem_natDigits (by decide) n
      · rw [hp]; intro h
        simp only [NumLit.print, List.mem_append, List.mem_cons] at h
        rcases h with h | h | h
        · exact not_mem_natDigits (by decide) _ h
        · cases h
        · have := hwf.2 '/' h
          simp [isDigit] at this
    · exact decimalNum_kind_of_point y
  rcases formatNumber_cases x hx with ⟨-, e, es⟩ | ⟨-, -, e, es⟩ | ⟨-, hd, ha, e, es⟩ | ⟨-, -, -, e, es⟩ <;> rw [e, es]
  · have := hdec x.val hx
    simp [this.1, this.2]
  · simp [not_mem_natDigits (c := '/') (by decide), dot_not_mem_natDigits]
  · obtain ⟨l, -, hp, -, rfl | ⟨rfl, -⟩⟩ := formatFraction_spelling x.val hx hd ha <;>
      simp [hp, NumLit.print]
  · have := hdec (toDouble x.val) (toDouble_nonneg hx)
    simp [this.1, this.2]

/-- **value and error of what is read back** (decimal notation).  `y` is the number shown (`x.val` for a float, the nearest
    double for a Fraction without an allowed denominator), `d = fracDigits 3 y` the decimals the budget leaves:
    * no point shown: the `int` read back is `y` rounded half-to-even to `d` decimals - within half a unit `10^-d`;
    * point shown: the `float` read back is the double nearest to that rounded decimal - within half a unit plus
      `2·10^3/2^53 ≈ 2.2·10^-13` half-units (the reader's own rounding; see `reader_excess_witness`). -/
theorem reader_value_err (y : Rat) (hy : 0 ≤ y) :
    (decimalNum y).val = (if '.' ∈ formatFloat y then toDouble (roundedDecimal y) else roundedDecimal y) ∧
    ('.' ∉ formatFloat y →
      2 * ((10 ^ fracDigits Gen.significantFigures y : Nat) : Rat) * ((decimalNum y).val - y) ≤ 1 ∧
      2 * ((10 ^ fracDigits Gen.significantFigures y : Nat) : Rat) * (y - (decimalNum y).val) ≤ 1) ∧
    ('.' ∈ formatFloat y →
      2 * ((10 ^ fracDigits Gen.significantFigures y : Nat) : Rat) * ((decimalNum y).val - y)
        ≤ 1 + 2 * ((10 ^ Gen.significantFigures : Nat) : Rat) / 9007199254740992 ∧
      2 * ((10 ^ fracDigits Gen.significantFigures y : Nat) : Rat) * (y - (decimalNum y).val)
        ≤ 1 + 2 * ((10 ^ Gen.significantFigures : Nat) : Rat) / 9007199254740992) := by
  refine ⟨?_, decimalNum_err y hy⟩
  exact decimalNum_val y

/-- the rounded decimal is the value C11.1 proves for the shown text (`formatFloat_value`, via the specification reader
    `readDecimal`): both readers return what `readDecimal` reads, up to the final `toDouble` -/
theorem roundedDecimal_eq_readDecimal (y : Rat) (hy : 0 ≤ y) :
    readDecimal (formatFloat y) = some (roundedDecimal y) :=
  formatFloat_value Gen.significantFigures y hy

/-- **all of it, reader (b)**: the text of `format_number x` is read by `number_parser.number` as a value `v` with
    * `x` an int (or integer-valued Fraction): `v = x` exactly, kind `int`;
    * `x` a Fraction with an allowed denominator: `v = x` exactly, kind `Fraction`;
    * otherwise (`y` = the float, or the nearest double of the Fraction): `v = decimalNum y`, whose value, kind and
      distance from `y` are given by `reader_value_err` and `shownNum_kind`. -/
theorem reader_reads_format_cases (x : Num) (hx : 0 ≤ x.val) (hb : x.val < ((10 ^ (maxLen - 10) : Nat) : Rat)) :
    ∃ v, numberReader (formatNumber x) = .value v ∧
      (x.isFlt = false → x.val.den = 1 → v = ⟨x.val, .int⟩) ∧
      (x.isFlt = false → x.val.den ≠ 1 → x.val.den ∈ Gen.allowedDenominators → v = ⟨x.val, .frac⟩) ∧
      (x.isFlt = true → v = decimalNum x.val) ∧
      (x.isFlt = false → x.val.den ≠ 1 → x.val.den ∉ Gen.allowedDenominators → v = decimalNum (toDouble x.val)) ∧
      v.kind = (if '/' ∈ formatNumber x then .frac else if '.' ∈ formatNumber x then .flt else .int) :=
  ⟨shownNum x, reader_reads_format x hx hb, shownNum_int x, shownNum_fraction x, shownNum_float x,
    shownNum_fallback x, shownNum_kind x hx⟩

theorem reader_kind_by_value (y : Rat) (hy : 0 ≤ y) :
    ('.' ∈ formatFloat y ↔ (roundedDecimal y).den ≠ 1) ∧
    (decimalNum y).kind = (if (roundedDecimal y).den = 1 then .int else .flt) :=
  ⟨point_shown_iff y hy, decimalNum_kind y hy⟩

theorem formatNumber_decimalNum (y : Rat) (hy : 0 ≤ y) : formatNumber (decimalNum y) = formatFloat y := by
  by_cases hd : '.' ∈ formatFloat y
  · rw [decimalNum_of_point hd, formatNumber, show Num.isFlt ⟨_, .flt⟩ = true from rfl, if_pos rfl]
    exact formatFloat_redisplay y hy hd
  · obtain ⟨n, hp, hn⟩ := formatFloat_of_no_point hy hd
    rw [decimalNum_of_no_point hd, hn, hp]
    exact format_int_exact n

/-- **display ∘ read ∘ display = display**: the number either reader returns for the text of `format_number x` is shown
    as exactly that text again (for decimals: the double nearest to a shown decimal of at most three significant digits
    is displayed as the same decimal - the reader's own rounding never changes what is shown) -/
theorem redisplay_stable (x : Num) (hx : 0 ≤ x.val) : formatNumber (shownNum x) = formatNumber x := by
  rcases formatNumber_cases x hx with ⟨-, e, es⟩ | ⟨hf, hd, -, es⟩ | ⟨hf, hd, ha, -, es⟩ | ⟨-, -, -, e, es⟩
  · rw [es, e, formatNumber_decimalNum x.val hx]
  · have e : (⟨x.val, NumKind.int⟩ : Num).isFlt = false := rfl
    rw [es]; simp only [formatNumber, hf, e]
  · have e : (⟨x.val, NumKind.frac⟩ : Num).isFlt = false := rfl
    rw [es]; simp only [formatNumber, hf, e]
  · rw [es, e, formatNumber_decimalNum _ (toDouble_nonneg hx)]

theorem reread_stable (x : Num) (hx : 0 ≤ x.val) (hb : x.val < ((10 ^ (maxLen - 10) : Nat) : Rat)) :
    numberReader (formatNumber (shownNum x)) = .value (shownNum x) := by
  rw [redisplay_stable x hx]; exact reader_reads_format x hx hb

/-- what may follow a number in the recipe text for `number` to stop exactly at its end: no ".", and - after optional
    blanks - neither a digit nor a "/" (so in particular no digit directly).  The end of the text qualifies. -/
def FollowsNumber (rest : Str) : Prop :=
  rest.head? ≠ some '.' ∧ ∀ c, (rest.dropWhile isHsp).head? = some c → isDigit c = false ∧ c ≠ '/'

theorem followsNumber_nil : FollowsNumber [] := by
  constructor
  · simp
  · intro c hc; simp at hc

theorem FollowsNumber.follow {rest : Str} (h : FollowsNumber rest) (l : NumLit) : l.Follow rest := by
  have hnd : NextNot isDigit rest := Brace.head_not_digit_of_dropWhile_hsp fun c hc => (h.2 c hc).1
  cases l with
  | int ds => exact h
  | dec w f => exact hnd
  | frac p s2 q => exact hnd
  | mixed w s0 p s1 s2 q => exact hnd

/-- **main theorem, reader (a)**: wherever the text of `format_number x` stands in a recipe (after any `pre`), followed by
    the end of the text or anything that `FollowsNumber` allows, the grammar's `number` rule consumes exactly that text
    and returns `shownNum x` - the same number, with the same kind, as reader (b). -/
theorem grammar_reads_format (x : Num) (hx : 0 ≤ x.val) (pre rest : Str) (z : Bool) (hrest : FollowsNumber rest) :
    number (pre ++ formatNumber x ++ rest).toArray ⟨pre.length, z⟩
      = some ((pre.length, shownNum x), ⟨(pre ++ formatNumber x).length, z⟩) := by
  obtain ⟨l, hwf, hp, hv⟩ := formatNumber_spelling x hx
  rw [hp, ← hv]
  exact run_after_prefix pre z fun ht => numberAt_of_wf l rest hwf (hrest.follow l) _ _ z ht

theorem readers_agree_on_format (x : Num) (hx : 0 ≤ x.val) (hb : x.val < ((10 ^ (maxLen - 10) : Nat) : Rat)) (z : Bool) :
    numberReader (formatNumber x) = .value (shownNum x) ∧
    number (formatNumber x).toArray ⟨0, z⟩ = some ((0, shownNum x), ⟨(formatNumber x).length, z⟩) :=
  ⟨reader_reads_format x hx hb, by simpa using grammar_reads_format x hx [] [] z followsNumber_nil⟩

theorem number_inv_whole {s : Str} {z : Bool} {r : Nat × Num} {s' : PState}
    (h : number s.toArray ⟨0, z⟩ = some (r, s')) (hall : s'.pos = s.length) :
    ∃ l : NumLit, l.WF ∧ s = l.print ∧ r = (0, l.value) := by
  obtain ⟨l, rest, hwf, hd, -, hr, hs⟩ := number_inv h
  have hd' : s = l.print ++ rest := by simpa using hd
  have hrest : rest = [] := by
    rw [hs] at hall
    have := congrArg List.length hd'
    simp only [List.length_append] at this
    exact List.length_eq_zero_iff.mp (by simp at hall; omega)
  rw [hrest, List.append_nil] at hd'
  exact ⟨l, hwf, hd', hr⟩

/-- **`readers_agree`**: on every text of at most `maxLen` characters that the grammar's `number` rule matches
    completely, `number_parser.number` returns the same value with the same kind.  (Such a text is in **L**:
    `readers_agree_inL`.) -/
theorem readers_agree (s : Str) (hlen : s.length ≤ maxLen) (z : Bool) {off : Nat} {v : Num} {s' : PState}
    (h : number s.toArray ⟨0, z⟩ = some ((off, v), s')) (hall : s'.pos = s.length) :
    numberReader s = .value v := by
  obtain ⟨l, hwf, rfl, hr⟩ := number_inv_whole h hall
  cases hr
  exact numberReader_of_wf l hwf hlen

theorem readers_agree_inL (s : Str) (hlen : s.length ≤ maxLen) (z : Bool) {r : Nat × Num} {s' : PState}
    (h : number s.toArray ⟨0, z⟩ = some (r, s')) (hall : s'.pos = s.length) : inL s = true :=
  inL_of_ne_outside (by rw [readers_agree s hlen z (off := r.1) (v := r.2) (s' := s') h hall]; exact fun h => nomatch h)

/-- the grammar's `number` rule never matches a zero denominator and never fails with an error: on a text it matches
    completely the other reader neither raises `ValueError` nor `ZeroDivisionError` -/
theorem reader_total_on_grammar_numbers (s : Str) (hlen : s.length ≤ maxLen) (z : Bool) {r : Nat × Num} {s' : PState}
    (h : number s.toArray ⟨0, z⟩ = some (r, s')) (hall : s'.pos = s.length) :
    numberReader s ≠ .valueError ∧ numberReader s ≠ .zeroDivision ∧ numberReader s ≠ .outside := by
  have h2 := readers_agree s hlen z (off := r.1) (v := r.2) (s' := s') h hall
  rw [h2]
  exact ⟨(by intro h; cases h), (by intro h; cases h), (by intro h; cases h)⟩

def GrammarMatchesAll (s : Str) (z : Bool) : Prop :=
  ∃ r s', number s.toArray ⟨0, z⟩ = some (r, s') ∧ s'.pos = s.length

theorem print_getLast_not_blank (l : NumLit) (h : l.WF) : ∀ c, l.print.getLast? = some c → isHsp c = false := by
  have hdig : ∀ (a q : Str), IsDigits q → ∀ c, (a ++ q).getLast? = some c → isHsp c = false := by
    intro a q hq c hc
    rw [List.getLast?_append] at hc
    cases hq' : q.getLast? with
    | none => exact absurd (List.getLast?_eq_none_iff.mp hq') hq.1
    | some x =>
      simp [hq'] at hc; subst hc
      exact isHsp_of_isDigit (hq.2 _ (List.mem_of_getLast? hq'))
  cases l with
  | int ds => exact hdig [] ds h
  | dec w f => exact getLast?_append_cons_digits (by decide) h.2
  | frac p s2 q => exact hdig _ q h.2.2.1
  | mixed w s0 p s1 s2 q => exact hdig _ q h.2.2.2.2.2.2.1

theorem grammar_none_of_head {s : Str} {c : Char} (hc : s.head? = some c) (h : isHsp c = true ∨ c = '.') (z : Bool) :
    number s.toArray ⟨0, z⟩ = none := by
  apply number_fail_of_head z (s := s) (by simp)
  intro d hd
  rw [hc] at hd; cases hd
  rcases h with h | rfl
  · exact isDigit_of_isHsp h
  · decide

/-- a blank before the slash with a single digit run before it: the grammar's rule takes the digit run as an
    integer part, finds no numerator, gives the fraction up and reads the integer alone -/
theorem grammar_int_of_blank_before_slash {p s1 r : Str} (hp : IsDigits p) (hne : s1 ≠ []) (hs1 : IsBlanks s1) (z : Bool) :
    number (p ++ s1 ++ '/' :: r).toArray ⟨0, z⟩ = some ((0, ⟨((digitsValue p : Nat) : Rat), .int⟩), ⟨p.length, z⟩) := by
  have hnd : NextNot isDigit (s1 ++ '/' :: r) := NextNot.of_run (fun _ => isDigit_of_isHsp) hne hs1
  have hdot : (s1 ++ '/' :: r).head? ≠ some '.' := fun h =>
    absurd (head_append_of_ne (p := fun c => isHsp c = true) hne hs1 _ h) (by decide)
  have hi := Brace.lexFracInt_spelling (r := '/' :: r) hp hne hs1 (by simp [isHsp])
  have ht := Brace.lexFracTail_none_of_head ('/' :: r) (by simp [isDigit])
  have hL : numberL (p ++ (s1 ++ '/' :: r)) = some ((NumLit.int p).value, s1 ++ '/' :: r) := by
    simp only [numberL, fractionL, hi, ht, Option.map_none, takeWhile_digits_ne_nil hp hnd, if_false,
      lexDecimal_int hp hnd hdot]
  have := numberAt_of hL (p ++ (s1 ++ '/' :: r)).toArray 0 z (by simp)
  simpa [NumLit.value] using this

theorem not_matchesAll_of_head {s : Str} {c : Char} (hc : s.head? = some c) (h : isHsp c = true ∨ c = '.') (z : Bool) :
    ¬ GrammarMatchesAll s z := by
  rintro ⟨r, s', hm, -⟩
  rw [grammar_none_of_head hc h z] at hm
  cases hm

theorem not_matchesAll_of_last {s : Str} {c : Char} (hc : s.getLast? = some c) (h : isHsp c = true) (z : Bool) :
    ¬ GrammarMatchesAll s z := by
  rintro ⟨r, s', hm, hall⟩
  obtain ⟨l, hwf, rfl, -⟩ := number_inv_whole hm hall
  have := print_getLast_not_blank l hwf c hc
  rw [h] at this
  cases this

theorem blank_edge {b1 b2 : Str} (m : Str) (hb1 : IsBlanks b1) (hb2 : IsBlanks b2) (hb : b1 ≠ [] ∨ b2 ≠ []) (z : Bool) :
    ¬ GrammarMatchesAll (b1 ++ m ++ b2) z ∧
    ∃ c, ((b1 ++ m ++ b2).head? = some c ∨ (b1 ++ m ++ b2).getLast? = some c) ∧ isHsp c = true := by
  rcases hb with hb | hb
  · cases b1 with
    | nil => exact absurd rfl hb
    | cons c cs =>
      have hc : isHsp c = true := hb1 c (by simp)
      exact ⟨not_matchesAll_of_head (by simp) (Or.inl hc) z, c, Or.inl (by simp), hc⟩
  · cases hb2' : b2.getLast? with
    | none => exact absurd (List.getLast?_eq_none_iff.mp hb2') hb
    | some c =>
      have hl : (b1 ++ m ++ b2).getLast? = some c := by rw [List.getLast?_append, hb2']; rfl
      have hc := hb2 c (List.mem_of_getLast? hb2')
      exact ⟨not_matchesAll_of_last hl hc z, c, Or.inr hl, hc⟩

/-- **exactly where the readers differ, values**: a text of **L** that `number_parser.number` reads as `v` is either
    matched completely by the grammar's `number` rule - which then returns the same `v` (`readers_agree`) - or it
    * starts or ends with a blank (`int()`/`float()` strip blanks), or
    * starts with the point (`float(".5")`), or
    * has one digit run, then blanks, then the slash (`fullmatch` allows blanks on both sides of the slash; the grammar
      commits to an integer part as soon as a digit run is followed by a blank);
    and in these three classes the grammar's rule does *not* match the whole text (it matches nothing, or a proper
    prefix). -/
theorem readers_differ_exactly {s : Str} {v : Num} (h : numberReader s = .value v) (z : Bool) :
    (number s.toArray ⟨0, z⟩ = some ((0, v), ⟨s.length, z⟩)) ∨
    (¬ GrammarMatchesAll s z ∧
      ((∃ c, (s.head? = some c ∨ s.getLast? = some c) ∧ isHsp c = true) ∨ s.head? = some '.' ∨
       ∃ p s1 r, s = p ++ s1 ++ '/' :: r ∧ IsDigits p ∧ s1 ≠ [] ∧ IsBlanks s1)) := by
  rcases numberReader_value_inv h with ⟨l, hwf, rfl, rfl⟩ | ⟨p, s1, s2, q, rfl, hp, hne, hs1, -⟩ |
      ⟨b1, ds, b2, rfl, hb1, hb2, hb, hds, -⟩ | ⟨b1, whole, fr, b2, rfl, hb1, hb2, hb, hw, hf, hne, -⟩
  · left
    have := numberAt_of_wf l [] hwf (followsNumber_nil.follow l) (l.print ++ []).toArray 0 z (by simp)
    simpa using this
  · right
    refine ⟨?_, Or.inr (Or.inr ⟨p, s1, s2 ++ q, by simp, hp, hne, hs1⟩)⟩
    rintro ⟨r, s', hm, hall⟩
    have e : p ++ s1 ++ '/' :: s2 ++ q = p ++ s1 ++ '/' :: (s2 ++ q) := by simp
    rw [e, grammar_int_of_blank_before_slash hp hne hs1 z] at hm
    cases hm
    simp only [List.length_append, List.length_cons] at hall
    have := List.length_pos_iff.mpr hne
    omega
  · obtain ⟨h1, h2⟩ := blank_edge ds hb1 hb2 hb z
    exact Or.inr ⟨h1, Or.inl h2⟩
  · right
    by_cases hbb : b1 ≠ [] ∨ b2 ≠ []
    · obtain ⟨h1, h2⟩ := blank_edge (whole ++ '.' :: fr) hb1 hb2 hbb z
      exact ⟨h1, Or.inl h2⟩
    · -- no blanks, so no digit before the point
      obtain ⟨rfl, rfl⟩ : b1 = [] ∧ b2 = [] := by simpa using hbb
      obtain rfl : whole = [] := by simpa using hb
      have hh : ([] ++ ([] ++ '.' :: fr) ++ [] : Str).head? = some '.' := rfl
      exact ⟨not_matchesAll_of_head hh (Or.inr rfl) z, Or.inr (Or.inl hh)⟩

/-- **exactly where the readers differ, errors**: `number_parser.number` raises `ZeroDivisionError` (its docstring
    promises `ValueError`) exactly on the fraction spellings whose denominator is a run of zeros; the grammar's rule
    never matches such a text completely (its denominator pattern demands a non-zero digit), so no recipe text can
    trigger it - but `recipe-grid --scale 1/0` can. -/
theorem zeroDivision_only_outside_grammar {s : Str} (h : numberReader s = .zeroDivision) (z : Bool) :
    ¬ GrammarMatchesAll s z ∧
    ∃ pre p s1 s2 q, s = pre ++ p ++ s1 ++ '/' :: s2 ++ q ∧
      (pre = [] ∨ ∃ w s0, pre = w ++ s0 ∧ IsDigits w ∧ s0 ≠ [] ∧ IsBlanks s0) ∧
      IsDigits p ∧ IsBlanks s1 ∧ IsBlanks s2 ∧ IsDigits q ∧ digitsValue q = 0 := by
  refine ⟨?_, numberReader_zeroDivision_inv h⟩
  rintro ⟨⟨off, v⟩, s', hm, hall⟩
  have hlen : s.length ≤ maxLen := (inL_iff.mp (inL_of_ne_outside (by rw [h]; exact fun h => nomatch h))).1
  rw [readers_agree s hlen z hm hall] at h
  cases h

/-- 9.9951171875 (a double; two decimals; 999.51… rounds to 1000, carried): shown "10", read back as the int 10 by both -/
example : formatNumber ⟨mkRat 10235 1024, .flt⟩ = "10".toList ∧ shownNum ⟨mkRat 10235 1024, .flt⟩ = ⟨10, .int⟩ ∧
    numberReader "10".toList = .value ⟨10, .int⟩ ∧
    number "10".toList.toArray ⟨0, false⟩ = some ((0, ⟨10, .int⟩), ⟨2, false⟩) := by decide +kernel
/-- the exact rational 9.995 of C11's carry example -/
example : numberReader (formatNumber ⟨mkRat 1999 200, .flt⟩) = .value ⟨10, .int⟩ := by decide +kernel
/-- 3/4 and 1 3/4: Fractions, exactly -/
example : formatNumber ⟨mkRat 3 4, .frac⟩ = "3/4".toList ∧ numberReader "3/4".toList = .value ⟨mkRat 3 4, .frac⟩ ∧
    number "3/4".toList.toArray ⟨0, false⟩ = some ((0, ⟨mkRat 3 4, .frac⟩), ⟨3, false⟩) := by decide +kernel
example : formatNumber ⟨mkRat 7 4, .frac⟩ = "1 3/4".toList ∧ numberReader "1 3/4".toList = .value ⟨mkRat 7 4, .frac⟩ ∧
    number "1 3/4".toList.toArray ⟨0, false⟩ = some ((0, ⟨mkRat 7 4, .frac⟩), ⟨5, false⟩) := by decide +kernel
/-- 0.00045: nothing of it fits the budget; shown "0", read back as the int 0 -/
example : formatNumber ⟨mkRat 45 100000, .flt⟩ = "0".toList ∧ shownNum ⟨mkRat 45 100000, .flt⟩ = ⟨0, .int⟩ ∧
    numberReader "0".toList = .value ⟨0, .int⟩ := by decide +kernel
/-- 0.125 (a double): shown in full, and the double read back is the number itself -/
example : formatNumber ⟨mkRat 1 8, .flt⟩ = "0.125".toList ∧ numberReader "0.125".toList = .value ⟨mkRat 1 8, .flt⟩ ∧
    number "0.125".toList.toArray ⟨0, false⟩ = some ((0, ⟨mkRat 1 8, .flt⟩), ⟨5, false⟩) := by decide +kernel
/-- 1/9 (9 is not an allowed denominator): goes through the nearest double, shown "0.111", read back as the double of 0.111 -/
example : formatNumber ⟨mkRat 1 9, .frac⟩ = "0.111".toList ∧
    numberReader "0.111".toList = .value ⟨toDouble (mkRat 111 1000), .flt⟩ ∧
    shownNum ⟨mkRat 1 9, .frac⟩ = ⟨toDouble (mkRat 111 1000), .flt⟩ := by decide +kernel
/-- the hypotheses of `reader_reads_format` hold for these -/
example : (0 : Rat) ≤ (⟨mkRat 10235 1024, .flt⟩ : Num).val ∧
    (⟨mkRat 10235 1024, .flt⟩ : Num).val < ((10 ^ (maxLen - 10) : Nat) : Rat) := by decide +kernel
/-- `FollowsNumber` is met by the end of the text, by a unit, by a closing brace, by a comma -/
example : FollowsNumber [] ∧ FollowsNumber " g".toList ∧ FollowsNumber "}".toList ∧ FollowsNumber ", x".toList ∧
    ¬ FollowsNumber " 1".toList ∧ ¬ FollowsNumber "/2".toList ∧ ¬ FollowsNumber ".5".toList := by
  refine ⟨followsNumber_nil, ?_, ?_, ?_, ?_, ?_, ?_⟩ <;> simp [FollowsNumber, isHsp, isDigit]

/-- **the reader's own rounding is visible** (why `reader_value_err` has the `2^-42`-sized excess): 10.25 is shown as
    "10.2" (tie, half-to-even), exactly half a unit (0.05) away; `number_parser.number("10.2")` is the double
    10.199999999999999289…, which is *more* than half a unit from 10.25. -/
theorem reader_excess_witness :
    let y : Rat := mkRat 41 4
    formatNumber ⟨y, .flt⟩ = "10.2".toList ∧
    numberReader "10.2".toList = .value ⟨toDouble (mkRat 51 5), .flt⟩ ∧
    2 * ((10 ^ fracDigits Gen.significantFigures y : Nat) : Rat) * (y - roundedDecimal y) = 1 ∧
    1 < 2 * ((10 ^ fracDigits Gen.significantFigures y : Nat) : Rat) * (y - toDouble (mkRat 51 5)) := by
  decide +kernel

/-- `redisplay_stable` on the same number: the double 10.199999999999999289… is shown as "10.2" again -/
example : formatNumber (shownNum ⟨mkRat 41 4, .flt⟩) = "10.2".toList ∧
    shownNum ⟨mkRat 41 4, .flt⟩ = ⟨toDouble (mkRat 51 5), .flt⟩ ∧ toDouble (mkRat 51 5) ≠ mkRat 51 5 := by decide +kernel

/-! ## where the two readers differ (each run on the real code by `harness/reader_corr.py`) -/

/-- a blank before the slash without an integer part: `number()` reads 1/2, the grammar rule reads the int 1 and stops -/
example : numberReader "1 /2".toList = .value ⟨mkRat 1 2, .frac⟩ ∧
    number "1 /2".toList.toArray ⟨0, false⟩ = some ((0, ⟨1, .int⟩), ⟨1, false⟩) := by decide +kernel
/-- zero denominators: `number()` raises `ZeroDivisionError` (its docstring promises `ValueError`); the grammar rule does
    not match the fraction and reads the int before the slash -/
example : numberReader "1/0".toList = .zeroDivision ∧ numberReader "2 1/00".toList = .zeroDivision ∧
    number "1/0".toList.toArray ⟨0, false⟩ = some ((0, ⟨1, .int⟩), ⟨1, false⟩) := by decide +kernel
/-- blanks around the number: `int()`/`float()` strip them; the grammar rule does not skip them -/
example : numberReader " 12".toList = .value ⟨12, .int⟩ ∧ number " 12".toList.toArray ⟨0, false⟩ = none ∧
    numberReader "1.5\t".toList = .value ⟨mkRat 3 2, .flt⟩ ∧
    number "1.5\t".toList.toArray ⟨0, false⟩ = some ((0, ⟨mkRat 3 2, .flt⟩), ⟨3, false⟩) := by decide +kernel
/-- … but not around a fraction: `fullmatch` does not strip -/
example : numberReader " 1/2".toList = .valueError ∧ numberReader "1/2 ".toList = .valueError := by decide +kernel
/-- no digit before the point: `float()` accepts it, the grammar rule does not -/
example : numberReader ".5".toList = .value ⟨mkRat 1 2, .flt⟩ ∧ number ".5".toList.toArray ⟨0, false⟩ = none := by
  decide +kernel
/-- agreed by both: no digit after the point -/
example : numberReader "12.".toList = .value ⟨12, .flt⟩ ∧
    number "12.".toList.toArray ⟨0, false⟩ = some ((0, ⟨12, .flt⟩), ⟨3, false⟩) := by decide +kernel
/-- plain `ValueError`s, and texts outside **L** (no claim) -/
example : numberReader [] = .valueError ∧ numberReader ".".toList = .valueError ∧ numberReader "1 2".toList = .valueError ∧
    numberReader "1/2/3".toList = .valueError ∧ numberReader "1.2.3".toList = .valueError ∧
    numberReader "1e3".toList = .outside ∧ numberReader "-1".toList = .outside ∧ numberReader "1_0".toList = .outside := by
  decide +kernel
/-- leading zeros -/
example : numberReader "007".toList = .value ⟨7, .int⟩ ∧ numberReader "1 01/02".toList = .value ⟨mkRat 3 2, .frac⟩ := by
  decide +kernel

end RG.C11
