import RecipeGrid.Props.C06b
import RecipeGrid.Lemmas.PegRules
import RecipeGrid.Lemmas.PegFuel
import RecipeGrid.Lemmas.StrLit
/-! C06, continued: **the hand-written parser recognises exactly the grammar that `grammar.peg` holds when the
    model is generated**.

    `tools/gen_model.py` (`gen_x_grammar`) writes the compiled grammar object of the installed parser as Lean data into
    `Gen/Grammar.lean` on every run (`Gen.grammarRules : List (String × PExpr)`, `Gen.startRule`).  `Model/Peg.lean` is a
    generic recogniser for such data with the semantics of `peggie.parser.Parser` (ordered choice, greedy `*` that insists
    on progress, `?` = choice with the empty expression, negative look-ahead, one unit of fuel per nested rule call);
    `Model/PegGrammar.lean` runs it on the generated data (`pegAccepts`), the regexes being looked up BY THEIR SOURCE TEXT in
    a table of the scanners the hand-written parser uses (`Peg.terminalScanner`).

    An edit of `grammar.peg` changes `Gen/Grammar.lean`; then the proof of the edited rule in `Lemmas/PegRules.lean`
    and the evaluations of this file fail, i.e. the check is pointed at the edited rule instead of waiting for the random stream to hit it.

    What is assumed (validated by the exact differential test of the C06 check, `harness/props/c06.py`, only): that `Model/Peg.lean` has peggie's
    semantics, and that each scanner of `Peg.terminalScanner` matches what `re` matches for its regex. -/
namespace RG.C06
open Parser Peg

theorem terminals_evaluated :
    (Gen.grammarRules.flatMap fun r => r.2.terminals).all (fun re => (terminalScanner re).isSome) = true
    ∧ Gen.grammarRules.length = 31 ∧ (Gen.grammarRules.flatMap fun r => r.2.terminals).eraseDups.length = 27 := by
  decide +kernel

/-- every regex / literal occurring in the generated grammar has a scanner -/
theorem terminals_known :
    (Gen.grammarRules.flatMap fun r => r.2.terminals).all (fun re => (terminalScanner re).isSome) = true :=
  terminals_evaluated.1

/-- every rule referred to is defined, and so is the start rule -/
theorem rules_closed :
    (Gen.grammarRules.flatMap fun r => r.2.ruleRefs).all (fun n => (Gen.grammarRules.lookup n).isSome) = true
    ∧ (Gen.grammarRules.lookup Gen.startRule).isSome = true := by decide +kernel

/-- the translator found nothing it could not express (indentation requirements, unknown node classes, odd flags) -/
theorem grammar_supported : Gen.grammarRules.all (fun r => !r.2.hasUnsupported) = true := by decide +kernel

/-- rule names are unique (`lookup` sees every rule) -/
theorem rules_unique : (Gen.grammarRules.map (·.1)).Nodup := by decide +kernel

example : Gen.grammarRules.length = 31 ∧ (Gen.grammarRules.flatMap fun r => r.2.terminals).eraseDups.length = 27 :=
  terminals_evaluated.2

instance (r : ParseResult) : Decidable (r ≠ .syntaxError) :=
  match r with
  | .syntaxError => isFalse (fun h => h rfl)
  | .ok _ => isTrue (fun h => by cases h)
  | .zeroDivision => isTrue (fun h => by cases h)

theorem pegRun_recipe (t : Array Char) {f : Nat} (hf : 2 * t.size + 19 ≤ f) :
    pegRun Gen.grammarRules terminalScanner t f Gen.startRule 0 = proj (recipe t ⟨0, false⟩) :=
  run_recipe t ⟨0, false⟩ (by simp only [Nat.sub_zero]; exact hf)

theorem pegRecipe_eq (src : Str) :
    pegRecipe src = match recipe src.toArray ⟨0, false⟩ with
      | none => .fail
      | some (_, s) => .ok s.pos := by
  rw [pegRecipe, pegRun_recipe _ (by simp [pegFuel])]
  generalize recipe src.toArray ⟨0, false⟩ = r
  cases r <;> rfl

/-- **the hand-written parser accepts exactly the texts the generated grammar accepts under PEG semantics**
    (and the generic run is defined on every text) -/
theorem parser_recognises_grammar (src : Str) : pegAccepts src = some (decide (parse src ≠ .syntaxError)) := by
  rw [pegAccepts, pegRecipe_eq]
  unfold parse
  generalize recipe src.toArray ⟨0, false⟩ = r
  cases r <;> rfl

theorem pegAccepts_defined (src : Str) : (pegAccepts src).isSome = true := by
  rw [parser_recognises_grammar]; rfl

theorem grammar_accepts_iff (src : Str) : pegAccepts src = some true ↔ ∃ stmts, parse src = .ok stmts := by
  rw [parser_recognises_grammar]
  rcases parse_total src with ⟨stmts, h⟩ | h
  · rw [h]; exact ⟨fun _ => ⟨stmts, rfl⟩, fun _ => rfl⟩
  · rw [h]; exact ⟨fun e => (by cases e), fun ⟨_, e⟩ => (by cases e)⟩

theorem grammar_rejects_iff (src : Str) : pegAccepts src = some false ↔ parse src = .syntaxError := by
  rw [parser_recognises_grammar]
  rcases parse_total src with ⟨stmts, h⟩ | h
  · rw [h]; exact ⟨fun e => (by cases e), fun e => (by cases e)⟩
  · rw [h]; exact ⟨fun _ => rfl, fun _ => rfl⟩

theorem grammar_fuel_irrelevant (src : Str) (f : Nat) (hf : 2 * src.length + 19 ≤ f) :
    pegRun Gen.grammarRules terminalScanner src.toArray f Gen.startRule 0 = pegRecipe src :=
  (pegRun_recipe _ (by simpa using hf)).trans (pegRun_recipe _ (by simp [pegFuel])).symm

/-- the generic recogniser, for EVERY grammar, table of scanners and text: a run that did not run out of fuel gives the
    same result with any larger fuel -/
theorem peg_fuel_monotone (rules : List (String × PExpr)) (terms : String → Option (P Unit)) (t : Array Char)
    {f f' : Nat} (hle : f ≤ f') (name : String) (i : Nat) (hne : pegRun rules terms t f name i ≠ .err .fuel) :
    pegRun rules terms t f' name i = pegRun rules terms t f name i :=
  Peg.pegRun_fuel_mono hle name i hne

theorem number_fuel_evaluated :
    pegRun Gen.grammarRules terminalScanner "1 1/2 x".toList.toArray 5 "number" 0 = .ok 5
    ∧ pegRun Gen.grammarRules terminalScanner "1 1/2 x".toList.toArray 2 "number" 0 = .err .fuel := by decide +kernel

example : pegRun Gen.grammarRules terminalScanner "1 1/2 x".toList.toArray 5 "number" 0 = .ok 5 := number_fuel_evaluated.1
example : pegRun Gen.grammarRules terminalScanner "1 1/2 x".toList.toArray 2 "number" 0 = .err .fuel := number_fuel_evaluated.2

/-! ## rule by rule (`i`: start position, `z`: the flag of the parser state, `f`: levels of rule calls)

    `GrammarRule t f name p i z`: the rule `name` of the generated grammar, run from `i`, fails iff the hand-written `p`
    fails from `i`, and otherwise ends where `p` ends. -/

def GrammarRule {α} (t : Array Char) (f : Nat) (name : String) (p : P α) (i : Nat) (z : Bool) : Prop :=
  pegRun Gen.grammarRules terminalScanner t f name i = match p t ⟨i, z⟩ with
    | none => .fail
    | some (_, s) => .ok s.pos

theorem grammarRule_of {α} {t : Array Char} {f : Nat} {name : String} {p : P α} {i : Nat} {z : Bool}
    (h : genRun t f name (PState.mk i z).pos = proj (p t ⟨i, z⟩)) : GrammarRule t f name p i z := by
  unfold GrammarRule
  rw [show pegRun Gen.grammarRules terminalScanner t f name i = genRun t f name (PState.mk i z).pos from rfl, h]
  cases p t ⟨i, z⟩ with
  | none => rfl
  | some r => rfl

/-- the rules without recursion: a fixed number of levels suffices -/
theorem grammar_rules_flat (t : Array Char) (f : Nat) (hf : 5 ≤ f) (i : Nat) (z : Bool) :
    GrammarRule t f "sp" sp i z ∧ GrammarRule t f "hsp" hsp i z ∧ GrammarRule t f "eof" eof i z
    ∧ GrammarRule t f "eol" eol i z ∧ GrammarRule t f "decimal" decimal i z ∧ GrammarRule t f "fraction" fraction i z
    ∧ GrammarRule t f "number" number i z ∧ GrammarRule t f "interpolated_number" number i z
    ∧ GrammarRule t f "naked_string" nakedString i z ∧ GrammarRule t f "s_quoted_string" (quotedString '\'') i z
    ∧ GrammarRule t f "d_quoted_string" (quotedString '"') i z ∧ GrammarRule t f "bracketed_string" bracketedString i z
    ∧ GrammarRule t f "remainder" remainder i z ∧ GrammarRule t f "preposition" preposition i z
    ∧ GrammarRule t f "known_unit" knownUnit i z ∧ GrammarRule t f "proportion" proportion i z
    ∧ GrammarRule t f "implicit_quantity" implicitQuantity i z :=
  ⟨grammarRule_of (rule_sp t (by omega) _), grammarRule_of (rule_hsp t (by omega) _),
   grammarRule_of (rule_eof t (by omega) _), grammarRule_of (rule_eol t (by omega) _),
   grammarRule_of (rule_decimal t (by omega) _), grammarRule_of (rule_fraction t (by omega) _),
   grammarRule_of (rule_number t (by omega) _), grammarRule_of (rule_interpolated_number t (by omega) _),
   grammarRule_of (rule_naked_string t (by omega) _), grammarRule_of (rule_s_quoted_string t (by omega) _),
   grammarRule_of (rule_d_quoted_string t (by omega) _), grammarRule_of (rule_bracketed_string t (by omega) _),
   grammarRule_of (rule_remainder t (by omega) _), grammarRule_of (rule_preposition t (by omega) _),
   grammarRule_of (rule_known_unit t (by omega) _), grammarRule_of (rule_proportion t (by omega) _),
   grammarRule_of (rule_implicit_quantity t (by omega) _)⟩

/-- the string rules: one level per atom, i.e. at most one per character left -/
theorem grammar_rules_string (t : Array Char) (f i : Nat) (z : Bool) (hf : t.size - i + 9 ≤ f) :
    GrammarRule t f "string" (string false) i z ∧ GrammarRule t f "static_string" (string true) i z
    ∧ GrammarRule t f "output" (string false) i z ∧ GrammarRule t f "action" (string false) i z
    ∧ GrammarRule t f "ingredient" (string false) i z ∧ GrammarRule t f "freeform_unit" (string true) i z
    ∧ GrammarRule t f "output_list" outputList i z ∧ GrammarRule t f "explicit_quantity" explicitQuantity i z
    ∧ GrammarRule t f "reference" reference i z :=
  ⟨grammarRule_of (run_string t ⟨i, z⟩ (by simp; omega)), grammarRule_of (run_static_string t ⟨i, z⟩ (by simp; omega)),
   grammarRule_of (run_output t ⟨i, z⟩ (by simp; omega)), grammarRule_of (run_action t ⟨i, z⟩ (by simp; omega)),
   grammarRule_of (run_ingredient t ⟨i, z⟩ (by simp; omega)), grammarRule_of (run_freeform_unit t ⟨i, z⟩ (by simp; omega)),
   grammarRule_of (run_output_list t ⟨i, z⟩ (by simp; omega)),
   grammarRule_of (run_explicit_quantity t ⟨i, z⟩ (by simp; omega)),
   grammarRule_of (run_reference t ⟨i, z⟩ (by simp; omega))⟩

/-- the expression rules: two levels per level of nesting, i.e. at most two per character left; the hand-written
    `expr` with any fuel `k` beyond the number of characters left -/
theorem grammar_rules_expr (t : Array Char) (f i k : Nat) (z : Bool) (hf : 2 * (t.size - i) + 19 ≤ f) (hk : t.size - i < k) :
    GrammarRule t f "expr" (expr k) i z ∧ GrammarRule t f "step" (step (expr k)) i z
    ∧ GrammarRule t f "ltr_shorthand" (ltrShorthand (expr k)) i z ∧ GrammarRule t f "stmt" stmt i z
    ∧ GrammarRule t f "recipe" recipe i z := by
  refine ⟨grammarRule_of (expr_ok t k _ ⟨i, z⟩ hk (by simp; omega)), grammarRule_of ?_, grammarRule_of ?_,
    grammarRule_of (run_stmt t ⟨i, z⟩ (by simp; omega)), grammarRule_of (run_recipe t ⟨i, z⟩ (by simp; omega))⟩
  · exact step_ok (n := 2 * (t.size - i) + 18) t (adv_expr k).mono ⟨i, z⟩ (by simp; omega) hf fun g hg s' h1 h2 =>
      expr_ok t k g s' (by simp at h1 h2; omega) (by simp at h1 h2; omega)
  · exact ltr_ok (n := 2 * (t.size - i) + 18) t (adv_expr k).mono ⟨i, z⟩ (by simp; omega) hf fun g hg =>
      expr_ok t k g ⟨i, z⟩ hk (by simp; omega)

/-- every printed block of `recipe_roundtrip` (any abstract block, any admissible spelling) is in the language of the
    generated grammar -/
theorem roundtrip_in_grammar (sp : Spelling) (hsp : sp.WF) (s : XStmt) (ss : List XStmt)
    (hok : BlockOk sp 0 (s :: ss)) : pegAccepts (sp.lead ++ printBlock sp 0 (s :: ss)) = some true := by
  rw [parser_recognises_grammar, recipe_roundtrip sp hsp s ss hok]; rfl

/-- every printed flat recipe of `flat_parse_roundtrip` is in the language of the generated grammar -/
theorem flat_roundtrip_in_grammar (ws0 : Str) (s : FlatStmt) (ss : List FlatStmt) (hws : IsSpaces ws0)
    (hok : FlatOk (s :: ss)) : pegAccepts (ws0 ++ printFlat (s :: ss)) = some true := by
  rw [parser_recognises_grammar, flat_parse_roundtrip ws0 s ss hws hok]; rfl

theorem grammar_evaluated :
    (pegAccepts "sauce = boil(1 kg tomatoes, rest of the stock), sieve".toList = some true
      ∧ pegAccepts "sauce = boil(1 kg tomatoes, rest of the stock, sieve".toList = some false)
    ∧ (pegAccepts "a, b := f(c, {1 1/2 'x'} of d,)\n\n(e, g) , h".toList = some true
      ∧ pegAccepts "1/0 x".toList = some false
      ∧ pegAccepts [] = some false)
    ∧ pegRecipe "x = y\nz".toList = .ok 7
    ∧ (pegRunExpr Gen.grammarRules terminalScanner 5 (.cat (.rule "hsp") (.term "[0-9]*")) " 1".toList.toArray 0
      = .err (.unknownTerminal "[0-9]*"))
    ∧ (pegRunExpr Gen.grammarRules terminalScanner 5 (.star (.maybe (.rule "hsp"))) "x".toList.toArray 0
      = .err .repeatedEmpty) := by
  lit_chars
  decide +kernel

example : pegAccepts "sauce = boil(1 kg tomatoes, rest of the stock), sieve".toList = some true := grammar_evaluated.1.1
example : pegAccepts "sauce = boil(1 kg tomatoes, rest of the stock, sieve".toList = some false := grammar_evaluated.1.2
example : pegAccepts "a, b := f(c, {1 1/2 'x'} of d,)\n\n(e, g) , h".toList = some true := grammar_evaluated.2.1.1
example : pegAccepts "1/0 x".toList = some false := grammar_evaluated.2.1.2.1
example : pegAccepts [] = some false := grammar_evaluated.2.1.2.2
example : pegRecipe "x = y\nz".toList = .ok 7 := grammar_evaluated.2.2.1
/-- an edited regex has no scanner: the run is undefined, not wrong -/
example : pegRunExpr Gen.grammarRules terminalScanner 5 (.cat (.rule "hsp") (.term "[0-9]*")) " 1".toList.toArray 0
    = .err (.unknownTerminal "[0-9]*") := grammar_evaluated.2.2.2.1
/-- a body of `*` that can succeed without consuming: peggie raises `RepeatedEmptyTermError` -/
example : pegRunExpr Gen.grammarRules terminalScanner 5 (.star (.maybe (.rule "hsp"))) "x".toList.toArray 0
    = .err .repeatedEmpty := grammar_evaluated.2.2.2.2
/-- left recursion exhausts the fuel (peggie: `LeftRecursionError`) -/
example : pegRun [("a", .cat (.rule "a") (.term ","))] terminalScanner ",".toList.toArray 50 "a" 0 = .err .fuel := by
  decide +kernel

end RG.C06
