import RecipeGrid.Props.C18
/-! C18b — a complete ("iff") characterisation of how the title and the serving count are read from the first heading.

    `render_heading` applies `title_serving_count_pattern.search` to the heading text.  The declarative
    counterpart is `ServingSplit`: the text is `pre ++ ws₁ ++ phrase ++ ws₂ ++ digits ++ ws₃`; among all such
    splits the search finds the one whose `pre` is shortest (`Leftmost`; both, and `searchServings_eq_some_iff`, in
    `Lemmas/ServingSplit.lean`).  `IsServingHeading` packages this with
    the title (`html.unescape((pre + ws₁).strip())`, which is `html.unescape(pre.strip())`) and the count. -/
namespace RG.C18

/-- the specification with all four outputs of `render_heading`.  `IsServingHeading` below keeps the two that
    `compile_markdown` exposes (title and count); it is the projection of this one (`isServingHeading_iff_full`), and the
    theorems about the short form are read off those about the full one. -/
def IsServingHeadingFull (text title : Str) (n : Nat) (titleHtml prep : Str) : Prop :=
  ∃ pre ws₁ phrase ws₂ digits ws₃, ServingSplit text pre ws₁ phrase ws₂ digits ws₃ ∧ Leftmost text pre ∧
    title = unescapeEntities (stripStr pre) ∧ n = natOfDigitChars digits ∧ titleHtml = pre ++ ws₁ ∧ prep = phrase ++ ws₂

/-- the specification: `text` is a title followed by a serving count -/
def IsServingHeading (text title : Str) (n : Nat) : Prop :=
  ∃ pre ws₁ phrase ws₂ digits ws₃, ServingSplit text pre ws₁ phrase ws₂ digits ws₃ ∧ Leftmost text pre ∧
    title = unescapeEntities (stripStr pre) ∧ n = natOfDigitChars digits

theorem isServingHeading_iff_full (text title : Str) (n : Nat) :
    IsServingHeading text title n ↔ ∃ titleHtml prep, IsServingHeadingFull text title n titleHtml prep := by
  constructor
  · rintro ⟨pre, ws₁, phrase, ws₂, digits, ws₃, h, hl, ht, hn⟩
    exact ⟨_, _, pre, ws₁, phrase, ws₂, digits, ws₃, h, hl, ht, hn, rfl, rfl⟩
  · rintro ⟨_, _, pre, ws₁, phrase, ws₂, digits, ws₃, h, hl, ht, hn, _, _⟩
    exact ⟨pre, ws₁, phrase, ws₂, digits, ws₃, h, hl, ht, hn⟩

theorem HasServingSplit.exists_leftmost {text : Str} (h : HasServingSplit text) :
    ∃ pre ws₁ phrase ws₂ digits ws₃, ServingSplit text pre ws₁ phrase ws₂ digits ws₃ ∧ Leftmost text pre := by
  cases hs : searchServings text with
  | none => exact absurd h ((searchServings_eq_none_iff text).mp hs)
  | some r =>
    obtain ⟨b, sp, prep, ds⟩ := r
    obtain ⟨phrase, ws₂, ws₃, _, hsplit, hleft⟩ := (searchServings_eq_some_iff _ _ _ _ _).mp hs
    exact ⟨_, _, _, _, _, _, hsplit, hleft⟩

theorem hasServingSplit_iff (text : Str) : HasServingSplit text ↔ ∃ title n, IsServingHeading text title n := by
  constructor
  · intro h
    obtain ⟨pre, ws₁, phrase, ws₂, digits, ws₃, hs, hl⟩ := h.exists_leftmost
    exact ⟨_, _, pre, ws₁, phrase, ws₂, digits, ws₃, hs, hl, rfl, rfl⟩
  · rintro ⟨_, _, pre, ws₁, phrase, ws₂, digits, ws₃, hs, _⟩
    exact ⟨pre, ws₁, phrase, ws₂, digits, ws₃, hs⟩

theorem isServingHeadingFull_iff_search (text title : Str) (n : Nat) (titleHtml prep : Str) :
    IsServingHeadingFull text title n titleHtml prep ↔
      ∃ before space ds, searchServings text = some (before, space, prep, ds) ∧
        title = unescapeEntities (stripStr (before ++ space)) ∧ n = natOfDigitChars ds ∧ titleHtml = before ++ space := by
  constructor
  · rintro ⟨pre, ws₁, phrase, ws₂, digits, ws₃, hs, hl, ht, hn, hh, hp⟩
    refine ⟨pre, ws₁, digits, ?_, ?_, hn, hh⟩
    · exact (searchServings_eq_some_iff _ _ _ _ _).mpr ⟨phrase, ws₂, ws₃, hp, hs, hl⟩
    · rw [hs.strip_pre]
      exact ht
  · rintro ⟨before, space, ds, hsearch, ht, hn, hh⟩
    obtain ⟨phrase, ws₂, ws₃, hp, hs, hl⟩ := (searchServings_eq_some_iff _ _ _ _ _).mp hsearch
    exact ⟨before, space, phrase, ws₂, ds, ws₃, hs, hl, by rw [← hs.strip_pre]; exact ht, hn, hh, hp⟩

theorem isServingHeading_iff_search (text title : Str) (n : Nat) :
    IsServingHeading text title n ↔
      ∃ before space prep ds, searchServings text = some (before, space, prep, ds) ∧
        title = unescapeEntities (stripStr (before ++ space)) ∧ n = natOfDigitChars ds := by
  rw [isServingHeading_iff_full]
  constructor
  · rintro ⟨html, prep, h⟩
    obtain ⟨b, sp, ds, h1, h2, h3, _⟩ := (isServingHeadingFull_iff_search _ _ _ _ _).mp h
    exact ⟨b, sp, prep, ds, h1, h2, h3⟩
  · rintro ⟨b, sp, prep, ds, h1, h2, h3⟩
    exact ⟨b ++ sp, prep, (isServingHeadingFull_iff_search _ _ _ _ _).mpr ⟨b, sp, ds, h1, h2, h3, rfl⟩⟩

/-- the (title, serving count) that `render_heading` records for a first level-1 heading without markup or
    placeholders -/
def readHeading (t : Str) : Str × Option Nat :=
  match searchServings t with
  | none => (unescapeEntities (stripStr t), none)
  | some (before, space, _, ds) => (unescapeEntities (stripStr (before ++ space)), some (natOfDigitChars ds))

def titleOf : TitleInfo → Option Str
  | .none => none
  | .unscalable t => some t
  | .scalable t _ _ _ => some t
def servingsOf : TitleInfo → Option Nat
  | .scalable _ n _ _ => some n
  | _ => none

theorem headingInfo_readHeading {t : Str} {phs : List Str} (h : Plain t phs) :
    (titleOf (headingInfo true 1 t phs), servingsOf (headingInfo true 1 t phs)) = (some (readHeading t).1, (readHeading t).2) := by
  rw [headingInfo_plain h, readHeading]
  cases searchServings t with
  | none => rfl
  | some r => obtain ⟨b, sp, prep, ds⟩ := r; rfl

/-- **C18b, all four outputs.**  A plain first level-1 heading is recorded as scalable, with this title, count, title HTML
    and preposition, exactly when the text has that left-most serving split. -/
theorem headingInfo_spec_full {t : Str} {phs : List Str} (h : Plain t phs) (title : Str) (n : Nat) (titleHtml prep : Str) :
    headingInfo true 1 t phs = .scalable title n titleHtml prep ↔ IsServingHeadingFull t title n titleHtml prep := by
  rw [headingInfo_plain h, isServingHeadingFull_iff_search]
  cases hs : searchServings t with
  | none => simp
  | some r =>
    obtain ⟨b, sp, pr, ds⟩ := r
    simp only [TitleInfo.scalable.injEq, Option.some.injEq, Prod.mk.injEq]
    constructor
    · rintro ⟨h1, h2, h3, h4⟩
      exact ⟨b, sp, ds, ⟨rfl, rfl, h4, rfl⟩, h1.symm, h2.symm, h3.symm⟩
    · rintro ⟨b', sp', ds', ⟨rfl, rfl, rfl, rfl⟩, h1, h2, h3⟩
      exact ⟨h1.symm, h2.symm, h3.symm, rfl⟩

/-- **C18b, main theorem.**  `headingInfo true 1 t phs` is `.scalable title n _ _` iff `IsServingHeading t title n`. -/
theorem headingInfo_spec {t : Str} {phs : List Str} (h : Plain t phs) (title : Str) (n : Nat) :
    (∃ titleHtml prep, headingInfo true 1 t phs = .scalable title n titleHtml prep) ↔ IsServingHeading t title n := by
  rw [isServingHeading_iff_full]
  constructor
  · rintro ⟨a, b, hab⟩
    exact ⟨a, b, (headingInfo_spec_full h _ _ _ _).mp hab⟩
  · rintro ⟨a, b, hab⟩
    exact ⟨a, b, (headingInfo_spec_full h _ _ _ _).mpr hab⟩

theorem readHeading_spec (t title : Str) (n : Nat) : readHeading t = (title, some n) ↔ IsServingHeading t title n := by
  rw [isServingHeading_iff_search, readHeading]
  cases hs : searchServings t with
  | none => simp
  | some r =>
    obtain ⟨b, sp, pr, ds⟩ := r
    simp only [Prod.mk.injEq, Option.some.injEq]
    constructor
    · rintro ⟨h1, h2⟩
      exact ⟨b, sp, pr, ds, ⟨rfl, rfl, rfl, rfl⟩, h1.symm, h2.symm⟩
    · rintro ⟨b', sp', pr', ds', ⟨rfl, rfl, rfl, rfl⟩, h1, h2⟩
      exact ⟨h1.symm, h2.symm⟩

/-- no serving count is read exactly when the text has no serving split at all; the title is then the stripped text -/
theorem readHeading_none_iff (t : Str) : readHeading t = (unescapeEntities (stripStr t), none) ↔ ¬ HasServingSplit t := by
  rw [← searchServings_eq_none_iff, readHeading]
  cases hs : searchServings t with
  | none => simp
  | some r => obtain ⟨b, sp, pr, ds⟩ := r; simp

/-- the only other outcome for a plain heading: no serving split, and the stripped text as the title -/
theorem headingInfo_unscalable_iff {t : Str} {phs : List Str} (h : Plain t phs) (x : Str) :
    headingInfo true 1 t phs = .unscalable x ↔ (¬ HasServingSplit t ∧ x = unescapeEntities (stripStr t)) := by
  rw [← searchServings_eq_none_iff, headingInfo_plain h]
  cases hs : searchServings t with
  | none => simp [eq_comm]
  | some r => obtain ⟨b, sp, pr, ds⟩ := r; simp

/-- **C18b.**  `headingInfo true 1 t phs` is `.unscalable` of the stripped text iff there is no serving split (equivalently:
    no `title`, `n` with `IsServingHeading t title n`). -/
theorem headingInfo_none_iff {t : Str} {phs : List Str} (h : Plain t phs) :
    headingInfo true 1 t phs = .unscalable (unescapeEntities (stripStr t)) ↔ ¬ ∃ title n, IsServingHeading t title n := by
  rw [headingInfo_unscalable_iff h, ← hasServingSplit_iff]
  exact and_iff_left rfl

/-- two left-most splits start at the same offset, and a split is determined by where it starts (`ServingSplit.eq_of_start`) -/
theorem leftmost_split_unique {t pre ws₁ phrase ws₂ digits ws₃ pre' ws₁' phrase' ws₂' digits' ws₃' : Str}
    (h : ServingSplit t pre ws₁ phrase ws₂ digits ws₃) (hl : Leftmost t pre)
    (h' : ServingSplit t pre' ws₁' phrase' ws₂' digits' ws₃') (hl' : Leftmost t pre') :
    pre = pre' ∧ ws₁ = ws₁' ∧ phrase = phrase' ∧ ws₂ = ws₂' ∧ digits = digits' ∧ ws₃ = ws₃' :=
  h.eq_of_start h' (Nat.le_antisymm (hl _ _ _ _ _ _ h') (hl' _ _ _ _ _ _ h))

/-- the specification is functional: a heading determines its title and count -/
theorem servingHeading_unique {t title title' : Str} {n n' : Nat}
    (h : IsServingHeading t title n) (h' : IsServingHeading t title' n') : title = title' ∧ n = n' := by
  obtain ⟨pre, ws₁, phrase, ws₂, digits, ws₃, hs, hl, ht, hn⟩ := h
  obtain ⟨pre', ws₁', phrase', ws₂', digits', ws₃', hs', hl', ht', hn'⟩ := h'
  obtain ⟨rfl, -, -, -, rfl, -⟩ := leftmost_split_unique hs hl hs' hl'
  exact ⟨ht.trans ht'.symm, hn.trans hn'.symm⟩

theorem servingHeadingFull_unique {t title title' html html' prep prep' : Str} {n n' : Nat}
    (h : IsServingHeadingFull t title n html prep) (h' : IsServingHeadingFull t title' n' html' prep') :
    title = title' ∧ n = n' ∧ html = html' ∧ prep = prep' := by
  obtain ⟨pre, ws₁, phrase, ws₂, digits, ws₃, hs, hl, ht, hn, hh, hp⟩ := h
  obtain ⟨pre', ws₁', phrase', ws₂', digits', ws₃', hs', hl', ht', hn', hh', hp'⟩ := h'
  obtain ⟨rfl, rfl, rfl, rfl, rfl, -⟩ := leftmost_split_unique hs hl hs' hl'
  exact ⟨ht.trans ht'.symm, hn.trans hn'.symm, hh.trans hh'.symm, hp.trans hp'.symm⟩

theorem ServingSplit.append_ws {t pre ws₁ phrase ws₂ digits ws₃ : Str} (h : ServingSplit t pre ws₁ phrase ws₂ digits ws₃)
    {w : Str} (hw : WsRun w) : ServingSplit (t ++ w) pre ws₁ phrase ws₂ digits (ws₃ ++ w) :=
  ⟨by rw [h.text_eq]; simp, h.ws₁_run, h.phrase_ok, h.ws₂_run, h.digits_ne, h.digits_ok, h.ws₃_run.append hw⟩

theorem ServingSplit.of_append_ws {t w pre ws₁ phrase ws₂ digits ws₃ : Str}
    (h : ServingSplit (t ++ w) pre ws₁ phrase ws₂ digits ws₃) (hw : WsRun w) :
    ∃ ws₃', ws₃ = ws₃' ++ w ∧ ServingSplit t pre ws₁ phrase ws₂ digits ws₃' := by
  -- strip the white space at the end of both descriptions of the text: behind the digits `t` has white space only
  have hstrip : rstripStr t = pre ++ ws₁ ++ phrase ++ ws₂ ++ digits := by
    rw [← rstripStr_append_ws t w hw, h.text_eq, rstripStr_append_ws _ _ h.ws₃_run]
    refine rstripStr_of_getLast fun c hc => ?_
    rw [getLast?_append_ne _ h.digits_ne] at hc
    exact isDigit_not_space (h.digits_ok c (List.mem_of_getLast? hc))
  obtain ⟨r, ht, hr⟩ := rstripStr_tail t
  rw [hstrip] at ht
  refine ⟨r, ?_, ht, h.ws₁_run, h.phrase_ok, h.ws₂_run, h.digits_ne, h.digits_ok, hr⟩
  have e := h.text_eq
  rw [ht, List.append_assoc] at e
  exact (List.append_cancel_left e).symm

theorem splitStart_append_ws (t : Str) {w : Str} (hw : WsRun w) (k : Nat) : SplitStart (t ++ w) k ↔ SplitStart t k := by
  constructor
  · rintro ⟨pre, ws₁, phrase, ws₂, digits, ws₃, hs, hk⟩
    obtain ⟨ws₃', _, hs'⟩ := hs.of_append_ws hw
    exact ⟨_, _, _, _, _, _, hs', hk⟩
  · rintro ⟨pre, ws₁, phrase, ws₂, digits, ws₃, hs, hk⟩
    exact ⟨_, _, _, _, _, _, hs.append_ws hw, hk⟩

theorem leftmost_append_ws (t pre : Str) {w : Str} (hw : WsRun w) : Leftmost (t ++ w) pre ↔ Leftmost t pre := by
  simp only [leftmost_iff_splitStart, splitStart_append_ws t hw]

theorem servingHeading_append_ws (t title : Str) (n : Nat) {w : Str} (hw : WsRun w) :
    IsServingHeading (t ++ w) title n ↔ IsServingHeading t title n := by
  constructor
  · rintro ⟨pre, ws₁, phrase, ws₂, digits, ws₃, hs, hl, ht, hn⟩
    obtain ⟨ws₃', _, hs'⟩ := hs.of_append_ws hw
    exact ⟨_, _, _, _, _, _, hs', (leftmost_append_ws t pre hw).mp hl, ht, hn⟩
  · rintro ⟨pre, ws₁, phrase, ws₂, digits, ws₃, hs, hl, ht, hn⟩
    exact ⟨_, _, _, _, _, _, hs.append_ws hw, (leftmost_append_ws t pre hw).mpr hl, ht, hn⟩

theorem hasServingSplit_append_ws (t : Str) {w : Str} (hw : WsRun w) : HasServingSplit (t ++ w) ↔ HasServingSplit t := by
  simp only [hasServingSplit_iff, servingHeading_append_ws t _ _ hw]

theorem readHeading_of_spec {t title : Str} {n : Nat} (h : IsServingHeading t title n) : readHeading t = (title, some n) :=
  (readHeading_spec t title n).mpr h

/-- the specification determines what is read: one inclusion of the readings is enough, because `IsServingHeading` is total
    on the texts with a split -/
theorem readHeading_congr {t t' : Str} (hstrip : stripStr t' = stripStr t) (hex : HasServingSplit t → HasServingSplit t')
    (h : ∀ title n, IsServingHeading t' title n → IsServingHeading t title n) : readHeading t' = readHeading t := by
  by_cases h' : HasServingSplit t'
  · obtain ⟨title, n, hh⟩ := (hasServingSplit_iff t').mp h'
    rw [readHeading_of_spec hh, readHeading_of_spec (h title n hh)]
  · rw [(readHeading_none_iff t').mpr h', (readHeading_none_iff t).mpr (mt hex h'), hstrip]

theorem readHeading_append_ws (t : Str) {w : Str} (hw : WsRun w) : readHeading (t ++ w) = readHeading t :=
  readHeading_congr (stripStr_append_ws t w hw) (hasServingSplit_append_ws t hw).mpr
    fun title n => (servingHeading_append_ws t title n hw).mp


theorem ServingSplit.prepend {t pre ws₁ phrase ws₂ digits ws₃ : Str} (h : ServingSplit t pre ws₁ phrase ws₂ digits ws₃)
    (x : Str) : ServingSplit (x ++ t) (x ++ pre) ws₁ phrase ws₂ digits ws₃ :=
  h.retext (by rw [h.text_eq]; simp) h.ws₁_run

theorem HasServingSplit.prepend {t : Str} (h : HasServingSplit t) (x : Str) : HasServingSplit (x ++ t) := by
  obtain ⟨_, _, _, _, _, _, hs⟩ := h
  exact ⟨_, _, _, _, _, _, hs.prepend x⟩

theorem ServingSplit.of_prepend {x t pre' ws₁ phrase ws₂ digits ws₃ : Str}
    (h : ServingSplit (x ++ t) pre' ws₁ phrase ws₂ digits ws₃) (hlen : x.length ≤ pre'.length) :
    ∃ pre, pre' = x ++ pre ∧ ServingSplit t pre ws₁ phrase ws₂ digits ws₃ := by
  have he := h.text_eq
  simp only [List.append_assoc] at he
  obtain ⟨a, e1, e2⟩ := append_eq_append_of_le he hlen
  exact ⟨a, e1, h.retext (by simpa [List.append_assoc] using e2) h.ws₁_run⟩

/-- the text consists of a phrase and a number only (no title, no leading space): written as a split of the text behind one
    space, with nothing in front of that space, so that it is a `ServingSplit` like the others; `isBareServing_iff` spells it out
    and is the form the proofs use -/
def IsBareServing (t : Str) (n : Nat) : Prop :=
  ∃ phrase ws₂ digits ws₃, ServingSplit ([' '] ++ t) [] [' '] phrase ws₂ digits ws₃ ∧ n = natOfDigitChars digits

theorem isBareServing_iff (t : Str) (n : Nat) :
    IsBareServing t n ↔ ∃ phrase ws₂ digits ws₃, t = phrase ++ ws₂ ++ digits ++ ws₃ ∧
      (∃ p ∈ Gen.servingPhrases, PhraseText p phrase) ∧ SpaceRun ws₂ ∧ digits ≠ [] ∧ (∀ c ∈ digits, isDigit c = true) ∧
      WsRun ws₃ ∧ n = natOfDigitChars digits := by
  constructor
  · rintro ⟨phrase, ws₂, digits, ws₃, hs, hn⟩
    refine ⟨phrase, ws₂, digits, ws₃, ?_, hs.phrase_ok, hs.ws₂_run, hs.digits_ne, hs.digits_ok, hs.ws₃_run, hn⟩
    simpa [List.append_assoc] using hs.text_eq
  · rintro ⟨phrase, ws₂, digits, ws₃, rfl, h1, h2, h3, h4, h5, hn⟩
    exact ⟨phrase, ws₂, digits, ws₃, ⟨by simp, by decide, h1, h2, h3, h4, h5⟩, hn⟩

theorem unescape_strip_ws {x : Str} (hx : WsRun x) : unescapeEntities (stripStr x) = [] := by
  rw [stripStr_ws x hx]
  rfl

theorem ServingSplit.heading_nil {t ws₁ phrase ws₂ digits ws₃ : Str} (hs : ServingSplit t [] ws₁ phrase ws₂ digits ws₃) :
    IsServingHeading t [] (natOfDigitChars digits) :=
  ⟨[], ws₁, phrase, ws₂, digits, ws₃, hs, fun _ _ _ _ _ _ _ => Nat.zero_le _, rfl, rfl⟩

theorem servingHeading_of_bare {t : Str} {m : Nat} (h : IsBareServing t m) {w : Str} (hw : SpaceRun w) :
    IsServingHeading (w ++ t) [] m := by
  obtain ⟨phrase, ws₂, digits, ws₃, rfl, h1, h2, h3, h4, h5, rfl⟩ := (isBareServing_iff t m).mp h
  exact ServingSplit.heading_nil ⟨by simp, hw, h1, h2, h3, h4, h5⟩

theorem servingHeading_of_prepend_ws {t title : Str} {n : Nat} {w : Str} (hw : WsRun w)
    (h : IsServingHeading (w ++ t) title n) : IsServingHeading t title n ∨ (title = [] ∧ IsBareServing t n) := by
  obtain ⟨pre', ws₁, phrase, ws₂, digits, ws₃, hs, hl, ht, hn⟩ := h
  rcases Nat.lt_or_ge pre'.length w.length with hlt | hge
  · -- the split starts inside `w`: `w = pre' ++ c'`, and `c' ++ t` is the rest of the split
    have he := hs.text_eq
    simp only [List.append_assoc] at he
    obtain ⟨c', hw', hc'⟩ := append_eq_append_of_le he.symm (by omega)
    have hpre : WsRun pre' := fun x hx => hw x (by rw [hw']; simp [hx])
    have htitle : title = [] := by rw [ht, unescape_strip_ws hpre]
    obtain ⟨p, hp, hph⟩ := hs.phrase_ok
    obtain ⟨⟨l, r, hlr, hl'⟩, _⟩ := PhraseText_chars (servingPhrases_wf p hp).2 hph
    -- cut both sides after their white space: `t` is the white space it starts with followed by the phrase
    have hc'ws : ∀ x ∈ c', isReSpace x = true := fun x hx => hw x (by rw [hw']; simp [hx])
    have hcut := span_run isReSpace ws₁ (phrase ++ (ws₂ ++ (digits ++ ws₃))) hs.ws₁_run.2 (by
      rw [hlr]
      intro x hx
      cases hx
      exact letterLike_not_space hl')
    rw [hc', List.dropWhile_append_of_pos hc'ws] at hcut
    have e2 : t = t.takeWhile isReSpace ++ (phrase ++ (ws₂ ++ (digits ++ ws₃))) := by
      rw [← hcut.2, List.takeWhile_append_dropWhile]
    cases ha : t.takeWhile isReSpace with
    | nil =>
      rw [ha] at e2
      exact Or.inr ⟨htitle, (isBareServing_iff t n).mpr ⟨phrase, ws₂, digits, ws₃, by simpa [List.append_assoc] using e2,
        hs.phrase_ok, hs.ws₂_run, hs.digits_ne, hs.digits_ok, hs.ws₃_run, hn⟩⟩
    | cons x a =>
      rw [ha] at e2
      rw [htitle, hn]
      exact Or.inl (hs.retext (pre' := []) (by simpa [List.append_assoc] using e2)
        ⟨by simp, fun y hy => mem_takeWhile_imp (l := t) (ha ▸ hy)⟩).heading_nil
  · -- the split starts in `t`
    left
    obtain ⟨pre, rfl, hs'⟩ := hs.of_prepend hge
    refine ⟨pre, ws₁, phrase, ws₂, digits, ws₃, hs', ?_, ?_, hn⟩
    · intro pre'' _ _ _ _ _ hs''
      have := hl _ _ _ _ _ _ (hs''.prepend w)
      simpa using this
    · rw [ht, stripStr_ws_append w pre hw]

theorem isBareServing_unique {t : Str} {n m : Nat} (h : IsBareServing t n) (h' : IsBareServing t m) : n = m := by
  obtain ⟨_, _, _, _, hs, rfl⟩ := h
  obtain ⟨_, _, _, _, hs', rfl⟩ := h'
  rw [(splits_agree hs hs').2.1]

theorem readHeading_prepend_ws (t : Str) {w : Str} (hw : WsRun w) (hb : ¬ ∃ m, IsBareServing t m) :
    readHeading (w ++ t) = readHeading t :=
  readHeading_congr (stripStr_ws_append w t hw) (fun h => h.prepend w)
    fun _ n h => (servingHeading_of_prepend_ws hw h).resolve_right fun h2 => hb ⟨n, h2.2⟩

/-- **leading whitespace.**  Behind a non-empty space run a text reads as before, EXCEPT when the text is a bare
    phrase-and-number ("for 2", "to serve 2"): the space run then makes it a heading with an empty title. -/
theorem servingHeading_prepend_ws (t title : Str) (n : Nat) {w : Str} (hw : SpaceRun w) :
    IsServingHeading (w ++ t) title n ↔
      (title = [] ∧ IsBareServing t n) ∨ ((¬ ∃ m, IsBareServing t m) ∧ IsServingHeading t title n) := by
  by_cases hb : ∃ m, IsBareServing t m
  · obtain ⟨m, hm⟩ := hb
    constructor
    · intro h
      obtain ⟨rfl, rfl⟩ := servingHeading_unique h (servingHeading_of_bare hm hw)
      exact Or.inl ⟨rfl, hm⟩
    · rintro (⟨rfl, hb'⟩ | ⟨hb', _⟩)
      · exact servingHeading_of_bare hb' hw
      · exact absurd ⟨m, hm⟩ hb'
  · rw [← readHeading_spec, readHeading_prepend_ws t hw.wsRun hb, readHeading_spec]
    exact ⟨fun h => Or.inr ⟨hb, h⟩, fun h => h.elim (fun h => absurd ⟨n, h.2⟩ hb) (·.2)⟩

theorem heading_eq_of_readHeading_eq {t t' : Str} {phs phs' : List Str} (hp : Plain t phs) (hp' : Plain t' phs')
    (e : readHeading t' = readHeading t) :
    titleOf (headingInfo true 1 t' phs') = titleOf (headingInfo true 1 t phs) ∧
    servingsOf (headingInfo true 1 t' phs') = servingsOf (headingInfo true 1 t phs) := by
  have e2 := headingInfo_readHeading hp'
  rw [e, ← headingInfo_readHeading hp] at e2
  exact Prod.mk.inj e2

/-- **stability**: whitespace around a heading text does not change what is read from it (for leading whitespace:
    unless the text is a bare phrase-and-number, see `servingHeading_prepend_ws` and the examples below) -/
theorem heading_ws_invariant (t : Str) {w₁ w₂ : Str} (h₁ : WsRun w₁) (h₂ : WsRun w₂)
    (hb : ¬ ∃ m, IsBareServing t m) {phs phs' : List Str} (hp : Plain t phs) (hp' : Plain (w₁ ++ t ++ w₂) phs') :
    titleOf (headingInfo true 1 (w₁ ++ t ++ w₂) phs') = titleOf (headingInfo true 1 t phs) ∧
    servingsOf (headingInfo true 1 (w₁ ++ t ++ w₂) phs') = servingsOf (headingInfo true 1 t phs) :=
  heading_eq_of_readHeading_eq hp hp' (by rw [readHeading_append_ws _ h₂, readHeading_prepend_ws t h₁ hb])

/-- trailing whitespace never matters -/
theorem heading_trailing_ws_invariant (t : Str) {w : Str} (hw : WsRun w)
    {phs phs' : List Str} (hp : Plain t phs) (hp' : Plain (t ++ w) phs') :
    titleOf (headingInfo true 1 (t ++ w) phs') = titleOf (headingInfo true 1 t phs) ∧
    servingsOf (headingInfo true 1 (t ++ w) phs') = servingsOf (headingInfo true 1 t phs) :=
  heading_eq_of_readHeading_eq hp hp' (readHeading_append_ws t hw)


theorem IsBareServing.head {t : Str} {m : Nat} (h : IsBareServing t m) : ∃ c r, t = c :: r ∧ letterLike c.toNat = true := by
  obtain ⟨phrase, ws₂, digits, ws₃, rfl, ⟨p, hp, hph⟩, _⟩ := (isBareServing_iff t m).mp h
  obtain ⟨⟨c, r, rfl, hc⟩, _⟩ := PhraseText_chars (servingPhrases_wf p hp).2 hph
  exact ⟨c, _, rfl, hc⟩

/-- so the exception of `heading_ws_invariant` does not arise for a text that starts with anything but a letter
    (e.g. with whitespace: whitespace can be added in several steps) -/
theorem not_bare_of_head {t : Str} (h : ∀ c, t.head? = some c → letterLike c.toNat = false) : ¬ ∃ m, IsBareServing t m := by
  rintro ⟨m, hm⟩
  obtain ⟨c, r, rfl, hc⟩ := hm.head
  rw [h c rfl] at hc
  cases hc

/-! `CaseRel s s'`: `s'` is `s` with some ASCII letters switched to the other case (pointwise `CaseEqChar`). -/

/-- a split is carried along a change of ASCII letter case; lengths (hence offsets) and the digits are unchanged -/
theorem ServingSplit.caseRel {t t' pre ws₁ phrase ws₂ digits ws₃ : Str} (h : ServingSplit t pre ws₁ phrase ws₂ digits ws₃)
    (hr : CaseRel t t') :
    ∃ pre' ws₁' phrase' ws₂' ws₃', ServingSplit t' pre' ws₁' phrase' ws₂' digits ws₃' ∧
      CaseRel pre pre' ∧ CaseRel ws₁ ws₁' ∧ CaseRel phrase phrase' ∧ CaseRel ws₂ ws₂' ∧ CaseRel ws₃ ws₃' := by
  rw [h.text_eq] at hr
  obtain ⟨a₅, ws₃', rfl, h₅, r₆⟩ := hr.split_append
  obtain ⟨a₄, digits', rfl, h₄, r₅⟩ := h₅.split_append
  obtain ⟨a₃, ws₂', rfl, h₃, r₄⟩ := h₄.split_append
  obtain ⟨a₂, phrase', rfl, h₂, r₃⟩ := h₃.split_append
  obtain ⟨pre', ws₁', rfl, r₁, r₂⟩ := h₂.split_append
  have := r₅.eq_of_digits h.digits_ok
  subst this
  obtain ⟨p, hp, hph⟩ := h.phrase_ok
  exact ⟨pre', ws₁', phrase', ws₂', ws₃',
    ⟨rfl, r₂.spaceRun h.ws₁_run, ⟨p, hp, r₃.phraseText (servingPhrases_wf p hp).2 hph⟩, r₄.spaceRun h.ws₂_run,
      h.digits_ne, h.digits_ok, r₆.wsRun h.ws₃_run⟩, r₁, r₂, r₃, r₄, r₆⟩

theorem SplitStart.caseRel {t t' : Str} (hr : CaseRel t t') {k : Nat} : SplitStart t k → SplitStart t' k := by
  rintro ⟨pre, _, _, _, _, _, hs, rfl⟩
  obtain ⟨pre', _, _, _, _, hs', r₁, _⟩ := hs.caseRel hr
  exact ⟨pre', _, _, _, _, _, hs', r₁.length_eq.symm⟩

theorem HasServingSplit.caseRel {t t' : Str} (hr : CaseRel t t') : HasServingSplit t → HasServingSplit t' := by
  rintro ⟨_, _, _, _, _, _, hs⟩
  obtain ⟨_, _, _, _, _, hs', _⟩ := hs.caseRel hr
  exact ⟨_, _, _, _, _, _, hs'⟩

theorem leftmost_caseRel {t t' pre pre' : Str} (hr : CaseRel t t') (hlen : pre.length = pre'.length)
    (hl : Leftmost t pre) : Leftmost t' pre' := by
  rw [leftmost_iff_splitStart] at hl ⊢
  intro k hk
  rw [← hlen]
  exact hl k (hk.caseRel hr.symm)

/-- the serving count does not depend on the case of ANY ASCII letter of the heading … -/
theorem readHeading_servings_caseRel {t t' : Str} (hr : CaseRel t t') : (readHeading t').2 = (readHeading t).2 := by
  by_cases h : HasServingSplit t
  · obtain ⟨pre, ws₁, phrase, ws₂, digits, ws₃, hs, hl⟩ := h.exists_leftmost
    obtain ⟨pre', ws₁', phrase', ws₂', ws₃', hs', r₁, _⟩ := hs.caseRel hr
    have h1 : IsServingHeading t _ _ := ⟨pre, ws₁, phrase, ws₂, digits, ws₃, hs, hl, rfl, rfl⟩
    have h2 : IsServingHeading t' _ _ :=
      ⟨pre', ws₁', phrase', ws₂', digits, ws₃', hs', leftmost_caseRel hr r₁.length_eq hl, rfl, rfl⟩
    rw [readHeading_of_spec h1, readHeading_of_spec h2]
  · rw [(readHeading_none_iff t).mpr h, (readHeading_none_iff t').mpr (mt (HasServingSplit.caseRel hr.symm) h)]

/-- the title does not depend on the case of the ASCII letters behind it (behind `pre`) either -/
theorem readHeading_caseRel_after_title {t pre ws₁ phrase ws₂ digits ws₃ r' : Str}
    (hs : ServingSplit t pre ws₁ phrase ws₂ digits ws₃) (hl : Leftmost t pre)
    (hr : CaseRel (ws₁ ++ phrase ++ ws₂ ++ digits ++ ws₃) r') :
    readHeading (pre ++ r') = readHeading t := by
  have hrt : CaseRel t (pre ++ r') := by
    rw [hs.text_eq]
    simpa [List.append_assoc] using (CaseRel.refl pre).append hr
  obtain ⟨pre', ws₁', phrase', ws₂', ws₃', hs', r₁, _⟩ := hs.caseRel hrt
  have hpre : pre' = pre := by
    have := hs'.text_eq
    simp only [List.append_assoc] at this
    exact (List.append_inj_left this r₁.length_eq).symm
  subst hpre
  have h1 : IsServingHeading t _ _ := ⟨pre', ws₁, phrase, ws₂, digits, ws₃, hs, hl, rfl, rfl⟩
  have h2 : IsServingHeading (pre' ++ r') _ _ :=
    ⟨pre', ws₁', phrase', ws₂', digits, ws₃', hs', leftmost_caseRel hrt rfl hl, rfl, rfl⟩
  rw [readHeading_of_spec h1, readHeading_of_spec h2]

/-- **the letter case of the phrase is irrelevant**: in the heading's (left-most) split, replace the phrase by any
    text that differs from it only in the case of ASCII letters; title and count are unchanged -/
theorem servingHeading_case_invariant {t pre ws₁ phrase ws₂ digits ws₃ phrase' : Str}
    (hs : ServingSplit t pre ws₁ phrase ws₂ digits ws₃) (hl : Leftmost t pre) (hc : CaseRel phrase phrase')
    (title : Str) (n : Nat) :
    IsServingHeading (pre ++ ws₁ ++ phrase' ++ ws₂ ++ digits ++ ws₃) title n ↔ IsServingHeading t title n := by
  have hr : CaseRel (ws₁ ++ phrase ++ ws₂ ++ digits ++ ws₃) (ws₁ ++ phrase' ++ ws₂ ++ digits ++ ws₃) :=
    ((((CaseRel.refl ws₁).append hc).append (CaseRel.refl ws₂)).append (CaseRel.refl digits)).append (CaseRel.refl ws₃)
  have e := readHeading_caseRel_after_title hs hl hr
  simp only [← List.append_assoc] at e
  rw [← readHeading_spec, ← readHeading_spec, e]

/-- a map that moves only the code points `lo … hi`, each to its other ASCII case (checked on that range), relates every
    character to its image -/
theorem caseEqChar_of_range (f : Char → Char) (lo hi : Nat) (hf : ∀ c : Char, ¬ (lo ≤ c.toNat ∧ c.toNat ≤ hi) → f c = c)
    (key : ∀ n, n < hi + 1 → lo ≤ n → asciiLowerNat n = asciiLowerNat (f (Char.ofNat n)).toNat) (c : Char) :
    CaseEqChar c (f c) := by
  by_cases h : lo ≤ c.toNat ∧ c.toNat ≤ hi
  · have := key c.toNat (by omega) h.1
    rwa [Char.ofNat_toNat] at this
  · rw [hf c h]
    exact CaseEqChar.refl c

theorem caseRel_map (f : Char → Char) (hf : ∀ c, CaseEqChar c (f c)) : ∀ s : Str, CaseRel s (s.map f)
  | [] => trivial
  | c :: s => ⟨hf c, caseRel_map f hf s⟩

/-- upper-casing or lower-casing (ASCII) any part of the phrase are instances of `CaseRel` -/
theorem caseRel_map_toUpper (s : Str) : CaseRel s (s.map Char.toUpper) :=
  caseRel_map _ (caseEqChar_of_range Char.toUpper 97 122
    (fun c h => by
      unfold Char.toUpper
      rw [dif_neg]
      exact fun hh => h ⟨UInt32.le_iff_toNat_le.mp hh.1, UInt32.le_iff_toNat_le.mp hh.2⟩)
    (by decide +kernel)) s

theorem caseRel_map_toLower (s : Str) : CaseRel s (s.map Char.toLower) :=
  caseRel_map _ (caseEqChar_of_range Char.toLower 65 90
    (fun c h => by
      unfold Char.toLower
      rw [dif_neg]
      exact fun hh => h ⟨UInt32.le_iff_toNat_le.mp hh.1, UInt32.le_iff_toNat_le.mp hh.2⟩)
    (by decide +kernel)) s


theorem ServingSplit.last_token {t pre ws₁ phrase ws₂ digits ws₃ a tok w : Str}
    (h : ServingSplit t pre ws₁ phrase ws₂ digits ws₃)
    (ht : t = a ++ tok ++ w) (ha : EndsWs a) (htok : NoWs tok) (hne : tok ≠ []) (hw : WsRun w) :
    pre ++ ws₁ ++ phrase ++ ws₂ = a ∧ digits = tok ∧ ws₃ = w := by
  have := h.text_eq
  rw [ht] at this
  exact last_token_unique this.symm (EndsWs.append_spaceRun _ h.ws₂_run) ha (digits_noWs h.digits_ok) htok
    h.digits_ne hne h.ws₃_run hw

/-- **a heading whose last token is not a digit run has no serving count** -/
theorem no_servings_of_last_token {t a tok w : Str} (ht : t = a ++ tok ++ w) (ha : EndsWs a) (htok : NoWs tok)
    (hw : WsRun w) (hnd : ∃ c ∈ tok, isDigit c = false) : ¬ HasServingSplit t := by
  rintro ⟨pre, ws₁, phrase, ws₂, digits, ws₃, h⟩
  obtain ⟨c, hc, hcd⟩ := hnd
  obtain ⟨_, rfl, _⟩ := h.last_token ht ha htok (List.ne_nil_of_mem hc) hw
  rw [h.digits_ok c hc] at hcd
  cases hcd

theorem ServingSplit.word_token {t pre ws₁ phrase ws₂ digits ws₃ a tok sp ds w : Str}
    (h : ServingSplit t pre ws₁ phrase ws₂ digits ws₃)
    (ht : t = a ++ tok ++ sp ++ ds ++ w) (ha : EndsWs a) (htok : NoWs tok) (hne : tok ≠ []) (hsp : SpaceRun sp)
    (hds : ∀ c ∈ ds, isDigit c = true) (hdne : ds ≠ []) (hw : WsRun w) :
    a ≠ [] ∧ ∃ wl, IsLastPhraseWord wl ∧ CiWord wl.toList tok := by
  obtain ⟨x, wd, wl, hx, hxne, hxe, hwl, hwd, _⟩ := h.tokens
  rw [ht] at hx
  obtain ⟨e1, _, _⟩ := last_token_unique (x := a ++ tok ++ sp) (x' := x ++ wd ++ ws₂) hx
    (EndsWs.append_spaceRun _ hsp) (EndsWs.append_spaceRun _ h.ws₂_run) (digits_noWs hds) (digits_noWs h.digits_ok)
    hdne h.digits_ne hw h.ws₃_run
  obtain ⟨rfl, rfl, _⟩ := last_token_unique e1 ha hxe htok (CiWord_noWs hwl.wf.2 hwd) hne (CiWord_ne_nil hwl.wf.1 hwd)
    hsp.wsRun h.ws₂_run.wsRun
  exact ⟨hxne, wl, hwl, hwd⟩

/-- **the word before the number must be (the last word of) a phrase** -/
theorem no_servings_of_word_before_count {t a tok sp ds w : Str}
    (ht : t = a ++ tok ++ sp ++ ds ++ w) (ha : EndsWs a) (htok : NoWs tok) (hne : tok ≠ []) (hsp : SpaceRun sp)
    (hds : ∀ c ∈ ds, isDigit c = true) (hdne : ds ≠ []) (hw : WsRun w)
    (hno : ∀ wl, IsLastPhraseWord wl → ¬ CiWord wl.toList tok) : ¬ HasServingSplit t := by
  rintro ⟨pre, ws₁, phrase, ws₂, digits, ws₃, h⟩
  obtain ⟨_, wl, hwl, hc⟩ := h.word_token ht ha htok hne hsp hds hdne hw
  exact hno wl hwl hc

/-- **a heading that consists of one word and a number only ("Serves 2", "For 4") has no serving count**: there is
    no whitespace before the phrase -/
theorem no_servings_single_token {t tok sp ds w : Str}
    (ht : t = tok ++ sp ++ ds ++ w) (htok : NoWs tok) (hne : tok ≠ []) (hsp : SpaceRun sp)
    (hds : ∀ c ∈ ds, isDigit c = true) (hdne : ds ≠ []) (hw : WsRun w) : ¬ HasServingSplit t := by
  rintro ⟨pre, ws₁, phrase, ws₂, digits, ws₃, h⟩
  exact (h.word_token (a := []) (by simpa using ht) EndsWs.nil htok hne hsp hds hdne hw).1 rfl

/-- no last word of a phrase is a proper suffix of another one (decided on the regenerated table) -/
theorem lastPhraseWord_not_proper_suffix :
    ∀ p ∈ Gen.servingPhrases, ∀ q ∈ Gen.servingPhrases, ∀ w ∈ p.getLast?, ∀ w' ∈ q.getLast?,
      w'.toList.drop (w'.toList.length - w.toList.length) = w.toList → w'.toList.length ≤ w.toList.length := by
  decide +kernel

/-- **whitespace must precede the phrase**: a token that merely ENDS in a serving word ("Preserves 2") is not a
    serving phrase -/
theorem phrase_needs_preceding_space {t a x word sp ds w : Str} {wl : String}
    (ht : t = a ++ (x ++ word) ++ sp ++ ds ++ w) (ha : EndsWs a) (hx : NoWs x) (hxne : x ≠ [])
    (hwl : IsLastPhraseWord wl) (hword : CiWord wl.toList word) (hsp : SpaceRun sp)
    (hds : ∀ c ∈ ds, isDigit c = true) (hdne : ds ≠ []) (hw : WsRun w) : ¬ HasServingSplit t := by
  have hwordws := CiWord_noWs hwl.wf.2 hword
  apply no_servings_of_word_before_count ht ha
    (fun c hc => by rcases List.mem_append.mp hc with h | h; exact hx c h; exact hwordws c h) (by simp [hxne]) hsp hds hdne hw
  intro wl' hwl' hc
  have hlen := CiWord_length hc
  have hlen0 := CiWord_length hword
  simp only [List.length_append] at hlen
  have hsplit : wl'.toList = wl'.toList.take x.length ++ wl'.toList.drop x.length := (List.take_append_drop _ _).symm
  rw [hsplit] at hc
  have hv := CiWord_append_right (by rw [List.length_take]; omega) hc
  have hv' : wl'.toList.drop x.length = wl.toList :=
    CiWord_inj (fun l hl => hwl'.wf.2 l (List.mem_of_mem_drop hl)) hwl.wf.2 hv hword
  obtain ⟨p, hp, hpw⟩ := hwl
  obtain ⟨q, hq, hqw⟩ := hwl'
  have := lastPhraseWord_not_proper_suffix p hp q hq wl (by simp [hpw]) wl' (by simp [hqw])
    (by rw [← hv', List.length_drop]; congr 1; omega)
  have : 0 < x.length := List.length_pos_iff.mpr hxne
  omega


/-- the count of a heading is the value of its last token, whichever split is considered -/
theorem servingHeading_count {t title : Str} {n : Nat} (hh : IsServingHeading t title n)
    {pre ws₁ phrase ws₂ digits ws₃ : Str} (h : ServingSplit t pre ws₁ phrase ws₂ digits ws₃) :
    n = natOfDigitChars digits := by
  obtain ⟨_, _, _, _, _, _, hs, _, _, hn⟩ := hh
  rw [hn, (splits_agree hs h).2.1]

theorem leftmost_iff_no_earlier (t pre : Str) : Leftmost t pre ↔ ∀ k, k < pre.length → ¬ SplitStart t k := by
  rw [leftmost_iff_splitStart]
  constructor
  · intro h k hk hs
    have := h k hs
    omega
  · intro h k hs
    rcases Nat.lt_or_ge k pre.length with hk | hk
    · exact absurd hs (h k hk)
    · exact hk

/-- a split whose `pre` contains no whitespace is the one found (one-word titles) -/
theorem leftmost_of_noWs {t pre ws₁ phrase ws₂ digits ws₃ : Str}
    (h : ServingSplit t pre ws₁ phrase ws₂ digits ws₃) (hpre : NoWs pre) : Leftmost t pre := by
  obtain ⟨p, hp, hph⟩ := h.phrase_ok
  refine (leftmost_iff_explicit h hp hph).mpr ⟨fun c hc => hpre c (List.mem_of_getLast? hc), ?_⟩
  rintro ⟨_, _, _, pre₀, ws₀, z, rfl, hws₀, _⟩
  obtain ⟨x, xs, rfl⟩ := List.exists_cons_of_ne_nil hws₀.1
  have := hpre x (by simp)
  rw [hws₀.2 x (by simp)] at this
  cases this

-- "Food to serve 4": the split "Food to" + "serve 4" exists but is not the one found
example : ServingSplit "Food to serve 4".toList "Food to".toList " ".toList "serve".toList " ".toList "4".toList [] ∧
    ¬ Leftmost "Food to serve 4".toList "Food to".toList := by
  have hs : ServingSplit "Food to serve 4".toList "Food to".toList " ".toList "serve".toList " ".toList "4".toList [] :=
    { text_eq := by decide +kernel
      ws₁_run := by decide +kernel
      phrase_ok := ⟨["serve"], by decide +kernel, (PhraseText_one _ _).mpr (by decide +kernel)⟩
      ws₂_run := by decide +kernel
      digits_ne := by decide +kernel
      digits_ok := by decide +kernel
      ws₃_run := by decide +kernel }
  refine ⟨hs, fun hl => ?_⟩
  have := ((leftmost_iff_explicit_to hs (p := ["serve"]) (by decide +kernel) ((PhraseText_one _ _).mpr (by decide))).mp hl).2
  exact this ⟨by decide +kernel, "Food".toList, " ".toList, "to".toList, by decide +kernel, by decide +kernel, by decide +kernel⟩

-- the documented forms
example : readHeading "Stew for 2".toList = ("Stew".toList, some 2) := by decide +kernel
example : readHeading "Stew serves 4".toList = ("Stew".toList, some 4) := by decide +kernel
example : readHeading "Stew to serve 4".toList = ("Stew".toList, some 4) := by decide +kernel
example : readHeading "Stew makes 12".toList = ("Stew".toList, some 12) := by decide +kernel
example : readHeading "Stew to make 12".toList = ("Stew".toList, some 12) := by decide +kernel
example : readHeading "Stew serving 3".toList = ("Stew".toList, some 3) := by decide +kernel
-- accepted by the pattern although not documented
example : readHeading "Stew serve 4".toList = ("Stew".toList, some 4) := by decide +kernel
example : readHeading "Stew to makes 4".toList = ("Stew".toList, some 4) := by decide +kernel
-- letter case, space runs (including non-ASCII `\s`), trailing whitespace, entities in the title
example : readHeading "Beef  Stew \t TO   sErVe  007 \n".toList = ("Beef  Stew".toList, some 7) := by decide +kernel
example : readHeading "Stew for 2".toList = ("Stew".toList, some 2) := by decide +kernel
example : readHeading "Fish &amp; Chips for 2".toList = ("Fish & Chips".toList, some 2) := by decide +kernel
-- `(?i)` also folds the Kelvin sign onto `k` and the long s onto `s`
example : readHeading "Jam maKes 3".toList = ("Jam".toList, some 3) := by decide +kernel
example : readHeading "Jam ſerves 3".toList = ("Jam".toList, some 3) := by decide +kernel
-- several candidate places: the digits are the LAST token; the phrase starts as far left as possible
example : readHeading "Tea for 2 for 4".toList = ("Tea for 2".toList, some 4) := by decide +kernel
example : readHeading "Food to serve 4".toList = ("Food".toList, some 4) := by decide +kernel
example : readHeading "Food for to serve 4".toList = ("Food for".toList, some 4) := by decide +kernel
example : readHeading "What to make 4".toList = ("What".toList, some 4) := by decide +kernel
example : readHeading "Things to  for 4".toList = ("Things to".toList, some 4) := by decide +kernel
-- negative: last token not a digit run
example : readHeading "Stew for two".toList = ("Stew for two".toList, none) := by decide +kernel
example : readHeading "Stew for 2x".toList = ("Stew for 2x".toList, none) := by decide +kernel
example : readHeading "Stew for 2.".toList = ("Stew for 2.".toList, none) := by decide +kernel
example : readHeading "Stew for ٢".toList = ("Stew for ٢".toList, none) := by decide +kernel  -- `[0-9]` is ASCII only
example : readHeading "Stew for2".toList = ("Stew for2".toList, none) := by decide +kernel
example : readHeading "Stew 2".toList = ("Stew 2".toList, none) := by decide +kernel
-- negative: a word merely ENDING in a serving word
example : readHeading "Plum Preserves 2".toList = ("Plum Preserves 2".toList, none) := by decide +kernel
example : readHeading "Cake remakes 2".toList = ("Cake remakes 2".toList, none) := by decide +kernel
-- negative: phrase and number only — there is no whitespace before the phrase
example : readHeading "Serves 2".toList = ("Serves 2".toList, none) := by decide +kernel
example : readHeading "for 2".toList = ("for 2".toList, none) := by decide +kernel
-- … but a two-word phrase alone loses its first word to the title, and a leading space makes the title empty
example : readHeading "to serve 2".toList = ("to".toList, some 2) := by decide +kernel
example : readHeading " for 2".toList = ([], some 2) := by decide +kernel
example : readHeading " to serve 2".toList = ([], some 2) := by decide +kernel

-- the same through `headingInfo`, with all four outputs
example : headingInfo true 1 "Stew  to serve 4 ".toList [] =
    .scalable "Stew".toList 4 "Stew  ".toList "to serve ".toList := by decide +kernel
example : headingInfo true 1 "Plum Preserves 2".toList [] = .unscalable "Plum Preserves 2".toList := by decide +kernel

-- the specification itself, instantiated
example : IsServingHeading "Tea for 2 for 4".toList "Tea for 2".toList 4 :=
  (readHeading_spec _ _ _).mp (by decide +kernel)
example : ¬ HasServingSplit "Serves 2".toList :=
  no_servings_single_token (tok := "Serves".toList) (sp := " ".toList) (ds := "2".toList) (w := [])
    (by decide +kernel) (by decide +kernel) (by decide +kernel) (by decide +kernel) (by decide +kernel) (by decide +kernel) (by decide +kernel)
example : ¬ HasServingSplit "Plum Preserves 2".toList :=
  phrase_needs_preceding_space (a := "Plum ".toList) (x := "Pre".toList) (word := "serves".toList) (sp := " ".toList)
    (ds := "2".toList) (w := []) (wl := "serves") (by decide +kernel) (by decide +kernel) (by decide +kernel) (by decide +kernel)
    ⟨["serves"], by decide +kernel, rfl⟩ (by show CiWord _ _; decide) (by decide +kernel) (by decide +kernel) (by decide +kernel) (by decide +kernel)
example : ¬ HasServingSplit "Stew for two".toList :=
  no_servings_of_last_token (a := "Stew for ".toList) (tok := "two".toList) (w := []) (by decide +kernel) (by decide +kernel) (by decide +kernel)
    (by decide +kernel) ⟨'t', by decide +kernel, by decide +kernel⟩
example : IsBareServing "to serve 2".toList 2 :=
  (isBareServing_iff _ _).mpr ⟨"to serve".toList, " ".toList, "2".toList, [], by decide +kernel,
    ⟨["to", "serve"], by decide +kernel, "to".toList, " ".toList, "serve".toList, by decide +kernel, by show CiWord _ _; decide +kernel, by decide +kernel,
      by show CiWord _ _; decide +kernel⟩, by decide +kernel, by decide +kernel, by decide +kernel, by decide +kernel, by decide +kernel⟩
-- two spellings of a phrase that `CaseRel` relates
example : CaseRel "to serve".toList "To SERVE".toList := by decide +kernel

end RG.C18
