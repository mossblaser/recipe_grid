import RecipeGrid.Model.Text
import RecipeGrid.Model.Parser
import RecipeGrid.Lemmas.Text
/-! C07.2 — every reported error position (line, column, quoted line) lies in the source. -/
namespace RG.C07

/-- sample text for the non-vacuity checks: `"ab\r\ncd\nef"` -/
def sample : Str := ['a', 'b', '\r', '\n', 'c', 'd', '\n', 'e', 'f']

theorem splitLinesKeep_join (s : Str) : (splitLinesKeep s).flatten = s :=
  splitLinesKeep_flatten s

example : splitLinesKeep sample = [['a', 'b', '\r', '\n'], ['c', 'd', '\n'], ['e', 'f']] := by decide +kernel

theorem splitLinesKeep_lines_nonempty (s : Str) : ∀ l ∈ splitLinesKeep s, l ≠ [] :=
  splitLinesKeepAux_ne_nil [] s

/-- only the end of a line can be a terminator: a line is its text without terminator (which contains
    no line break at all) followed by nothing, by `"\r\n"`, or by one line-break character -/
theorem splitLinesKeep_lines_shape (s : Str) : ∀ l ∈ splitLinesKeep s,
    (∀ c ∈ dropTerminator l, isLineBreak c = false) ∧
    (l = dropTerminator l ∨ l = dropTerminator l ++ ['\r', '\n'] ∨
      ∃ c, isLineBreak c = true ∧ l = dropTerminator l ++ [c]) := by
  intro l hl
  obtain ⟨body, hb⟩ := splitLinesKeep_shape s l hl
  rw [dropTerminator_of_shape l body hb]
  exact hb

example : (splitLinesKeep sample).map dropTerminator = [['a', 'b'], ['c', 'd'], ['e', 'f']] := by decide +kernel

/-- C07.2 located: for every source and every offset (also beyond the end) the reported line exists and the
    column is within or just past that line (counted with its terminator) -/
theorem offset_located (s : Str) (o : Nat) :
    let lc := offsetToLineCol s o
    1 ≤ lc.1 ∧ lc.1 ≤ max 1 (splitLinesKeep s).length ∧ 1 ≤ lc.2 ∧
    lc.2 ≤ ((splitLinesKeep s)[lc.1 - 1]?.getD []).length + 1 := by
  by_cases hs : s = []
  · subst hs
    simp [offsetToLineCol, splitLinesKeep, splitLinesKeepAux]
  · have hlen : 0 < (splitLinesKeep s).length :=
      List.length_pos_iff.2 (by rwa [Ne, splitLinesKeep_eq_nil])
    rw [offsetToLineCol_of_ne_nil s o hs]
    by_cases h : o < (splitLinesKeep s).flatten.length
    · have := offsetToLineColAux_found (splitLinesKeep s) o 0 0 h
      simp only [Nat.sub_zero, Nat.zero_add] at this ⊢
      omega
    · rw [offsetToLineColAux_past (splitLinesKeep s) o 0 0 (by omega), List.getLast?_eq_getElem?]
      simp only [Nat.zero_add]
      refine ⟨hlen, by omega, by omega, ?_⟩
      cases (splitLinesKeep s)[(splitLinesKeep s).length - 1]? <;> simp

example : offsetToLineCol sample 5 = (2, 2) ∧ offsetToLineCol sample 3 = (1, 4) ∧
    offsetToLineCol sample 9 = (3, 3) ∧ offsetToLineCol sample 100 = (3, 3) := by decide +kernel

/-- C07.2 exact: for an offset inside the text, the characters before it are exactly the lines before the
    reported line plus (column − 1) characters of the reported line -/
theorem offset_exact (s : Str) (o : Nat) (h : o < s.length) :
    let lc := offsetToLineCol s o
    (((splitLinesKeep s).take (lc.1 - 1)).flatten).length + (lc.2 - 1) = o ∧
    lc.2 ≤ ((splitLinesKeep s)[lc.1 - 1]?.getD []).length := by
  have := offsetToLineColAux_found (splitLinesKeep s) o 0 0 (by rw [splitLinesKeep_flatten]; exact h)
  rw [← offsetToLineCol_of_ne_nil s o (List.ne_nil_of_length_pos (Nat.zero_lt_of_lt h))] at this
  exact ⟨by simpa using this.2.2.1, by simpa using this.2.2.2.2⟩

example : let lc := offsetToLineCol sample 5
    ((splitLinesKeep sample).take (lc.1 - 1)).flatten = ['a', 'b', '\r', '\n'] ∧ lc.2 - 1 = 1 := by
  decide +kernel

/-- the quoted snippet is that very line without its terminator -/
theorem extractLine_is_line (s : Str) (o : Nat) (hs : s ≠ []) :
    extractLine s (offsetToLineCol s o).1 =
      ((splitLinesKeep s)[(offsetToLineCol s o).1 - 1]?).map dropTerminator := by
  have := (offset_located s o).1
  simp only [extractLine, splitLines]
  rw [if_neg (by simpa using hs), if_neg (by omega)]
  simp

example : extractLine sample (offsetToLineCol sample 5).1 = some ['c', 'd'] := by decide +kernel

/-- the quoted snippet always exists: `extract_line` never raises `IndexError` on a reported line -/
theorem extractLine_total (s : Str) (o : Nat) : (extractLine s (offsetToLineCol s o).1).isSome := by
  by_cases hs : s = []
  · subst hs; simp [extractLine]
  · rw [extractLine_is_line s o hs]
    obtain ⟨h1, h2, -, -⟩ := offset_located s o
    have : (splitLinesKeep s) ≠ [] := by rwa [Ne, splitLinesKeep_eq_nil]
    have := List.length_pos_iff.2 this
    simp only [Option.isSome_map, isSome_getElem?]
    omega

example : extractLine sample (offsetToLineCol sample 100).1 = some ['e', 'f'] := by decide +kernel

/-- the column marker is under a character of the quoted line, or just behind it (at the line's terminator, or — at the
    end of a text that ends in a line break — one further) -/
theorem col_le_of_no_cr (X : Str) (hr : '\r' ∉ X) (off : Nat) (q : Str)
    (hq : extractLine X (offsetToLineCol X off).1 = some q) : (offsetToLineCol X off).2 ≤ q.length + 2 := by
  by_cases hX : X = []
  · subst hX
    simp [offsetToLineCol, splitLinesKeep, splitLinesKeepAux]
  · rw [extractLine_is_line X off hX] at hq
    obtain ⟨_, _, _, h4⟩ := offset_located X off
    cases hl : (splitLinesKeep X)[(offsetToLineCol X off).1 - 1]? with
    | none => rw [hl] at hq; cases hq
    | some line =>
      rw [hl] at hq h4
      simp only [Option.map_some, Option.some.injEq, Option.getD_some] at hq h4
      have hmem : line ∈ splitLinesKeep X := List.mem_of_getElem? hl
      obtain ⟨body, hshape⟩ := splitLinesKeep_shape X line hmem
      rw [dropTerminator_of_shape line body hshape] at hq
      subst hq
      obtain ⟨_, h | h | ⟨c, _, h⟩⟩ := hshape
      · rw [h] at h4; omega
      · exfalso
        apply hr
        rw [← splitLinesKeep_flatten X]
        exact List.mem_flatten.2 ⟨line, hmem, by rw [h]; simp⟩
      · rw [h] at h4; simp at h4; omega

end RG.C07

namespace RG.C07
/-- a zero denominator does not crash the parser: the outcome is a parse or a syntax error, for every text -/
theorem parse_never_zeroDivision (s : Str) : parse s ≠ .zeroDivision := by
  unfold parse; split <;> simp
end RG.C07
