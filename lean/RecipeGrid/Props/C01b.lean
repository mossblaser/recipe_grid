import RecipeGrid.Lemmas.FoldSpec
import RecipeGrid.Lemmas.StrLit
/-! C01.4: the inlining pass of `compile` computes the documented folding *by name*.  The specification has by-name
    trees `FTree` that can hold an inlined titled sub recipe, `Spec.canFold` with the four documented conditions and
    `Spec.foldAll`: no copies, no table; `specCompile` embeds the copies at the end.
    `Lemmas/Fold.lean` analyses the same loop on the trees themselves (`FoldInv`): that gives what `Props/C05.lean` and
    `Props/C08b.lean` state about trees; this file gives the result of the loop exactly, but only by name. -/
namespace RG.C01

/-- a by-name tree in which definitions may have been inlined: `sub` is an inlined definition that keeps its
    title (written with `:=`) -/
inductive FTree where
  | ingredient (d : SVS) (q : Option Quantity)
  | step (d : SVS) (inputs : List FTree)
  /-- a reference BY NAME to output `idx` of statement `sid` -/
  | nref (sid idx : Nat) (amount : Amount)
  /-- an inlined named sub recipe -/
  | sub (body : FTree) (names : List SVS) (showNames : Bool)
deriving Inhabited

structure FStmt where
  /-- its number: statement ids never change while folding -/
  sid : Nat
  block : Nat
  tree : FTree
  names : List SVS
  showNames : Bool
  /-- written with `:=` -/
  named : Bool
  /-- `false` once the statement has been inlined into its only user (it is deleted from the recipe) -/
  live : Bool

mutual
def liftTree : NTree → FTree
  | .ingredient d q => .ingredient d q
  | .step d inputs => .step d (liftTrees inputs)
  | .nref sid idx a => .nref sid idx a
def liftTrees : List NTree → List FTree
  | [] => []
  | t :: ts => liftTree t :: liftTrees ts
end

/-- was statement `k` of the program (in source order) written with `:=` -/
def namedFlags (asts : List (List AStmt)) : List Bool := (numbered 0 asts).map (·.2.named)

def liftStmt (nm : List Bool) (k : Nat) (s : NStmt) : FStmt :=
  { sid := k, block := s.block, tree := liftTree s.tree, names := s.names, showNames := s.showNames,
    named := nm[k]?.getD false, live := true }

def liftFrom (nm : List Bool) : Nat → List NStmt → List FStmt
  | _, [] => []
  | k, s :: ss => liftStmt nm k s :: liftFrom nm (k + 1) ss

/-- the elaborated program `ns` of the description `asts`, before folding -/
def lift (asts : List (List AStmt)) (ns : List NStmt) : List FStmt := liftFrom (namedFlags asts) 0 ns

mutual
def FTree.refs : FTree → List (Nat × Nat × Amount)
  | .ingredient .. => []
  | .step _ inputs => FTree.refsList inputs
  | .nref sid idx a => [(sid, idx, a)]
  | .sub b _ _ => b.refs
def FTree.refsList : List FTree → List (Nat × Nat × Amount)
  | [] => []
  | t :: ts => t.refs ++ FTree.refsList ts
end

/-- every reference of the remaining program in source order, with the block of the referencing statement -/
def liveRefs (P : List FStmt) : List (Nat × Nat × Amount × Nat) :=
  P.flatMap fun u => if u.live then u.tree.refs.map fun r => (r.1, r.2.1, r.2.2, u.block) else []

/-- the references of the remaining program to output `idx` of statement `sid`: the amount taken and the block of the
    referencing statement -/
def refsTo (P : List FStmt) (sid idx : Nat) : List (Amount × Nat) :=
  ((liveRefs P).filter fun r => r.1 == sid && r.2.1 == idx).map fun r => (r.2.2.1, r.2.2.2)

/-- the quantity of the single ingredient of a chain of single-input steps -/
def FTree.inferQuantity : FTree → Option Quantity
  | .ingredient _ q => q
  | .step _ [i] => i.inferQuantity
  | .sub b [_] _ => b.inferQuantity
  | _ => none

/-- the amount is all of what the tree `t` makes: a remainder (no value), the proportion 1, or a quantity equal to
    the inferred quantity of `t` -/
def Spec.isWhole (t : FTree) : Amount → Bool
  | .proportion none _ _ _ => true
  | .proportion (some v) _ _ _ => v.val == 1
  | .quantity q =>
    match t.inferQuantity with
    | some iq => q.hasEqualValueTo iq
    | none => false

/-- statement `st` of the remaining program `P` is folded iff it defines exactly one output, the whole program contains
    exactly one reference to it, that reference is in a statement of the same block and takes the whole amount -/
def Spec.canFold (P : List FStmt) (st : FStmt) : Bool :=
  st.names.length == 1 &&
  match refsTo P st.sid 0 with
  | [(a, b)] => b == st.block && Spec.isWhole st.tree a
  | _ => false

mutual
def FTree.inline (sid : Nat) (x : FTree) : FTree → FTree
  | .ingredient d q => .ingredient d q
  | .step d inputs => .step d (FTree.inlineList sid x inputs)
  | .nref s i a => if s == sid then x else .nref s i a
  | .sub b ns sh => .sub (FTree.inline sid x b) ns sh
def FTree.inlineList (sid : Nat) (x : FTree) : List FTree → List FTree
  | [] => []
  | t :: ts => FTree.inline sid x t :: FTree.inlineList sid x ts
end

/-- what is put in place of the reference: the statement's tree, as a named sub recipe if it was written with `:=` -/
def FStmt.inlined (st : FStmt) : FTree := if st.named then .sub st.tree st.names st.showNames else st.tree

/-- fold statement `sid` if it can be folded: its reference is replaced by its (already folded) tree and the statement
    is deleted.  The statement is found by position and deleted by id: ids are positions (`SidOk`) -/
def Spec.foldStmt (P : List FStmt) (sid : Nat) : List FStmt :=
  match P[sid]? with
  | some st =>
    if Spec.canFold P st then
      P.map fun u => { u with tree := FTree.inline sid st.inlined u.tree, live := u.live && u.sid != sid }
    else P
  | none => P

/-- the documented folding: every statement in definition order -/
def Spec.foldAll (P : List FStmt) : List FStmt := (List.range P.length).foldl Spec.foldStmt P

mutual
def embedFTree (roots : List Tree) : FTree → Tree
  | .ingredient d q => .ingredient d q
  | .step d inputs => .step d (embedFTrees roots inputs)
  | .nref sid idx a => .reference (roots[sid]?.getD default) idx a
  | .sub b ns sh => .sub (embedFTree roots b) ns sh
def embedFTrees (roots : List Tree) : List FTree → List Tree
  | [] => []
  | t :: ts => embedFTree roots t :: embedFTrees roots ts
end

def embedFStmt (roots : List Tree) (s : FStmt) : Tree :=
  if s.names.isEmpty then embedFTree roots s.tree else .sub (embedFTree roots s.tree) s.names s.showNames

def rootsOfF (P : List FStmt) : List Tree := P.foldl (fun roots s => roots ++ [embedFStmt roots s]) []

/-- the compiler's representation: per block, the root trees of the remaining statements -/
def embedF (nblocks : Nat) (P : List FStmt) : List (List Tree) :=
  (List.range nblocks).map fun b => ((P.zip (rootsOfF P)).filter (fun p => p.1.live && p.1.block == b)).map (·.2)

/-- the by-name meaning of a list of source texts: the first block that does not parse, else the error of the by-name
    elaboration (C01.3), else the by-name program after the documented folding, with copies embedded -/
def specCompile (srcs : List Str) : CompileResult :=
  match parseAll 0 srcs with
  | .error e => e
  | .ok asts =>
    match Spec.blocks asts with
    | .error e => e.toCompile
    | .ok ns => .ok (embedF srcs.length (Spec.foldAll (lift asts ns)))

theorem liftFrom_length (nm : List Bool) : ∀ (ns : List NStmt) (k : Nat), (liftFrom nm k ns).length = ns.length
  | [], _ => rfl
  | s :: ss, k => by simp [liftFrom, liftFrom_length nm ss (k + 1)]

theorem liftFrom_getElem? (nm : List Bool) : ∀ (ns : List NStmt) (k j : Nat),
    (liftFrom nm k ns)[j]? = ns[j]?.map (liftStmt nm (k + j))
  | [], _, _ => rfl
  | s :: ss, k, 0 => rfl
  | s :: ss, k, j + 1 => by
    simp only [liftFrom, List.getElem?_cons_succ, liftFrom_getElem? nm ss (k + 1) j, Nat.add_assoc, Nat.add_comm 1 j]

mutual
theorem embedFTree_lift (roots : List Tree) : ∀ t : NTree, embedFTree roots (liftTree t) = embedTree roots t
  | .ingredient .. => rfl
  | .step d inputs => by simp only [liftTree, embedFTree, embedTree, embedFTrees_lift roots inputs]
  | .nref .. => rfl
theorem embedFTrees_lift (roots : List Tree) : ∀ ts : List NTree, embedFTrees roots (liftTrees ts) = embedTrees roots ts
  | [] => rfl
  | t :: ts => by simp only [liftTrees, embedFTrees, embedTrees, embedFTree_lift roots t, embedFTrees_lift roots ts]
end

mutual
theorem refs_lift : ∀ t : NTree, (liftTree t).refs = t.refs
  | .ingredient .. => rfl
  | .step d inputs => by simp only [liftTree, FTree.refs, NTree.refs, refsList_lift inputs]
  | .nref .. => rfl
theorem refsList_lift : ∀ ts : List NTree, FTree.refsList (liftTrees ts) = NTree.refsList ts
  | [] => rfl
  | t :: ts => by simp only [liftTrees, FTree.refsList, NTree.refsList, refs_lift t, refsList_lift ts]
end

theorem rootsOfF_liftFrom (nm : List Bool) : ∀ (ns : List NStmt) (k : Nat) (acc : List Tree),
    (liftFrom nm k ns).foldl (fun roots s => roots ++ [embedFStmt roots s]) acc =
      ns.foldl (fun roots s => roots ++ [embedStmt roots s]) acc
  | [], _, _ => rfl
  | s :: ss, k, acc => by
    rw [liftFrom, List.foldl_cons, List.foldl_cons, rootsOfF_liftFrom nm ss (k + 1)]
    congr 2
    simp only [embedFStmt, embedStmt, liftStmt, embedFTree_lift]

theorem rootsOfF_lift (asts : List (List AStmt)) (ns : List NStmt) : rootsOfF (lift asts ns) = rootsOf ns :=
  rootsOfF_liftFrom _ ns 0 []

theorem liveRefs_liftFrom (nm : List Bool) : ∀ (ns : List NStmt) (k : Nat), liveRefs (liftFrom nm k ns) = allRefs ns
  | [], _ => rfl
  | s :: ss, k => by
    have ih := liveRefs_liftFrom nm ss (k + 1)
    simp only [liveRefs, allRefs] at ih ⊢
    simp only [liftFrom, liftStmt, List.flatMap_cons, ih, refs_lift, if_true]

theorem zip_filter_liftFrom (nm : List Bool) (b : Nat) : ∀ (ns : List NStmt) (k : Nat) (roots : List Tree),
    (((liftFrom nm k ns).zip roots).filter (fun p => p.1.live && p.1.block == b)).map (·.2) =
      ((ns.zip roots).filter (fun p => p.1.block == b)).map (·.2)
  | [], _, _ => rfl
  | s :: ss, k, [] => rfl
  | s :: ss, k, r :: roots => by
    simp only [liftFrom, liftStmt, List.zip_cons_cons, List.filter_cons, Bool.true_and]
    split <;> simp only [List.map_cons, zip_filter_liftFrom nm b ss (k + 1) roots]

theorem embedF_lift (asts : List (List AStmt)) (ns : List NStmt) (n : Nat) : embedF n (lift asts ns) = embed n ns := by
  simp only [embedF, embed, rootsOfF_lift]
  apply List.map_congr_left
  intro b _
  exact zip_filter_liftFrom _ b ns 0 _

mutual
theorem FTree.refs_inline (k : Nat) (x : FTree) : ∀ t : FTree,
    (FTree.inline k x t).refs = t.refs.flatMap fun r => if r.1 == k then x.refs else [r]
  | .ingredient .. => rfl
  | .step d inputs => by simp only [FTree.inline, FTree.refs, FTree.refsList_inline k x inputs]
  | .nref s i a => by
    simp only [FTree.inline, FTree.refs, List.flatMap_cons, List.flatMap_nil, List.append_nil]
    split <;> rfl
  | .sub b ns sh => by simp only [FTree.inline, FTree.refs, FTree.refs_inline k x b]
theorem FTree.refsList_inline (k : Nat) (x : FTree) : ∀ ts : List FTree,
    FTree.refsList (FTree.inlineList k x ts) = (FTree.refsList ts).flatMap fun r => if r.1 == k then x.refs else [r]
  | [] => rfl
  | t :: ts => by
    simp only [FTree.inlineList, FTree.refsList, List.flatMap_append, FTree.refs_inline k x t,
      FTree.refsList_inline k x ts]
end

mutual
def FTree.subNames : FTree → List (List SVS)
  | .ingredient .. => []
  | .step _ inputs => FTree.subNamesList inputs
  | .nref .. => []
  | .sub b ns _ => ns :: b.subNames
def FTree.subNamesList : List FTree → List (List SVS)
  | [] => []
  | t :: ts => t.subNames ++ FTree.subNamesList ts
end

mutual
theorem FTree.subNames_inline (k : Nat) (x : FTree) : ∀ (t : FTree) (nm : List SVS),
    nm ∈ (FTree.inline k x t).subNames → nm ∈ t.subNames ∨ nm ∈ x.subNames
  | .ingredient .., nm, h => by simp [FTree.inline, FTree.subNames] at h
  | .step d inputs, nm, h => by
    simp only [FTree.inline, FTree.subNames] at h ⊢
    exact FTree.subNamesList_inline k x inputs nm h
  | .nref s i a, nm, h => by
    simp only [FTree.inline] at h
    split at h
    · exact Or.inr h
    · simp [FTree.subNames] at h
  | .sub b ns sh, nm, h => by
    simp only [FTree.inline, FTree.subNames, List.mem_cons] at h ⊢
    rcases h with h | h
    · exact Or.inl (Or.inl h)
    · exact (FTree.subNames_inline k x b nm h).imp_left Or.inr
theorem FTree.subNamesList_inline (k : Nat) (x : FTree) : ∀ (ts : List FTree) (nm : List SVS),
    nm ∈ FTree.subNamesList (FTree.inlineList k x ts) → nm ∈ FTree.subNamesList ts ∨ nm ∈ x.subNames
  | [], nm, h => by simp [FTree.inlineList, FTree.subNamesList] at h
  | t :: ts, nm, h => by
    simp only [FTree.inlineList, FTree.subNamesList, List.mem_append] at h ⊢
    rcases h with h | h
    · exact (FTree.subNames_inline k x t nm h).imp_left Or.inl
    · exact (FTree.subNamesList_inline k x ts nm h).imp_left Or.inr
end

mutual
theorem embedFTree_congr (r1 r2 : List Tree) : ∀ t : FTree, (∀ r ∈ t.refs, r1[r.1]? = r2[r.1]?) →
    embedFTree r1 t = embedFTree r2 t
  | .ingredient .., _ => rfl
  | .step d inputs, h => congrArg (Tree.step d) (embedFTrees_congr r1 r2 inputs h)
  | .nref s i a, h =>
    congrArg (fun o : Option Tree => Tree.reference (o.getD default) i a) (h (s, i, a) (List.mem_singleton_self _))
  | .sub b ns sh, h => congrArg (Tree.sub · ns sh) (embedFTree_congr r1 r2 b h)
theorem embedFTrees_congr (r1 r2 : List Tree) : ∀ ts : List FTree, (∀ r ∈ FTree.refsList ts, r1[r.1]? = r2[r.1]?) →
    embedFTrees r1 ts = embedFTrees r2 ts
  | [], _ => rfl
  | t :: ts, h => List.cons_eq_cons.mpr ⟨embedFTree_congr r1 r2 t (List.forall_mem_append.mp h).1,
      embedFTrees_congr r1 r2 ts (List.forall_mem_append.mp h).2⟩
end

theorem embedFStmt_congr (r1 r2 : List Tree) (u : FStmt) (h : ∀ r ∈ u.tree.refs, r1[r.1]? = r2[r.1]?) :
    embedFStmt r1 u = embedFStmt r2 u := by
  simp only [embedFStmt, embedFTree_congr r1 r2 u.tree h]

theorem rootsOfF_length (P : List FStmt) : (rootsOfF P).length = P.length := by
  obtain ⟨new, h, hl, _⟩ := foldl_snoc embedFStmt P []
  rw [rootsOfF, h, List.nil_append, hl]

theorem rootsOfF_getElem (P : List FStmt) (j : Nat) (u : FStmt) (h : P[j]? = some u)
    (hr : ∀ r ∈ u.tree.refs, r.1 < j) : (rootsOfF P)[j]? = some (embedFStmt (rootsOfF P) u) := by
  obtain ⟨new, hn, _, he⟩ := foldl_snoc embedFStmt P []
  rw [rootsOfF, hn, List.nil_append, he j u h, List.nil_append]
  -- the references of `u` point below `j`, where the roots built so far are the final ones
  exact congrArg some (embedFStmt_congr _ _ u fun r hr' => by rw [List.getElem?_take, if_pos (hr r hr')])

theorem rootsOfF_unique {P : List FStmt} {R : List Tree} (hlen : R.length = P.length)
    (hback : ∀ (j : Nat) (u : FStmt), P[j]? = some u → ∀ r ∈ u.tree.refs, r.1 < j)
    (hR : ∀ (j : Nat) (u : FStmt), P[j]? = some u → R[j]? = some (embedFStmt R u)) : rootsOfF P = R := by
  apply List.ext_getElem?
  intro j
  induction j using Nat.strongRecOn with
  | _ j ih =>
    cases hu : P[j]? with
    | none =>
      have hj := List.getElem?_eq_none_iff.mp hu
      rw [List.getElem?_eq_none (by rw [rootsOfF_length]; exact hj), List.getElem?_eq_none (by rw [hlen]; exact hj)]
    | some u =>
      rw [rootsOfF_getElem P j u hu (hback j u hu), hR j u hu]
      exact congrArg some (embedFStmt_congr _ _ u fun r hr => ih r.1 (hback j u hu r hr))

/-- what the substitution of `old` by `new` needs to know about a reference leaf `r` when statement `k` is inlined -/
def LeafOk (roots roots' : List Tree) (old new : Tree) (k : Nat) (r : Nat × Nat × Amount) : Prop :=
  (r.1 = k → Tree.reference (roots[r.1]?.getD default) r.2.1 r.2.2 = old) ∧
  (r.1 ≠ k → Tree.beq (Tree.reference (roots[r.1]?.getD default) r.2.1 r.2.2) old = false ∧
              roots'[r.1]?.getD default = Tree.subst old new (roots[r.1]?.getD default))

mutual
theorem embed_inline (roots roots' : List Tree) (old new : Tree) (ho : old.isRef = true) (k : Nat) (x : FTree)
    (hx : embedFTree roots' x = new) : ∀ t : FTree, (∀ r ∈ t.refs, LeafOk roots roots' old new k r) →
    Tree.subst old new (embedFTree roots t) = embedFTree roots' (FTree.inline k x t)
  | .ingredient d q, _ => Tree.subst_ingredient new ho d q
  | .step d inputs, h =>
    (Tree.subst_step new ho d _).trans (congrArg (Tree.step d) (embeds_inline roots roots' old new ho k x hx inputs h))
  | .nref s i a, h => by
    obtain ⟨h1, h2⟩ := h (s, i, a) (List.mem_singleton_self _)
    dsimp only at h1 h2
    by_cases hs : s = k
    · rw [FTree.inline, if_pos (beq_iff_eq.mpr hs), hx, embedFTree, h1 hs]
      cases old with
      | reference => simp only [Tree.subst, Tree.beq_refl, if_true]
      | _ => cases ho
    · obtain ⟨hb, hr⟩ := h2 hs
      rw [FTree.inline, if_neg (mt beq_iff_eq.mp hs), embedFTree, embedFTree, Tree.subst,
        if_neg (by rw [hb]; exact Bool.false_ne_true), hr]
  | .sub b ns sh, h =>
    (Tree.subst_sub old new _ ns sh ho).trans (congrArg (Tree.sub · ns sh) (embed_inline roots roots' old new ho k x hx b h))
theorem embeds_inline (roots roots' : List Tree) (old new : Tree) (ho : old.isRef = true) (k : Nat) (x : FTree)
    (hx : embedFTree roots' x = new) : ∀ ts : List FTree, (∀ r ∈ FTree.refsList ts, LeafOk roots roots' old new k r) →
    Tree.substList old new (embedFTrees roots ts) = embedFTrees roots' (FTree.inlineList k x ts)
  | [], _ => rfl
  | t :: ts, h => List.cons_eq_cons.mpr
    ⟨embed_inline roots roots' old new ho k x hx t (List.forall_mem_append.mp h).1,
      embeds_inline roots roots' old new ho k x hx ts (List.forall_mem_append.mp h).2⟩
end

/-- folding statement `k` into its user, seen from one statement -/
def killInline (k : Nat) (x : FTree) (u : FStmt) : FStmt :=
  { u with tree := FTree.inline k x u.tree, live := u.live && u.sid != k }

theorem foldStmt_eq (P : List FStmt) (k : Nat) :
    Spec.foldStmt P k = match P[k]? with
      | some st => if Spec.canFold P st then P.map (killInline k st.inlined) else P
      | none => P := rfl

theorem foldStmt_fold (P : List FStmt) (k : Nat) (st : FStmt) (hst : P[k]? = some st) (hc : Spec.canFold P st = true) :
    Spec.foldStmt P k = P.map (killInline k st.inlined) := by
  rw [foldStmt_eq, hst]
  exact if_pos hc

/-- **what folding does**: every reference to the folded statement `k` is replaced by its tree — wrapped in a sub recipe
    with the statement's names (its title and outline are kept) when it was written with `:=` — and the statement is
    deleted; nothing else changes -/
theorem foldStmt_folded (P : List FStmt) (k : Nat) (st : FStmt) (hst : P[k]? = some st)
    (hc : Spec.canFold P st = true) :
    Spec.foldStmt P k = P.map fun u =>
      { u with tree := FTree.inline k (if st.named then .sub st.tree st.names st.showNames else st.tree) u.tree,
               live := u.live && u.sid != k } :=
  foldStmt_fold P k st hst hc

theorem foldStmt_not_folded (P : List FStmt) (k : Nat) (st : FStmt) (hst : P[k]? = some st)
    (hc : Spec.canFold P st = false) : Spec.foldStmt P k = P := by
  rw [foldStmt_eq, hst]
  exact if_neg (by rw [hc]; exact Bool.false_ne_true)

def SidOk (P : List FStmt) : Prop := ∀ (i : Nat) (u : FStmt), P[i]? = some u → u.sid = i

theorem getElem?_of_mem_take_drop {α : Type} {l : List α} {k : Nat} {p : α} (h : p ∈ l.take k ++ l.drop (k + 1)) :
    ∃ j, j ≠ k ∧ l[j]? = some p :=
  List.mem_eraseIdx_iff_getElem?.mp (List.eraseIdx_eq_take_drop_succ l k ▸ h)

theorem filter_sid_eq {P : List FStmt} (hs : SidOk P) {k : Nat} {st : FStmt} (h : P[k]? = some st) :
    P.filter (fun u => u.sid == k) = [st] := by
  have hne : ∀ u ∈ P.take k ++ P.drop (k + 1), ¬(u.sid == k) = true := fun u hu => by
    obtain ⟨j, hjk, hj⟩ := getElem?_of_mem_take_drop hu
    rw [hs j u hj, beq_iff_eq]
    exact hjk
  rw [(getElem?_split P k st h).1, List.filter_append, List.filter_cons, if_pos (beq_iff_eq.mpr (hs k st h)),
    List.filter_eq_nil_iff.mpr fun u hu => hne u (List.mem_append_left _ hu),
    List.filter_eq_nil_iff.mpr fun u hu => hne u (List.mem_append_right _ hu)]
  rfl

theorem flatMap_filter_perm {α β : Type} (p : α → Bool) (G : α → List β) (L : List α) :
    (L.flatMap G).Perm ((L.filter p).flatMap G ++ (L.filter (fun a => !p a)).flatMap G) := by
  rw [← List.flatMap_append]
  exact List.Perm.flatMap_right G (List.filter_append_perm p L).symm

theorem flatMap_expand_perm {α : Type} (t : α → Bool) (ψ : α → List α) (M : List α)
    (h : ∀ r, t r = false → ψ r = [r]) :
    (M.flatMap ψ).Perm (M.filter (fun r => !t r) ++ (M.filter t).flatMap ψ) := by
  refine (flatMap_filter_perm t ψ M).trans (List.perm_append_comm.trans ?_)
  rw [List.flatMap_def, List.map_congr_left fun r hr => h r (by simpa using (List.mem_filter.1 hr).2), ← List.flatMap_def,
    List.flatMap_singleton']

def stmtRefs (u : FStmt) : List (Nat × Nat × Amount × Nat) :=
  if u.live then u.tree.refs.map fun r => (r.1, r.2.1, r.2.2, u.block) else []

theorem liveRefs_eq (P : List FStmt) : liveRefs P = P.flatMap stmtRefs := rfl

theorem mem_liveRefs {P : List FStmt} {r : Nat × Nat × Amount × Nat} :
    r ∈ liveRefs P ↔ ∃ u ∈ P, u.live = true ∧ ∃ r' ∈ u.tree.refs, (r'.1, r'.2.1, r'.2.2, u.block) = r := by
  simp only [liveRefs, List.mem_flatMap]
  refine exists_congr fun u => and_congr_right fun _ => ?_
  cases u.live
  · exact ⟨fun h => (nomatch h), fun h => (nomatch h.1)⟩
  · exact ⟨fun h => ⟨rfl, List.mem_map.mp h⟩, fun h => List.mem_map.mpr h.2⟩

def expandRef (k : Nat) (x : FTree) (r : Nat × Nat × Amount × Nat) : List (Nat × Nat × Amount × Nat) :=
  if r.1 == k then x.refs.map fun r' => (r'.1, r'.2.1, r'.2.2, r.2.2.2) else [r]

theorem stmtRefs_killInline (k : Nat) (x : FTree) (u : FStmt) :
    stmtRefs (killInline k x u) = if u.sid == k then [] else (stmtRefs u).flatMap (expandRef k x) := by
  obtain ⟨sid, block, tree, names, sh, named, live⟩ := u
  cases hk : sid == k
  · cases live
    · simp only [stmtRefs, killInline, bne, hk]
      rfl
    · simp only [stmtRefs, killInline, bne, hk, Bool.not_false, Bool.and_self, if_true, Bool.false_eq_true, if_false,
        FTree.refs_inline, List.map_flatMap, List.flatMap_map]
      refine congrArg (List.flatMap · tree.refs) (funext fun r => ?_)
      unfold expandRef
      cases r.1 == k <;> rfl
  · simp only [stmtRefs, killInline, bne, hk, Bool.not_true, Bool.and_false]
    rfl

theorem liveRefs_killInline (k : Nat) (x : FTree) : ∀ P : List FStmt,
    liveRefs (P.map (killInline k x)) = ((P.filter fun u => !(u.sid == k)).flatMap stmtRefs).flatMap (expandRef k x)
  | [] => rfl
  | u :: P => by
    rw [List.map_cons, liveRefs_eq, List.flatMap_cons, ← liveRefs_eq, liveRefs_killInline k x P, stmtRefs_killInline,
      List.filter_cons]
    cases u.sid == k
    · exact (List.flatMap_append ..).symm
    · rfl

/-- **conservation of references**: folding statement `k` removes the (only) reference to `k`; every other reference
    of the remaining program stays, with the same block -/
theorem liveRefs_fold (P : List FStmt) (k : Nat) (st : FStmt) (hst : P[k]? = some st)
    (hsid : SidOk P) (hlive : st.live = true) (hself : ∀ r ∈ st.tree.refs, r.1 ≠ k) (a : Amount)
    (hone : (liveRefs P).filter (fun r => r.1 == k) = [(k, 0, a, st.block)]) (x : FTree) (hx : x.refs = st.tree.refs) :
    (liveRefs (P.map (killInline k x))).Perm ((liveRefs P).filter (fun r => !(r.1 == k))) := by
  let M := (P.filter (fun u => !(u.sid == k))).flatMap stmtRefs
  have hsplit : (liveRefs P).Perm (stmtRefs st ++ M) := by
    have := flatMap_filter_perm (fun u : FStmt => u.sid == k) stmtRefs P
    rwa [filter_sid_eq hsid hst, List.flatMap_singleton] at this
  -- the statement itself has no reference to `k`
  have hstk : ∀ r ∈ stmtRefs st, (r.1 == k) = false := by
    intro r hr
    simp only [stmtRefs, hlive, if_true, List.mem_map] at hr
    obtain ⟨r', hr', rfl⟩ := hr
    exact beq_false_of_ne (hself r' hr')
  have hst1 : (stmtRefs st).filter (fun r => !(r.1 == k)) = stmtRefs st :=
    List.filter_eq_self.mpr fun r hr => by rw [hstk r hr]; rfl
  -- so the one reference to `k` is among the others, and it expands to the references of the statement
  have hM : M.filter (fun r => r.1 == k) = [(k, 0, a, st.block)] := by
    have := hsplit.filter (fun r => r.1 == k)
    rw [hone, List.filter_append, List.filter_eq_nil_iff.mpr fun r hr => by rw [hstk r hr]; exact Bool.false_ne_true,
      List.nil_append] at this
    exact (List.singleton_perm.mp this).symm
  have hψ : expandRef k x (k, 0, a, st.block) = stmtRefs st := by
    simp only [expandRef, beq_self_eq_true, if_true, stmtRefs, hlive, hx]
  rw [liveRefs_killInline]
  refine (flatMap_expand_perm (fun r => r.1 == k) (expandRef k x) M fun r hr =>
    if_neg (by rw [hr]; exact Bool.false_ne_true)).trans ?_
  rw [hM, List.flatMap_singleton, hψ]
  refine List.perm_append_comm.trans ?_
  have := (hsplit.filter (fun r => !(r.1 == k))).symm
  rwa [List.filter_append, hst1] at this

/-- `P` is the program `ns` of `asts` in which some statements before `k` have been folded -/
structure WFP (asts : List (List AStmt)) (ns : List NStmt) (k : Nat) (P : List FStmt) : Prop where
  len : P.length = ns.length
  /-- ids, blocks, names and `:=` flags never change -/
  static : ∀ (j : Nat) (u : FStmt), P[j]? = some u → ∃ s, ns[j]? = some s ∧ u.sid = j ∧ u.block = s.block ∧
    u.names = s.names ∧ u.showNames = s.showNames ∧ u.named = (namedFlags asts)[j]?.getD false
  /-- references point to outputs of earlier statements -/
  refsBack : ∀ (j : Nat) (u : FStmt), P[j]? = some u → ∀ r ∈ u.tree.refs,
    r.1 < j ∧ ∃ s, ns[r.1]? = some s ∧ r.2.1 < s.names.length
  /-- only statements before `k` have been deleted -/
  dead : ∀ (j : Nat) (u : FStmt), P[j]? = some u → u.live = false → j < k
  /-- an inlined named sub recipe has the names of a statement before `k` -/
  subs : ∀ (j : Nat) (u : FStmt), P[j]? = some u → ∀ nmx ∈ u.tree.subNames,
    ∃ i s, i < k ∧ ns[i]? = some s ∧ nmx = s.names ∧ s.names ≠ []

theorem WFP.mono {asts ns k P} (h : WFP asts ns k P) : WFP asts ns (k + 1) P :=
  { h with
    dead := fun j u hu hl => Nat.lt_succ_of_lt (h.dead j u hu hl)
    subs := fun j u hu nmx hn => by
      obtain ⟨i, s, hi, rest⟩ := h.subs j u hu nmx hn
      exact ⟨i, s, Nat.lt_succ_of_lt hi, rest⟩ }

theorem WFP.get {asts ns k P} (h : WFP asts ns k P) {j : Nat} {s : NStmt} (hj : ns[j]? = some s) :
    ∃ u, P[j]? = some u ∧ u.sid = j ∧ u.block = s.block ∧ u.names = s.names ∧ u.showNames = s.showNames ∧
      u.named = (namedFlags asts)[j]?.getD false := by
  have hlt : j < P.length := by rw [h.len]; exact (List.getElem?_eq_some_iff.mp hj).1
  obtain ⟨s', hs', rest⟩ := h.static j P[j] (List.getElem?_eq_getElem hlt)
  rw [hj] at hs'
  cases hs'
  exact ⟨P[j], List.getElem?_eq_getElem hlt, rest⟩

theorem WFP.sid {asts ns k P} (h : WFP asts ns k P) : SidOk P :=
  fun j u hu => by obtain ⟨_, _, hsid, _⟩ := h.static j u hu; exact hsid

theorem WFP.live {asts ns k P} (h : WFP asts ns k P) {j : Nat} {u : FStmt} (hu : P[j]? = some u) (hkj : k ≤ j) :
    u.live = true :=
  Bool.of_not_eq_false fun hf => Nat.not_lt.mpr hkj (h.dead j u hu hf)

theorem WFP.root {asts ns k P} (h : WFP asts ns k P) {j : Nat} {u : FStmt} (hu : P[j]? = some u) :
    (rootsOfF P)[j]? = some (embedFStmt (rootsOfF P) u) :=
  rootsOfF_getElem P j u hu (fun r hr => (h.refsBack j u hu r hr).1)

theorem embedFStmt_named (roots : List Tree) (u : FStmt) (hn : u.names ≠ []) :
    embedFStmt roots u = .sub (embedFTree roots u.tree) u.names u.showNames := by
  rw [embedFStmt, if_neg (mt List.isEmpty_iff.mp hn)]

theorem embedFStmt_unnamed (roots : List Tree) (u : FStmt) (hn : u.names = []) :
    embedFStmt roots u = embedFTree roots u.tree := by
  rw [embedFStmt, if_pos (List.isEmpty_iff.mpr hn)]

theorem embedFStmt_subst {old : Tree} (new : Tree) (ho : old.isRef = true) (roots roots' : List Tree) (u u' : FStmt)
    (hn : u'.names = u.names) (hsh : u'.showNames = u.showNames)
    (ht : Tree.subst old new (embedFTree roots u.tree) = embedFTree roots' u'.tree) :
    Tree.subst old new (embedFStmt roots u) = embedFStmt roots' u' := by
  unfold embedFStmt
  rw [hn, hsh]
  split
  · exact ht
  · rw [Tree.subst_sub _ _ _ _ _ ho, ht]

theorem embedFTree_subNames (roots : List Tree) (t : FTree) :
    (embedFTree roots t).subNames = [] ∨ (embedFTree roots t).subNames ∈ t.subNames := by
  cases t <;> first | exact .inl rfl | exact .inr (List.mem_cons_self ..)

theorem WFP.root_ne {asts ns k P} (h : WFP asts ns k P) (hU : KeysUnique (definedNames ns)) {s : NStmt}
    (hk : ns[k]? = some s) (hne : s.names ≠ []) {j : Nat} {u : FStmt} (hu : P[j]? = some u) (hjk : j ≠ k)
    (b : Tree) (sh : Bool) :
    Tree.beq (embedFStmt (rootsOfF P) u) (.sub b s.names sh) = false ∧
    Tree.beq (.sub b s.names sh) (embedFStmt (rootsOfF P) u) = false := by
  obtain ⟨sj, hsj, _, _, hnames, _⟩ := h.static j u hu
  -- the names of the root of `u` are those of a statement other than `k`, or there are none
  have key : ((embedFStmt (rootsOfF P) u).subNames == s.names) = true → False := by
    intro hb
    by_cases hn : u.names = []
    · rw [embedFStmt_unnamed _ _ hn] at hb
      rcases embedFTree_subNames (rootsOfF P) u.tree with h0 | hm
      · rw [h0] at hb
        exact hne (by simpa using hb)
      · obtain ⟨i, si, hik, hsi, hnmx, hne'⟩ := h.subs j u hu _ hm
        rw [hnmx] at hb
        exact Nat.ne_of_lt hik (same_stmt_of_names ns hU i k si s hsi hk hne' hb)
    · rw [embedFStmt_named _ _ hn, hnames] at hb
      exact hjk (same_stmt_of_names ns hU j k sj s hsj hk (hnames ▸ hn) hb)
  exact ⟨Bool.eq_false_iff.mpr fun hb => key (Tree.beq_subNames hb),
    Bool.eq_false_iff.mpr fun hb => key (Tree.beq_subNames (Tree.beq_symm hb))⟩

theorem FStmt.inlined_refs (st : FStmt) : st.inlined.refs = st.tree.refs := by
  unfold FStmt.inlined; split <;> rfl

mutual
theorem FTree.inline_id (k : Nat) (x : FTree) : ∀ t : FTree, (∀ r ∈ t.refs, r.1 ≠ k) → FTree.inline k x t = t
  | .ingredient .., _ => rfl
  | .step d inputs, h => congrArg (FTree.step d) (FTree.inlineList_id k x inputs h)
  | .nref s i a, h => by
    have : s ≠ k := h (s, i, a) (List.mem_singleton_self _)
    rw [FTree.inline, if_neg (by simpa using this)]
  | .sub b ns sh, h => congrArg (FTree.sub · ns sh) (FTree.inline_id k x b h)
theorem FTree.inlineList_id (k : Nat) (x : FTree) : ∀ ts : List FTree, (∀ r ∈ FTree.refsList ts, r.1 ≠ k) →
    FTree.inlineList k x ts = ts
  | [], _ => rfl
  | t :: ts, h => List.cons_eq_cons.mpr ⟨FTree.inline_id k x t (List.forall_mem_append.mp h).1,
      FTree.inlineList_id k x ts (List.forall_mem_append.mp h).2⟩
end

def sel (P : List FStmt) (b : Nat) : List Tree :=
  ((P.zip (rootsOfF P)).filter (fun p => p.1.live && p.1.block == b)).map (·.2)

theorem embedF_eq (n : Nat) (P : List FStmt) : embedF n P = (List.range n).map (sel P) := rfl

def selK (k : Nat) (P : List FStmt) (b : Nat) : List Tree :=
  ((P.zip (rootsOfF P)).filter (fun p => (p.1.live && p.1.block == b) && !(p.1.sid == k))).map (·.2)

theorem beq_ref_false {s s' : Tree} (h : Tree.beq s s' = false) (n n' : Nat) (a a' : Amount) :
    Tree.beq (.reference s n a) (.reference s' n' a') = false := by simp [Tree.beq, h]

/-- the hypotheses under which statement `k` (`s` in `ns`, `st` in `P`) is folded: one output `n0`, one reference,
    taking the amount `a` in the block of the statement -/
structure FoldCtx (asts : List (List AStmt)) (ns : List NStmt) (k : Nat) (P : List FStmt) (s : NStmt) (st : FStmt)
    (n0 : SVS) (a : Amount) : Prop where
  wf : WFP asts ns k P
  uniq : KeysUnique (definedNames ns)
  hs : ns[k]? = some s
  hst : P[k]? = some st
  names : s.names = [n0]
  one : refsTo P k 0 = [(a, st.block)]

namespace FoldCtx
variable {asts : List (List AStmt)} {ns : List NStmt} {k : Nat} {P : List FStmt} {s : NStmt} {st : FStmt} {n0 : SVS}
  {a : Amount}

/-- the root of the folded statement -/
def R (_ : FoldCtx asts ns k P s st n0 a) : Tree := .sub (embedFTree (rootsOfF P) st.tree) [n0] st.showNames
def old (c : FoldCtx asts ns k P s st n0 a) : Tree := .reference c.R 0 a
def new (_ : FoldCtx asts ns k P s st n0 a) : Tree := embedFTree (rootsOfF P) st.inlined

def σ (c : FoldCtx asts ns k P s st n0 a) : Tree → Tree := Tree.subst c.old c.new

variable (c : FoldCtx asts ns k P s st n0 a)
include c

theorem stNames : st.names = [n0] := by
  obtain ⟨s', hs', _, _, hn, _⟩ := c.wf.static k st c.hst
  rw [c.hs] at hs'
  cases hs'
  rw [hn, c.names]

theorem live : st.live = true := c.wf.live c.hst (Nat.le_refl k)

theorem root : (rootsOfF P)[k]? = some c.R := by
  rw [c.wf.root c.hst, embedFStmt_named _ _ (by rw [c.stNames]; simp), c.stNames]
  rfl

theorem oldIsRef : c.old.isRef = true := rfl

theorem refK {j : Nat} {u : FStmt} (hu : P[j]? = some u)
    {r : Nat × Nat × Amount} (hr : r ∈ u.tree.refs) (hk : r.1 = k) :
    r.2.1 = 0 ∧ r.2.2 = a ∧ k < j := by
  obtain ⟨hlt, s', hs', hidx⟩ := c.wf.refsBack j u hu r hr
  rw [hk, c.hs] at hs'
  cases hs'
  rw [c.names] at hidx
  have h0 : r.2.1 = 0 := Nat.lt_one_iff.mp hidx
  have hl : u.live = true := c.wf.live hu (hk ▸ Nat.le_of_lt hlt)
  refine ⟨h0, ?_, hk ▸ hlt⟩
  have hm : (r.2.2, u.block) ∈ refsTo P k 0 := by
    refine List.mem_map.mpr ⟨(r.1, r.2.1, r.2.2, u.block), List.mem_filter.mpr
      ⟨mem_liveRefs.mpr ⟨u, List.mem_of_getElem? hu, hl, r, hr, rfl⟩, ?_⟩, rfl⟩
    rw [hk, h0, beq_self_eq_true, beq_self_eq_true]
    rfl
  rw [c.one] at hm
  simp only [List.mem_singleton, Prod.mk.injEq] at hm
  exact hm.1

theorem oneLive :
    (liveRefs P).filter (fun r => r.1 == k) = [(k, 0, a, st.block)] := by
  have hsame : (liveRefs P).filter (fun r => r.1 == k) = (liveRefs P).filter (fun r => r.1 == k && r.2.1 == 0) := by
    apply List.filter_congr
    intro r hr
    obtain ⟨u, hu, _, r', hr', rfl⟩ := mem_liveRefs.mp hr
    obtain ⟨j, hj⟩ := List.mem_iff_getElem?.mp hu
    show (r'.1 == k) = (r'.1 == k && r'.2.1 == 0)
    cases hk : (r'.1 == k) with
    | false => rfl
    | true =>
      rw [(c.refK hj hr' (beq_iff_eq.mp hk)).1]
      rfl
  rw [hsame]
  obtain ⟨⟨r1, r2, r3, r4⟩, hL, hr⟩ := List.map_eq_singleton_iff.mp c.one
  have hm := (List.mem_filter.mp (hL ▸ List.mem_singleton_self _)).2
  simp only [Bool.and_eq_true, beq_iff_eq] at hm
  cases hr
  rw [hL, hm.1, hm.2]

theorem sNames_ne : s.names ≠ [] := by rw [c.names]; simp

theorem root_ne {j : Nat} {u : FStmt} (hu : P[j]? = some u) (hjk : j ≠ k) :
    Tree.beq (embedFStmt (rootsOfF P) u) c.R = false ∧ Tree.beq c.R (embedFStmt (rootsOfF P) u) = false := by
  have := c.wf.root_ne c.uniq c.hs c.sNames_ne hu hjk (embedFTree (rootsOfF P) st.tree) st.showNames
  rwa [c.names] at this

theorem refRoot {j : Nat} {u : FStmt} (hu : P[j]? = some u)
    {r : Nat × Nat × Amount} (hr : r ∈ u.tree.refs) (hk : r.1 ≠ k) :
    ∃ u', P[r.1]? = some u' ∧ (rootsOfF P)[r.1]? = some (embedFStmt (rootsOfF P) u') ∧ r.1 < j ∧
      Tree.beq (embedFStmt (rootsOfF P) u') c.R = false := by
  obtain ⟨hlt, s', hs', _⟩ := c.wf.refsBack j u hu r hr
  obtain ⟨u', hu', _⟩ := c.wf.get hs'
  exact ⟨u', hu', c.wf.root hu', hlt, (c.root_ne hu' hk).1⟩

theorem sigma_fixes : ∀ (j : Nat), j ≤ k → ∀ u, P[j]? = some u →
    c.σ (embedFStmt (rootsOfF P) u) = embedFStmt (rootsOfF P) u := by
  intro j
  induction j using Nat.strongRecOn with
  | _ j ih =>
    intro hjk u hu
    have hne : ∀ r ∈ u.tree.refs, r.1 ≠ k := fun r hr =>
      Nat.ne_of_lt (Nat.lt_of_lt_of_le (c.wf.refsBack j u hu r hr).1 hjk)
    have hleaf : ∀ r ∈ u.tree.refs, LeafOk (rootsOfF P) (rootsOfF P) c.old c.new k r := by
      intro r hr
      refine ⟨fun h => absurd h (hne r hr), fun _ => ?_⟩
      obtain ⟨u', hu', hroot, hlt, hb⟩ := c.refRoot hu hr (hne r hr)
      rw [hroot]
      simp only [Option.getD_some]
      exact ⟨beq_ref_false hb _ _ _ _, (ih r.1 hlt (Nat.le_trans (Nat.le_of_lt hlt) hjk) u' hu').symm⟩
    have ht : c.σ (embedFTree (rootsOfF P) u.tree) = embedFTree (rootsOfF P) u.tree := by
      have := embed_inline (rootsOfF P) (rootsOfF P) c.old c.new c.oldIsRef k st.inlined rfl u.tree hleaf
      rwa [FTree.inline_id k _ u.tree hne] at this
    exact embedFStmt_subst c.new c.oldIsRef _ _ u u rfl rfl ht

theorem leafOk {j : Nat} {u : FStmt} (hu : P[j]? = some u)
    {r : Nat × Nat × Amount} (hr : r ∈ u.tree.refs) :
    LeafOk (rootsOfF P) ((rootsOfF P).map c.σ) c.old c.new k r := by
  constructor
  · intro hk
    obtain ⟨h0, ha, _⟩ := c.refK hu hr hk
    rw [hk, c.root, h0, ha]
    rfl
  · intro hk
    obtain ⟨u', hu', hroot, hlt, hb⟩ := c.refRoot hu hr hk
    rw [List.getElem?_map, hroot]
    exact ⟨beq_ref_false hb _ _ _ _, rfl⟩

theorem embed_inlined : embedFTree ((rootsOfF P).map c.σ) st.inlined = c.new := by
  apply embedFTree_congr
  intro r hr
  rw [FStmt.inlined_refs] at hr
  have hne : r.1 ≠ k := Nat.ne_of_lt (c.wf.refsBack k st c.hst r hr).1
  obtain ⟨u', hu', hroot, hlt, _⟩ := c.refRoot c.hst hr hne
  rw [List.getElem?_map, hroot]
  simp only [Option.map_some]
  rw [c.sigma_fixes r.1 (Nat.le_of_lt hlt) u' hu']

theorem stmtRoot {j : Nat} {u : FStmt} (hu : P[j]? = some u) :
    embedFStmt ((rootsOfF P).map c.σ) (killInline k st.inlined u) = c.σ (embedFStmt (rootsOfF P) u) := by
  have ht := embed_inline (rootsOfF P) ((rootsOfF P).map c.σ) c.old c.new c.oldIsRef k st.inlined c.embed_inlined u.tree
    (fun r hr => c.leafOk hu hr)
  exact (embedFStmt_subst c.new c.oldIsRef _ _ u (killInline k st.inlined u) rfl rfl ht).symm

theorem refsAfter {j : Nat} {u : FStmt} (hu : P[j]? = some u)
    {r : Nat × Nat × Amount} (hr : r ∈ (killInline k st.inlined u).tree.refs) :
    r.1 ≠ k ∧ r.1 < j ∧ ∃ s', ns[r.1]? = some s' ∧ r.2.1 < s'.names.length := by
  simp only [killInline, FTree.refs_inline, List.mem_flatMap] at hr
  obtain ⟨r0, hr0, hr⟩ := hr
  split at hr
  · rename_i hk
    obtain ⟨_, _, hkj⟩ := c.refK hu hr0 (beq_iff_eq.mp hk)
    rw [FStmt.inlined_refs] at hr
    obtain ⟨hlt, rest⟩ := c.wf.refsBack k st c.hst r hr
    exact ⟨Nat.ne_of_lt hlt, Nat.lt_trans hlt hkj, rest⟩
  · rename_i hk
    simp only [List.mem_singleton] at hr
    subst hr
    obtain ⟨hlt, rest⟩ := c.wf.refsBack j u hu r hr0
    exact ⟨fun e => hk (beq_iff_eq.mpr e), hlt, rest⟩

theorem roots_fold :
    rootsOfF (P.map (killInline k st.inlined)) = (rootsOfF P).map c.σ := by
  refine rootsOfF_unique (by rw [List.length_map, List.length_map, rootsOfF_length]) (fun j u' hu' r hr => ?_)
    fun j u' hu' => ?_
  · obtain ⟨u, hu, rfl⟩ := getElem?_map_some hu'
    exact (c.refsAfter hu hr).2.1
  · obtain ⟨u, hu, rfl⟩ := getElem?_map_some hu'
    rw [List.getElem?_map, c.wf.root hu, c.stmtRoot hu]
    rfl

/-- `list.remove` deletes exactly the root of statement `k` from its block -/
theorem removeRoot :
    removeFirst c.R (sel P st.block) = some (selK k P st.block) := by
  -- the pairs before and after position `k` have another id, and roots that are not `==` to the root of `k`
  have hoth : ∀ p ∈ (P.zip (rootsOfF P)).take k ++ (P.zip (rootsOfF P)).drop (k + 1),
      (p.1.sid == k) = false ∧ Tree.beq p.2 c.R = false := by
    intro p hp
    obtain ⟨j, hjk, hj⟩ := getElem?_of_mem_take_drop hp
    obtain ⟨hj1, hj2⟩ := List.getElem?_zip_eq_some.mp hj
    rw [c.wf.root hj1] at hj2
    exact ⟨by rw [c.wf.sid j p.1 hj1]; exact beq_false_of_ne hjk, Option.some.inj hj2 ▸ (c.root_ne hj1 hjk).1⟩
  have hA := fun p hp => hoth p (List.mem_append_left _ hp)
  have hB := fun p hp => hoth p (List.mem_append_right _ hp)
  have hk : (P.zip (rootsOfF P))[k]? = some (st, c.R) := List.getElem?_zip_eq_some.mpr ⟨c.hst, c.root⟩
  obtain ⟨hZ, _⟩ := getElem?_split _ k _ hk
  have hdrop : ∀ L : List (FStmt × Tree), (∀ p ∈ L, (p.1.sid == k) = false ∧ Tree.beq p.2 c.R = false) →
      L.filter (fun p => (p.1.live && p.1.block == st.block) && !(p.1.sid == k)) =
        L.filter (fun p => p.1.live && p.1.block == st.block) := fun L hL =>
    List.filter_congr fun p hp => by rw [(hL p hp).1, Bool.not_false, Bool.and_true]
  unfold sel selK
  rw [hZ]
  simp only [List.filter_append, List.filter_cons, c.live, c.wf.sid k st c.hst, beq_self_eq_true, Bool.and_self,
    Bool.not_true, Bool.and_false, if_true, Bool.false_eq_true, if_false, List.map_append, List.map_cons, hdrop _ hA,
    hdrop _ hB]
  refine removeFirst_append _ (fun y hy => ?_) (Tree.beq_refl _)
  obtain ⟨p, hp, rfl⟩ := List.mem_map.mp hy
  exact (hA p (List.mem_filter.mp hp).1).2

theorem sel_fold (b : Nat) :
    sel (P.map (killInline k st.inlined)) b = (selK k P b).map c.σ := by
  simp only [sel, selK, c.roots_fold, List.zip_map, List.filter_map, List.map_map]
  congr 1
  apply List.filter_congr
  intro p _
  simp only [Function.comp_def, Prod.map, killInline, bne]
  exact Bool.and_right_comm _ _ _

theorem selK_other {b : Nat} (hb : b ≠ st.block) : selK k P b = sel P b := by
  simp only [sel, selK]
  congr 1
  apply List.filter_congr
  intro p hp
  obtain ⟨j, hj⟩ := List.mem_iff_getElem?.mp hp
  have hj1 := (List.getElem?_zip_eq_some.mp hj).1
  cases hk : (p.1.sid == k) with
  | false => simp
  | true =>
    have : j = k := (c.wf.sid j p.1 hj1).symm.trans (beq_iff_eq.mp hk)
    rw [this, c.hst] at hj1
    have : p.1 = st := (Option.some.inj hj1).symm
    have hne : (st.block == b) = false := by simpa using Ne.symm hb
    simp [this, hne]

/-- **the blocks after the fold**: remove the root of `k` from its block, then substitute everywhere -/
theorem blocks_fold (n : Nat) :
    ((embedF n P).set st.block (selK k P st.block)).map (Tree.substList c.old c.new) =
      embedF n (P.map (killInline k st.inlined)) := by
  rw [show Tree.substList c.old c.new = List.map c.σ from funext (Tree.substList_eq_map _ _)]
  apply List.ext_getElem?
  intro b
  simp only [embedF_eq, List.getElem?_map, List.getElem?_set, List.length_map, List.length_range]
  by_cases hb : b < n
  · simp only [List.getElem?_range hb, Option.map_some, c.sel_fold]
    by_cases he : st.block = b
    · simp only [he, if_true, hb, Option.map_some]
    · simp only [he, if_false, Option.map_some, c.selK_other (Ne.symm he)]
  · have : (List.range n)[b]? = none := by simp; omega
    by_cases he : st.block = b
    · simp [he, hb]
    · simp [he, this]

theorem inlined_subNames {nmx : List SVS} (h : nmx ∈ st.inlined.subNames) :
    nmx = s.names ∨ nmx ∈ st.tree.subNames := by
  unfold FStmt.inlined at h
  split at h
  · simp only [FTree.subNames, List.mem_cons] at h
    rcases h with h | h
    · left
      rw [h, c.stNames, c.names]
    · exact Or.inr h
  · exact Or.inr h

theorem wf_fold : WFP asts ns (k + 1) (P.map (killInline k st.inlined)) where
  len := by rw [List.length_map, c.wf.len]
  static := fun j u' hu' => by
    obtain ⟨u, hu, rfl⟩ := getElem?_map_some hu'
    exact c.wf.static j u hu
  refsBack := fun j u' hu' r hr => by
    obtain ⟨u, hu, rfl⟩ := getElem?_map_some hu'
    exact (c.refsAfter hu hr).2
  dead := fun j u' hu' hl => by
    obtain ⟨u, hu, rfl⟩ := getElem?_map_some hu'
    simp only [killInline, Bool.and_eq_false_iff, bne_eq_false_iff_eq] at hl
    rcases hl with hl | hl
    · exact c.wf.mono.dead j u hu hl
    · rw [c.wf.sid j u hu] at hl
      omega
  subs := fun j u' hu' nmx hn => by
    obtain ⟨u, hu, rfl⟩ := getElem?_map_some hu'
    rcases FTree.subNames_inline k _ u.tree nmx hn with h | h
    · exact c.wf.mono.subs j u hu nmx h
    · rcases c.inlined_subNames h with h | h
      · exact ⟨k, s, Nat.lt_succ_self k, c.hs, h, c.sNames_ne⟩
      · exact c.wf.mono.subs k st c.hst nmx h

theorem refsTo_fold {sid : Nat} (hsid : sid ≠ k) (idx : Nat) :
    (refsTo (P.map (killInline k st.inlined)) sid idx).Perm (refsTo P sid idx) := by
  have hp := liveRefs_fold P k st c.hst c.wf.sid c.live
    (fun r hr => Nat.ne_of_lt (c.wf.refsBack k st c.hst r hr).1) a c.oneLive st.inlined st.inlined_refs
  unfold refsTo
  refine ((hp.filter _).map _).trans ?_
  rw [List.filter_filter]
  apply List.Perm.of_eq
  congr 1
  apply List.filter_congr
  intro r _
  by_cases h : r.1 = sid
  · simp [h, hsid]
  · simp [h]

end FoldCtx

/-- the state of the inlining loop when it reaches the table entries of statement `k` is the abstract program `P` -/
structure Abs (asts : List (List AStmt)) (ns : List NStmt) (k : Nat) (P : List FStmt) (blocks : List Block)
    (outs : List NamedOutput) : Prop where
  blocks : blocks = embedF asts.length P
  len : outs.length = (definedNames ns).length
  /-- the entry of every output of a statement from `k` on: its sub recipe is the current root of the statement, its
      recorded references are the references by name of the remaining program -/
  entry : ∀ (j : Nat) (key : SVS) (sid idx : Nat), (definedNames ns)[j]? = some (key, sid, idx) → k ≤ sid →
    ∃ o u, outs[j]? = some o ∧ P[sid]? = some u ∧ (rootsOfF P)[sid]? = some o.sub ∧ o.idx = idx ∧
      o.defBlock = u.block ∧ o.unwrap = !u.named ∧
      o.refs.Perm ((refsTo P sid idx).map fun p => (Tree.reference o.sub o.idx p.1, p.2))

theorem Abs.mono {asts ns k P blocks outs} (h : Abs asts ns k P blocks outs) : Abs asts ns (k + 1) P blocks outs :=
  { h with entry := fun j key sid idx hd hk => h.entry j key sid idx hd (by omega) }

namespace FoldCtx
variable {asts : List (List AStmt)} {ns : List NStmt} {k : Nat} {P : List FStmt} {s : NStmt} {st : FStmt} {n0 : SVS}
  {a : Amount} (c : FoldCtx asts ns k P s st n0 a)
include c

theorem abs_fold {blocks : List Block} {outs : List NamedOutput}
    (hA : Abs asts ns k P blocks outs) :
    Abs asts ns (k + 1) (P.map (killInline k st.inlined))
      ((blocks.set st.block (selK k P st.block)).map (Tree.substList c.old c.new))
      (outs.map (NamedOutput.substitute c.old c.new)) where
  blocks := by rw [hA.blocks, c.blocks_fold]
  len := by rw [List.length_map, hA.len]
  entry := fun j key sid idx hd hk => by
    obtain ⟨o, u, ho, hu, hroot, hidx, hblk, hunw, hperm⟩ := hA.entry j key sid idx hd (by omega)
    have hsk : sid ≠ k := by omega
    have hsub : o.sub = embedFStmt (rootsOfF P) u := by
      rw [c.wf.root hu] at hroot
      exact (Option.some.inj hroot).symm
    have hne := c.root_ne hu hsk
    rw [← hsub] at hne
    refine ⟨NamedOutput.substitute c.old c.new o, killInline k st.inlined u, by simp [ho], by simp [hu], ?_, hidx, hblk,
      hunw, ?_⟩
    · rw [c.roots_fold, List.getElem?_map, hroot]
      rfl
    · -- a recorded reference to the root of `u` is not the replaced one: it now refers to the rewritten root
      refine (hperm.map _).trans (.trans (.of_eq ?_) ((c.refsTo_fold hsk idx).map _).symm)
      rw [List.map_map]
      refine List.map_congr_left fun p _ => ?_
      have hb1 : Tree.beq c.old (Tree.reference o.sub o.idx p.1) = false := beq_ref_false hne.2 _ _ _ _
      have hb2 : Tree.beq (Tree.reference o.sub o.idx p.1) c.old = false := beq_ref_false hne.1 _ _ _ _
      simp only [Function.comp_def, hb1, Bool.not_false, if_true, Tree.subst, hb2, Bool.false_eq_true, if_false]
      rfl

end FoldCtx

theorem inferQuantity_embed (roots : List Tree) : ∀ t : FTree, inferQuantity (embedFTree roots t) = t.inferQuantity
  | .ingredient .. | .nref .. | .step _ [] | .step _ (_ :: _ :: _) | .sub _ [] _ | .sub _ (_ :: _ :: _) _ => rfl
  | .step _ [i] => inferQuantity_embed roots i
  | .sub b [_] _ => inferQuantity_embed roots b

def amountIsWhole (iq : Option Quantity) : Amount → Bool
  | .proportion none _ _ _ => true
  | .proportion (some v) _ _ _ => v.val == 1
  | .quantity q =>
    match iq with
    | some iq => q.hasEqualValueTo iq
    | none => false

def singleRefOk (defBlock : Nat) (iq : Option Quantity) : List (Amount × Nat) → Bool
  | [p] => p.2 == defBlock && amountIsWhole iq p.1
  | _ => false

/-- `can_be_inlined` in terms of the references `L` (amount, block) recorded for the entry, in any order -/
theorem canBeInlined_eq (o : NamedOutput) (L : List (Amount × Nat))
    (hr : o.refs.Perm (L.map fun p => (Tree.reference o.sub o.idx p.1, p.2))) :
    o.canBeInlined = (o.sub.numOutputs == 1 && singleRefOk o.defBlock (inferQuantity o.sub) L) := by
  unfold NamedOutput.canBeInlined
  congr 1
  rcases L with _ | ⟨p, _ | ⟨p', L⟩⟩
  · rw [hr.eq_nil]
    rfl
  · rw [List.perm_singleton.1 hr]
    show (p.2 == o.defBlock && _) = (p.2 == o.defBlock && amountIsWhole (inferQuantity o.sub) p.1)
    congr 1
  · have hl := hr.length_eq
    simp only [List.length_map, List.length_cons] at hl
    rcases hrefs : o.refs with _ | ⟨a, _ | ⟨b, rest⟩⟩
    · rw [hrefs] at hl
      simp at hl
    · rw [hrefs] at hl
      simp at hl
    · show _ = false
      split
      · rename_i heq
        simp at heq
      · rfl

theorem isWhole_eq (t : FTree) (a : Amount) : Spec.isWhole t a = amountIsWhole t.inferQuantity a := by
  cases a with
  | quantity q => rfl
  | proportion v pc w pr => cases v <;> rfl

theorem canFold_eq (P : List FStmt) (st : FStmt) :
    Spec.canFold P st = (st.names.length == 1 && singleRefOk st.block st.tree.inferQuantity (refsTo P st.sid 0)) := by
  unfold Spec.canFold
  congr 1
  rcases refsTo P st.sid 0 with _ | ⟨⟨a, b⟩, _ | ⟨p', L⟩⟩
  · rfl
  · simp only [singleRefOk, isWhole_eq]
  · rfl

/-- the four documented conditions -/
theorem canFold_iff (P : List FStmt) (st : FStmt) :
    Spec.canFold P st = true ↔ st.names.length = 1 ∧
      ∃ a, refsTo P st.sid 0 = [(a, st.block)] ∧ Spec.isWhole st.tree a = true := by
  unfold Spec.canFold
  rcases refsTo P st.sid 0 with _ | ⟨⟨a, b⟩, _ | ⟨p', L⟩⟩
  · simp
  · simp only [Bool.and_eq_true, beq_iff_eq, List.cons.injEq, Prod.mk.injEq, and_true]
    constructor
    · rintro ⟨h1, h2, h3⟩
      exact ⟨h1, a, ⟨rfl, h2⟩, h3⟩
    · rintro ⟨h1, a', ⟨rfl, h2⟩, h3⟩
      exact ⟨h1, h2, h3⟩
  · simp

theorem abs_single {asts : List (List AStmt)} {ns : List NStmt} {k : Nat}
    {P : List FStmt} {blocks : List Block} {outs : List NamedOutput} (hW : WFP asts ns k P)
    (hA : Abs asts ns k P blocks outs) {s : NStmt} (hk : ns[k]? = some s) {n0 : SVS} (hn : s.names = [n0])
    {i : Nat} {key : SVS} (hi : (definedNames ns)[i]? = some (key, k, 0)) :
    ∃ o st, outs[i]? = some o ∧ P[k]? = some st ∧ st.sid = k ∧ st.block = s.block ∧
      o.sub = .sub (embedFTree (rootsOfF P) st.tree) [n0] st.showNames ∧ o.idx = 0 ∧ o.defBlock = st.block ∧
      o.unwrap = !st.named ∧ o.refs.Perm ((refsTo P k 0).map fun p => (Tree.reference o.sub o.idx p.1, p.2)) ∧
      o.canBeInlined = Spec.canFold P st := by
  obtain ⟨st, hst, hsid, hblk, hnames, _⟩ := hW.get hk
  obtain ⟨o, u, ho, hu, hroot, hidx, hdef, hunw, hperm⟩ := hA.entry i key k 0 hi (Nat.le_refl _)
  cases hst.symm.trans hu
  have hstn : st.names = [n0] := hnames.trans hn
  have hosub : o.sub = .sub (embedFTree (rootsOfF P) st.tree) [n0] st.showNames := by
    rw [hW.root hst, embedFStmt_named _ _ (by rw [hstn]; exact List.cons_ne_nil _ _), hstn] at hroot
    exact (Option.some.inj hroot).symm
  refine ⟨o, st, ho, hst, hsid, hblk, hosub, hidx, hdef, hunw, hperm, ?_⟩
  rw [canBeInlined_eq o _ hperm, canFold_eq, hosub, hdef, hsid]
  simp only [Tree.numOutputs, inferQuantity, inferQuantity_embed, hstn]

/-- **`can_be_inlined` is the documented condition**: for the table entry of a single-output statement `k`, the
    decision of the loop on the concrete entry (`o.refs` has one element, from the defining block, whose amount is the
    whole of `o.sub`) is `Spec.canFold` on the by-name program (the number of references by name is `o.refs.length`,
    same block, whole amount w.r.t. the inferred quantity of the already folded tree) -/
theorem canBeInlined_eq_canFold {asts : List (List AStmt)} {ns : List NStmt} {k : Nat}
    {P : List FStmt} {blocks : List Block} {outs : List NamedOutput} (hW : WFP asts ns k P)
    (hA : Abs asts ns k P blocks outs) {s : NStmt} (hk : ns[k]? = some s) {n0 : SVS} (hn : s.names = [n0])
    {i : Nat} {key : SVS} (hi : (definedNames ns)[i]? = some (key, k, 0)) :
    ∃ o st, outs[i]? = some o ∧ P[k]? = some st ∧ o.canBeInlined = Spec.canFold P st ∧
      o.refs.length = (refsTo P k 0).length := by
  obtain ⟨o, st, ho, hst, _, _, _, _, _, _, hperm, hcan⟩ := abs_single hW hA hk hn hi
  exact ⟨o, st, ho, hst, hcan, hperm.length_eq.trans (List.length_map _)⟩

/-- **one-step simulation**: the iteration of the loop for the table entry of the single-output statement `k` is
    `Spec.foldStmt · k` on the abstract program -/
theorem step_single {asts : List (List AStmt)} {ns : List NStmt} (hs : Spec.blocks asts = .ok ns) {k : Nat}
    {P : List FStmt} {blocks : List Block} {outs : List NamedOutput} (hW : WFP asts ns k P)
    (hA : Abs asts ns k P blocks outs) {s : NStmt} (hk : ns[k]? = some s) {n0 : SVS} (hn : s.names = [n0])
    {i : Nat} {key : SVS} (hi : (definedNames ns)[i]? = some (key, k, 0)) :
    ∃ outs', foldStep i blocks outs = .ok (embedF asts.length (Spec.foldStmt P k), outs') ∧
      WFP asts ns (k + 1) (Spec.foldStmt P k) ∧
      Abs asts ns (k + 1) (Spec.foldStmt P k) (embedF asts.length (Spec.foldStmt P k)) outs' := by
  obtain ⟨o, st, ho, hst, hsid, hblk, hosub, hidx, hdef, hunw, hperm, hcan⟩ := abs_single hW hA hk hn hi
  cases hc : Spec.canFold P st with
  | false =>
    rw [foldStmt_not_folded P k st hst hc]
    refine ⟨outs, ?_, hW.mono, ?_⟩
    · rw [foldStep_skip i blocks outs (fun o' ho' => by cases ho.symm.trans ho'; exact hcan.trans hc), hA.blocks]
    · rw [← hA.blocks]
      exact hA.mono
  | true =>
    rw [foldStmt_fold P k st hst hc]
    obtain ⟨_, a, hone, _⟩ := (canFold_iff P st).mp hc
    rw [hsid] at hone
    have c : FoldCtx asts ns k P s st n0 a := ⟨hW, spec_keys_unique asts ns hs, hk, hst, hn, hone⟩
    have horefs : o.refs = [(c.old, st.block)] := by
      rw [hone] at hperm
      rw [List.perm_singleton.mp hperm, hosub, hidx]
      rfl
    have hb : blocks[o.defBlock]? = some (sel P st.block) := by
      rw [hA.blocks, hdef, embedF_eq, List.getElem?_map,
        List.getElem?_range (hblk ▸ (spec_stmt_facts asts ns hs k s hk).1)]
      rfl
    have hnew : (if o.unwrap then embedFTree (rootsOfF P) st.tree else o.sub) = c.new := by
      rw [hunw, hosub]
      simp only [FoldCtx.new, FStmt.inlined]
      cases st.named with
      | false => rfl
      | true =>
        rw [c.stNames]
        rfl
    have hstep := foldStep_fold i blocks outs o (embedFTree (rootsOfF P) st.tree) [n0] st.showNames c.old st.block []
      _ _ ho (hcan.trans hc) hosub horefs hb (by rw [hosub]; exact c.removeRoot)
    rw [hnew, hdef] at hstep
    refine ⟨outs.map (NamedOutput.substitute c.old c.new), ?_, c.wf_fold, ?_⟩
    · rw [hstep, hA.blocks, c.blocks_fold]
    · have := c.abs_fold hA
      rwa [hA.blocks, c.blocks_fold] at this

theorem stmtDefs_getElem? (sid : Nat) (names : List SVS) (i j : Nat) :
    (stmtDefs sid i names)[j]? = names[j]?.map fun n => (normaliseName n, sid, i + j) := by
  rw [stmtDefs_eq, List.getElem?_map, List.getElem?_zipIdx, Option.map_map]
  rfl

theorem defs_entry (done rest : List NStmt) (s : NStmt) (j : Nat) (hj : j < s.names.length) :
    ∃ key, (definedNames (done ++ s :: rest))[(definedNames done).length + j]? = some (key, done.length, j) := by
  unfold definedNames
  rw [definedNamesFrom_append, Nat.zero_add, definedNamesFrom, List.getElem?_append_right (Nat.le_add_right _ _),
    Nat.add_sub_cancel_left, List.getElem?_append_left (by rw [stmtDefs_length]; exact hj), stmtDefs_getElem?,
    List.getElem?_eq_getElem hj, Nat.zero_add]
  exact ⟨normaliseName s.names[j], rfl⟩

theorem step_multi {asts : List (List AStmt)} {ns : List NStmt} {k : Nat} {P : List FStmt} {blocks : List Block}
    {outs : List NamedOutput} (hW : WFP asts ns k P) (hA : Abs asts ns k P blocks outs) {s : NStmt}
    (hk : ns[k]? = some s) (hn : s.names.length ≠ 1) {i : Nat}
    (hi : ∀ j, j < s.names.length → ∃ key, (definedNames ns)[i + j]? = some (key, k, j)) :
    foldAll s.names.length i blocks outs = .ok (blocks, outs) ∧ Spec.foldStmt P k = P := by
  obtain ⟨st, hst, hsid, hblk, hnames, hsh, hnamed⟩ := hW.get hk
  constructor
  · apply foldAll_skip
    intro j o h1 h2 ho
    obtain ⟨j', rfl⟩ := Nat.exists_eq_add_of_le h1
    have hj' : j' < s.names.length := Nat.lt_of_add_lt_add_left h2
    obtain ⟨key, hd⟩ := hi j' hj'
    obtain ⟨o', u, ho', hu, hroot, _⟩ := hA.entry _ key k _ hd (Nat.le_refl _)
    cases ho.symm.trans ho'
    cases hst.symm.trans hu
    have hne : st.names ≠ [] := hnames ▸ List.ne_nil_of_length_pos (Nat.zero_lt_of_lt hj')
    rw [hW.root hst, embedFStmt_named _ _ hne] at hroot
    rw [NamedOutput.canBeInlined, ← Option.some.inj hroot, Tree.numOutputs, hnames, beq_false_of_ne hn, Bool.false_and]
  · apply foldStmt_not_folded P k st hst
    rw [Spec.canFold, hnames, beq_false_of_ne hn, Bool.false_and]

/-- **the simulation of the loop**: when the statements `done` have been considered and `rest` are left, with the concrete
    state described by the program `P`, the loop runs through the table entries of `rest` — they begin at position
    `(definedNames done).length` — and ends in the embedding of `P` folded at the statements of `rest` -/
theorem loop_sim {asts : List (List AStmt)} {ns : List NStmt} (hs : Spec.blocks asts = .ok ns) :
    ∀ (rest done : List NStmt) (P : List FStmt) (blocks : List Block) (outs : List NamedOutput), done ++ rest = ns →
    WFP asts ns done.length P → Abs asts ns done.length P blocks outs →
    ∃ outs', foldAll (definedNamesFrom done.length rest).length (definedNames done).length blocks outs =
      .ok (embedF asts.length ((List.range' done.length rest.length).foldl Spec.foldStmt P), outs')
  | [], done, P, blocks, outs, _, hW, hA => ⟨outs, by rw [hA.blocks]; rfl⟩
  | s :: rest, done, P, blocks, outs, hns, hW, hA => by
    have hk : ns[done.length]? = some s := by
      rw [← hns, List.getElem?_append_right (Nat.le_refl _), Nat.sub_self]
      rfl
    have hentry := fun j hj => hns ▸ defs_entry done rest s j hj
    have hnext : (definedNames (done ++ [s])).length = (definedNames done).length + s.names.length := by
      rw [definedNames_snoc, List.length_append, stmtDefs_length]
    have ih := loop_sim hs rest (done ++ [s]) (Spec.foldStmt P done.length)
    simp only [List.append_assoc, List.cons_append, List.nil_append, List.length_append, List.length_singleton, hnext] at ih
    rw [definedNamesFrom, List.length_append, stmtDefs_length, foldAll_add, List.length_cons, List.range'_succ,
      List.foldl_cons]
    by_cases hn : s.names.length = 1
    · obtain ⟨n0, hn0⟩ := List.length_eq_one_iff.mp hn
      obtain ⟨key, hd⟩ := hentry 0 (by omega)
      rw [Nat.add_zero] at hd
      obtain ⟨outs1, hstep, hW1, hA1⟩ := step_single hs hW hA hk hn0 hd
      rw [hn] at ih ⊢
      rw [foldAll_succ, hstep]
      simp only [Except.ok_bind, foldAll]
      exact ih _ _ hns hW1 hA1
    · obtain ⟨hskip, hsame⟩ := step_multi hW hA hk hn hentry
      rw [hsame] at ih ⊢
      rw [hskip, Except.ok_bind]
      exact ih _ _ hns hW.mono hA.mono

mutual
theorem subNames_lift : ∀ t : NTree, (liftTree t).subNames = []
  | .ingredient .. => rfl
  | .step d inputs => by simp only [liftTree, FTree.subNames, subNamesList_lift inputs]
  | .nref .. => rfl
theorem subNamesList_lift : ∀ ts : List NTree, FTree.subNamesList (liftTrees ts) = []
  | [] => rfl
  | t :: ts => by simp only [liftTrees, FTree.subNamesList, subNames_lift t, subNamesList_lift ts, List.append_nil]
end

theorem lift_getElem? (asts : List (List AStmt)) (ns : List NStmt) (j : Nat) (u : FStmt)
    (h : (lift asts ns)[j]? = some u) : ∃ s, ns[j]? = some s ∧ liftStmt (namedFlags asts) j s = u := by
  rwa [lift, liftFrom_getElem?, Option.map_eq_some_iff, Nat.zero_add] at h

theorem wfp_init {asts : List (List AStmt)} {ns : List NStmt} (hs : Spec.blocks asts = .ok ns) :
    WFP asts ns 0 (lift asts ns) where
  len := liftFrom_length _ ns 0
  static := fun j u hu => by
    obtain ⟨s, hsj, rfl⟩ := lift_getElem? asts ns j u hu
    exact ⟨s, hsj, rfl, rfl, rfl, rfl, rfl⟩
  refsBack := fun j u hu r hr => by
    obtain ⟨s, hsj, rfl⟩ := lift_getElem? asts ns j u hu
    simp only [liftStmt, refs_lift] at hr
    obtain ⟨key, hdef⟩ := (spec_stmt_facts asts ns hs j s hsj).2 r hr
    obtain ⟨hdef', hlt⟩ := definedNames_take hdef
    obtain ⟨s', hs', hn⟩ := (mem_definedNames ns _).mp hdef'
    obtain ⟨x, hx, _⟩ := Option.map_eq_some_iff.mp hn
    exact ⟨hlt, s', hs', (List.getElem?_eq_some_iff.mp hx).1⟩
  dead := fun j u hu hl => by
    obtain ⟨s, _, rfl⟩ := lift_getElem? asts ns j u hu
    cases hl
  subs := fun j u hu nmx hn => by
    obtain ⟨s, _, rfl⟩ := lift_getElem? asts ns j u hu
    simp [liftStmt, subNames_lift] at hn

theorem abs_init {asts : List (List AStmt)} {ns : List NStmt} (hs : Spec.blocks asts = .ok ns) {bs : List Block}
    {st : CState} (h : compileBlocks 0 {} asts = .ok (bs, st)) :
    Abs asts ns 0 (lift asts ns) bs st.outputs where
  blocks := by
    obtain ⟨ns', hs', hb⟩ := (elab_ok_iff asts bs).mp ⟨st, h⟩
    rw [hs] at hs'
    cases hs'
    rw [hb, embedF_lift]
  len := elab_table_length asts bs st h ns hs
  entry := fun j key sid idx hd _ => by
    have hlt : j < st.outputs.length := by
      rw [elab_table_length asts bs st h ns hs]
      exact (List.getElem?_eq_some_iff.mp hd).1
    obtain ⟨o, ho⟩ : ∃ o, st.outputs[j]? = some o := ⟨_, List.getElem?_eq_getElem hlt⟩
    obtain ⟨key', sid', s, b, hd', hsid, hroot, _, _, hblk, hrefs⟩ := elab_entry asts bs st h ns hs j o ho
    rw [hd] at hd'
    simp only [Option.some.injEq, Prod.mk.injEq] at hd'
    obtain ⟨_, rfl, hidx⟩ := hd'
    have hu : (lift asts ns)[sid]? = some (liftStmt (namedFlags asts) sid s) := by
      rw [lift, liftFrom_getElem?, hsid, Nat.zero_add]
      rfl
    refine ⟨o, _, ho, hu, by rw [rootsOfF_lift]; exact hroot, hidx.symm, hblk, ?_, ?_⟩
    · have hun := elab_unwrap asts bs st h ns hs
      have := congrArg (fun l => l[j]?) hun
      simp only [List.getElem?_map, ho, hd, Option.map_some, Option.some.injEq] at this
      simpa [liftStmt, namedFlags] using this
    · rw [hrefs, refsTo, lift, liveRefs_liftFrom, List.map_map, hidx]
      exact List.Perm.of_eq rfl

theorem foldAll_refines_spec {asts : List (List AStmt)} {ns : List NStmt} (hs : Spec.blocks asts = .ok ns)
    {bs : List Block} {st : CState} (h : compileBlocks 0 {} asts = .ok (bs, st)) :
    ∃ outs', foldAll st.outputs.length 0 bs st.outputs =
      .ok (embedF asts.length (Spec.foldAll (lift asts ns)), outs') := by
  have hA := abs_init hs h
  obtain ⟨outs', hf⟩ := loop_sim hs ns [] (lift asts ns) bs st.outputs (List.nil_append ns) (wfp_init hs) hA
  refine ⟨outs', ?_⟩
  rw [hA.len, Spec.foldAll, lift, liftFrom_length, List.range_eq_range']
  exact hf

/-- **C01.4** `compile` refines the by-name meaning: when every block parses, the result is the embedding of the
    by-name program after the documented folding, or the error of the by-name elaboration -/
theorem compile_refines_spec (srcs : List Str) (asts : List (List AStmt)) (hp : parseAll 0 srcs = .ok asts) :
    compile srcs = (match Spec.blocks asts with
                    | .error e => e.toCompile
                    | .ok ns => .ok (embedF srcs.length (Spec.foldAll (lift asts ns)))) := by
  rcases compile_cases srcs with
      ⟨e, hp', _⟩ | ⟨asts', e, hp', hb, hc⟩ | ⟨asts', bs, st, bs', outs', hp', hb, _, hf, hc⟩ <;>
    cases hp.symm.trans hp'
  · obtain ⟨e', hs, rfl⟩ := (elab_error_iff asts e).mp hb
    rw [hc, hs]
  · obtain ⟨ns, hs, _⟩ := (elab_ok_iff asts bs).mp ⟨st, hb⟩
    obtain ⟨outs2, hf2⟩ := foldAll_refines_spec hs hb
    cases hf.symm.trans hf2
    rw [hc, hs, (parseAll_ok srcs 0 asts hp).1]

theorem compile_eq_specCompile (srcs : List Str) : compile srcs = specCompile srcs := by
  unfold specCompile
  cases hp : parseAll 0 srcs with
  | error e =>
    simp only [compile, elabBlocks, hp]
    rfl
  | ok asts => exact compile_refines_spec srcs asts hp

/-- the program when the turn of statement `k` comes: the statements before `k` have been considered -/
def Spec.before (P : List FStmt) (k : Nat) : List FStmt := (List.range k).foldl Spec.foldStmt P

theorem foldStmt_cases (P : List FStmt) (j : Nat) :
    Spec.foldStmt P j = P ∨
    ∃ st, P[j]? = some st ∧ Spec.canFold P st = true ∧ Spec.foldStmt P j = P.map (killInline j st.inlined) := by
  cases hst : P[j]? with
  | none =>
    left
    rw [foldStmt_eq, hst]
  | some st =>
    cases hc : Spec.canFold P st with
    | false => exact Or.inl (foldStmt_not_folded P j st hst hc)
    | true => exact Or.inr ⟨st, rfl, hc, foldStmt_fold P j st hst hc⟩

theorem foldStmt_eq_map (P : List FStmt) (j : Nat) : ∃ g : FStmt → FStmt, Spec.foldStmt P j = P.map g ∧
    ∀ u, (g u).sid = u.sid ∧ (g u).names = u.names ∧ (g u).block = u.block ∧ (u.sid ≠ j → (g u).live = u.live) := by
  rcases foldStmt_cases P j with h | ⟨st, _, _, h⟩
  · exact ⟨id, h.trans (List.map_id P).symm, fun _ => ⟨rfl, rfl, rfl, fun _ => rfl⟩⟩
  · exact ⟨killInline j st.inlined, h, fun u => ⟨rfl, rfl, rfl, fun hne =>
      show (u.live && u.sid != j) = u.live by rw [bne_iff_ne.mpr hne, Bool.and_true]⟩⟩

theorem foldl_eq_map : ∀ (L : List Nat) (P : List FStmt), ∃ g : FStmt → FStmt, L.foldl Spec.foldStmt P = P.map g ∧
    ∀ u, (g u).sid = u.sid ∧ (g u).names = u.names ∧ (g u).block = u.block ∧ (u.sid ∉ L → (g u).live = u.live)
  | [], P => ⟨id, (List.map_id P).symm, fun _ => ⟨rfl, rfl, rfl, fun _ => rfl⟩⟩
  | j :: L, P => by
    obtain ⟨g1, h1, s1⟩ := foldStmt_eq_map P j
    obtain ⟨g2, h2, s2⟩ := foldl_eq_map L (P.map g1)
    refine ⟨g2 ∘ g1, by rw [List.foldl_cons, h1, h2, List.map_map], fun u => ?_⟩
    obtain ⟨a1, b1, c1, d1⟩ := s1 u
    obtain ⟨a2, b2, c2, d2⟩ := s2 (g1 u)
    exact ⟨a2.trans a1, b2.trans b1, c2.trans c1, fun hn =>
      (d2 (a1 ▸ fun h => hn (List.mem_cons_of_mem _ h))).trans (d1 fun h => hn (h ▸ List.mem_cons_self ..))⟩

theorem foldAll_split (P : List FStmt) (k : Nat) (hk : k < P.length) :
    Spec.foldAll P = (List.range' (k + 1) (P.length - (k + 1))).foldl Spec.foldStmt (Spec.foldStmt (Spec.before P k) k) := by
  unfold Spec.foldAll Spec.before
  have : List.range P.length = List.range k ++ k :: List.range' (k + 1) (P.length - (k + 1)) := by
    rw [List.range_eq_range', List.range_eq_range']
    have e : P.length = k + (1 + (P.length - (k + 1))) := by omega
    conv => lhs; rw [e]
    rw [← List.range'_append_1, ← List.range'_append_1]
    simp [List.range'_succ]
  rw [this, List.foldl_append, List.foldl_cons]

/-- **C01.4, which statements are folded.**  Statement `k` is deleted from the result of the folding (and its tree
    stands in place of its reference) exactly when, at its turn — the statements before it having been considered,
    `Spec.before P k` —, (1) it defines exactly one output, (2) the whole remaining program contains exactly one
    reference to it, (3) that reference is in a statement of the same block, and (4) it takes the whole amount
    (`Spec.isWhole`: no value, proportion 1, or a quantity equal to the inferred quantity of its already folded
    tree) -/
theorem folded_iff (P : List FStmt) (hsid : SidOk P) (hlive : ∀ u ∈ P, u.live = true) (k : Nat) :
    (∃ u, (Spec.foldAll P)[k]? = some u ∧ u.live = false) ↔
    ∃ st, (Spec.before P k)[k]? = some st ∧ st.names.length = 1 ∧
      ∃ a, refsTo (Spec.before P k) k 0 = [(a, st.block)] ∧ Spec.isWhole st.tree a = true := by
  by_cases hk : k < P.length
  · -- statement `k` is still there at its turn
    obtain ⟨g, hg, hs⟩ := foldl_eq_map (List.range k) P
    have hst : (Spec.before P k)[k]? = some (g P[k]) := by
      rw [Spec.before, hg, List.getElem?_map, List.getElem?_eq_getElem hk]
      rfl
    obtain ⟨hstsid, -, -, hstlive⟩ := hs P[k]
    rw [hsid k _ (List.getElem?_eq_getElem hk)] at hstsid hstlive
    replace hstlive := (hstlive (by simp)).trans (hlive _ (List.getElem_mem hk))
    generalize g P[k] = st at hst hstsid hstlive
    -- after its turn it remains iff it cannot be folded
    obtain ⟨u1, hu1, hs1, hl1⟩ : ∃ u1, (Spec.foldStmt (Spec.before P k) k)[k]? = some u1 ∧ u1.sid = k ∧
        u1.live = !Spec.canFold (Spec.before P k) st := by
      cases hc : Spec.canFold (Spec.before P k) st with
      | false =>
        rw [foldStmt_not_folded _ k st hst hc]
        exact ⟨st, hst, hstsid, hstlive⟩
      | true =>
        rw [foldStmt_fold _ k st hst hc, List.getElem?_map, hst]
        exact ⟨_, rfl, hstsid, show (st.live && st.sid != k) = false by rw [hstsid, bne_self_eq_false, Bool.and_false]⟩
    -- and the later statements do not touch it
    obtain ⟨g', hg', hs'⟩ := foldl_eq_map (List.range' (k + 1) (P.length - (k + 1))) (Spec.foldStmt (Spec.before P k) k)
    have hu : (Spec.foldAll P)[k]? = some (g' u1) := by
      rw [foldAll_split P k hk, hg', List.getElem?_map, hu1]
      rfl
    have hl : (g' u1).live = u1.live := (hs' u1).2.2.2 (by rw [hs1, List.mem_range'_1]; omega)
    simp only [hu, hst, Option.some.injEq, exists_eq_left', hl, hl1, Bool.not_eq_false', canFold_iff, hstsid]
  · have hn : ∀ L : List Nat, (L.foldl Spec.foldStmt P)[k]? = none := fun L => by
      obtain ⟨g, hg, _⟩ := foldl_eq_map L P
      rw [hg, List.getElem?_map, List.getElem?_eq_none (Nat.le_of_not_lt hk)]
      rfl
    rw [Spec.foldAll, Spec.before, hn, hn]
    exact ⟨fun ⟨_, h, _⟩ => (nomatch h), fun ⟨_, h, _⟩ => (nomatch h)⟩

theorem before_static {P : List FStmt} {k : Nat} {st st' : FStmt} (hst : P[k]? = some st)
    (hst' : (Spec.before P k)[k]? = some st') : st'.names = st.names ∧ st'.block = st.block := by
  obtain ⟨g, hg, hs⟩ := foldl_eq_map (List.range k) P
  rw [Spec.before, hg, List.getElem?_map, hst] at hst'
  cases hst'
  exact ⟨(hs st).2.1, (hs st).2.2.1⟩

/-- **multi-output statements never fold** (nor statements that define nothing) -/
theorem multi_output_not_folded (P : List FStmt) (hsid : SidOk P) (hlive : ∀ u ∈ P, u.live = true) (k : Nat)
    (st : FStmt) (hst : P[k]? = some st) (hn : st.names.length ≠ 1) :
    ¬ ∃ u, (Spec.foldAll P)[k]? = some u ∧ u.live = false := by
  rw [folded_iff P hsid hlive k]
  rintro ⟨st', hst', h1, _⟩
  exact hn ((before_static hst hst').1 ▸ h1)

/-- **cross-block references never fold**: a statement whose references all come from other blocks stays -/
theorem cross_block_not_folded (P : List FStmt) (hsid : SidOk P) (hlive : ∀ u ∈ P, u.live = true) (k : Nat)
    (st : FStmt) (hst : P[k]? = some st) (hx : ∀ p ∈ refsTo (Spec.before P k) k 0, p.2 ≠ st.block) :
    ¬ ∃ u, (Spec.foldAll P)[k]? = some u ∧ u.live = false := by
  rw [folded_iff P hsid hlive k]
  rintro ⟨st', hst', _, a, h2, _⟩
  exact hx (a, st'.block) (by rw [h2]; exact List.mem_singleton_self _) (before_static hst hst').2

/-- an inlined `:=` definition is compiled to a sub recipe node carrying its names -/
theorem embed_named_sub (roots : List Tree) (t : FTree) (names : List SVS) (sh : Bool) :
    embedFTree roots (.sub t names sh) = .sub (embedFTree roots t) names sh := rfl

/-- the hypotheses of the theorems above hold for every elaborated program -/
theorem lift_ok (asts : List (List AStmt)) (ns : List NStmt) :
    SidOk (lift asts ns) ∧ ∀ u ∈ lift asts ns, u.live = true := by
  constructor
  · intro i u hu
    obtain ⟨s, _, rfl⟩ := lift_getElem? asts ns i u hu
    rfl
  · intro u hu
    obtain ⟨i, hi⟩ := List.mem_iff_getElem?.mp hu
    obtain ⟨s, _, rfl⟩ := lift_getElem? asts ns i u hi
    rfl

section Examples
/-- which statements remain after the by-name folding (`none` when the description is rejected) -/
private def remaining (srcs : List String) : Option (List Bool) :=
  match parseAll 0 (srcs.map String.toList) with
  | .error _ => none
  | .ok asts =>
    match Spec.blocks asts with
    | .error _ => none
    | .ok ns => some ((Spec.foldAll (lift asts ns)).map (·.live))

private def nRoots (srcs : List String) : Option (List Nat) :=
  match compile (srcs.map String.toList) with
  | .ok bs => some (bs.map List.length)
  | _ => none

/-- a chain of two folds, the second through a quantity-form reference (`100g fried spam` is all of `fried spam`
    because the inferred quantity of its already folded tree is `100g`) -/
private def chain : List String := ["100g spam\nfried spam = fry(spam)\nboil(100g fried spam, water)"]
private theorem chain_evaluated :
    (remaining chain = some [false, false, true] ∧ nRoots chain = some [1]) ∧
    (match compile (chain.map String.toList) with
      | .ok [[.step _ [.step _ [.ingredient _ (some _)], .ingredient _ none]]] => true
      | _ => false) = true := by
  -- the characters of the text by `toList_lit`: the kernel is slow at decoding a long literal
  have h : chain.map String.toList = [_] := congrArg (· :: []) (toList_lit rfl)
  rw [remaining, nRoots, h]
  decide +kernel
example : compile (chain.map String.toList) = specCompile (chain.map String.toList) := compile_eq_specCompile _
example : remaining chain = some [false, false, true] ∧ nRoots chain = some [1] :=
  chain_evaluated.1
/-- the result is the single tree `boil(fry(100g spam), water)` with no sub recipe and no reference left -/
example : (match compile (chain.map String.toList) with
    | .ok [[.step _ [.step _ [.ingredient _ (some _)], .ingredient _ none]]] => true
    | _ => false) = true := chain_evaluated.2

/-- with half of it the definition is not folded -/
private def chainHalf : List String := ["100g spam\nfried spam = fry(spam)\nboil(50g fried spam, water)"]
example : compile (chainHalf.map String.toList) = specCompile (chainHalf.map String.toList) := compile_eq_specCompile _
example : remaining chainHalf = some [false, true, true] ∧ nRoots chainHalf = some [2] := by
  have h : chainHalf.map String.toList = [_] := congrArg (· :: []) (toList_lit rfl)
  rw [remaining, nRoots, h]
  decide +kernel

/-- a `:=` definition is folded but keeps its title and outline: a sub recipe node with shown names -/
private def named : List String := ["sauce := mix(tomato, onion)\npour(sauce, pasta)"]
private theorem named_evaluated :
    (remaining named = some [false, true] ∧ nRoots named = some [1]) ∧
    (match compile (named.map String.toList) with
      | .ok [[.step _ [.sub (.step _ [_, _]) [_] true, .ingredient _ none]]] => true
      | _ => false) = true := by
  have h : named.map String.toList = [_] := congrArg (· :: []) (toList_lit rfl)
  rw [remaining, nRoots, h]
  decide +kernel
example : compile (named.map String.toList) = specCompile (named.map String.toList) := compile_eq_specCompile _
example : remaining named = some [false, true] ∧ nRoots named = some [1] := named_evaluated.1
example : (match compile (named.map String.toList) with
    | .ok [[.step _ [.sub (.step _ [_, _]) [_] true, .ingredient _ none]]] => true
    | _ => false) = true := named_evaluated.2

/-- a reference from another block never folds -/
private def cross : List String := ["sauce = mix(tomato, onion)", "pour(sauce, pasta)"]
example : compile (cross.map String.toList) = specCompile (cross.map String.toList) := compile_eq_specCompile _
example : remaining cross = some [true, true] ∧ nRoots cross = some [1, 1] := by decide +kernel

/-- a multi-output statement never folds, however it is referenced -/
private def multi : List String := ["white, yolk = separate(egg)\nwhisk(white)\nmix(yolk, sugar)"]
example : compile (multi.map String.toList) = specCompile (multi.map String.toList) := compile_eq_specCompile _
example : remaining multi = some [true, true, true] ∧ nRoots multi = some [3] := by
  have h : multi.map String.toList = [_] := congrArg (· :: []) (toList_lit rfl)
  rw [remaining, nRoots, h]
  decide +kernel

/-- errors are those of the by-name elaboration -/
example : compile ["a = f(x)\na = g(y)".toList] = .redefined 0 9 ∧ specCompile ["a = f(x)\na = g(y)".toList] = .redefined 0 9 :=
  by decide +kernel
end Examples

end RG.C01
