import RecipeGrid.Lemmas.Borders
/-! C02 — the table layout: cells tile the grid (C02.1), every node is drawn exactly once (C02.2), steps, titles and
    outputs sit where they should (C02.3), every subtree fills a rectangle (C02.4), borders follow the outlines (C02.5).

    The statements are self-contained: `wf`, `cover`, `Tiles`, `drawn`, `region`, `Box`, `Side`, `outlined`, `onOutline` …
    are defined here, in the terms of `Model/Table.lean` only, so that they can be read without the lemma
    modules.  The proofs live on twins of these notions in `Lemmas/Table.lean` and `Lemmas/Borders.lean` (`RG.wf`,
    `RTiles`/`Good`, `RG.drawn`, `reg`/`Rect`, `RG.Side`, `outl`, `Al`); the bridges are `wf_eq` (used as `wf_RG`),
    `drawn_eq`, `region_eq`, `outlined_iff`, `onOutline_iff`, all by `rfl` or a structural induction.  Where every cell is, is
    said once, in `Lemmas/LayoutCells.lean` (`node_box`); C02.3 and C02.4 are read off it. -/
namespace RG.C02

mutual
/-- a well-formed tree: every step has at least one input (Python's grammar guarantees it) -/
def wf : Tree → Bool
  | .ingredient .. => true
  | .reference .. => true
  | .step _ inputs => !inputs.isEmpty && wfList inputs
  | .sub body _ _ => wf body
def wfList : List Tree → Bool
  | [] => true
  | t :: ts => wf t && wfList ts
end

def covers (x : PCell) (r c : Nat) : Bool :=
  x.row ≤ r && r < x.row + x.rows && x.col ≤ c && c < x.col + x.cols
def cover (cs : List PCell) (r c : Nat) : Nat := cs.countP (covers · r c)

/-- the cells tile the `h × w` grid of the table: none is empty or reaches outside, every slot is covered exactly once -/
structure Tiles (t : Tbl) : Prop where
  ok : ∀ x ∈ t.cells, 0 < x.rows ∧ 0 < x.cols ∧ x.row + x.rows ≤ t.h ∧ x.col + x.cols ≤ t.w
  one : ∀ r c, r < t.h → c < t.w → cover t.cells r c = 1

mutual
theorem wf_eq : ∀ t : Tree, wf t = RG.wf t
  | .ingredient .. => rfl
  | .reference .. => rfl
  | .step _ inputs => by simp only [wf, RG.wf, wfList_eq inputs]
  | .sub body _ _ => by simp only [wf, RG.wf, wf_eq body]
private theorem wfList_eq : ∀ ts : List Tree, wfList ts = RG.wfList ts
  | [] => rfl
  | t :: ts => by simp only [wfList, RG.wfList, wf_eq t, wfList_eq ts]
end

theorem wfList_eq_RG (ts : List Tree) : wfList ts = RG.wfList ts := wfList_eq ts

theorem wf_RG {t : Tree} (h : wf t = true) : RG.wf t = true := wf_eq t ▸ h

/-- C02.1: for every well-formed tree the cells tile the h × w rectangle: no gaps, no overlaps -/
theorem layout_tiles (t : Tree) (h : wf t = true) : Tiles (layout t) := by
  have hg := layoutAt_good t [] true (wf_RG h)
  refine ⟨fun x hx => ?_, fun r c hr hc => hg.one r c (Nat.zero_le _) hr (Nat.zero_le _) hc⟩
  obtain ⟨hrows, hcols, -, hbottom, -, hright⟩ := hg.ok x hx
  exact ⟨hrows, hcols, hbottom, hright⟩

theorem layout_nonempty (t : Tree) (h : wf t = true) : 0 < (layout t).h ∧ 0 < (layout t).w :=
  (layoutAt_good t [] true (wf_RG h)).ne

mutual
/-- the nodes that must get a cell, with the kind of cell, in the order the layout emits them -/
def drawn (p : List Nat) : Tree → List (List Nat × CellKind)
  | .ingredient .. => [(p, .ingredient)]
  | .reference .. => [(p, .reference)]
  | .step _ inputs => drawnInputs p 0 inputs ++ [(p, .step)]
  | .sub body names showNames =>
    if names.length = 1 then (if showNames then [(p, .header)] else []) ++ drawn (p ++ [0]) body
    else drawn (p ++ [0]) body ++ [(p, .outputs)]
def drawnInputs (p : List Nat) (i : Nat) : List Tree → List (List Nat × CellKind)
  | [] => []
  | t :: ts => drawn (p ++ [i]) t ++ drawnInputs p (i + 1) ts
end

mutual
private theorem drawn_eq : ∀ (t : Tree) (p : List Nat), drawn p t = RG.drawn p t
  | .ingredient .., _ => rfl
  | .reference .., _ => rfl
  | .step _ inputs, p => by simp only [drawn, RG.drawn, drawnInputs_eq inputs p 0]
  | .sub body _ _, p => by simp only [drawn, RG.drawn, drawn_eq body (p ++ [0])]
private theorem drawnInputs_eq : ∀ (ts : List Tree) (p : List Nat) (i : Nat),
    drawnInputs p i ts = RG.drawnInputs p i ts
  | [], _, _ => rfl
  | t :: ts, p, i => by simp only [drawnInputs, RG.drawnInputs, drawn_eq t (p ++ [i]), drawnInputs_eq ts p (i + 1)]
end

/-- C02.2: every ingredient, reference, step, titled sub recipe and multi-output list gets exactly one cell of the right
    kind, nothing else does -/
theorem layout_nodes_once (t : Tree) :
    ((layout t).cells.map fun c => (c.path, c.kind)) = drawn [] t := by
  rw [drawn_eq]; exact layoutAt_pk t [] true

/-- distinct drawn nodes have distinct paths, so "exactly once" is meaningful -/
theorem drawn_nodup (t : Tree) : ((drawn [] t).map (·.1)).Nodup := by
  rw [drawn_eq]; exact RG.drawn_nodup t []

/-- the cell belongs to the node at path `q` or to one of its descendants -/
def under (q : List Nat) (x : PCell) : Bool := q.isPrefixOf x.path
def cellsUnder (t : Tbl) (q : List Nat) : List PCell := t.cells.filter (under q)

/-- a rectangle of grid slots: rows `top ≤ r < bottom`, columns `left ≤ c < right` -/
structure Box where
  top : Nat
  left : Nat
  bottom : Nat
  right : Nat
deriving DecidableEq, Repr

/-- the region of the node at `q`: the bounding box of the cells of its subtree -/
def region (t : Tbl) (q : List Nat) : Box :=
  ⟨((cellsUnder t q).map (·.row)).min?.getD 0, ((cellsUnder t q).map (·.col)).min?.getD 0,
   ((cellsUnder t q).map fun x => x.row + x.rows).max?.getD 0,
   ((cellsUnder t q).map fun x => x.col + x.cols).max?.getD 0⟩

structure TilesBox (cs : List PCell) (b : Box) : Prop where
  nonempty : b.top < b.bottom ∧ b.left < b.right
  inside : ∀ x ∈ cs, 0 < x.rows ∧ 0 < x.cols ∧ b.top ≤ x.row ∧ x.row + x.rows ≤ b.bottom ∧
            b.left ≤ x.col ∧ x.col + x.cols ≤ b.right
  one : ∀ r c, b.top ≤ r → r < b.bottom → b.left ≤ c → c < b.right → cover cs r c = 1

private theorem region_eq (t : Tbl) (q : List Nat) :
    region t q = ⟨(reg t.cells q).top, (reg t.cells q).left, (reg t.cells q).bottom, (reg t.cells q).right⟩ := rfl

/-- C02.4: the cells of every subtree tile a rectangle (their bounding box), which lies inside the table -/
theorem region_tiles (t : Tree) (h : wf t = true) (q : List Nat) (n : Tree) (hq : t.at? q = some n) :
    TilesBox (cellsUnder (layout t) q) (region (layout t) q) ∧
    (region (layout t) q).bottom ≤ (layout t).h ∧ (region (layout t) q).right ≤ (layout t).w := by
  obtain ⟨r, W, B, e, hwn, a1, -, a2, a3, hR⟩ := node_box t (wf_RG h) q n hq
  have ht := cellsAt_tiles n q r W B hwn a1
  rw [← e] at ht
  simp only [region_eq, hR]
  exact ⟨⟨ht.ne, ht.ok, ht.one⟩, a3, a2⟩

theorem region_root (t : Tree) (h : wf t = true) : region (layout t) [] = ⟨0, 0, (layout t).h, (layout t).w⟩ := by
  rw [region_eq, reg_root t (wf_RG h)]

/-! C02.3.  The four theorems below have one method: `node_box` gives the row `r`, the width `W` and the context `B` with
    which the cells below `q` are `cellsAt n q r W B`, and with them the region of `q` and (`reg_child`) of its children as
    explicit boxes; `cellsAt` unfolded once shows the node's own cell (`own_cell`); each claim is then an equation between
    numbers. -/

/-- C02.3 (steps): the cell of the step at `q` exists, spans exactly the rows of the region of `q` and reaches its
    right edge; its left edge is the common right edge of the inputs' regions, which start at the region's left edge
    and are stacked without gaps from the region's top to its bottom; at the root the step is one column wide -/
theorem step_geometry (t : Tree) (h : wf t = true) (q : List Nat) (d : SVS) (ins : List Tree)
    (hq : t.at? q = some (.step d ins)) :
    (∃ x ∈ (layout t).cells, x.path = q) ∧
    ∀ x ∈ (layout t).cells, x.path = q →
      x.kind = .step ∧
      x.row = (region (layout t) q).top ∧ x.row + x.rows = (region (layout t) q).bottom ∧
      x.col + x.cols = (region (layout t) q).right ∧
      (∀ i, i < ins.length → (region (layout t) (q ++ [i])).left = (region (layout t) q).left ∧
        (region (layout t) (q ++ [i])).right = x.col) ∧
      (region (layout t) (q ++ [0])).top = (region (layout t) q).top ∧
      (∀ i, i + 1 < ins.length →
        (region (layout t) (q ++ [i + 1])).top = (region (layout t) (q ++ [i])).bottom) ∧
      (region (layout t) (q ++ [ins.length - 1])).bottom = (region (layout t) q).bottom ∧
      (q = [] → x.cols = 1) := by
  simp only [region_eq]
  obtain ⟨r, W, B, hf, hwn, a1, a4, -, -, hR⟩ := node_box t (wf_RG h) q _ hq
  rw [wf_step] at hwn
  simp only [Tree.wd] at a1 a4
  simp only [Tree.ht] at hR
  have hlen : 0 < ins.length := List.length_pos_iff.2 hwn.1
  -- the `i`-th input lies below the inputs before it, in the columns of the stack
  have hI : ∀ i, i < ins.length → reg (layout t).cells (q ++ [i]) =
      ⟨r + hts (ins.take i), 0, r + hts (ins.take (i + 1)), wds ins⟩ := fun i hi => by
    have hc : ins[i]? = some ins[i] := List.getElem?_eq_getElem hi
    obtain ⟨B', e⟩ := cellsAt_child_step d ins q r W B i _ hc
    rw [reg_child hf e (wfList_getElem? ins i _ hwn.2 hc) (wd_le_wds ins i _ hc), hts_take_succ ins i _ hc,
      Nat.add_assoc]
  obtain ⟨hex, hown⟩ := own_cell (hf.trans (cellsAt_step d ins q r W B)) (List.perm_append_singleton _ _) rfl
    (fun y hy => by obtain ⟨j, _, hj⟩ := cellsAtStack_under _ _ _ _ _ _ _ _ y hy; exact ⟨j, hj⟩)
  refine ⟨hex, fun x hx hpx => ?_⟩
  rw [hown x hx hpx, hR]
  have h0 : hts (ins.take 0) = 0 := rfl
  refine ⟨rfl, rfl, rfl, ?_, fun i hi => ?_, ?_, fun i hi => ?_, ?_, fun hq0 => ?_⟩
  · -- the step cell reaches the right edge
    simp only [cellAt]; omega
  · rw [hI i hi]; exact ⟨rfl, rfl⟩
  · rw [hI 0 hlen, h0]; rfl
  · rw [hI (i + 1) hi, hI i (by omega)]
  · rw [hI (ins.length - 1) (by omega), show ins.length - 1 + 1 = ins.length by omega, List.take_length]
  · have := a4 hq0
    simp only [cellAt]; omega

/-- C02.3 (titles): the header cell of the titled sub recipe at `q` exists, is one row high, spans the full width
    of the region of `q` in its first row, and the body's region is the rest of the region, directly below -/
theorem header_geometry (t : Tree) (h : wf t = true) (q : List Nat) (b : Tree) (ns : List SVS)
    (hq : t.at? q = some (.sub b ns true)) (h1 : ns.length = 1) :
    (∃ x ∈ (layout t).cells, x.path = q) ∧
    ∀ x ∈ (layout t).cells, x.path = q →
      x.kind = .header ∧
      x.row = (region (layout t) q).top ∧ x.rows = 1 ∧
      x.col = (region (layout t) q).left ∧ x.col + x.cols = (region (layout t) q).right ∧
      region (layout t) (q ++ [0]) =
        ⟨(region (layout t) q).top + 1, (region (layout t) q).left,
         (region (layout t) q).bottom, (region (layout t) q).right⟩ := by
  simp only [region_eq]
  obtain ⟨r, W, B, hf, hwn, a1, -, -, -, hR⟩ := node_box t (wf_RG h) q _ hq
  rw [wf_sub] at hwn
  rw [Tree.wd_single b true h1] at a1
  rw [Tree.ht_titled b h1] at hR
  have e := cellsAt_child_titled b h1 q r W B
  obtain ⟨hex, hown⟩ := own_cell (hf.trans (cellsAt_titled b h1 q r W B)) (.refl _) rfl
    (fun y hy => ⟨0, cellsAt_under _ _ _ _ _ y hy⟩)
  refine ⟨hex, fun x hx hpx => ?_⟩
  rw [hown x hx hpx, hR, reg_child hf e hwn a1]
  refine ⟨rfl, rfl, rfl, rfl, by simp [cellAt], ?_⟩
  simp only [Box.mk.injEq, true_and, and_true]; omega

/-- an untitled single-output sub recipe has no cell of its own; its region is its body's region -/
theorem untitled_geometry (t : Tree) (h : wf t = true) (q : List Nat) (b : Tree) (ns : List SVS)
    (hq : t.at? q = some (.sub b ns false)) (h1 : ns.length = 1) :
    region (layout t) (q ++ [0]) = region (layout t) q ∧ ∀ x ∈ (layout t).cells, x.path ≠ q := by
  simp only [region_eq]
  obtain ⟨r, W, B, hf, hwn, a1, -, -, -, hR⟩ := node_box t (wf_RG h) q _ hq
  rw [wf_sub] at hwn
  rw [Tree.wd_single b false h1] at a1
  rw [Tree.ht_untitled b h1] at hR
  have e := cellsAt_child_untitled b h1 q r W B
  refine ⟨by rw [reg_child hf e hwn a1, hR], fun x hx hpx => ?_⟩
  -- every cell below `q` is a cell of the body
  have : x ∈ cellsAt (.sub b ns false) q r W B := hf ▸ List.mem_filter.2 ⟨hx, under_iff.2 (hpx ▸ List.prefix_refl _)⟩
  simp only [cellsAt, h1, if_true, Bool.false_eq_true, if_false] at this
  exact prefix_snoc_ne (cellsAt_under _ _ _ _ _ x this) hpx

/-- C02.3 (outputs): the outputs cell of the sub recipe at `q` exists, spans all rows of the region of `q` at its
    right edge, and the body's region is the rest of the region, to its left; at the root it is one column wide -/
theorem outputs_geometry (t : Tree) (h : wf t = true) (q : List Nat) (b : Tree) (ns : List SVS) (sh : Bool)
    (hq : t.at? q = some (.sub b ns sh)) (h1 : ns.length ≠ 1) :
    (∃ x ∈ (layout t).cells, x.path = q) ∧
    ∀ x ∈ (layout t).cells, x.path = q →
      x.kind = .outputs ∧
      x.row = (region (layout t) q).top ∧ x.row + x.rows = (region (layout t) q).bottom ∧
      x.col + x.cols = (region (layout t) q).right ∧
      region (layout t) (q ++ [0]) =
        ⟨(region (layout t) q).top, (region (layout t) q).left, (region (layout t) q).bottom, x.col⟩ ∧
      (q = [] → x.cols = 1) := by
  simp only [region_eq]
  obtain ⟨r, W, B, hf, hwn, a1, a4, -, -, hR⟩ := node_box t (wf_RG h) q _ hq
  rw [wf_sub] at hwn
  rw [Tree.wd_multi b sh h1] at a1 a4
  rw [Tree.ht_multi b sh h1] at hR
  have e := cellsAt_child_multi b sh h1 q r W B
  obtain ⟨hex, hown⟩ := own_cell (hf.trans (cellsAt_multi b sh h1 q r W B)) (List.perm_append_singleton _ _) rfl
    (fun y hy => ⟨0, cellsAt_under _ _ _ _ _ y hy⟩)
  refine ⟨hex, fun x hx hpx => ?_⟩
  rw [hown x hx hpx, hR, reg_child hf e hwn (Nat.le_refl _)]
  refine ⟨rfl, rfl, rfl, ?_, rfl, fun hq0 => ?_⟩
  · -- the outputs cell reaches the right edge
    simp only [cellAt]; omega
  · have := a4 hq0
    simp only [cellAt]; omega

inductive Side | left | right | top | bottom
deriving DecidableEq, Repr

def border (x : PCell) : Side → Border
  | .left => x.bl | .right => x.br | .top => x.bt | .bottom => x.bb
/-- the grid line on which one side of a cell lies -/
def cellEdge (x : PCell) : Side → Nat
  | .left => x.col | .right => x.col + x.cols | .top => x.row | .bottom => x.row + x.rows
def Box.edge (b : Box) : Side → Nat
  | .left => b.left | .right => b.right | .top => b.top | .bottom => b.bottom

/-- the nodes that get an outline: the root (unless it has an outputs column), every single-output
    sub recipe, and the body of every sub recipe with an outputs column -/
def outlined (t : Tree) (q : List Nat) : Prop :=
  (q = [] ∧ ∀ b ns sh, t = .sub b ns sh → ns.length = 1) ∨
  (∃ b ns sh, t.at? q = some (.sub b ns sh) ∧ ns.length = 1) ∨
  (∃ q' b ns sh, q = q' ++ [0] ∧ t.at? q' = some (.sub b ns sh) ∧ ns.length ≠ 1)

/-- side `s` of cell `x` lies on side `s` of the region of an outlined node whose subtree contains `x` -/
def onOutline (t : Tree) (x : PCell) (s : Side) : Prop :=
  ∃ q, outlined t q ∧ under q x = true ∧ cellEdge x s = (region (layout t) q).edge s

/-- the border a side has when it is not on an outline: nothing around the outputs column except on its left -/
def plainBorder (x : PCell) (s : Side) : Border :=
  if x.kind = .outputs ∧ s ≠ .left then .none else .normal

private def toRG : Side → RG.Side
  | .left => .left | .right => .right | .top => .top | .bottom => .bottom

private theorem outlined_iff (t : Tree) (q : List Nat) : outlined t q ↔ outl true t q := by
  simp [outlined, outl]

private theorem onOutline_iff (t : Tree) (x : PCell) (s : Side) :
    onOutline t x s ↔ Al (layout t).cells (outl true t) x (toRG s) := by
  constructor
  · rintro ⟨q, h1, h2, h3⟩
    exact ⟨q, (outlined_iff t q).1 h1, under_iff.1 h2, by cases s <;> exact h3⟩
  · rintro ⟨q, h1, h2, h3⟩
    exact ⟨q, (outlined_iff t q).2 h1, under_iff.2 h2, by cases s <;> exact h3⟩

/-- C02.5: a side of a cell has the sub-recipe border exactly when it lies on the same side of the region of an
    outlined node containing the cell; every other side is plain (no border around the outputs column except on
    its left, a normal border elsewhere) -/
theorem layout_borders (t : Tree) (h : wf t = true) : ∀ x ∈ (layout t).cells, ∀ s,
    (onOutline t x s → border x s = .subRecipe) ∧ (¬ onOutline t x s → border x s = plainBorder x s) := by
  have H := layout_bok t (wf_RG h)
  intro x hx s
  have e1 : border x s = x.border (toRG s) := by cases s <;> rfl
  have e2 : plainBorder x s = initBorder x.kind (toRG s) := by
    cases s <;> simp [plainBorder, initBorder, toRG]
  rw [onOutline_iff, e1, e2]
  exact ⟨H.sub x hx _, H.ini x hx _⟩

/-- Python's invariant: only the root can be a sub recipe with several outputs -/
def multiOnlyAtRoot (t : Tree) : Prop :=
  ∀ q b ns sh, t.at? q = some (.sub b ns sh) → ns.length ≠ 1 → q = []

/-- C02.5 by cases, for trees satisfying Python's invariant: no border exactly on the top, right and bottom of the
    outputs cell; otherwise the sub-recipe border exactly on the outlines; otherwise the normal border -/
theorem layout_borders_cases (t : Tree) (h : wf t = true) (hm : multiOnlyAtRoot t) :
    ∀ x ∈ (layout t).cells, ∀ s,
      (border x s = .none ↔ (x.kind = .outputs ∧ s ≠ .left)) ∧
      (border x s = .subRecipe ↔ (¬ (x.kind = .outputs ∧ s ≠ .left) ∧ onOutline t x s)) ∧
      (border x s = .normal ↔ (¬ (x.kind = .outputs ∧ s ≠ .left) ∧ ¬ onOutline t x s)) := by
  intro x hx s
  obtain ⟨h1, h2⟩ := layout_borders t h x hx s
  have hout : x.kind = .outputs → ¬ onOutline t x s := by
    intro hk
    obtain ⟨b, ns, sh, hq, hn⟩ := outputs_cell_at t x hx hk
    have hp : x.path = [] := hm _ _ _ _ hq hn
    rw [hp, at?_nil] at hq
    simp only [Option.some.injEq] at hq
    rintro ⟨q, ho, hu, _⟩
    have hq0 : q = [] := by
      have := under_iff.1 hu
      rw [hp] at this
      exact List.prefix_nil.1 this
    subst hq0
    rcases ho with ⟨_, ho⟩ | ⟨b', ns', sh', ho, hn'⟩ | ⟨q', _, _, _, ho, _⟩
    · exact hn (ho b ns sh hq)
    · rw [at?_nil, hq] at ho; cases ho; exact hn hn'
    · simp at ho
  by_cases hc : x.kind = .outputs ∧ s ≠ .left
  · have hb := h2 (hout hc.1)
    simp only [plainBorder, hc] at hb
    simp [hb, hc]
  · by_cases ha : onOutline t x s
    · simp [h1 ha, hc, ha]
    · have hb := h2 ha
      simp only [plainBorder, hc, if_false] at hb
      simp [hb, hc, ha]

/-- non-vacuity: a step with two inputs, the second a titled sub recipe -/
def exTree : Tree := .step [] [.ingredient [] none, .sub (.ingredient [] none) [[]] true]
example : wf exTree = true := by decide
example : Tiles (layout exTree) := layout_tiles exTree (by decide)
example : (layout exTree).h = 3 ∧ (layout exTree).w = 2 := by decide
example : ((layout exTree).cells.map fun c => (c.path, c.kind, c.row, c.col, c.rows, c.cols)) =
    [([0], .ingredient, 0, 0, 1, 1), ([1], .header, 1, 0, 1, 1), ([1, 0], .ingredient, 2, 0, 1, 1),
     ([], .step, 0, 1, 3, 1)] := by decide
example : drawn [] exTree = [([0], .ingredient), ([1], .header), ([1, 0], .ingredient), ([], .step)] := by decide
example : region (layout exTree) [] = ⟨0, 0, 3, 2⟩ ∧ region (layout exTree) [0] = ⟨0, 0, 1, 1⟩ ∧
    region (layout exTree) [1] = ⟨1, 0, 3, 1⟩ ∧ region (layout exTree) [1, 0] = ⟨2, 0, 3, 1⟩ := by decide
example := region_tiles exTree (by decide) [1] _ rfl
example := step_geometry exTree (by decide) [] _ _ rfl
example := header_geometry exTree (by decide) [1] _ _ rfl rfl
example := layout_borders exTree (by decide)
example : ((layout exTree).cells.map fun c => (c.path, c.bl, c.br, c.bt, c.bb)) =
    [([0], .subRecipe, .normal, .subRecipe, .normal), ([1], .subRecipe, .subRecipe, .subRecipe, .normal),
     ([1, 0], .subRecipe, .subRecipe, .normal, .subRecipe), ([], .normal, .subRecipe, .subRecipe, .subRecipe)] := by
  decide

/-- non-vacuity with an outputs column: a root with two outputs around the same step -/
def exTree2 : Tree := .sub (.step [] [.ingredient [] none, .sub (.ingredient [] none) [[]] true]) [[], []] false
example : wf exTree2 = true := by decide
example := outputs_geometry exTree2 (by decide) [] _ _ _ rfl (by decide)
example : ((layout exTree2).cells.map fun c => (c.path, c.kind, c.bl, c.br, c.bt, c.bb)) =
    [([0, 0], .ingredient, .subRecipe, .normal, .subRecipe, .normal),
     ([0, 1], .header, .subRecipe, .subRecipe, .subRecipe, .normal),
     ([0, 1, 0], .ingredient, .subRecipe, .subRecipe, .normal, .subRecipe),
     ([0], .step, .normal, .subRecipe, .subRecipe, .subRecipe),
     ([], .outputs, .normal, .none, .none, .none)] := by decide

end RG.C02
