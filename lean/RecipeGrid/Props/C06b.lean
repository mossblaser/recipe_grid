import RecipeGrid.Props.C06
import RecipeGrid.Lemmas.Nested
import RecipeGrid.Lemmas.StrLit
/-! C06, continued: **nested expressions, statements and whole blocks are recovered verbatim**.

    `Props/C06.lean` ends with the flat recipes (`reference, action, …`).  This file specifies the
    full expression grammar

      expr          <- step / reference / "(" sp? ltr_shorthand sp? ")"
      step          <- action hsp? "(" sp? expr (sp? "," sp? expr)* (sp? ",")? sp? ")"
      ltr_shorthand <- expr (hsp? "," hsp? action)*
      stmt          <- (output_list hsp? r":?=" hsp?)? ltr_shorthand eol

    as an abstract syntax (`XExpr`, `XStmt`), a *spelling* (`Spelling`: the white space at every
    place of the tree where the grammar allows some, trailing commas, ends of lines - chosen
    independently at every node, which is addressed by its `Path`), a printer (`printX`, `printStmt`,
    `printBlock`) and the expected AST with the offsets the parser records (`astOf`, `astOfStmt`,
    `astOfBlock`); none of these mentions the parser.

    The shorthand `expr, action, …` is not an expression of the grammar by itself (`f(a, b)` has two
    arguments); it occurs in parentheses (`XExpr.paren e actions`) and in statements (`XStmt.actions`).

    Neither of the two round trips implies the other.  A `FlatStmt` chooses the white space of every comma by itself
    (`CommaLit`), an `XStmt` takes it from the `Spelling` by the position in the tree; a `FlatStmt` has no steps.  So
    the statement level is gone through once more here, over the same lemmas about the rules (`stmt_reads`,
    `targetP_reads`, `noTargetAt_of_outputs`); where a statement begins with a reference, the flat and the nested one
    share `noTargetAt_of_ref`. -/
namespace RG.C06
open RG.Parser

mutual
/-- an expression: leaves are references as in `Props/C06Spec.lean` (optional amount, name) -/
inductive XExpr where
  /-- `2 eggs`, `flour` -/
  | leaf (r : RefLit)
  /-- `action(arg, …)`; at least one argument -/
  | step (name : StringLit) (args : XArgs)
  /-- `( expr, action, … )`: a parenthesised left-to-right shorthand (possibly without actions) -/
  | paren (e : XExpr) (actions : List StringLit)
inductive XArgs where
  | one (e : XExpr)
  | cons (e : XExpr) (rest : XArgs)
end

mutual
/-- the nesting depth (the fuel `expr` needs) -/
def XExpr.depth : XExpr → Nat
  | .leaf _ => 1
  | .step _ args => args.depth + 1
  | .paren e _ => e.depth + 1
def XArgs.depth : XArgs → Nat
  | .one e => e.depth
  | .cons e rest => max e.depth rest.depth
end

def XArgs.first : XArgs → XExpr
  | .one e => e
  | .cons e _ => e

/-- the address of a node: the child indices from the node up to the root (arguments of a step are
    numbered from 0, the expression inside parentheses and the expression of a statement are child 0;
    statement `k` of a block has the address `[k]`) -/
abbrev Path := List Nat

/-- a spelling chooses, independently at every node of the tree, everything the grammar leaves open -/
structure Spelling where
  /-- step: blanks between the action and its `(` -/
  nameGap : Path → Str
  /-- step, parentheses: white space after `(` -/
  afterOpen : Path → Str
  /-- step: white space before the comma in front of argument `k` (`k ≥ 1`) -/
  beforeComma : Path → Nat → Str
  /-- step: white space after that comma -/
  afterComma : Path → Nat → Str
  /-- step: a trailing comma (with the white space before it), or none -/
  trailing : Path → Option Str
  /-- step, parentheses: white space before `)` -/
  beforeClose : Path → Str
  /-- shorthand (in parentheses or in a statement): blanks before the comma of action `k` -/
  actGap1 : Path → Nat → Str
  /-- shorthand: blanks after that comma -/
  actGap2 : Path → Nat → Str
  /-- statement: blanks before / after the comma in front of output `k` (`k ≥ 1`) -/
  outGap1 : Path → Nat → Str
  outGap2 : Path → Nat → Str
  /-- statement: blanks before / after the assignment sign -/
  assignGap1 : Path → Str
  assignGap2 : Path → Str
  /-- statement: its end of line -/
  eol : Path → EolLit
  /-- block: white space at the very beginning -/
  lead : Str

/-- the permitted spellings: blanks `[ \t]*` where the grammar says `hsp?`, any white space `\s*`
    where it says `sp?`, well-formed ends of lines -/
structure Spelling.WF (sp : Spelling) : Prop where
  nameGap : ∀ p, IsBlanks (sp.nameGap p)
  afterOpen : ∀ p, IsSpaces (sp.afterOpen p)
  beforeComma : ∀ p k, IsSpaces (sp.beforeComma p k)
  afterComma : ∀ p k, IsSpaces (sp.afterComma p k)
  trailing : ∀ p ws, sp.trailing p = some ws → IsSpaces ws
  beforeClose : ∀ p, IsSpaces (sp.beforeClose p)
  actGap1 : ∀ p k, IsBlanks (sp.actGap1 p k)
  actGap2 : ∀ p k, IsBlanks (sp.actGap2 p k)
  outGap1 : ∀ p k, IsBlanks (sp.outGap1 p k)
  outGap2 : ∀ p k, IsBlanks (sp.outGap2 p k)
  assignGap1 : ∀ p, IsBlanks (sp.assignGap1 p)
  assignGap2 : ∀ p, IsBlanks (sp.assignGap2 p)
  eol : ∀ p, (sp.eol p).WF
  lead : IsSpaces sp.lead

def actLits (sp : Spelling) (p : Path) : Nat → List StringLit → List CommaLit
  | _, [] => []
  | k, a :: as => ⟨sp.actGap1 p k, sp.actGap2 p k, a⟩ :: actLits sp p (k + 1) as

mutual
def printX (sp : Spelling) : Path → XExpr → Str
  | _, .leaf r => r.print
  | p, .step name args =>
    name.print ++ (sp.nameGap p ++ '(' :: (sp.afterOpen p ++
      (printArgs sp p 0 args ++ printClose (sp.trailing p) (sp.beforeClose p))))
  | p, .paren e actions =>
    '(' :: (sp.afterOpen p ++ ((printX sp (0 :: p) e ++ printCommas (actLits sp p 0 actions))
      ++ (sp.beforeClose p ++ [')'])))
def printArgs (sp : Spelling) : Path → Nat → XArgs → Str
  | p, k, .one e => printX sp (k :: p) e
  | p, k, .cons e rest =>
    printX sp (k :: p) e ++ (sp.beforeComma p (k + 1) ++ ',' :: (sp.afterComma p (k + 1) ++
      printArgs sp p (k + 1) rest))
end

mutual
/-- the AST of `x` written (with spelling `sp`, at node `p`) at offset `off` -/
def astOf (sp : Spelling) : Path → Nat → XExpr → AExpr
  | _, off, .leaf r => r.value off
  | p, off, .step name args =>
    .step (name.value off)
      (astArgs sp p 0 (off + name.print.length + (sp.nameGap p).length + 1 + (sp.afterOpen p).length) args)
  | p, off, .paren e actions =>
    (commaValues (off + 1 + (sp.afterOpen p).length + (printX sp (0 :: p) e).length) (actLits sp p 0 actions)).foldl
      (fun e action => .step action [e]) (astOf sp (0 :: p) (off + 1 + (sp.afterOpen p).length) e)
def astArgs (sp : Spelling) : Path → Nat → Nat → XArgs → List AExpr
  | p, k, off, .one e => [astOf sp (k :: p) off e]
  | p, k, off, .cons e rest =>
    astOf sp (k :: p) off e ::
      astArgs sp p (k + 1)
        (off + (printX sp (k :: p) e).length + (sp.beforeComma p (k + 1)).length + 1 + (sp.afterComma p (k + 1)).length)
        rest
end

/-- the ordered choice `step / reference`: `step` is tried first, reads a `string` and wants a `(`.
    For a reference without amount that string is the name, so the text after the reference must
    not be `blanks (`.  A reference *with* an amount is tokenised in an unrelated way by `string`
    (`2 eggs` is one naked string; `1/2 cup sugar` gives the string `1`); the condition is that the
    string read at its start - whatever it is - is not followed by `blanks (`. -/
def RefLit.NotStep (rest : Str) (r : RefLit) : Prop :=
  match r.amount with
  | none => NoParen rest
  | some _ => ∃ (s : StringLit) (srest : Str), s.Ok false srest ∧ s.print ++ srest = r.print ++ rest ∧ NoParen srest

mutual
/-- admissible expressions in front of `rest`: every reference and every action is admissible
    where it stands (the side conditions of `Props/C06Spec.lean`, with the text that follows it in the
    printed expression), and no reference can be mistaken for the beginning of a step -/
def XOk (sp : Spelling) : Path → Str → XExpr → Prop
  | _, rest, .leaf r => r.Ok rest ∧ r.NotStep rest
  | p, rest, .step name args =>
    name.Ok false (sp.nameGap p ++ '(' :: (sp.afterOpen p ++
      (printArgs sp p 0 args ++ (printClose (sp.trailing p) (sp.beforeClose p) ++ rest))))
    ∧ ArgsOk sp p 0 (printClose (sp.trailing p) (sp.beforeClose p) ++ rest) args
  | p, rest, .paren e actions =>
    XOk sp (0 :: p) (printCommas (actLits sp p 0 actions) ++ (sp.beforeClose p ++ ')' :: rest)) e
    ∧ CommasOk (sp.beforeClose p ++ ')' :: rest) (actLits sp p 0 actions)
def ArgsOk (sp : Spelling) : Path → Nat → Str → XArgs → Prop
  | p, k, rest, .one e => XOk sp (k :: p) rest e
  | p, k, rest, .cons e as =>
    XOk sp (k :: p) (sp.beforeComma p (k + 1) ++ ',' :: (sp.afterComma p (k + 1) ++
      (printArgs sp p (k + 1) as ++ rest))) e
    ∧ ArgsOk sp p (k + 1) rest as
end

/-- the arguments after the first one, in the vocabulary of `exprAt_step` -/
def tailItems (sp : Spelling) (p : Path) : Nat → XArgs → List ArgItem
  | _, .one _ => []
  | k, .cons _ as =>
    ⟨sp.beforeComma p (k + 1), sp.afterComma p (k + 1), printX sp ((k + 1) :: p) as.first,
      fun i => astOf sp ((k + 1) :: p) i as.first⟩ :: tailItems sp p (k + 1) as

theorem printArgs_eq (sp : Spelling) (p : Path) : ∀ (k : Nat) (as : XArgs),
    printArgs sp p k as = printX sp (k :: p) as.first ++ printArgItems (tailItems sp p k as)
  | k, .one e => by simp [printArgs, XArgs.first, tailItems, printArgItems]
  | k, .cons e as => by
    simp only [printArgs, XArgs.first, tailItems, printArgItems, ArgItem.print, printArgs_eq sp p (k + 1) as,
      List.append_assoc, List.cons_append]

theorem astArgs_eq (sp : Spelling) (p : Path) : ∀ (k off : Nat) (as : XArgs),
    astArgs sp p k off as = astOf sp (k :: p) off as.first
      :: argItemVals (off + (printX sp (k :: p) as.first).length) (tailItems sp p k as)
  | k, off, .one e => by simp [astArgs, XArgs.first, tailItems, argItemVals]
  | k, off, .cons e as => by
    simp only [astArgs, XArgs.first, tailItems, argItemVals, astArgs_eq sp p (k + 1) _ as, ArgItem.print,
      List.length_append, List.length_cons]
    congr 3
    omega

theorem isBlanks_iff (s : Str) : IsBlanks s ↔ ∀ c ∈ s, isHsp c = true := Iff.rfl
theorem isSpaces_iff (s : Str) : IsSpaces s ↔ ∀ c ∈ s, isReSpace c = true := Iff.rfl

/-- `NotStep` in one shape: an admissible string at the start of the reference (its name, for a reference without
    amount) is not followed by `blanks (` -/
theorem RefLit.NotStep.string {r : RefLit} {rest : Str} (hns : r.NotStep rest)
    (hname : r.amount = none → r.name.Ok false rest) :
    ∃ (s : StringLit) (srest : Str), s.Ok false srest ∧ s.print ++ srest = r.print ++ rest ∧ NoParen srest := by
  cases ha : r.amount with
  | none => exact ⟨r.name, rest, hname ha, by rw [RefLit.print_plain ha], by simpa [RefLit.NotStep, ha] using hns⟩
  | some abl => simpa [RefLit.NotStep, ha] using hns

theorem exprAt_leaf (r : RefLit) (rest : Str) (hok : r.Ok rest) (hns : r.NotStep rest) :
    ExprAt 1 r.print rest (fun i => r.value i) := by
  obtain ⟨s, srest, hs, e, hnp⟩ := hns.string hok.name_of_plain
  exact exprAt_reference_of_string (referenceAt_of_ok r rest hok) (stringAt_of_ok false s srest hs) e hnp

mutual
theorem exprAt_printX (sp : Spelling) (hsp : sp.WF) : ∀ (x : XExpr) (p : Path) (rest : Str),
    XOk sp p rest x → ExprAt x.depth (printX sp p x) rest (fun i => astOf sp p i x)
  | .leaf r, p, rest, h => by
    simp only [XOk] at h
    simpa [XExpr.depth, printX, astOf] using exprAt_leaf r rest h.1 h.2
  | .step name args, p, rest, h => by
    simp only [XOk] at h
    obtain ⟨hname, hargs⟩ := h
    obtain ⟨h1, hitems⟩ := argsAt sp hsp args p 0 _ hargs
    rw [printArgs_eq, List.append_assoc] at hname
    have := exprAt_step (stringAt_of_ok false name _ hname) (hsp.nameGap p) (hsp.afterOpen p) h1 hitems
      (hsp.trailing p) (hsp.beforeClose p)
    simpa [XExpr.depth, printX, astOf, printArgs_eq, astArgs_eq, List.append_assoc] using this
  | .paren e actions, p, rest, h => by
    simp only [XOk] at h
    obtain ⟨he, hacts⟩ := h
    have h1 := exprAt_printX sp hsp e (0 :: p) _ he
    have hl := ltrAt_of h1 (commas_reads (noComma_of_spaces_rparen (hsp.beforeClose p)) _ hacts)
    have := exprAt_paren hl (hsp.afterOpen p) (hsp.beforeClose p)
    simpa [XExpr.depth, printX, astOf, List.append_assoc, Nat.add_assoc] using this
theorem argsAt (sp : Spelling) (hsp : sp.WF) : ∀ (as : XArgs) (p : Path) (k : Nat) (rest : Str),
    ArgsOk sp p k rest as →
      ExprAt as.depth (printX sp (k :: p) as.first) (printArgItems (tailItems sp p k as) ++ rest)
        (fun i => astOf sp (k :: p) i as.first)
      ∧ ArgItemsOk as.depth rest (tailItems sp p k as)
  | .one e, p, k, rest, h => by
    simp only [ArgsOk] at h
    have := exprAt_printX sp hsp e (k :: p) rest h
    exact ⟨by simpa [XArgs.depth, XArgs.first, tailItems, printArgItems] using this, trivial⟩
  | .cons e as, p, k, rest, h => by
    simp only [ArgsOk] at h
    obtain ⟨he, has⟩ := h
    have h1 := exprAt_printX sp hsp e (k :: p) _ he
    obtain ⟨h2, h3⟩ := argsAt sp hsp as p (k + 1) rest has
    refine ⟨?_, hsp.beforeComma p (k + 1), hsp.afterComma p (k + 1), ?_, ?_⟩
    · have := h1.mono (Nat.le_max_left e.depth as.depth)
      simpa [XArgs.depth, XArgs.first, tailItems, printArgItems, ArgItem.print, printArgs_eq, List.append_assoc]
        using this
    · exact h2.mono (Nat.le_max_right e.depth as.depth)
    · exact ArgItemsOk.mono (Nat.le_max_right e.depth as.depth) h3
end

/-- **nested expressions are recovered verbatim**: for every abstract expression, every permitted
    spelling, wherever the printed text stands and whatever admissible text follows it, the rule
    `expr` - with any fuel from the nesting depth on - consumes exactly the printed text and returns
    the expected AST -/
theorem expr_roundtrip (sp : Spelling) (hsp : sp.WF) (x : XExpr) (pre rest : Str) (z : Bool) (fuel : Nat)
    (hfuel : x.depth ≤ fuel) (hok : XOk sp [] rest x) :
    expr fuel (pre ++ printX sp [] x ++ rest).toArray ⟨pre.length, z⟩
      = some (astOf sp [] pre.length x, ⟨(pre ++ printX sp [] x).length, z⟩) :=
  ((exprAt_printX sp hsp x [] rest hok).reads hfuel).after_prefix pre z

theorem expr_roundtrip_start (sp : Spelling) (hsp : sp.WF) (x : XExpr) (rest : Str) (fuel : Nat)
    (hfuel : x.depth ≤ fuel) (hok : XOk sp [] rest x) :
    expr fuel (printX sp [] x ++ rest).toArray ⟨0, false⟩
      = some (astOf sp [] 0 x, ⟨(printX sp [] x).length, false⟩) :=
  expr_roundtrip sp hsp x [] rest false fuel hfuel hok

/-! ## The fuel: the nesting depth is bounded by the length of the text -/

theorem printClose_length_pos (trail : Option Str) (ws : Str) : 0 < (printClose trail ws).length := by
  cases trail <;> simp [printClose] <;> omega

mutual
theorem depth_le_length (sp : Spelling) : ∀ (x : XExpr) (p : Path), x.depth ≤ (printX sp p x).length + 1
  | .leaf r, p => by simp [XExpr.depth]
  | .step name args, p => by
    have h1 := argsDepth_le_length sp args p 0
    have h2 := printClose_length_pos (sp.trailing p) (sp.beforeClose p)
    simp only [XExpr.depth, printX, List.length_append, List.length_cons]
    omega
  | .paren e actions, p => by
    have h1 := depth_le_length sp e (0 :: p)
    simp only [XExpr.depth, printX, List.length_append, List.length_cons, List.length_nil]
    omega
theorem argsDepth_le_length (sp : Spelling) : ∀ (as : XArgs) (p : Path) (k : Nat),
    as.depth ≤ (printArgs sp p k as).length + 1
  | .one e, p, k => by simpa [XArgs.depth, printArgs] using depth_le_length sp e (k :: p)
  | .cons e as, p, k => by
    have h1 := depth_le_length sp e (k :: p)
    have h2 := argsDepth_le_length sp as p (k + 1)
    simp only [XArgs.depth, printArgs, List.length_append, List.length_cons]
    omega
end

theorem printX_ne_nil (sp : Spelling) (p : Path) (rest : Str) : ∀ x : XExpr, XOk sp p rest x → printX sp p x ≠ []
  | .leaf r, h => by
    simp only [XOk] at h
    simpa [printX] using RefLit.print_ne_nil h.1
  | .step name args, _ => by simp [printX]
  | .paren e actions, _ => by simp [printX]

/-- the outputs of a statement and the kind of its assignment sign (`:=` for `named`) -/
structure XTarget where
  output : StringLit
  more : List StringLit
  named : Bool

/-- a statement: optional outputs, an expression, actions applied to it from left to right -/
structure XStmt where
  target : Option XTarget
  expr : XExpr
  actions : List StringLit

def outLits (sp : Spelling) (p : Path) : Nat → List StringLit → List CommaLit
  | _, [] => []
  | k, a :: as => ⟨sp.outGap1 p k, sp.outGap2 p k, a⟩ :: outLits sp p (k + 1) as

/-- the target as written: `output (, output)* blanks (:= | =) blanks` -/
def targetLit (sp : Spelling) (p : Path) (g : XTarget) : Target :=
  ⟨g.output, outLits sp p 1 g.more, sp.assignGap1 p, g.named, sp.assignGap2 p⟩

def printTarget (sp : Spelling) (p : Path) : Option XTarget → Str
  | none => []
  | some g => (targetLit sp p g).print

def printLtr (sp : Spelling) (p : Path) (s : XStmt) : Str :=
  printX sp (0 :: p) s.expr ++ printCommas (actLits sp p 0 s.actions)

def printStmt (sp : Spelling) (p : Path) (s : XStmt) : Str :=
  printTarget sp p s.target ++ (printLtr sp p s ++ (sp.eol p).print)

/-- the statement written at offset `off`: `e, a1, a2` is `a2(a1(e))` -/
def astOfStmt (sp : Spelling) (p : Path) (off : Nat) (s : XStmt) : AStmt :=
  let o := off + (printTarget sp p s.target).length
  { expr := (commaValues (o + (printX sp (0 :: p) s.expr).length) (actLits sp p 0 s.actions)).foldl
      (fun e action => .step action [e]) (astOf sp (0 :: p) o s.expr)
    outputs := s.target.map fun g =>
      g.output.value off :: commaValues (off + g.output.print.length) (outLits sp p 1 g.more)
    named := (s.target.map (·.named)).getD false }

/-- the line from the expression up to the newline character (or the end of the text) -/
def XStmt.line (sp : Spelling) (p : Path) (s : XStmt) : Str :=
  printX sp (0 :: p) s.expr ++ (printCommas (actLits sp p 0 s.actions) ++ (sp.eol p).blanks)

/-- a statement *without* outputs must not be mistaken for one with outputs.  The rule `stmt` first
    tries `output_list hsp? r":?="`, and an output list starts with a `string`.  When the statement
    starts with an action and its `(`, with a `(`, or with a reference without amount, this attempt
    fails by itself.  A reference with an amount at the start of the statement is tokenised in an
    unrelated way by `string`; then (as for the flat statements) the line must contain neither `=`
    nor a backslash. -/
def XStmt.NoTargetCond (sp : Spelling) (p : Path) (s : XStmt) : Prop :=
  match s.expr with
  | .leaf r => r.amount.isSome = true → ∀ c ∈ s.line sp p, c ≠ '=' ∧ c ≠ '\\'
  | _ => True

def XStmt.Ok (sp : Spelling) (p : Path) (rest : Str) (s : XStmt) : Prop :=
  XOk sp (0 :: p) (printCommas (actLits sp p 0 s.actions) ++ ((sp.eol p).print ++ rest)) s.expr
  ∧ CommasOk ((sp.eol p).print ++ rest) (actLits sp p 0 s.actions)
  ∧ (sp.eol p).Follow rest
  ∧ match s.target with
    | none => s.NoTargetCond sp p
    | some g =>
      g.output.Ok false (printCommas (outLits sp p 1 g.more) ++ (sp.assignGap1 p ++ (printAssign g.named ++
        (sp.assignGap2 p ++ (printLtr sp p s ++ ((sp.eol p).print ++ rest))))))
      ∧ CommasOk (sp.assignGap1 p ++ (printAssign g.named ++
        (sp.assignGap2 p ++ (printLtr sp p s ++ ((sp.eol p).print ++ rest))))) (outLits sp p 1 g.more)

theorem noTargetAt_of_xok (sp : Spelling) (hsp : sp.WF) (p : Path) (s : XStmt) (rest : Str) (h : s.Ok sp p rest)
    (ht : s.target = none) :
    NoTargetAt (printX sp (0 :: p) s.expr ++ (printCommas (actLits sp p 0 s.actions) ++ ((sp.eol p).print ++ rest))) := by
  obtain ⟨hx, hacts, hfollow, htarget⟩ := h
  rw [ht] at htarget
  cases hs : s.expr with
  | leaf r =>
    rw [hs] at hx
    simp only [XOk] at hx
    have hline : s.NoTargetCond sp p := htarget
    simp only [XStmt.NoTargetCond, XStmt.line, hs] at hline
    exact noTargetAt_of_ref hx.1 hacts (hsp.eol p) hfollow hline
  | step name args =>
    rw [hs] at hx
    simp only [XOk] at hx
    have hlp {r : Str} : NoAssign (sp.nameGap (0 :: p) ++ '(' :: r) := noAssign_of_blanks_lparen (hsp.nameGap (0 :: p))
    simp only [printX, List.append_assoc, List.cons_append]
    exact noTargetAt_of_outputs (xs := []) (stringAt_of_ok false name _ hx.1) (.nil (commaString_fails hlp.noComma)) hlp
  | paren e actions =>
    apply noTargetAt_of_head
    intro c hc
    simp only [printX, List.cons_append, List.head?_cons, Option.some.injEq] at hc
    subst hc
    exact noAtomStart_lparen

/-- every admissible statement is a statement; the fuel that `stmt` derives from the length of the
    remaining text covers the nesting depth -/
theorem stmt_of_xok (sp : Spelling) (hsp : sp.WF) (p : Path) (s : XStmt) (rest : Str) (h : s.Ok sp p rest) :
    Reads stmt (printStmt sp p s) rest fun i => astOfStmt sp p i s := by
  have hnot := noTargetAt_of_xok sp hsp p s rest h
  obtain ⟨hx, hacts, hfollow, htarget⟩ := h
  have hwf := hsp.eol p
  have hnoassign := noAssign_of_eol (sp.eol p) rest hwf hfollow
  have hltr := ltrAt_of (exprAt_printX sp hsp s.expr (0 :: p) _ hx) (commas_reads hnoassign.noComma _ hacts)
  have heol := eol_reads (sp.eol p) rest hwf hfollow
  have hd : s.expr.depth ≤ (printX sp (0 :: p) s.expr ++ printCommas (actLits sp p 0 s.actions)).length + 1 := by
    have := depth_le_length sp s.expr (0 :: p)
    simp only [List.length_append]
    omega
  cases ht : s.target with
  | none =>
    have := stmt_reads hltr heol hd (.optNone (by rw [List.append_assoc]; exact hnot ht))
    simpa [printStmt, printLtr, printTarget, astOfStmt, ht] using this
  | some g =>
    rw [ht] at htarget
    obtain ⟨hout, hmore⟩ := htarget
    have htgt := targetP_reads (stringAt_of_ok false g.output _ (by simpa [printLtr] using hout))
      (commas_reads (noComma_assign (hsp.assignGap1 p) g.named _) _ (by simpa [printLtr] using hmore))
      (hsp.assignGap1 p) (hsp.assignGap2 p) (.hsp_of_space hltr.head_not_space)
    have := stmt_reads hltr heol hd htgt.opt
    simpa [printStmt, printLtr, printTarget, targetLit, astOfStmt, ht, Target.print] using this

/-- **statements are recovered verbatim**: outputs, assignment sign, a nested expression with
    shorthand actions, end of line -/
theorem stmt_roundtrip (sp : Spelling) (hsp : sp.WF) (p : Path) (s : XStmt) (pre rest : Str) (z : Bool)
    (hok : s.Ok sp p rest) :
    stmt (pre ++ printStmt sp p s ++ rest).toArray ⟨pre.length, z⟩
      = some (astOfStmt sp p pre.length s, ⟨(pre ++ printStmt sp p s).length, z⟩) :=
  (stmt_of_xok sp hsp p s rest hok).after_prefix pre z

def printBlock (sp : Spelling) : Nat → List XStmt → Str
  | _, [] => []
  | k, s :: ss => printStmt sp [k] s ++ printBlock sp (k + 1) ss

def BlockOk (sp : Spelling) : Nat → List XStmt → Prop
  | _, [] => True
  | k, s :: ss => s.Ok sp [k] (printBlock sp (k + 1) ss) ∧ BlockOk sp (k + 1) ss

def astOfBlock (sp : Spelling) : Nat → Nat → List XStmt → List AStmt
  | _, _, [] => []
  | k, off, s :: ss => astOfStmt sp [k] off s :: astOfBlock sp (k + 1) (off + (printStmt sp [k] s).length) ss

theorem printStmt_ne_nil (sp : Spelling) (p : Path) (s : XStmt) (rest : Str) (h : s.Ok sp p rest) :
    printStmt sp p s ≠ [] := by
  have hne := printX_ne_nil sp (0 :: p) _ s.expr h.1
  intro e
  have := congrArg List.length e
  simp only [printStmt, printLtr, List.length_append, List.length_nil] at this
  have : 0 < (printX sp (0 :: p) s.expr).length := List.length_pos_iff.mpr hne
  omega

theorem block_reads (sp : Spelling) (hsp : sp.WF) : ∀ (ss : List XStmt) (k : Nat), BlockOk sp k ss →
    ReadsMany stmt [] (printBlock sp k ss) fun i => astOfBlock sp k i ss
  | [], _, _ => .nil stmt_fails_nil
  | s :: ss, k, h =>
    .cons_end (printStmt_ne_nil sp [k] s _ h.1) (stmt_of_xok sp hsp [k] s _ h.1) (block_reads sp hsp ss (k + 1) h.2)

/-- **`parse` recovers every block**: leading white space, then one or more admissible statements -
    with outputs, nested steps, parentheses and shorthand, in any permitted spelling - up to the end
    of the text; the result is the expected list of statements with their offsets -/
theorem recipe_roundtrip (sp : Spelling) (hsp : sp.WF) (s : XStmt) (ss : List XStmt)
    (hok : BlockOk sp 0 (s :: ss)) :
    parse (sp.lead ++ printBlock sp 0 (s :: ss)) = .ok (astOfBlock sp 0 sp.lead.length (s :: ss)) :=
  parse_ok hsp.lead (stmt_of_xok sp hsp [0] s _ hok.1) (block_reads sp hsp ss 1 hok.2)

/-! ## Erasing offsets: the AST modulo offsets depends on the abstract syntax only -/

def eraseSub : SubStr → SubStr
  | .sub _ s => .sub 0 s
  | .num _ n => .num 0 n

def eraseString (s : AString) : AString := s.map eraseSub

def eraseAmount : AAmount → AAmount
  | .qty _ v unit spacing prep => .qty 0 v (unit.map eraseString) spacing prep
  | .prop _ v percentage wording prep => .prop 0 v percentage wording prep

mutual
def eraseExpr : AExpr → AExpr
  | .step name inputs => .step (eraseString name) (eraseExprs inputs)
  | .ref name amount => .ref (eraseString name) (amount.map eraseAmount)
def eraseExprs : List AExpr → List AExpr
  | [] => []
  | e :: es => eraseExpr e :: eraseExprs es
end

def eraseStmt (s : AStmt) : AStmt :=
  { expr := eraseExpr s.expr, outputs := s.outputs.map fun os => os.map eraseString, named := s.named }

/-- every source offset of the result is replaced by 0 -/
def eraseOffsets : ParseResult → ParseResult
  | .ok stmts => .ok (stmts.map eraseStmt)
  | r => r

theorem eraseString_cons (x : SubStr) (s : AString) : eraseString (x :: s) = eraseSub x :: eraseString s := rfl

theorem eraseString_append (a b : AString) : eraseString (a ++ b) = eraseString a ++ eraseString b :=
  List.map_append

theorem erase_braced : ∀ (items : List BItem),
    (∀ (o : Nat) (s : Str) (off o' off' : Nat),
      eraseString (bracedRun o s off items) = eraseString (bracedRun o' s off' items))
    ∧ (∀ off off' : Nat, eraseString (bracedAfterNum off items) = eraseString (bracedAfterNum off' items))
  | [] => ⟨fun _ _ _ _ _ => by simp [bracedRun, eraseString, eraseSub], fun _ _ => by simp [bracedAfterNum]⟩
  | .chr c :: items => by
    have ih := erase_braced items
    exact ⟨fun o s off o' off' => by simp only [bracedRun]; exact ih.1 _ _ _ _ _,
      fun off off' => by simp only [bracedAfterNum]; exact ih.1 _ _ _ _ _⟩
  | .num l :: items => by
    have ih := erase_braced items
    exact ⟨fun o s off o' off' => by
        simp only [bracedRun, eraseString_cons, eraseSub]
        rw [ih.2 (off + l.print.length) (off' + l.print.length)],
      fun off off' => by
        simp only [bracedAfterNum, eraseString_cons, eraseSub]
        rw [ih.2 (off + l.print.length) (off' + l.print.length)]⟩

theorem erase_bracedValue (items : List BItem) (i j : Nat) :
    eraseString (bracedValue i items) = eraseString (bracedValue j items) := by
  cases items with
  | nil => simp [bracedValue, eraseString, eraseSub]
  | cons it items =>
    cases it with
    | chr c => simp only [bracedValue]; exact (erase_braced items).1 _ _ _ _ _
    | num l =>
      simp only [bracedValue, eraseString_cons, eraseSub]
      rw [(erase_braced items).2 (i + 1 + l.print.length) (j + 1 + l.print.length)]

theorem erase_atomValue (a : StrAtom) (i j : Nat) : eraseString (a.value i) = eraseString (a.value j) := by
  cases a with
  | naked txt => simp [StrAtom.value, eraseString, eraseSub]
  | squoted items => simp [StrAtom.value, eraseString, eraseSub]
  | dquoted items => simp [StrAtom.value, eraseString, eraseSub]
  | braced items => exact erase_bracedValue items i j

theorem erase_moreValue : ∀ (more : List (Str × StrAtom)) (i j : Nat),
    eraseString (moreValue i more) = eraseString (moreValue j more)
  | [], _, _ => rfl
  | (bl, a) :: more, i, j => by
    simp only [moreValue, eraseString_append]
    rw [erase_atomValue a (i + bl.length) (j + bl.length), erase_moreValue more _ (j + bl.length + a.print.length)]
    congr 2
    split <;> simp [eraseString, eraseSub]

theorem erase_stringValue (s : StringLit) (i j : Nat) : eraseString (s.value i) = eraseString (s.value j) := by
  simp only [StringLit.value, stringValue, eraseString_append]
  rw [erase_atomValue s.first i j, erase_moreValue s.more _ (j + s.first.print.length)]

theorem erase_amountValue (a : AmountLit) (i j : Nat) : eraseAmount (a.value i) = eraseAmount (a.value j) := by
  cases a with
  | remainder w p => rfl
  | ofNumber n p => rfl
  | percent n bl p => rfl
  | times n bl => rfl
  | explicit b1 n unit b3 p =>
    cases unit with
    | none => rfl
    | some bu =>
      obtain ⟨b2, u⟩ := bu
      simp only [AmountLit.value, eraseAmount, Option.map_some]
      rw [erase_stringValue u _ (j + 1 + b1.length + n.print.length + b2.length)]
  | implicit n unit =>
    cases unit with
    | none => rfl
    | some sup =>
      obtain ⟨sp, u, p⟩ := sup
      simp [AmountLit.value, eraseAmount, eraseString, eraseSub]

theorem erase_refValue (r : RefLit) (i j : Nat) : eraseExpr (r.value i) = eraseExpr (r.value j) := by
  obtain ⟨amt, name⟩ := r
  cases amt with
  | none =>
    simp only [RefLit.value, eraseExpr, Option.map_none]
    rw [erase_stringValue name i j]
  | some abl =>
    obtain ⟨a, bl⟩ := abl
    simp only [RefLit.value, eraseExpr, Option.map_some]
    rw [erase_stringValue name _ (j + a.print.length + bl.length), erase_amountValue a i j]

theorem erase_commaValues (lits : List CommaLit) : ∀ off : Nat,
    (commaValues off lits).map eraseString = lits.map fun c => eraseString (c.s.value 0) := by
  induction lits with
  | nil => intro off; rfl
  | cons c cs ih =>
    intro off
    simp only [commaValues, List.map_cons, ih]
    rw [erase_stringValue c.s _ 0]

theorem actLits_strings (sp : Spelling) (p : Path) : ∀ (as : List StringLit) (k : Nat),
    (actLits sp p k as).map (fun c => eraseString (c.s.value 0)) = as.map fun a => eraseString (a.value 0)
  | [], _ => rfl
  | a :: as, k => by simp only [actLits, List.map_cons, actLits_strings sp p as (k + 1)]

theorem outLits_strings (sp : Spelling) (p : Path) : ∀ (as : List StringLit) (k : Nat),
    (outLits sp p k as).map (fun c => eraseString (c.s.value 0)) = as.map fun a => eraseString (a.value 0)
  | [], _ => rfl
  | a :: as, k => by simp only [outLits, List.map_cons, outLits_strings sp p as (k + 1)]

theorem eraseExpr_foldl (actions : List AString) : ∀ e : AExpr,
    eraseExpr (actions.foldl (fun e action => .step action [e]) e)
      = (actions.map eraseString).foldl (fun e action => .step action [e]) (eraseExpr e) := by
  induction actions with
  | nil => intro e; rfl
  | cons a as ih => intro e; simp only [List.foldl_cons, List.map_cons, ih, eraseExpr, eraseExprs]

mutual
/-- the AST of an abstract expression without offsets: no spelling involved -/
def bareOf : XExpr → AExpr
  | .leaf r => eraseExpr (r.value 0)
  | .step name args => .step (eraseString (name.value 0)) (bareArgs args)
  | .paren e actions =>
    (actions.map fun a => eraseString (a.value 0)).foldl (fun e action => .step action [e]) (bareOf e)
def bareArgs : XArgs → List AExpr
  | .one e => [bareOf e]
  | .cons e rest => bareOf e :: bareArgs rest
end

mutual
/-- **modulo offsets the AST is a function of the abstract expression**: the spelling, the position
    in the tree and the offset do not matter -/
theorem eraseExpr_astOf (sp : Spelling) : ∀ (x : XExpr) (p : Path) (off : Nat),
    eraseExpr (astOf sp p off x) = bareOf x
  | .leaf r, p, off => by simp only [astOf, bareOf]; exact erase_refValue r off 0
  | .step name args, p, off => by
    simp only [astOf, bareOf, eraseExpr]
    rw [erase_stringValue name off 0, eraseExprs_astArgs sp args p 0 _]
  | .paren e actions, p, off => by
    simp only [astOf, bareOf]
    rw [eraseExpr_foldl, erase_commaValues, actLits_strings, eraseExpr_astOf sp e (0 :: p) _]
theorem eraseExprs_astArgs (sp : Spelling) : ∀ (as : XArgs) (p : Path) (k off : Nat),
    eraseExprs (astArgs sp p k off as) = bareArgs as
  | .one e, p, k, off => by simp only [astArgs, bareArgs, eraseExprs, eraseExpr_astOf sp e (k :: p) off]
  | .cons e as, p, k, off => by
    simp only [astArgs, bareArgs, eraseExprs, eraseExpr_astOf sp e (k :: p) off, eraseExprs_astArgs sp as p (k + 1) _]
end

def bareStmt (s : XStmt) : AStmt :=
  { expr := (s.actions.map fun a => eraseString (a.value 0)).foldl (fun e action => .step action [e]) (bareOf s.expr)
    outputs := s.target.map fun g => eraseString (g.output.value 0) :: g.more.map fun a => eraseString (a.value 0)
    named := (s.target.map (·.named)).getD false }

theorem eraseStmt_astOfStmt (sp : Spelling) (p : Path) (off : Nat) (s : XStmt) :
    eraseStmt (astOfStmt sp p off s) = bareStmt s := by
  simp only [eraseStmt, astOfStmt, bareStmt]
  rw [eraseExpr_foldl, erase_commaValues, actLits_strings, eraseExpr_astOf]
  congr 1
  cases s.target with
  | none => rfl
  | some g =>
    simp only [Option.map_some, List.map_cons]
    rw [erase_stringValue g.output off 0, erase_commaValues, outLits_strings]

theorem eraseStmt_astOfBlock (sp : Spelling) : ∀ (ss : List XStmt) (k off : Nat),
    (astOfBlock sp k off ss).map eraseStmt = ss.map bareStmt
  | [], _, _ => rfl
  | s :: ss, k, off => by
    simp only [astOfBlock, List.map_cons, eraseStmt_astOfStmt, eraseStmt_astOfBlock sp ss (k + 1)]

/-- **what `parse` returns for a block, modulo offsets, is the abstract block** - whatever the
    (admissible) spelling -/
theorem parse_erase_eq_bare (sp : Spelling) (hsp : sp.WF) (s : XStmt) (ss : List XStmt)
    (hok : BlockOk sp 0 (s :: ss)) :
    eraseOffsets (parse (sp.lead ++ printBlock sp 0 (s :: ss))) = .ok ((s :: ss).map bareStmt) := by
  rw [recipe_roundtrip sp hsp s ss hok]
  simp only [eraseOffsets, eraseStmt_astOfBlock]

/-- **two spellings of the same abstract block parse to the same AST modulo offsets** -/
theorem two_spellings_same_ast_mod_offsets (sp1 sp2 : Spelling) (h1 : sp1.WF) (h2 : sp2.WF)
    (s : XStmt) (ss : List XStmt) (hok1 : BlockOk sp1 0 (s :: ss)) (hok2 : BlockOk sp2 0 (s :: ss)) :
    eraseOffsets (parse (sp1.lead ++ printBlock sp1 0 (s :: ss)))
      = eraseOffsets (parse (sp2.lead ++ printBlock sp2 0 (s :: ss))) := by
  rw [parse_erase_eq_bare sp1 h1 s ss hok1, parse_erase_eq_bare sp2 h2 s ss hok2]

theorem two_spellings_same_expr_mod_offsets (sp1 sp2 : Spelling) (p1 p2 : Path) (off1 off2 : Nat) (x : XExpr) :
    eraseExpr (astOf sp1 p1 off1 x) = eraseExpr (astOf sp2 p2 off2 x) := by
  rw [eraseExpr_astOf, eraseExpr_astOf]

/-! ## The side conditions hold for plain names, in every spelling

    The conditions `XOk` / `XStmt.Ok` / `BlockOk` speak about the text that follows every reference
    and every action.  For recipes whose names are *plain* - one naked or quoted string each; a naked
    ingredient name moreover not starting like an amount - they hold for **every** permitted
    spelling, so the round trip theorems apply without further hypotheses.  (Every string at all can
    be written between quotes, see `squoted_roundtrip`.) -/

def IsNameAtom : StrAtom → Prop
  | .naked txt => IsNaked txt
  | .squoted items => ∀ it ∈ items, it.Ok '\''
  | .dquoted items => ∀ it ∈ items, it.Ok '"'
  | .braced _ => False

def IsWord (s : StringLit) : Prop := ∃ a, s = ⟨a, []⟩ ∧ IsNameAtom a

/-- a name that is not the beginning of a remainder word (`rest`, `remaining`, `left over`, …),
    whatever follows it -/
def NoRemainderStart (txt : Str) : Prop := ∀ rest, remainderWordAt (txt ++ rest) = false

/-- an ingredient name written as a reference without amount: a quoted string, or a naked string
    that does not start with a digit nor like a remainder word -/
def IsPlainRef (r : RefLit) : Prop :=
  ∃ a, r = ⟨none, ⟨a, []⟩⟩ ∧ IsNameAtom a
    ∧ ∀ txt, a = .naked txt → (∀ c, txt.head? = some c → isDigit c = false) ∧ NoRemainderStart txt

/-- sufficient: the first letter is none of `r`, `R`, `l`, `L` -/
theorem noRemainderStart_of_head {txt : Str} (hne : txt ≠ [])
    (h : ∀ c, txt.head? = some c → ciMatches c 'r' = false ∧ ciMatches c 'l' = false) : NoRemainderStart txt := by
  intro rest
  refine remainderWordAt_of_head fun c hc => ?_
  cases txt with
  | nil => exact absurd rfl hne
  | cons x xs => exact h c (by simpa using hc)

mutual
def XExpr.Plain : XExpr → Prop
  | .leaf r => IsPlainRef r
  | .step name args => IsWord name ∧ args.Plain
  | .paren e actions => e.Plain ∧ ∀ a ∈ actions, IsWord a
def XArgs.Plain : XArgs → Prop
  | .one e => e.Plain
  | .cons e rest => e.Plain ∧ rest.Plain
end

def XStmt.Plain (s : XStmt) : Prop :=
  s.expr.Plain ∧ (∀ a ∈ s.actions, IsWord a)
  ∧ ∀ g, s.target = some g → IsWord g.output ∧ ∀ a ∈ g.more, IsWord a

/-- what follows a word inside the tree: white space without newline, then the end of the text, a
    newline, or one of `,` `)` `=` `:` (a `Parser.AfterRun`) -/
def WordFollow (rest : Str) : Prop :=
  ∃ ws r, rest = ws ++ r ∧ (∀ c ∈ ws, isReSpace c = true ∧ isNewline c = false)
    ∧ ∀ c, r.head? = some c → c = ',' ∨ c = ')' ∨ c = '=' ∨ c = ':' ∨ isNewline c = true

def EndsWord (c : Char) : Prop := c = ',' ∨ c = ')' ∨ c = '=' ∨ c = ':' ∨ isNewline c = true

theorem endsString_of_endsWord {c : Char} (h : EndsWord c) : EndsString false c := by
  rcases h with rfl | rfl | rfl | rfl | h
  · exact Or.inl (by decide)
  · exact Or.inl (by decide)
  · exact Or.inl (by decide)
  · exact Or.inl (by decide)
  · exact Or.inr (Or.inl h)

theorem nakedFollow_of_wordFollow {rest : Str} (h : WordFollow rest) : NakedFollow false rest :=
  AfterRun.mono h (fun _ hc => hc) fun _ hc => endsString_of_endsWord hc

theorem isHsp_false_of_isNewline {c : Char} (h : isNewline c = true) : isHsp c = false :=
  isHsp_of_isNewline h

theorem noParen_of_wordFollow {rest : Str} (h : WordFollow rest) : NoParen rest := by
  refine AfterRun.blanks h (fun c hc _ => by rintro rfl; exact absurd hc.1 (by decide)) fun c hc => ?_
  rcases hc with rfl | rfl | rfl | rfl | h
  · exact ⟨by decide, by decide⟩
  · exact ⟨by decide, by decide⟩
  · exact ⟨by decide, by decide⟩
  · exact ⟨by decide, by decide⟩
  · exact ⟨isHsp_of_isNewline h, by rintro rfl; exact absurd h (by decide)⟩

/-- white space (newlines included), then the end of the text or a character that ends words: the word ends at the
    first newline of the white space, if there is one -/
theorem wordFollow_of_spaces {s : Str}
    (h : AfterRun (fun c => isReSpace c = true) EndsWord s) : WordFollow s :=
  h.resplit (fun x => !isNewline x) (fun _ hc hn => ⟨hc, by simpa using hn⟩)
    (fun _ _ hn => by right; right; right; right; simpa using hn) fun _ hc => hc

theorem wordFollow_spaces {ws : Str} (hws : IsSpaces ws) {c : Char} (rest : Str)
    (hc : EndsWord c) : WordFollow (ws ++ c :: rest) :=
  wordFollow_of_spaces ⟨ws, c :: rest, rfl, hws, forall_head_cons hc⟩

theorem isSpaces_of_isBlanks {s : Str} (h : IsBlanks s) : IsSpaces s := fun c hc => isReSpace_of_isHsp (h c hc)

theorem wordFollow_printClose (trail : Option Str) (ws : Str) (htrail : ∀ w, trail = some w → IsSpaces w)
    (hws : IsSpaces ws) (rest : Str) : WordFollow (printClose trail ws ++ rest) := by
  cases trail with
  | none =>
    have := wordFollow_spaces hws (c := ')') rest (Or.inr (Or.inl rfl))
    simpa [printClose, List.append_assoc] using this
  | some w =>
    have := wordFollow_spaces (htrail w rfl) (c := ',') (ws ++ ')' :: rest) (Or.inl rfl)
    simpa [printClose, List.append_assoc] using this

theorem closedFollow_of_nakedFollow {rest : Str} (h : NakedFollow false rest) : ClosedFollow false rest :=
  AfterRun.blanks h (fun _ hc _ => Or.inl hc.1) fun _ hc =>
    ⟨isHsp_of_not_inner (stopChar_of_endsString hc).1, Or.inr hc⟩

theorem word_ok {s : StringLit} (h : IsWord s) {rest : Str} (hf : NakedFollow false rest) : s.Ok false rest := by
  obtain ⟨a, rfl, ha⟩ := h
  cases a with
  | naked txt =>
    exact nakedLit_ok txt ha rest hf
  | squoted items =>
    exact ⟨ha, (lastFollow_closed rfl).mpr (closedFollow_of_nakedFollow hf)⟩
  | dquoted items =>
    exact ⟨ha, (lastFollow_closed rfl).mpr (closedFollow_of_nakedFollow hf)⟩
  | braced items => exact absurd ha (by simp [IsNameAtom])

theorem plainRef_xok {r : RefLit} (h : IsPlainRef r) {rest : Str} (hf : WordFollow rest) :
    r.Ok rest ∧ r.NotStep rest := by
  obtain ⟨a, rfl, ha, hnk⟩ := h
  have hname := word_ok ⟨a, rfl, ha⟩ (nakedFollow_of_wordFollow hf)
  refine ⟨?_, noParen_of_wordFollow hf⟩
  cases a with
  | naked txt =>
    obtain ⟨hdig, hrem⟩ := hnk txt rfl
    have hn : IsNaked txt := ha
    cases txt with
    | nil => exact absurd rfl hn.1
    | cons x xs =>
      refine plainRef_ok _ rest _ x (xs ++ rest) rfl (by rw [StringLit.print_one]; rfl) hname ?_ (hdig x rfl) ?_
      · rw [StringLit.print_one]
        exact hrem rest
      · rintro rfl
        exact absurd (by decide : IsSpecialChar '{') (hn.2.1 _ (by simp)).1
  | squoted items =>
    exact plainRef_ok _ rest _ '\'' (items.flatMap QChar.print ++ '\'' :: rest) rfl
      (by simp [StringLit.print_one, StrAtom.print, printQuoted]) hname
      (remainderWordAt_of_head (forall_head_cons (by decide +kernel))) (by decide) (by decide)
  | dquoted items =>
    exact plainRef_ok _ rest _ '"' (items.flatMap QChar.print ++ '"' :: rest) rfl
      (by simp [StringLit.print_one, StrAtom.print, printQuoted]) hname
      (remainderWordAt_of_head (forall_head_cons (by decide +kernel))) (by decide) (by decide)
  | braced items => exact absurd ha (by simp [IsNameAtom])

theorem commasOk_words {rest : Str} (hf : WordFollow rest) : ∀ (cs : List CommaLit),
    (∀ c ∈ cs, IsBlanks c.b1 ∧ IsBlanks c.b2 ∧ IsWord c.s) → CommasOk rest cs ∧ WordFollow (printCommas cs ++ rest)
  | [], _ => ⟨trivial, by simpa [printCommas] using hf⟩
  | c :: cs, h => by
    obtain ⟨hb1, hb2, hw⟩ := h c (by simp)
    obtain ⟨ih1, ih2⟩ := commasOk_words hf cs (fun d hd => h d (by simp [hd]))
    refine ⟨⟨hb1, hb2, word_ok hw (nakedFollow_of_wordFollow ih2), ih1⟩, ?_⟩
    have := wordFollow_spaces (isSpaces_of_isBlanks hb1) (c := ',')
      (c.b2 ++ c.s.print ++ (printCommas cs ++ rest)) (Or.inl rfl)
    simpa [printCommas, CommaLit.print, List.append_assoc] using this

theorem actLits_words (sp : Spelling) (hsp : sp.WF) (p : Path) : ∀ (as : List StringLit) (k : Nat),
    (∀ a ∈ as, IsWord a) → ∀ c ∈ actLits sp p k as, IsBlanks c.b1 ∧ IsBlanks c.b2 ∧ IsWord c.s
  | [], _, _, c, hc => by simp [actLits] at hc
  | a :: as, k, h, c, hc => by
    simp only [actLits, List.mem_cons] at hc
    rcases hc with rfl | hc
    · exact ⟨hsp.actGap1 p k, hsp.actGap2 p k, h a (by simp)⟩
    · exact actLits_words sp hsp p as (k + 1) (fun b hb => h b (by simp [hb])) c hc

theorem outLits_words (sp : Spelling) (hsp : sp.WF) (p : Path) : ∀ (as : List StringLit) (k : Nat),
    (∀ a ∈ as, IsWord a) → ∀ c ∈ outLits sp p k as, IsBlanks c.b1 ∧ IsBlanks c.b2 ∧ IsWord c.s
  | [], _, _, c, hc => by simp [outLits] at hc
  | a :: as, k, h, c, hc => by
    simp only [outLits, List.mem_cons] at hc
    rcases hc with rfl | hc
    · exact ⟨hsp.outGap1 p k, hsp.outGap2 p k, h a (by simp)⟩
    · exact outLits_words sp hsp p as (k + 1) (fun b hb => h b (by simp [hb])) c hc

mutual
/-- **plain expressions are admissible in every permitted spelling** (wherever a word may end) -/
theorem xok_of_plain (sp : Spelling) (hsp : sp.WF) : ∀ (x : XExpr) (p : Path) (rest : Str),
    x.Plain → WordFollow rest → XOk sp p rest x
  | .leaf r, p, rest, h, hf => by
    simp only [XExpr.Plain] at h
    simp only [XOk]
    exact plainRef_xok h hf
  | .step name args, p, rest, h, _ => by
    simp only [XExpr.Plain] at h
    simp only [XOk]
    refine ⟨word_ok h.1 ⟨sp.nameGap p, _, rfl, fun c hc =>
        ⟨isReSpace_of_isHsp (hsp.nameGap p c hc), isNewline_of_isHsp (hsp.nameGap p c hc)⟩,
        fun c hc => by cases hc; exact Or.inl (by decide)⟩, ?_⟩
    exact argsOk_of_plain sp hsp args p 0 _ h.2
      (wordFollow_printClose _ _ (hsp.trailing p) (hsp.beforeClose p) rest)
  | .paren e actions, p, rest, h, _ => by
    simp only [XExpr.Plain] at h
    simp only [XOk]
    have hf' : WordFollow (sp.beforeClose p ++ ')' :: rest) :=
      wordFollow_spaces (hsp.beforeClose p) rest (Or.inr (Or.inl rfl))
    obtain ⟨h1, h2⟩ := commasOk_words hf' _ (actLits_words sp hsp p actions 0 h.2)
    exact ⟨xok_of_plain sp hsp e (0 :: p) _ h.1 h2, h1⟩
theorem argsOk_of_plain (sp : Spelling) (hsp : sp.WF) : ∀ (as : XArgs) (p : Path) (k : Nat) (rest : Str),
    as.Plain → WordFollow rest → ArgsOk sp p k rest as
  | .one e, p, k, rest, h, hf => by
    simp only [XArgs.Plain] at h
    simp only [ArgsOk]
    exact xok_of_plain sp hsp e (k :: p) rest h hf
  | .cons e as, p, k, rest, h, hf => by
    simp only [XArgs.Plain] at h
    simp only [ArgsOk]
    exact ⟨xok_of_plain sp hsp e (k :: p) _ h.1 (wordFollow_spaces (hsp.beforeComma p (k + 1)) _ (Or.inl rfl)),
      argsOk_of_plain sp hsp as p (k + 1) rest h.2 hf⟩
end

theorem wordFollow_eol (e : EolLit) (hwf : e.WF) (rest : Str) (hf : e.Follow rest) : WordFollow (e.print ++ rest) := by
  obtain ⟨r, e', hbl, hr⟩ := eol_split e rest hwf hf
  exact wordFollow_of_spaces ⟨e.blanks, r, e', isSpaces_of_isBlanks hbl, fun c hc => by
    right; right; right; right; exact hr c hc⟩

theorem wordFollow_assign {bl : Str} (hbl : IsBlanks bl) (named : Bool) (rest : Str) :
    WordFollow (bl ++ (printAssign named ++ rest)) := by
  cases named
  · exact wordFollow_spaces (isSpaces_of_isBlanks hbl) rest (Or.inr (Or.inr (Or.inl rfl)))
  · exact wordFollow_spaces (isSpaces_of_isBlanks hbl) ('=' :: rest) (Or.inr (Or.inr (Or.inr (Or.inl rfl))))

/-- **plain statements are admissible in every permitted spelling**, given that the end of line
    fits what follows -/
theorem stmtOk_of_plain (sp : Spelling) (hsp : sp.WF) (p : Path) (s : XStmt) (rest : Str) (h : s.Plain)
    (hf : (sp.eol p).Follow rest) : s.Ok sp p rest := by
  obtain ⟨hx, hacts, htarget⟩ := h
  have hf' := wordFollow_eol (sp.eol p) (hsp.eol p) rest hf
  obtain ⟨h1, h2⟩ := commasOk_words hf' _ (actLits_words sp hsp p s.actions 0 hacts)
  refine ⟨xok_of_plain sp hsp s.expr (0 :: p) _ hx h2, h1, hf, ?_⟩
  cases ht : s.target with
  | none =>
    show s.NoTargetCond sp p
    unfold XStmt.NoTargetCond
    cases hs : s.expr with
    | leaf r =>
      rw [hs] at hx
      simp only [XExpr.Plain] at hx
      obtain ⟨a, rfl, _⟩ := hx
      intro hh; cases hh
    | step name args => trivial
    | paren e actions => trivial
  | some g =>
    obtain ⟨ho, hmore⟩ := htarget g ht
    have hfa := wordFollow_assign (hsp.assignGap1 p) g.named
      (sp.assignGap2 p ++ (printLtr sp p s ++ ((sp.eol p).print ++ rest)))
    obtain ⟨h3, h4⟩ := commasOk_words hfa _ (outLits_words sp hsp p g.more 1 hmore)
    exact ⟨word_ok ho (nakedFollow_of_wordFollow h4), h3⟩

/-- in a block every end of line but the last must be a newline (the last may be the end of the text) -/
def EolsOk (sp : Spelling) : Nat → List XStmt → Prop
  | _, [] => True
  | _, [_] => True
  | k, _ :: s' :: ss => (∃ bl nl ws, sp.eol [k] = .newline bl nl ws) ∧ EolsOk sp (k + 1) (s' :: ss)

/-- **plain blocks are admissible in every permitted spelling**.  The end of a line wants that no white space
    follows it; what follows is the next statement, and that it does not begin with white space is read off the
    round trip of that statement (`stmt_head_not_space`: `stmt` fails in front of white space). -/
theorem blockOk_of_plain (sp : Spelling) (hsp : sp.WF) : ∀ (ss : List XStmt) (k : Nat),
    (∀ s ∈ ss, s.Plain) → EolsOk sp k ss → BlockOk sp k ss
  | [], _, _, _ => trivial
  | [s], k, h, _ => by
    refine ⟨stmtOk_of_plain sp hsp [k] s _ (h s (by simp)) ?_, trivial⟩
    cases he : sp.eol [k] with
    | newline bl nl ws => intro c hc; simp [printBlock] at hc
    | eof bl => rfl
  | s :: s' :: ss, k, h, he => by
    obtain ⟨⟨bl, nl, ws, e⟩, he'⟩ := he
    have ih := blockOk_of_plain sp hsp (s' :: ss) (k + 1) (fun x hx => h x (by simp [hx])) he'
    refine ⟨stmtOk_of_plain sp hsp [k] s _ (h s (by simp)) ?_, ih⟩
    rw [e]
    exact stmt_head_not_space (stmt_of_xok sp hsp [k + 1] s' _ ih.1)

/-- **`parse` recovers every plain block in every permitted spelling**: no side conditions on the
    text are left -/
theorem plain_recipe_roundtrip (sp : Spelling) (hsp : sp.WF) (s : XStmt) (ss : List XStmt)
    (hplain : ∀ x ∈ s :: ss, x.Plain) (heol : EolsOk sp 0 (s :: ss)) :
    parse (sp.lead ++ printBlock sp 0 (s :: ss)) = .ok (astOfBlock sp 0 sp.lead.length (s :: ss)) :=
  recipe_roundtrip sp hsp s ss (blockOk_of_plain sp hsp (s :: ss) 0 hplain heol)

theorem plain_two_spellings (sp1 sp2 : Spelling) (h1 : sp1.WF) (h2 : sp2.WF) (s : XStmt) (ss : List XStmt)
    (hplain : ∀ x ∈ s :: ss, x.Plain) (heol1 : EolsOk sp1 0 (s :: ss)) (heol2 : EolsOk sp2 0 (s :: ss)) :
    eraseOffsets (parse (sp1.lead ++ printBlock sp1 0 (s :: ss)))
      = eraseOffsets (parse (sp2.lead ++ printBlock sp2 0 (s :: ss))) :=
  two_spellings_same_ast_mod_offsets sp1 sp2 h1 h2 s ss (blockOk_of_plain sp1 h1 (s :: ss) 0 hplain heol1)
    (blockOk_of_plain sp2 h2 (s :: ss) 0 hplain heol2)

/-- **`step` fails cleanly on a reference** that is not followed by `blanks (`: it reads a string,
    finds no `(`, and the position is restored for `reference` -/
theorem step_fails_on_leaf (r : RefLit) (pre rest : Str) (z : Bool) (fuel : Nat) (hns : r.NotStep rest)
    (hname : r.amount = none → r.name.Ok false rest) :
    step (expr fuel) (pre ++ r.print ++ rest).toArray ⟨pre.length, z⟩ = none := by
  obtain ⟨s, srest, hs, e, hnp⟩ := hns.string hname
  exact step_fails_of_noParen (stringAt_of_ok false s _ hs) hnp _ _ z (by rw [e]; simp)

theorem expr_on_leaf (r : RefLit) (pre rest : Str) (z : Bool) (fuel : Nat) (hok : r.Ok rest) (hns : r.NotStep rest) :
    expr (fuel + 1) (pre ++ r.print ++ rest).toArray ⟨pre.length, z⟩
      = some (r.value pre.length, ⟨(pre ++ r.print).length, z⟩) :=
  ((exprAt_leaf r rest hok hns).reads (Nat.le_add_left 1 fuel)).after_prefix pre z

/-- **the action of a step does not swallow the `(`**: in front of an admissible step, `string` reads
    exactly the action name -/
theorem action_stops_before_paren (sp : Spelling) (p : Path) (name : StringLit) (args : XArgs) (pre rest : Str)
    (z : Bool) (hok : XOk sp p rest (.step name args)) :
    string false (pre ++ printX sp p (.step name args) ++ rest).toArray ⟨pre.length, z⟩
      = some (name.value pre.length, ⟨(pre ++ name.print).length, z⟩) := by
  simp only [XOk] at hok
  have := stringAt_of_ok false name _ hok.1 (pre ++ printX sp p (.step name args) ++ rest).toArray pre.length z
    (by simp [printX, List.append_assoc])
  simpa using this

/-- a reference whose whole text is one naked string (`2 eggs`, `100g flour`, `flour`) cannot be
    mistaken for the beginning of a step where a word may end -/
theorem notStep_of_naked_print {r : RefLit} {rest : Str} (hn : IsNaked r.print) (hf : WordFollow rest) :
    r.NotStep rest := by
  unfold RefLit.NotStep
  cases r.amount with
  | none => exact noParen_of_wordFollow hf
  | some abl =>
    exact ⟨⟨.naked r.print, []⟩, rest, word_ok ⟨.naked r.print, rfl, hn⟩ (nakedFollow_of_wordFollow hf),
      by rw [StringLit.print_one]; rfl, noParen_of_wordFollow hf⟩

example : parse "f(a, g(b))\n".toList
    = .ok [⟨.step [.sub 0 ['f']] [.ref [.sub 2 ['a']] none, .step [.sub 5 ['g']] [.ref [.sub 7 ['b']] none]],
            none, false⟩] := by decide +kernel

/-- white space and newlines inside the parentheses, a trailing comma, a blank before `(` -/
example : parse "f (\n  a ,\n  g( b ,) ,\n)\n".toList
    = .ok [⟨.step [.sub 0 ['f']] [.ref [.sub 6 ['a']] none, .step [.sub 12 ['g']] [.ref [.sub 15 ['b']] none]],
            none, false⟩] := by decide +kernel

/-- the shorthand in parentheses inside an argument list, and at the level of the statement -/
example : parse "x := f((a, b, c), d), e\n".toList
    = .ok [⟨.step [.sub 22 ['e']] [.step [.sub 5 ['f']]
              [.step [.sub 14 ['c']] [.step [.sub 11 ['b']] [.ref [.sub 8 ['a']] none]], .ref [.sub 18 ['d']] none]],
            some [[.sub 0 ['x']]], true⟩] := by decide +kernel

/-- a reference followed by `(` is a step: what reads like an amount and a name is the name of the action -/
example : parse "2 eggs(a)\n".toList
    = .ok [⟨.step [.sub 0 "2 eggs".toList] [.ref [.sub 7 ['a']] none], none, false⟩] := by decide +kernel

/-- amounts at the leaves -/
example : parse "mix(2 eggs,100g flour)\n".toList
    = .ok [⟨.step [.sub 0 "mix".toList]
              [.ref [.sub 6 "eggs".toList] (some (.qty 4 ⟨2, .int⟩ none [] [])),
               .ref [.sub 16 "flour".toList] (some (.qty 11 ⟨100, .int⟩ (some [.sub 14 ['g']]) [] []))],
            none, false⟩] := by decide +kernel

/-- two outputs, several statements, blank lines -/
example : parse "a, b = split(c)\n\n\nd = (a)\n".toList
    = .ok [⟨.step [.sub 7 "split".toList] [.ref [.sub 13 ['c']] none], some [[.sub 0 ['a']], [.sub 3 ['b']]], false⟩,
           ⟨.ref [.sub 23 ['a']] none, some [[.sub 18 ['d']]], false⟩] := by decide +kernel

/-- the shorthand is not allowed directly in an argument list: `a, b` are two arguments -/
example : parse "f(a, b)\n".toList
    = .ok [⟨.step [.sub 0 ['f']] [.ref [.sub 2 ['a']] none, .ref [.sub 5 ['b']] none], none, false⟩] := by
  decide +kernel

/-- deep nesting: the fuel derived from the length of the text suffices -/
example : parse "a(b(c(d(e(f(g(h(i))))))))\n".toList ≠ .syntaxError := by decide +kernel

def word (s : String) : StringLit := ⟨.naked s.toList, []⟩
def ingredient (s : String) : XExpr := .leaf ⟨none, word s⟩

/-- no optional white space anywhere -/
def Spelling.tight : Spelling :=
  { nameGap := fun _ => [], afterOpen := fun _ => [], beforeComma := fun _ _ => [], afterComma := fun _ _ => [],
    trailing := fun _ => none, beforeClose := fun _ => [], actGap1 := fun _ _ => [], actGap2 := fun _ _ => [],
    outGap1 := fun _ _ => [], outGap2 := fun _ _ => [], assignGap1 := fun _ => [], assignGap2 := fun _ => [],
    eol := fun _ => .newline [] '\n' [], lead := [] }

/-- white space wherever it is allowed: newlines and indentation inside parentheses, trailing
    commas at the nodes of even depth, blank lines between the statements, a leading empty line -/
def Spelling.airy : Spelling :=
  { nameGap := fun _ => " ".toList, afterOpen := fun _ => "\n  ".toList, beforeComma := fun _ _ => " ".toList,
    afterComma := fun _ _ => "\n  ".toList,
    trailing := fun p => if p.length % 2 = 0 then some " ".toList else none,
    beforeClose := fun _ => "\n".toList,
    actGap1 := fun _ _ => " ".toList, actGap2 := fun _ _ => "  ".toList,
    outGap1 := fun _ _ => " ".toList, outGap2 := fun _ _ => " ".toList,
    assignGap1 := fun _ => " ".toList, assignGap2 := fun _ => "\t".toList,
    eol := fun _ => .newline " ".toList '\n' "\n".toList, lead := "\n".toList }

theorem Spelling.tight_wf : Spelling.tight.WF := by
  constructor <;> intros <;> simp_all [Spelling.tight, IsBlanks, IsSpaces, EolLit.WF] <;> decide

theorem Spelling.airy_wf : Spelling.airy.WF := by
  constructor
  case trailing =>
    intro p ws h
    simp only [Spelling.airy] at h
    split at h
    · cases h; unfold IsSpaces; decide
    · cases h
  all_goals (intros; simp [Spelling.airy, IsBlanks, IsSpaces, EolLit.WF] <;> decide)

/-- `batter := mix(flour, (eggs, beaten), whisk(milk, sugar))` -/
def exStmtA : XStmt :=
  { target := some ⟨word "batter", [], true⟩
    expr := .step (word "mix") (.cons (ingredient "flour") (.cons (.paren (ingredient "eggs") [word "beaten"])
      (.one (.step (word "whisk") (.cons (ingredient "milk") (.one (ingredient "sugar")))))))
    actions := [] }

/-- `pancake, crumbs = batter, fry, flip` -/
def exStmtB : XStmt :=
  { target := some ⟨word "pancake", [word "crumbs"], false⟩
    expr := ingredient "batter"
    actions := [word "fry", word "flip"] }

theorem exTight_print : Spelling.tight.lead ++ printBlock Spelling.tight 0 [exStmtA, exStmtB]
    = "batter:=mix(flour,(eggs,beaten),whisk(milk,sugar))\npancake,crumbs=batter,fry,flip\n".toList := by
  refine Eq.trans ?_ (toList_lit rfl).symm
  decide +kernel

theorem exAiry_print : Spelling.airy.lead ++ printBlock Spelling.airy 0 [exStmtA, exStmtB]
    = ("\nbatter :=\tmix (\n  flour ,\n  (\n  eggs ,  beaten\n) ,\n  whisk (\n  milk ,\n  sugar\n) ,\n) \n\n"
        ++ "pancake , crumbs =\tbatter ,  fry ,  flip \n\n").toList := by
  rw [String.toList_append]
  refine Eq.trans ?_ (congr (congrArg HAppend.hAppend (toList_lit rfl)) (toList_lit rfl)).symm
  decide +kernel

theorem isWord_word (s : String) (h : IsNaked s.toList) : IsWord (word s) := ⟨.naked s.toList, rfl, h⟩

theorem isPlainRef_word (s : String) (h : IsNaked s.toList)
    (hc : ∀ c, s.toList.head? = some c → isDigit c = false ∧ ciMatches c 'r' = false ∧ ciMatches c 'l' = false) :
    IsPlainRef ⟨none, word s⟩ :=
  ⟨.naked s.toList, rfl, h, fun txt e => by
    cases e; exact ⟨fun c h' => (hc c h').1, noRemainderStart_of_head h.1 fun c h' => (hc c h').2⟩⟩

theorem exStmtA_plain : exStmtA.Plain := by
  have n : ∀ s : String, IsNaked s.toList → (∀ c, s.toList.head? = some c →
      isDigit c = false ∧ ciMatches c 'r' = false ∧ ciMatches c 'l' = false) → (ingredient s).Plain :=
    fun s h hc => by simp only [ingredient, XExpr.Plain]; exact isPlainRef_word s h hc
  refine ⟨?_, by simp [exStmtA], ?_⟩
  · simp only [exStmtA, XExpr.Plain, XArgs.Plain]
    refine ⟨isWord_word _ (by decide +kernel), n _ (by decide +kernel) (by decide +kernel),
      ⟨n _ (by decide +kernel) (by decide +kernel), ?_⟩,
      isWord_word _ (by decide +kernel), n _ (by decide +kernel) (by decide +kernel),
      n _ (by decide +kernel) (by decide +kernel)⟩
    intro a ha
    simp only [List.mem_singleton] at ha
    subst ha
    exact isWord_word _ (by decide +kernel)
  · intro g hg
    cases hg
    exact ⟨isWord_word _ (by decide +kernel), by simp⟩

theorem exStmtB_plain : exStmtB.Plain := by
  refine ⟨?_, ?_, ?_⟩
  · simp only [exStmtB, ingredient, XExpr.Plain]
    exact isPlainRef_word _ (by decide +kernel) (by decide +kernel)
  · intro a ha
    simp only [exStmtB, List.mem_cons, List.not_mem_nil, or_false] at ha
    rcases ha with rfl | rfl <;> exact isWord_word _ (by decide +kernel)
  · intro g hg
    cases hg
    refine ⟨isWord_word _ (by decide +kernel), ?_⟩
    intro a ha
    simp only [List.mem_singleton] at ha
    subst ha
    exact isWord_word _ (by decide +kernel)

theorem exBlock_plain : ∀ x ∈ [exStmtA, exStmtB], x.Plain := by
  intro x hx
  simp only [List.mem_cons, List.not_mem_nil, or_false] at hx
  rcases hx with rfl | rfl
  · exact exStmtA_plain
  · exact exStmtB_plain

/-- the theorem on the tight spelling -/
example : parse "batter:=mix(flour,(eggs,beaten),whisk(milk,sugar))\npancake,crumbs=batter,fry,flip\n".toList
    = .ok (astOfBlock Spelling.tight 0 0 [exStmtA, exStmtB]) := by
  have := plain_recipe_roundtrip Spelling.tight Spelling.tight_wf exStmtA [exStmtB] exBlock_plain
    ⟨⟨_, _, _, rfl⟩, trivial⟩
  rw [exTight_print] at this
  exact this

/-- the offsets it predicts -/
example : astOfBlock Spelling.tight 0 0 [exStmtA, exStmtB]
    = [⟨.step [.sub 8 "mix".toList]
          [.ref [.sub 12 "flour".toList] none,
           .step [.sub 24 "beaten".toList] [.ref [.sub 19 "eggs".toList] none],
           .step [.sub 32 "whisk".toList] [.ref [.sub 38 "milk".toList] none, .ref [.sub 43 "sugar".toList] none]],
         some [[.sub 0 "batter".toList]], true⟩,
       ⟨.step [.sub 77 "flip".toList] [.step [.sub 73 "fry".toList] [.ref [.sub 66 "batter".toList] none]],
         some [[.sub 51 "pancake".toList], [.sub 59 "crumbs".toList]], false⟩] := by
  decide +kernel

/-- the theorem on the airy spelling: the same abstract block, other offsets -/
example : parse ("\nbatter :=\tmix (\n  flour ,\n  (\n  eggs ,  beaten\n) ,\n  whisk (\n  milk ,\n  sugar\n) ,\n) \n\n"
      ++ "pancake , crumbs =\tbatter ,  fry ,  flip \n\n").toList
    = .ok (astOfBlock Spelling.airy 0 1 [exStmtA, exStmtB]) := by
  have := plain_recipe_roundtrip Spelling.airy Spelling.airy_wf exStmtA [exStmtB] exBlock_plain
    ⟨⟨_, _, _, rfl⟩, trivial⟩
  rw [exAiry_print] at this
  exact this

/-- … and modulo offsets both texts give the same AST -/
example : eraseOffsets (parse "batter:=mix(flour,(eggs,beaten),whisk(milk,sugar))\npancake,crumbs=batter,fry,flip\n".toList)
    = eraseOffsets (parse ("\nbatter :=\tmix (\n  flour ,\n  (\n  eggs ,  beaten\n) ,\n  whisk (\n  milk ,\n  sugar\n) ,\n) \n\n"
      ++ "pancake , crumbs =\tbatter ,  fry ,  flip \n\n").toList) := by
  have := plain_two_spellings Spelling.tight Spelling.airy Spelling.tight_wf Spelling.airy_wf exStmtA [exStmtB]
    exBlock_plain ⟨⟨_, _, _, rfl⟩, trivial⟩ ⟨⟨_, _, _, rfl⟩, trivial⟩
  rw [exTight_print, exAiry_print] at this
  exact this

/-- the same, checked directly on the model -/
example : eraseOffsets (parse "batter:=mix(flour,(eggs,beaten),whisk(milk,sugar))\npancake,crumbs=batter,fry,flip\n".toList)
    = .ok [bareStmt exStmtA, bareStmt exStmtB] := by
  lit_chars; decide +kernel

/-- `x = f('rest', "a, (b)")`: a remainder word and a name with a comma and parentheses -/
def exStmtQ : XStmt :=
  { target := some ⟨word "x", [], false⟩
    expr := .step (word "f") (.cons (.leaf ⟨none, ⟨.squoted ("rest".toList.map .raw), []⟩⟩)
      (.one (.leaf ⟨none, ⟨.dquoted ("a, (b)".toList.map .raw), []⟩⟩)))
    actions := [] }

theorem exStmtQ_plain : exStmtQ.Plain := by
  refine ⟨?_, by simp [exStmtQ], ?_⟩
  · simp only [exStmtQ, XExpr.Plain, XArgs.Plain]
    refine ⟨isWord_word _ (by decide +kernel), ⟨_, rfl, ?_, fun txt e => by cases e⟩,
      ⟨_, rfl, ?_, fun txt e => by cases e⟩⟩
    · simp [IsNameAtom, QChar.Ok, isNewline]
    · simp [IsNameAtom, QChar.Ok, isNewline]
  · intro g hg
    cases hg
    exact ⟨isWord_word _ (by decide +kernel), by simp⟩

example : parse "x=f('rest',\"a, (b)\")\n".toList
    = .ok [⟨.step [.sub 2 ['f']] [.ref [.sub 4 "rest".toList] none, .ref [.sub 11 "a, (b)".toList] none],
            some [[.sub 0 ['x']]], false⟩] := by
  have := plain_recipe_roundtrip Spelling.tight Spelling.tight_wf exStmtQ []
    (by intro x hx; simp only [List.mem_singleton] at hx; subst hx; exact exStmtQ_plain) trivial
  have e1 : Spelling.tight.lead ++ printBlock Spelling.tight 0 [exStmtQ] = "x=f('rest',\"a, (b)\")\n".toList := by
    decide +kernel
  have e2 : astOfBlock Spelling.tight 0 Spelling.tight.lead.length [exStmtQ]
      = [⟨.step [.sub 2 ['f']] [.ref [.sub 4 "rest".toList] none, .ref [.sub 11 "a, (b)".toList] none],
            some [[.sub 0 ['x']]], false⟩] := by decide +kernel
  rw [e1, e2] at this
  exact this

/-- without the quotes `rest` is a remainder word and wants an ingredient after it -/
example : parse "x=f(rest,a)\n".toList = .syntaxError := by decide +kernel

/-- `mix(2 eggs, 100g flour)` -/
def exMix : XExpr :=
  .step (word "mix")
    (.cons (.leaf ⟨some (.implicit (.int ['2']) none, [' ']), word "eggs"⟩)
      (.one (.leaf ⟨some (.implicit (.int "100".toList) (some ([], ⟨["g"], [[false]], []⟩, .none)), [' ']),
        word "flour"⟩)))

theorem exMix_print : printX Spelling.tight [] exMix = "mix(2 eggs,100g flour)".toList := by decide +kernel

theorem exMix_ok : XOk Spelling.tight [] ['\n'] exMix := by
  simp only [XOk, ArgsOk, exMix]
  refine ⟨?_, ⟨?_, ?_⟩, ?_, ?_⟩
  · exact nakedLit_ok_head _ (by decide +kernel) _ '(' _ rfl (Or.inl (by decide))
  · exact bareNumberRef_ok _ _ _ _ _ _ rfl rfl ⟨by decide, by decide⟩ (by decide)
      (forall_head_cons ⟨by decide, by decide, by decide, by decide⟩)
      (by decide +kernel) (by decide +kernel) (by decide)
      (nakedLit_ok_head _ (by decide +kernel) _ ',' _ rfl (Or.inl (by decide)))
  · exact notStep_of_naked_print (by decide +kernel)
      (wordFollow_spaces (ws := []) (by decide) _ (Or.inl rfl))
  · exact unitRef_ok _ _ _ _ _ _ _ _ _ rfl rfl rfl ⟨by decide, by decide⟩ (by decide)
      (forall_head_cons ⟨by decide, by decide⟩)
      (by simp [IsBlanks]) ⟨by decide, by simp [UnitSpellingOk]⟩ (by decide +kernel)
      (NextNot.cons (isReWord_of_isHsp (by decide)))
      (by decide)
      (nakedLit_ok_head _ (by decide +kernel) _ ')' _ rfl (Or.inl (by decide)))
  · exact notStep_of_naked_print (by decide +kernel)
      (wordFollow_spaces (ws := []) (by decide) _ (Or.inr (Or.inl rfl)))

/-- `expr_roundtrip` on it, after any prefix -/
example (pre : Str) (z : Bool) (fuel : Nat) (h : 2 ≤ fuel) :
    expr fuel (pre ++ "mix(2 eggs,100g flour)".toList ++ ['\n']).toArray ⟨pre.length, z⟩
      = some (.step [.sub pre.length "mix".toList]
          [.ref [.sub (pre.length + 6) "eggs".toList] (some (.qty (pre.length + 4) ⟨((2 : Nat) : Rat), .int⟩ none [] [])),
           .ref [.sub (pre.length + 16) "flour".toList]
             (some (.qty (pre.length + 11) ⟨((100 : Nat) : Rat), .int⟩ (some [.sub (pre.length + 14) ['g']]) [] []))],
        ⟨(pre ++ "mix(2 eggs,100g flour)".toList).length, z⟩) := by
  have := expr_roundtrip Spelling.tight Spelling.tight_wf exMix pre ['\n'] z fuel h exMix_ok
  rw [exMix_print] at this
  rw [this]
  simp [exMix, astOf, astArgs, RefLit.value, AmountLit.value, AmountLit.print, NumLit.print, NumLit.value,
    StringLit.print, StringLit.value, printString, printMore, stringValue, moreValue, StrAtom.print,
    StrAtom.value, digitsValue, word, Spelling.tight, printX, RefLit.print, UnitLit.print, printUnit, caseWord,
    PrepLit.print, Nat.add_assoc]

end RG.C06
