import RecipeGrid.Lemmas.Near
import RecipeGrid.Props.C20
/-! C20.4 (off-threshold part): off the 2 % threshold the binary64 lint rule (`lintF`) and its exact-rational meaning
    (`lintQ`) give the same verdict. The error analysis follows `lint.py` operation for operation:
    `used += float(q * conv) / float(total)` for every use, then `math.isclose(used, 1, rel_tol = 0.02)`.
    `toDouble` has an unbounded exponent, so no range condition appears; for binary64 proper the statements
    apply while no intermediate leaves the normal range. -/
namespace RG.C20

/-- `float(a)`: at most one more rounding -/
theorem toFlt_near {a : Num} {A : Rat} {k : Nat} (h : Near k a.val A) : Near (k + 1) a.toFlt A := by
  unfold Num.toFlt
  split
  · exact h.weaken (by omega)
  · exact h.round

/-- Python's `a * b`: `float()` of each factor and the rounding of the product, at most `+3` roundings; `div_near` likewise -/
theorem mul_near {a b : Num} {A B : Rat} {j k : Nat} (ha : Near j a.val A) (hb : Near k b.val B) :
    Near (j + k + 3) (a.mul b).val (A * B) := by
  unfold Num.mul
  split
  · have := ((toFlt_near ha).mul (toFlt_near hb)).round
    exact this.weaken (by omega)
  · exact (ha.mul hb).weaken (by omega)

theorem div_near {a b x : Num} {A B : Rat} {j k : Nat} (ha : Near j a.val A) (hb : Near k b.val B)
    (hb0 : 0 < b.val) (hB0 : 0 < B) (hx : a.div b = some x) : Near (j + k + 3) x.val (A / B) := by
  unfold Num.div at hx
  have hne : (b.val == 0) = false := by simpa using Rat.ne_of_gt hb0
  simp only [hne, Bool.false_eq_true, if_false] at hx
  split at hx
  · cases hx
    have hfb : 0 < b.toFlt := by
      unfold Num.toFlt; split
      · exact hb0
      · exact toDouble_pos hb0
    have := ((toFlt_near ha).div (toFlt_near hb) hfb hB0).round
    exact this.weaken (by omega)
  · split at hx
    · cases hx
      exact ((ha.div hb hb0 hB0).round).weaken (by omega)
    · cases hx
      exact (ha.div hb hb0 hB0).weaken (by omega)

/-- `used += x` where `used` is already a float -/
theorem add_near {u x : Num} {U X : Rat} {k : Nat} (hu : u.kind = .flt) (hU : Near k u.val U)
    (hX : Near k x.toFlt X) : Near (k + 1) (u.add x).val (U + X) ∧ (u.add x).kind = .flt := by
  have hf : u.isFlt = true := by simp [Num.isFlt, hu]
  have hv : u.toFlt = u.val := by simp [Num.toFlt, hf]
  simp only [Num.add, hf, Bool.true_or, if_true, hv]
  exact ⟨(hU.add hX).round, trivial⟩

/-- a use covered by the error analysis.
    * a quantity of a sub recipe whose total is unknown: both layers report it;
    * a quantity whose unit neither layer can convert to the total's unit: both layers report it;
    * a non-negative quantity of a positive total whose unit converts by the same non-negative factor in both
      layers (no units on either side; the same unit; an exactly representable factor such as kg → g);
    * an explicit non-negative proportion.
    Remainders ("the rest") are handled by `UseOK`. -/
def PlainUse (total : Option Quantity) : Amount → Prop
  | .quantity q =>
    match total with
    | none => True
    | some tq =>
      (convFactor false q tq = none ∧ convFactor true q tq = none) ∨
      (0 < tq.value.val ∧ 0 ≤ q.value.val ∧ ∃ cF cQ, convFactor false q tq = some cF ∧
        convFactor true q tq = some cQ ∧ cF.val = cQ.val ∧ 0 ≤ cF.val)
  | .proportion (some v) _ _ _ => 0 ≤ v.val
  | .proportion none _ _ _ => False

/-- the float state tracks the exact state within `k` roundings -/
structure Tracks (k : Nat) (stF stQ : SumState) : Prop where
  kind : stF.used.kind = .flt
  near : Near k stF.used.val stQ.used.val
  problem : stF.problem = stQ.problem
  lints : stF.lints = stQ.lints

/-- the state starts "7 roundings in": a share `float(q * c) / float(total)` carries up to 3 (`*`) + 3 (`/`) + 1 (`float()`)
    roundings before it is added, and `Near.add` wants both summands at the same count -/
theorem tracks_init : Tracks 7 ({} : SumState) ({} : SumState) := ⟨rfl, Near.zero 7, rfl, rfl⟩

/-- a use that is covered when the exact proportion accumulated so far is `u`, `k` roundings in: a `PlainUse`,
    or a remainder ("the rest") met when `u` is off `1` by those `k` roundings (the remainder rule compares the
    accumulated proportion with `1`) -/
def UseOK (total : Option Quantity) (k : Nat) (u : Rat) (a : Amount) : Prop :=
  PlainUse total a ∨ (isRemainder a = true ∧ (rndW ^ k * u < 1 ∨ rndW ^ k < u))

/-- every use of the list is covered, given the exact proportion accumulated before it -/
def Covered (total : Option Quantity) : Nat → Rat → List Amount → Prop
  | _, _, [] => True
  | k, u, a :: as => UseOK total k u a ∧ Covered total (k + 1) (stepUsedQ total u a) as

theorem covered_of_plain {total : Option Quantity} : ∀ (amounts : List Amount) (k : Nat) (u : Rat),
    (∀ a ∈ amounts, PlainUse total a) → Covered total k u amounts
  | [], _, _, _ => trivial
  | a :: as, _, _, h =>
    ⟨Or.inl (h a List.mem_cons_self), covered_of_plain as _ _ (fun b hb => h b (List.mem_cons_of_mem _ hb))⟩

theorem Tracks.report {k : Nat} {stF stQ : SumState} (h : Tracks k stF stQ) (l : LintKind) :
    Tracks (k + 1) { stF with problem := true, lints := stF.lints ++ [l] }
      { stQ with problem := true, lints := stQ.lints ++ [l] } :=
  ⟨h.kind, h.near.weaken (Nat.le_succ k), rfl, by simp [h.lints]⟩

/-- both layers add a share: the float layer `x`, the exact layer what `float(x)` is near to -/
theorem Tracks.add {k : Nat} (hk : 7 ≤ k) {stF stQ : SumState} (h : Tracks k stF stQ) {x : Num} {X : Rat}
    (hx : Near 7 x.toFlt X) :
    Tracks (k + 1) { stF with used := stF.used.add x } { stQ with used := ⟨stQ.used.val + X, .frac⟩ } := by
  obtain ⟨n1, n2⟩ := add_near h.kind h.near (hx.weaken hk)
  exact ⟨n2, n1, h.problem, h.lints⟩

theorem sumStep_tracks_plain {total : Option Quantity} {k : Nat} (hk : 7 ≤ k) {stF stQ : SumState}
    (h : Tracks k stF stQ) {a : Amount} (ha : PlainUse total a) :
    ∃ stF' stQ', sumStep false total stF a = some stF' ∧ sumStep true total stQ a = some stQ' ∧
      Tracks (k + 1) stF' stQ' := by
  cases a with
  | quantity q =>
    cases total with
    | none => exact ⟨_, _, sumStep_quantity_none false stF q, sumStep_quantity_none true stQ q, h.report _⟩
    | some tq =>
      rw [sumStep_quantity_some, sumStep_quantity_some]
      rcases ha with ⟨hF, hQ⟩ | ⟨ht, hq, cF, cQ, hcF, hcQ, hc, hc0⟩
      · rw [hF, hQ]
        exact ⟨_, _, rfl, rfl, h.report _⟩
      · obtain ⟨x, hx⟩ := Option.isSome_iff_exists.1 (Num.div_isSome (q.value.mul cF) tq.value (Rat.ne_of_gt ht))
        have hne : (tq.value.val == 0) = false := by simpa using Rat.ne_of_gt ht
        have nx : Near 7 x.toFlt (q.value.val * cQ.val / tq.value.val) := by
          have h1 := mul_near (Near.refl hq) (Near.refl hc0)
          have h2 := div_near h1 (Near.refl (Rat.le_of_lt ht)) ht ht hx
          rw [hc] at h2
          exact toFlt_near h2
        rw [hcF, hcQ]
        simp only [numDiv, numMul, numAdd, Bool.false_eq_true, if_false, if_true, hx, hne]
        exact ⟨_, _, rfl, rfl, h.add hk nx⟩
  | proportion v p w s =>
    cases v with
    | none => exact ha.elim
    | some v => exact ⟨_, _, rfl, rfl, h.add hk ((toFlt_near (Near.refl ha)).weaken (by omega))⟩

theorem sumStep_tracks {total : Option Quantity} {k : Nat} (hk : 7 ≤ k) {stF stQ : SumState}
    (h : Tracks k stF stQ) {a : Amount} (ha : UseOK total k stQ.used.val a) :
    ∃ stF' stQ', sumStep false total stF a = some stF' ∧ sumStep true total stQ a = some stQ' ∧
      Tracks (k + 1) stF' stQ' := by
  rcases ha with ha | ⟨hrem, hoff⟩
  · exact sumStep_tracks_plain hk h ha
  · cases a with
    | quantity q => simp [isRemainder] at hrem
    | proportion v p w s =>
      cases v with
      | some v => simp [isRemainder] at hrem
      | none =>
        obtain ⟨hF0, hS0, n1, n2⟩ := h.near
        have hge := rndW_pow_ge_one k
        rcases hoff with hlt | hgt
        · -- both layers are below 1: the remainder fills up to exactly 1
          have hS1 : stQ.used.val < 1 := by have := Rat.mul_le_mul_of_nonneg_right hge hS0; grind
          have hF1 : stF.used.val < 1 := by grind
          have a1 : ¬ stF.used.val ≥ 1 := by grind
          have a2 : ¬ stF.used.val > 1 := by grind
          have b1 : ¬ stQ.used.val ≥ 1 := by grind
          have b2 : ¬ stQ.used.val > 1 := by grind
          refine ⟨{ stF with used := ⟨1, .flt⟩ }, { stQ with used := ⟨1, .flt⟩ }, ?_, ?_,
            ⟨rfl, (Near.refl (show (0 : Rat) ≤ 1 by decide)).weaken (by omega), h.problem, h.lints⟩⟩
          · simp only [sumStep, a1, a2, if_false]
          · simp only [sumStep, b1, b2, if_false]
        · -- both layers are above 1: no remainder is left
          have hS1 : stQ.used.val > 1 := by grind
          have hF1 : stF.used.val > 1 := by
            have hpos : 0 < rndW ^ k := by grind
            have : rndW ^ k * 1 < rndW ^ k * stF.used.val := by grind
            exact Rat.lt_of_mul_lt_mul_left this (Rat.le_of_lt hpos)
          have a1 : stF.used.val ≥ 1 := by grind
          have b1 : stQ.used.val ≥ 1 := by grind
          refine ⟨_, _, ?_, ?_, h.report .nonPositiveRemainder⟩
          · simp only [sumStep, a1, hF1, if_true]
          · simp only [sumStep, b1, hS1, if_true]

theorem sumRefs_tracks {total : Option Quantity} (hz : ∀ tq, total = some tq → tq.value.val ≠ 0) :
    ∀ (amounts : List Amount) {k : Nat} (_ : 7 ≤ k) {stF stQ : SumState}, Tracks k stF stQ →
      Covered total k stQ.used.val amounts →
      ∃ stF' stQ', sumRefs false total stF amounts = some stF' ∧ sumRefs true total stQ amounts = some stQ' ∧
        Tracks (k + amounts.length) stF' stQ'
  | [], k, _, stF, stQ, h, _ => ⟨stF, stQ, rfl, rfl, h⟩
  | a :: as, k, hk, stF, stQ, h, hall => by
    obtain ⟨sF, sQ, e1, e2, h'⟩ := sumStep_tracks hk h hall.1
    obtain ⟨sQ2, f1, f2, _, _⟩ := sumStep_spec total hz stQ a
    rw [e2] at f1; cases f1
    have hc := hall.2
    rw [← f2] at hc
    obtain ⟨sF', sQ', g1, g2, h''⟩ := sumRefs_tracks hz as (show 7 ≤ k + 1 by omega) h' hc
    refine ⟨sF', sQ', by simp [sumRefs, e1, g1], by simp [sumRefs, e2, g2], ?_⟩
    have : k + 1 + as.length = k + (a :: as).length := by simp; omega
    rw [← this]; exact h''

/-- **the float accumulation is within `n + 7` roundings of the exact one**: both layers raise the same lints on
    the way, and the accumulated proportions are within a factor `(1 + 2^-53)^(n+7)` of each other -/
theorem floatSum_near {total : Option Quantity} (hz : ∀ tq, total = some tq → tq.value.val ≠ 0)
    (amounts : List Amount) (hall : Covered total 7 0 amounts) :
    ∃ stF stQ, sumRefs false total {} amounts = some stF ∧ sumRefs true total {} amounts = some stQ ∧
      Near (amounts.length + 7) stF.used.val stQ.used.val ∧
      stQ.used.val = usedQ total 0 amounts ∧
      stF.problem = stQ.problem ∧ stF.lints = stQ.lints ∧
      stQ.problem = !(lintsQ total 0 amounts).isEmpty := by
  obtain ⟨stF, stQ, e1, e2, h⟩ := sumRefs_tracks hz amounts (Nat.le_refl 7) tracks_init hall
  obtain ⟨st, c1, c2, _, c4⟩ := sumRefs_closed total hz amounts
  rw [e2] at c1; cases c1
  refine ⟨stF, stQ, e1, e2, ?_, c2, h.problem, h.lints, c4⟩
  have := h.near
  rwa [Nat.add_comm] at this

/-- `0.02` as a double -/
theorem relTol2_val : relTol2 = 5764607523034235 / 288230376151711744 := by decide +kernel

/-- pure arithmetic: clearly inside the threshold.  `F` is the float proportion, `S` the exact one, `e` the relative error
    between them; `A = |1 − F|`, `D` its rounding, `T` the rounding of `0.02·F`: the comparison finds `D ≤ 0.02` or `D ≤ T` -/
theorem core_inside {F S e eS A D T : Rat} (hS : 0 ≤ S) (he0 : 0 ≤ e) (he : e ≤ 1 / 100)
    (heS : eS = e * S) (h1 : F - S ≤ eS) (h2 : -eS ≤ F - S)
    (hA : A = 1 - F ∨ A = F - 1)
    (hD : D ≤ rndW * A) (hT : relTol2 * F ≤ rndW * T)
    (hin : absQ (S - 1) + (2 * e + 1 / 9007199254740992) * max S 1 < 2 / 100 * max S 1) :
    D ≤ relTol2 ∨ D ≤ T := by
  -- below 1 (`S < 1`): `D ≤ (1 + 2⁻⁵³)(1 − S + e)` and `hin` bounds `1 − S` by `0.02 − 2e − 2⁻⁵³`, so `D ≤ rd(0.02)`;
  -- from 1 on: `D ≤ (1 + 2⁻⁵³)(S − 1 + eS)` against `T ≥ 0.02·(S − eS)/(1 + 2⁻⁵³)`, and `hin` leaves `2eS + 2⁻⁵³·S` between
  rw [relTol2_val] at hT ⊢
  simp only [rndW] at hD hT
  have p1 : 0 ≤ eS := by rw [heS]; exact Rat.mul_nonneg he0 hS
  have p2 : eS ≤ 1 / 100 * S := by rw [heS]; exact Rat.mul_le_mul_of_nonneg_right he hS
  rcases absQ_max_cases S with ⟨hs, ea, em⟩ | ⟨hs, ea, em⟩ <;> rw [ea, em] at hin
  · left
    have p3 : eS ≤ e := by
      have := Rat.mul_le_mul_of_nonneg_left (Rat.le_of_lt hs) he0
      rw [heS]; grind
    rcases hA with hA | hA <;> grind
  · right
    have e1 : (2 * e + 1 / 9007199254740992) * S = 2 * eS + 1 / 9007199254740992 * S := by rw [heS]; grind
    rw [e1] at hin
    rcases hA with hA | hA <;> grind

/-- pure arithmetic: clearly outside the threshold (same letters): the comparison finds `D > 0.02` and `D > T`, and `F` is on
    the side of `1` that `S` is on -/
theorem core_outside {F S e eS A D T : Rat} (hS : 0 ≤ S) (he0 : 0 ≤ e) (he : e ≤ 1 / 100)
    (heS : eS = e * S) (h1 : F - S ≤ eS) (h2 : -eS ≤ F - S)
    (hA : A = 1 - F ∨ A = F - 1) (hA0 : 0 ≤ A)
    (hD : A ≤ rndW * D) (hT : T ≤ rndW * (relTol2 * F))
    (hout : 2 / 100 * max S 1 + (2 * e + 1 / 9007199254740992) * max S 1 < absQ (S - 1)) :
    F ≠ 1 ∧ relTol2 < D ∧ T < D ∧ (F < 1 ↔ S < 1) := by
  rw [relTol2_val] at hT ⊢
  simp only [rndW] at hD hT
  have p1 : 0 ≤ eS := by rw [heS]; exact Rat.mul_nonneg he0 hS
  have p2 : eS ≤ 1 / 100 * S := by rw [heS]; exact Rat.mul_le_mul_of_nonneg_right he hS
  rcases absQ_max_cases S with ⟨hs, ea, em⟩ | ⟨hs, ea, em⟩ <;> rw [ea, em] at hout
  · have p3 : eS ≤ e := by
      have := Rat.mul_le_mul_of_nonneg_left (Rat.le_of_lt hs) he0
      rw [heS]; grind
    rcases hA with hA | hA <;> grind
  · have e1 : (2 * e + 1 / 9007199254740992) * S = 2 * eS + 1 / 9007199254740992 * S := by rw [heS]; grind
    rw [e1] at hout
    rcases hA with hA | hA <;> grind

/-- `|toDouble x| = toDouble |x|` -/
theorem abs_toDouble (x : Rat) :
    (if toDouble x < 0 then -toDouble x else toDouble x) = toDouble (if x < 0 then -x else x) := by
  by_cases hx : x < 0
  · have h1 : 0 < toDouble (-x) := toDouble_pos (by grind)
    rw [toDouble_neg] at h1
    have h2 : toDouble x < 0 := by grind
    simp only [hx, h2, if_true, toDouble_neg]
  · have h1 := toDouble_nonneg (show 0 ≤ x by grind)
    have h2 : ¬ toDouble x < 0 := by grind
    simp only [hx, h2, if_false]

/-- the comparison `lint.py` performs, for a non-negative accumulated proportion -/
theorem isclose_one_eq {F : Rat} (hF : 0 ≤ F) :
    isclose F 1 relTol2 =
      (F == 1 || (decide (toDouble (if 1 - F < 0 then -(1 - F) else 1 - F) ≤ relTol2) ||
                  decide (toDouble (if 1 - F < 0 then -(1 - F) else 1 - F) ≤ toDouble (relTol2 * F)))) := by
  have h1 : ¬ ((1 : Rat) < 0) := by decide
  have h2 : ¬ (F < 0) := by grind
  have h3 : toDouble (relTol2 * 1) = relTol2 := by
    rw [Rat.mul_one]; exact toDouble_idem _
  unfold isclose
  by_cases h : (F == 1) = true
  · simp [h]
  · simp only [h, h1, h2, if_false, abs_toDouble, h3, Bool.false_or, Bool.false_eq_true]

/-- clearly inside or clearly outside the 2 % rule, by a relative margin `δ` -/
def OffThreshold (δ u : Rat) : Prop :=
  absQ (u - 1) + δ * max u 1 < (2 / 100 : Rat) * max u 1 ∨ (2 / 100 : Rat) * max u 1 + δ * max u 1 < absQ (u - 1)

/-- margin that covers `k` roundings in the accumulation plus those of the comparison: `(2k + 1)·2^-52` -/
def offMargin (k : Nat) : Rat := (2 * (k : Rat) + 1) / 4503599627370496

theorem closeQ_of_inside {δ S : Rat} (hδ : 0 ≤ δ)
    (h : absQ (S - 1) + δ * max S 1 < (2 / 100 : Rat) * max S 1) : CloseQ S := by
  unfold CloseQ
  have : 0 ≤ δ * max S 1 := Rat.mul_nonneg hδ (by grind)
  grind

theorem not_closeQ_of_outside {δ S : Rat} (hδ : 0 ≤ δ)
    (h : (2 / 100 : Rat) * max S 1 + δ * max S 1 < absQ (S - 1)) : ¬ CloseQ S := by
  unfold CloseQ
  have : 0 ≤ δ * max S 1 := Rat.mul_nonneg hδ (by grind)
  grind

/-- **off the threshold the binary64 verdict is the exact verdict**: if the float proportion `F` is within `K`
    roundings of the exact one `S`, and `S` is off the 2 % threshold by the margin `(2K+1)·2^-52`, then
    `isclose(F, 1, rel_tol=0.02)` and the under/over classification come out as over the rationals -/
-- `35184372088832 = 2⁴⁵`: up to there the relative error `e = K·2⁻⁵²` is at most `1/100`, which is all `core_inside`/`core_outside` ask of it
theorem sumVerdict_agree {K : Nat} {F S : Rat} (h : Near K F S) (hK : K ≤ 35184372088832)
    (hoff : OffThreshold (offMargin K) S) : sumVerdict false F = sumVerdict true S := by
  have hF := h.1
  have hS := h.2.1
  obtain ⟨h2, h1⟩ := abs_le_iff.1 (h.err_linear (by omega))
  have hKq : ((K : Nat) : Rat) ≤ 35184372088832 := by
    have := Rat.natCast_le_natCast.2 hK
    rwa [show ((35184372088832 : Nat) : Rat) = 35184372088832 from rfl] at this
  have hK0 : (0 : Rat) ≤ (K : Rat) := by exact_mod_cast Nat.zero_le K
  generalize he : (K : Rat) / 4503599627370496 = e at *
  have he0 : 0 ≤ e := by grind
  have he1 : e ≤ 1 / 100 := by grind
  have hδ : 2 * e + 1 / 9007199254740992 ≤ offMargin K := by
    unfold offMargin; grind
  have hδ0 : 0 ≤ offMargin K := by grind
  -- the comparison's own roundings
  generalize hAdef : (if 1 - F < 0 then -(1 - F) else 1 - F) = A
  have hA0 : 0 ≤ A := by rw [← hAdef]; split <;> grind
  have hA : A = 1 - F ∨ A = F - 1 := by rw [← hAdef]; split <;> grind
  have nD := Near.of_toDouble hA0
  have hr0 : (0 : Rat) ≤ relTol2 := by rw [relTol2_val]; decide +kernel
  have nT := Near.of_toDouble (Rat.mul_nonneg hr0 hF)
  obtain ⟨_, _, d1, d2⟩ := nD
  obtain ⟨_, _, t1, t2⟩ := nT
  simp only [Rat.pow_one] at d1 d2 t1 t2
  have vF : sumVerdict false F =
      if (F == 1 || (decide (toDouble A ≤ relTol2) || decide (toDouble A ≤ toDouble (relTol2 * F)))) = true
      then [] else if F < 1 then [.notUsedUp] else [.usedTooMuch] := by
    unfold sumVerdict
    simp only [Bool.false_eq_true, if_false, isclose_one_eq hF, hAdef]
  rw [vF, sumVerdict_eq]
  have hm := Rat.mul_le_mul_of_nonneg_right hδ (show 0 ≤ max S 1 by grind)
  rcases hoff with hin | hout
  · have hc := closeQ_of_inside hδ0 hin
    have := core_inside hS he0 he1 rfl h1 h2 hA d1 t2
      (Std.lt_of_le_of_lt (Rat.add_le_add_left.2 hm) hin)
    have hb : (F == 1 || (decide (toDouble A ≤ relTol2) || decide (toDouble A ≤ toDouble (relTol2 * F)))) = true := by
      rcases this with h | h <;> simp [h]
    simp only [hb, hc, if_true]
  · have hc := not_closeQ_of_outside hδ0 hout
    obtain ⟨c1, c2, c3, c4⟩ := core_outside hS he0 he1 rfl h1 h2 hA hA0 d2 t1
      (Std.lt_of_le_of_lt (Rat.add_le_add_left.2 hm) hout)
    have hb : ¬ (F == 1 || (decide (toDouble A ≤ relTol2) || decide (toDouble A ≤ toDouble (relTol2 * F)))) = true := by
      have n2 : ¬ toDouble A ≤ relTol2 := by grind
      have n3 : ¬ toDouble A ≤ toDouble (relTol2 * F) := by grind
      simp [c1, n2, n3]
    simp only [hb, hc, if_false]
    by_cases hs : S < 1
    · simp [hs, c4.2 hs]
    · have : ¬ F < 1 := fun hf => hs (c4.1 hf)
      simp [hs, this]

/-- what the analysis asks of one output of a sub recipe (its total and the uses of it): uses covered
    (`Covered`: plain uses, and remainders met off `1`), and, unless a lint is raised on the way (then no verdict
    is computed), the exact accumulated proportion off the threshold by the margin for `n + 7` roundings, i.e.
    `(2n + 15)·2^-52` relative to `max used 1`; at most `10¹²` uses (any bound with `n + 7 ≤ 2⁴⁵` would do, see
    `sumVerdict_agree`) -/
def GroupOff (p : Option Quantity × List Amount) : Prop :=
  Covered p.1 7 0 p.2 ∧ p.2.length ≤ 1000000000000 ∧
    (lintsQ p.1 0 p.2 = [] → OffThreshold (offMargin (p.2.length + 7)) (usedQ p.1 0 p.2))

theorem groupOff_of_plain {total : Option Quantity} {amounts : List Amount}
    (hall : ∀ a ∈ amounts, PlainUse total a) (hn : amounts.length ≤ 1000000000000)
    (hoff : lintsQ total 0 amounts = [] → OffThreshold (offMargin (amounts.length + 7)) (usedQ total 0 amounts)) :
    GroupOff (total, amounts) := ⟨covered_of_plain _ _ _ hall, hn, hoff⟩

/-- one sub recipe output: the float loop and verdict report what the exact ones report -/
theorem group_agree {total : Option Quantity} (hz : ∀ tq, total = some tq → tq.value.val ≠ 0)
    (amounts : List Amount) (h : GroupOff (total, amounts)) :
    ∃ stF stQ, sumRefs false total {} amounts = some stF ∧ sumRefs true total {} amounts = some stQ ∧
      stF.lints ++ (if stF.problem then [] else sumVerdict false stF.used.val) =
      stQ.lints ++ (if stQ.problem then [] else sumVerdict true stQ.used.val) := by
  obtain ⟨hall, hn, hoff⟩ := h
  simp only at hall hn hoff
  obtain ⟨stF, stQ, e1, e2, hnear, hval, hp, hl, hpq⟩ := floatSum_near hz amounts hall
  refine ⟨stF, stQ, e1, e2, ?_⟩
  rw [hp, hl]
  by_cases hprob : stQ.problem = true
  · simp [hprob]
  · have hnil : lintsQ total 0 amounts = [] := by
      rw [hpq] at hprob
      simpa using hprob
    have ho := hoff hnil
    rw [← hval] at ho
    simp only [hprob]
    rw [sumVerdict_agree hnear (by omega) ho]

theorem sumChecks_go_agree : ∀ l : List (Option Quantity × List Amount),
    (∀ p ∈ l, ∀ tq, p.1 = some tq → tq.value.val ≠ 0) → (∀ p ∈ l, GroupOff p) →
    sumChecks.go false l = sumChecks.go true l
  | [], _, _ => rfl
  | (total, amounts) :: rest, hz, h => by
    obtain ⟨stF, stQ, e1, e2, hm⟩ :=
      group_agree (hz (total, amounts) List.mem_cons_self) amounts (h (total, amounts) List.mem_cons_self)
    have ih := sumChecks_go_agree rest (fun p hp => hz p (List.mem_cons_of_mem _ hp))
      (fun p hp => h p (List.mem_cons_of_mem _ hp))
    simp only [sumChecks.go, e1, e2, ih, hm]

/-- **C20.4 (off-threshold part): off the threshold the binary64 rule is the exact rule.** If, for every sub
    recipe output that is referred to, the uses are covered (quantities with the conversion factor both layers
    agree on, explicit proportions, uses that both layers reject, remainders met when the proportion accumulated
    so far is off `1` by the roundings so far) and, where a verdict is computed, the exact accumulated proportion is off the 2 % threshold by `(2n + 15)·2^-52` (relative; `n`
    uses), then the linter in binary64 reports exactly what the exact-rational reading of the rule reports -/
theorem lintF_eq_lintQ_off_threshold (blocks : List Block) (h : ∀ p ∈ lintGroups blocks, GroupOff p) :
    lintF blocks = lintQ blocks := by
  unfold lintF lintQ lintWith
  rw [sumChecks_eq, sumChecks_eq, sumChecks_go_agree _ (lintGroups_nonzero blocks) h]

theorem plainUse_no_units {tq q : Quantity} (ht : 0 < tq.value.val) (hq : 0 ≤ q.value.val)
    (h1 : q.unit = none) (h2 : tq.unit = none) : PlainUse (some tq) (.quantity q) := by
  refine Or.inr ⟨ht, hq, ⟨1, .flt⟩, ⟨1, .flt⟩, ?_, ?_, rfl, by decide⟩ <;> simp [convFactor, h1, h2]

theorem plainUse_of_factor {tq q : Quantity} (ht : 0 < tq.value.val) (hq : 0 ≤ q.value.val) {cF cQ : Num}
    (hF : convFactor false q tq = some cF) (hQ : convFactor true q tq = some cQ) (hc : cF.val = cQ.val)
    (h0 : 0 ≤ cF.val) : PlainUse (some tq) (.quantity q) := Or.inr ⟨ht, hq, cF, cQ, hF, hQ, hc, h0⟩

/-- the accumulated float proportion is within `(n + 7)·2^-52`, relative, of the exact one -/
theorem floatSum_err {total : Option Quantity} (hz : ∀ tq, total = some tq → tq.value.val ≠ 0)
    (amounts : List Amount) (hall : Covered total 7 0 amounts) (hn : amounts.length ≤ 1000000000000) :
    ∃ stF, sumRefs false total {} amounts = some stF ∧
      (stF.used.val - usedQ total 0 amounts).abs ≤
        ((amounts.length : Rat) + 7) / 4503599627370496 * usedQ total 0 amounts := by
  obtain ⟨stF, stQ, e1, _, hnear, hval, _⟩ := floatSum_near hz amounts hall
  refine ⟨stF, e1, ?_⟩
  have := hnear.err_linear (by omega)
  rwa [hval, show ((amounts.length + 7 : Nat) : Rat) = (amounts.length : Rat) + 7 by simp [Rat.natCast_add]] at this

/-- under-use (`used ≤ 1`): "off the threshold" says the exact relative shortfall `1 - used = (t - Σaᵢ)/t` is
    further than `δ` from `1/50` -/
theorem offThreshold_under {δ u : Rat} (hu : u ≤ 1) :
    OffThreshold δ u ↔ δ < ((1 - u) - 1 / 50).abs := by
  unfold OffThreshold absQ
  have h3 : max u 1 = 1 := by grind
  rw [h3]
  simp only [Rat.abs]
  split <;> split <;> grind

/-- over-use (`used ≥ 1`): the excess `used - 1 = (Σaᵢ - t)/t` is further than `δ·used` from `used/50` -/
theorem offThreshold_over {δ u : Rat} (hu : 1 ≤ u) :
    OffThreshold δ u ↔ δ * u < ((u - 1) - u / 50).abs := by
  unfold OffThreshold absQ
  have h3 : max u 1 = u := by grind
  rw [h3]
  have h1 : ¬ (u - 1 < 0) := by grind
  simp only [Rat.abs, Rat.div_def, h1, if_false]
  by_cases h : 0 ≤ u - 1 - u * 50⁻¹
  · simp only [h, if_true]; grind
  · simp only [h, if_false]; grind

instance (δ u : Rat) : Decidable (OffThreshold δ u) := inferInstanceAs (Decidable (_ ∨ _))

def plainUseB (total : Option Quantity) : Amount → Bool
  | .quantity q =>
    match total with
    | none => true
    | some tq =>
      match convFactor false q tq, convFactor true q tq with
      | none, none => true
      | some cF, some cQ =>
        decide (0 < tq.value.val) && decide (0 ≤ q.value.val) && decide (cF.val = cQ.val) && decide (0 ≤ cF.val)
      | _, _ => false
  | .proportion (some v) _ _ _ => decide (0 ≤ v.val)
  | .proportion none _ _ _ => false

def coveredB (total : Option Quantity) : Nat → Rat → List Amount → Bool
  | _, _, [] => true
  | k, u, a :: as =>
    (plainUseB total a || (isRemainder a && (decide (rndW ^ k * u < 1) || decide (rndW ^ k < u)))) &&
      coveredB total (k + 1) (stepUsedQ total u a) as

def groupOffB (p : Option Quantity × List Amount) : Bool :=
  coveredB p.1 7 0 p.2 && decide (p.2.length ≤ 1000000000000) &&
    (!(lintsQ p.1 0 p.2).isEmpty || decide (OffThreshold (offMargin (p.2.length + 7)) (usedQ p.1 0 p.2)))

theorem plainUseB_sound {total : Option Quantity} {a : Amount} (h : plainUseB total a = true) :
    PlainUse total a := by
  cases a with
  | quantity q =>
    cases total with
    | none => trivial
    | some tq =>
      simp only [plainUseB] at h
      split at h
      · rename_i hF hQ
        exact Or.inl ⟨hF, hQ⟩
      · rename_i cF cQ hF hQ
        simp only [Bool.and_eq_true, decide_eq_true_eq] at h
        exact Or.inr ⟨h.1.1.1, h.1.1.2, cF, cQ, hF, hQ, h.1.2, h.2⟩
      · cases h
  | proportion v p w s =>
    cases v with
    | none => cases h
    | some v => simpa [plainUseB, PlainUse] using h

theorem coveredB_sound {total : Option Quantity} : ∀ (amounts : List Amount) (k : Nat) (u : Rat),
    coveredB total k u amounts = true → Covered total k u amounts
  | [], _, _, _ => trivial
  | a :: as, k, u, h => by
    simp only [coveredB, Bool.and_eq_true, Bool.or_eq_true, decide_eq_true_eq] at h
    refine ⟨?_, coveredB_sound as _ _ h.2⟩
    rcases h.1 with h1 | h1
    · exact Or.inl (plainUseB_sound h1)
    · exact Or.inr h1

theorem groupOffB_sound {p : Option Quantity × List Amount} (h : groupOffB p = true) : GroupOff p := by
  simp only [groupOffB, Bool.and_eq_true, Bool.or_eq_true, decide_eq_true_eq,
    Bool.not_eq_true'] at h
  obtain ⟨⟨hall, hn⟩, hoff⟩ := h
  refine ⟨coveredB_sound _ _ _ hall, hn, fun hnil => ?_⟩
  rcases hoff with h | h
  · rw [hnil] at h; simp at h
  · exact h

/-- C20.4 (off-threshold part) with the hypotheses checked by evaluation -/
theorem lintF_eq_lintQ_of_check (blocks : List Block) (h : (lintGroups blocks).all groupOffB = true) :
    lintF blocks = lintQ blocks :=
  lintF_eq_lintQ_off_threshold blocks fun p hp => groupOffB_sound (List.all_eq_true.1 h p hp)

example : toDouble (1 / 10) = 3602879701896397 / 36028797018963968 := by decide +kernel
example : toDouble (mkRat 2 100) ≠ 1 / 50 ∧ (toDouble (mkRat 2 100) - 1 / 50).abs ≤ 1 / 50 / 9007199254740992 := by
  decide +kernel
example : toDouble 9007199254740993 = 9007199254740992 ∧ toDouble 9007199254740995 = 9007199254740996 := by
  decide +kernel

/-- `100 g x` as an implicit single-ingredient sub recipe -/
def bSub : Tree :=
  .sub (.ingredient [.text wX] (some ⟨⟨100, .int⟩, some wG, " ".toList, []⟩)) [[.text wX]] false
def bUse (v : Rat) (k : NumKind) : Amount := .quantity ⟨⟨v, k⟩, some wG, " ".toList, []⟩
/-- `100 g x`, then `mix(a g x, b g x)` -/
def bBlocks (a b : Amount) : List Block := [[bSub, .step [.text "mix".toList] [.reference bSub 0 a, .reference bSub 0 b]]]

/-- a sub recipe of two ingredients (no total quantity), used by proportions: `0.5` and `0.47` of it -/
def bSauce : Tree :=
  .sub (.step [.text "sauce".toList] [.ingredient [.text wX] none, .ingredient [.text wG] none])
    [[.text "sauce".toList]] false
def bProp (v : Rat) (k : NumKind) : Amount := .proportion (some ⟨v, k⟩) false none []
def bSauceBlocks (uses : List Amount) : List Block :=
  [[bSauce, .step [.text "mix".toList] (uses.map (.reference bSauce 0 ·))]]

/-- what the examples below evaluate, one field per example (`used…`: what both layers report; `off…`: the hypothesis of
    `lintF_eq_lintQ_of_check` holds for that description) -/
structure BExampleFacts : Prop where
  used97 : lintF (bBlocks (bUse 49 .int) (bUse 48 .int)) = some [.notUsedUp] ∧
    lintQ (bBlocks (bUse 49 .int) (bUse 48 .int)) = some [.notUsedUp]
  used99 : lintF (bBlocks (bUse (99 / 2) .flt) (bUse (99 / 2) .flt)) = some [] ∧
    lintQ (bBlocks (bUse (99 / 2) .flt) (bUse (99 / 2) .flt)) = some []
  off97 : (lintGroups (bBlocks (bUse 49 .int) (bUse 48 .int))).all groupOffB = true
  offMixedKinds : (lintGroups (bBlocks (bUse (toDouble (mkRat 491 10)) .flt) (bUse (1439 / 30) .frac))).all groupOffB = true
  off103 : (lintGroups (bBlocks (bUse 60 .int) (bUse 43 .int))).all groupOffB = true
  usedSauce : lintF (bSauceBlocks [bProp (1 / 2) .frac, bProp (toDouble (mkRat 47 100)) .flt]) = some [.notUsedUp]
  offSauce : (lintGroups (bSauceBlocks [bProp (1 / 2) .frac, bProp (toDouble (mkRat 47 100)) .flt])).all groupOffB = true
  offUnknownTotal : (lintGroups (bSauceBlocks [bProp (1 / 2) .frac, bUse 3 .int])).all groupOffB = true
  offMl : (lintGroups (bBlocks (bUse 49 .int) (.quantity ⟨⟨48, .int⟩, some "ml".toList, [], []⟩))).all groupOffB = true
  offKg :
    (lintGroups (bBlocks (bUse 49 .int) (.quantity ⟨⟨48 / 1000, .frac⟩, some "kg".toList, [], []⟩))).all groupOffB = true
  offExBlocks : (lintGroups exBlocks).all groupOffB = true
  usedRemainder : lintF (bBlocks (bUse 120 .int) (.proportion none false none [])) = some [.nonPositiveRemainder]
  offRemainder : (lintGroups (bBlocks (bUse 120 .int) (.proportion none false none []))).all groupOffB = true
  onThreshold : (lintGroups wBlocks).all groupOffB = false

instance : Decidable BExampleFacts :=
  decidable_of_iff (_ ∧ _ ∧ _ ∧ _ ∧ _ ∧ _ ∧ _ ∧ _ ∧ _ ∧ _ ∧ _ ∧ _ ∧ _ ∧ _)
    ⟨fun h => ⟨h.1, h.2.1, h.2.2.1, h.2.2.2.1, h.2.2.2.2.1, h.2.2.2.2.2.1, h.2.2.2.2.2.2.1, h.2.2.2.2.2.2.2.1,
       h.2.2.2.2.2.2.2.2.1, h.2.2.2.2.2.2.2.2.2.1, h.2.2.2.2.2.2.2.2.2.2.1, h.2.2.2.2.2.2.2.2.2.2.2.1,
       h.2.2.2.2.2.2.2.2.2.2.2.2.1, h.2.2.2.2.2.2.2.2.2.2.2.2.2⟩,
     fun h => ⟨h.used97, h.used99, h.off97, h.offMixedKinds, h.off103, h.usedSauce, h.offSauce, h.offUnknownTotal, h.offMl,
       h.offKg, h.offExBlocks, h.usedRemainder, h.offRemainder, h.onThreshold⟩⟩

/-- evaluated in one statement so that the kernel compiles and lints each description once -/
theorem bExamples_evaluated : BExampleFacts := by decide +kernel

/-- 97 % used: 1 % beyond the threshold. Both layers report `sub_recipe_not_used_up` -/
example : lintF (bBlocks (bUse 49 .int) (bUse 48 .int)) = some [.notUsedUp] ∧
    lintQ (bBlocks (bUse 49 .int) (bUse 48 .int)) = some [.notUsedUp] := bExamples_evaluated.used97
/-- 99 % used: 1 % inside the threshold. Neither layer reports anything (floats `49.5` and `49.5`) -/
example : lintF (bBlocks (bUse (99 / 2) .flt) (bUse (99 / 2) .flt)) = some [] ∧
    lintQ (bBlocks (bUse (99 / 2) .flt) (bUse (99 / 2) .flt)) = some [] := bExamples_evaluated.used99
/-- the hypotheses of the theorem hold for these (non-vacuity), also with float and fraction amounts -/
example : (lintGroups (bBlocks (bUse 49 .int) (bUse 48 .int))).all groupOffB = true := bExamples_evaluated.off97
example : lintF (bBlocks (bUse (toDouble (mkRat 491 10)) .flt) (bUse (1439 / 30) .frac)) =
    lintQ (bBlocks (bUse (toDouble (mkRat 491 10)) .flt) (bUse (1439 / 30) .frac)) :=
  lintF_eq_lintQ_of_check _ bExamples_evaluated.offMixedKinds
/-- 103 % used: `sub_recipe_used_too_much` in both layers -/
example : lintF (bBlocks (bUse 60 .int) (bUse 43 .int)) = lintQ (bBlocks (bUse 60 .int) (bUse 43 .int)) :=
  lintF_eq_lintQ_of_check _ bExamples_evaluated.off103
example : lintF (bSauceBlocks [bProp (1 / 2) .frac, bProp (toDouble (mkRat 47 100)) .flt]) = some [.notUsedUp] :=
  bExamples_evaluated.usedSauce
example : lintF (bSauceBlocks [bProp (1 / 2) .frac, bProp (toDouble (mkRat 47 100)) .flt]) =
    lintQ (bSauceBlocks [bProp (1 / 2) .frac, bProp (toDouble (mkRat 47 100)) .flt]) :=
  lintF_eq_lintQ_of_check _ bExamples_evaluated.offSauce
/-- a quantity of a sub recipe without total: both layers report `sub_recipe_quantity_unknown`, no verdict -/
example : lintF (bSauceBlocks [bProp (1 / 2) .frac, bUse 3 .int]) =
    lintQ (bSauceBlocks [bProp (1 / 2) .frac, bUse 3 .int]) :=
  lintF_eq_lintQ_of_check _ bExamples_evaluated.offUnknownTotal
/-- a unit that does not convert (`ml` of a total in `g`): both layers report it -/
example : lintF (bBlocks (bUse 49 .int) (.quantity ⟨⟨48, .int⟩, some "ml".toList, [], []⟩)) =
    lintQ (bBlocks (bUse 49 .int) (.quantity ⟨⟨48, .int⟩, some "ml".toList, [], []⟩)) :=
  lintF_eq_lintQ_of_check _ bExamples_evaluated.offMl
/-- `kg` of a total in `g`: both layers convert by exactly 1000 -/
example : lintF (bBlocks (bUse 49 .int) (.quantity ⟨⟨48 / 1000, .frac⟩, some "kg".toList, [], []⟩)) =
    lintQ (bBlocks (bUse 49 .int) (.quantity ⟨⟨48 / 1000, .frac⟩, some "kg".toList, [], []⟩)) :=
  lintF_eq_lintQ_of_check _ bExamples_evaluated.offKg
/-- `500 g flour`, an unused `1 egg`, `mix(200 g flour, remainder of flour)` (`exBlocks` of `C20`): the remainder
    is met at 40 %, far from 1; both layers report the unused egg only -/
example : lintF exBlocks = lintQ exBlocks := lintF_eq_lintQ_of_check _ bExamples_evaluated.offExBlocks
/-- a remainder after everything was used: both layers report `non_positive_remainder` -/
example : lintF (bBlocks (bUse 120 .int) (.proportion none false none [])) = some [.nonPositiveRemainder] ∧
    lintF (bBlocks (bUse 120 .int) (.proportion none false none [])) =
      lintQ (bBlocks (bUse 120 .int) (.proportion none false none [])) :=
  ⟨bExamples_evaluated.usedRemainder,
    lintF_eq_lintQ_of_check _ bExamples_evaluated.offRemainder⟩
/-- exactly on the threshold (the recorded finding `lintF_boundary_flip`) the check fails, as it must -/
example : (lintGroups wBlocks).all groupOffB = false := bExamples_evaluated.onThreshold

end RG.C20
