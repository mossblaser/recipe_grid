import RecipeGrid.Lemmas.FloatErr
import RecipeGrid.Props.C03
/-! C03.3 for float factors: scaling by a float is the exact product rounded once, so it is within one unit
    roundoff (`2^-53`, relative) of the exact product, and scaling twice is within 6 units roundoff of scaling
    once by the (rounded) product of the factors. `toDouble` has an unbounded exponent, so no range condition
    appears; for binary64 proper the statements apply while no intermediate leaves the normal range. -/
namespace RG.C03

/-- what scaling by a float computes: `float(q) * k`, rounded -/
theorem mul_float_val (q k : Num) (hk : k.kind = .flt) :
    (q.mul k).val = toDouble (q.toFlt * k.val) ∧ (q.mul k).kind = .flt := by
  have h := mul_float q k (Or.inr hk)
  rwa [Num.toFlt_of_flt hk] at h

/-- C03.3 (float factor): a float quantity scaled by a float factor is the exact product within `2^-53` relative -/
theorem scale_float_err (q k : Num) (hq : q.kind = .flt) (hk : k.kind = .flt) :
    ((q.mul k).val - q.val * k.val).abs ≤ (q.val * k.val).abs / 9007199254740992 := by
  rw [(mul_float_val q k hk).1, Num.toFlt_of_flt hq]
  exact toDouble_err _

theorem mul_close {x q k c : Rat} (h : (x - q).abs ≤ c * q.abs) : (x * k - q * k).abs ≤ c * (q * k).abs := by
  have e : x * k - q * k = (x - q) * k := by grind
  rw [e, abs_mul, abs_mul]
  have := Rat.mul_le_mul_of_nonneg_right h (@Rat.abs_nonneg k)
  grind

/-- `(1 + 2^-53)^2 - 1 = 2·2^-53 + 2^-106`, a little under 3 units roundoff -/
def twoRoundings : Rat := 18014398509481985 / 81129638414606681695789005144064

theorem twoRoundings_lt : twoRoundings < 3 / 9007199254740992 := by decide +kernel

theorem round_mul_round {x z : Rat} (h : 9007199254740992 * (x - z).abs ≤ z.abs) (k : Rat) :
    (toDouble (x * k) - z * k).abs ≤ twoRoundings * (z * k).abs := by
  have h1 : (x - z).abs ≤ (1 / 9007199254740992) * z.abs := by grind
  have := round_after (mul_close (k := k) h1)
  have hp := @Rat.abs_nonneg (z * k)
  simp only [twoRoundings] at *
  grind

/-- any quantity scaled by a float factor: the quantity is converted (one rounding), the product rounded -/
theorem scale_float_err_any (q k : Num) (hk : k.kind = .flt) :
    ((q.mul k).val - q.val * k.val).abs ≤ 3 * (q.val * k.val).abs / 9007199254740992 := by
  rw [(mul_float_val q k hk).1]
  have := round_mul_round q.toFlt_err k.val
  have := Rat.mul_le_mul_of_nonneg_right (Rat.le_of_lt twoRoundings_lt) (@Rat.abs_nonneg (q.val * k.val))
  grind

/-- scaling by `a` then by `b` (floats): two roundings after `float(q)·a·b` -/
theorem scale_twice_err (q a b : Num) (ha : a.kind = .flt) (hb : b.kind = .flt) :
    (((q.mul a).mul b).val - q.toFlt * a.val * b.val).abs ≤ twoRoundings * (q.toFlt * a.val * b.val).abs := by
  obtain ⟨v1, k1⟩ := mul_float_val q a ha
  rw [(mul_float_val (q.mul a) b hb).1, Num.toFlt_of_flt k1, v1]
  exact round_mul_round (toDouble_err_mul _) b.val

/-- scaling once by the float product `a·b`: two roundings after `float(q)·a·b` -/
theorem scale_once_err (q a b : Num) (ha : a.kind = .flt) (hb : b.kind = .flt) :
    ((q.mul (a.mul b)).val - q.toFlt * a.val * b.val).abs ≤ twoRoundings * (q.toFlt * a.val * b.val).abs := by
  obtain ⟨v1, k1⟩ := mul_float_val a b hb
  rw [(mul_float_val q (a.mul b) k1).1, v1, Num.toFlt_of_flt ha, Rat.mul_comm q.toFlt,
    show q.toFlt * a.val * b.val = a.val * b.val * q.toFlt by grind]
  exact round_mul_round (toDouble_err_mul _) q.toFlt

/-- C03.3 (float factors): scaling twice is within 6 units roundoff (relative to either result) of scaling once
    by the product; binary64 ulps are at least one unit roundoff, so a 6 ulp tolerance covers it -/
theorem scale_twice_close (q a b : Num) (ha : a.kind = .flt) (hb : b.kind = .flt) :
    (((q.mul a).mul b).val - (q.mul (a.mul b)).val).abs ≤ 6 * (q.mul (a.mul b)).val.abs / 9007199254740992 ∧
    (((q.mul a).mul b).val - (q.mul (a.mul b)).val).abs ≤ 6 * ((q.mul a).mul b).val.abs / 9007199254740992 := by
  have h1 := scale_twice_err q a b ha hb
  have h2 := scale_once_err q a b ha hb
  generalize ((q.mul a).mul b).val = X at *
  generalize (q.mul (a.mul b)).val = Y at *
  generalize q.toFlt * a.val * b.val = P at *
  have hPX := abs_le_abs_add_rev P X
  have hPY := abs_le_abs_add_rev P Y
  have hXY := abs_le_abs_add (X - Y) (P - Y)
  rw [show X - Y - (P - Y) = X - P by grind, Rat.abs_sub_comm (x := P)] at hXY
  have hp := @Rat.abs_nonneg P
  simp only [twoRoundings] at *
  generalize (X - Y).abs = D at *
  generalize (X - P).abs = ex at *
  generalize (Y - P).abs = ey at *
  generalize P.abs = p at *
  constructor <;> grind

theorem scale_twice_exact_close (q a b : Num) (hq : q.kind = .flt) (ha : a.kind = .flt) (hb : b.kind = .flt) :
    (((q.mul a).mul b).val - q.val * a.val * b.val).abs ≤ 3 * (q.val * a.val * b.val).abs / 9007199254740992 ∧
    ((q.mul (a.mul b)).val - q.val * a.val * b.val).abs ≤ 3 * (q.val * a.val * b.val).abs / 9007199254740992 := by
  have h1 := scale_twice_err q a b ha hb
  have h2 := scale_once_err q a b ha hb
  rw [Num.toFlt_of_flt hq] at h1 h2
  have hp := @Rat.abs_nonneg (q.val * a.val * b.val)
  have := twoRoundings_lt
  have := Rat.mul_le_mul_of_nonneg_right (Rat.le_of_lt this) hp
  constructor <;> grind

/-- the same for every scalable number of a tree: `scale b (scale a t)` against `scale (a·b) t` -/
theorem scale_twice_close_tree (a b : Num) (ha : a.kind = .flt) (hb : b.kind = .flt) (t : Tree) :
    (nums (Tree.scale b (Tree.scale a t))).length = (nums (Tree.scale (a.mul b) t)).length ∧
    ∀ p ∈ List.zip (nums (Tree.scale b (Tree.scale a t))) (nums (Tree.scale (a.mul b) t)),
      (p.1.val - p.2.val).abs ≤ 6 * p.2.val.abs / 9007199254740992 := by
  rw [scale_numbers, scale_numbers, scale_numbers]
  refine ⟨by simp, ?_⟩
  intro p hp
  rw [List.map_map, List.zip_map'] at hp
  obtain ⟨q, _, rfl⟩ := List.mem_map.1 hp
  exact (scale_twice_close q a b ha hb).1

example : toDouble (1 / 10) = 3602879701896397 / 36028797018963968 := by decide +kernel
example : toDouble (mkRat 2 100) = 5764607523034235 / 288230376151711744 := by decide +kernel
/-- `0.1 * 3` then `* 7` against `0.1 * 21`: the two results differ (by one ulp), within the bound -/
example :
    let q : Num := ⟨toDouble (1 / 10), .flt⟩
    ((q.mul ⟨3, .flt⟩).mul ⟨7, .flt⟩).val ≠ (q.mul (Num.mul ⟨3, .flt⟩ ⟨7, .flt⟩)).val := by decide +kernel

end RG.C03
