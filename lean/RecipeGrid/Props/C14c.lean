import RecipeGrid.Model.SiteSources
import RecipeGrid.Model.Links
import RecipeGrid.Lemmas.SiteSources
import RecipeGrid.Props.C14
import RecipeGrid.Props.C14b
import RecipeGrid.Props.C15
/-! C14c — AUTHORED links between the documents of a site: the source → page table of
    `HomePage.make_source_to_page_paths_lookup()` has exactly one entry for every directory, readme and recipe file of
    the source tree, every entry points at a page of the site, and the link that `resolve_local_links` writes for an
    entry — decoded and resolved against the referring page as a browser does (RFC 3986 §5.2) — leads to the page of the
    linked document at the reader's serving count. -/
namespace RG.C14
open C15 (DirAt InTree Hierarchy)

/-- a source document of the tree, named by the directory names leading to it from the root -/
inductive Source where
  /-- the readme of the root directory (the home page's welcome message) -/
  | rootReadme
  /-- the directory reached by `dirs` (the root itself for `[]`) -/
  | dir (dirs : List Str)
  /-- the readme of the non-root directory reached by `dirs` -/
  | readme (dirs : List Str)
  /-- the recipe file `r` in the directory reached by `dirs` -/
  | recipe (dirs : List Str) (r : RecipeFile)

def Source.Present (root : Dir) : Source → Prop
  | .rootReadme => root.readmeTitle.isSome = true
  | .dir dirs => ∃ d, DirAt root dirs d
  | .readme dirs => dirs ≠ [] ∧ ∃ d, DirAt root dirs d ∧ d.readmeTitle.isSome = true
  | .recipe dirs r => InTree root dirs r

/-- the key of the source in the table: its path relative to the source root, as segments (`rn dirs` is the file name
    of the readme of the directory `dirs`) -/
def Source.key (rn : List Str → Str) : Source → List Str
  | .rootReadme => [rn []]
  | .dir dirs => dirs
  | .readme dirs => dirs ++ [rn dirs]
  | .recipe dirs r => dirs ++ [r.file]

/-- the page that shows the source to a reader who is browsing the hierarchy `sv` (`some n`: `/serves<n>/`; `none`:
    `/categories/` or the home page, where a scalable recipe is shown at its native count) -/
def Source.pageAt : Source → Option Nat → Str
  | .rootReadme, _ => "/index.html".toList
  | .dir dirs, sv => catPath sv dirs
  | .readme dirs, sv => catPath sv dirs
  | .recipe dirs r, sv =>
    match r.servings with
    | none => recipePath none dirs r.file
    | some native => recipePath (some (sv.getD native)) dirs r.file

/-- the flag of the table: false exactly for recipes without a stated serving count -/
def Source.scalable : Source → Bool
  | .recipe _ r => r.servings.isSome
  | _ => true

/-- the table entry of a source: its definitive page is the one a reader outside the `serves<n>` hierarchies sees -/
def Source.entry (rn : List Str → Str) (s : Source) : SrcEntry := (s.key rn, (s.pageAt none, s.scalable))

def Source.CountOK (M : Nat) : Source → Prop
  | .recipe _ r => ∀ native, r.servings = some native → 1 ≤ native ∧ native ≤ M
  | _ => True

theorem entry_dir (rn : List Str → Str) (dirs : List Str) :
    Source.entry rn (.dir dirs) = (dirs, (catPath none dirs, true)) := rfl
theorem entry_readme (rn : List Str → Str) (dirs : List Str) :
    Source.entry rn (.readme dirs) = (dirs ++ [rn dirs], (catPath none dirs, true)) := rfl
theorem entry_rootReadme (rn : List Str → Str) :
    Source.entry rn .rootReadme = ([rn []], ("/index.html".toList, true)) := rfl
theorem pageAt_recipe (dirs : List Str) (r : RecipeFile) (sv : Option Nat) :
    Source.pageAt (.recipe dirs r) sv = match r.servings with
      | none => recipePath none dirs r.file
      | some native => recipePath (some (sv.getD native)) dirs r.file := rfl
/-- on recipes `Source.pageAt` is `recipeListTarget` (`Lemmas/Site.lean`): the page a category's list names for a recipe is
    the page an authored link to the recipe leads to. `recipeListTarget` serves the generated links of C14/C14b, which know
    no `Source`; `Source.pageAt` treats the four kinds of source document alike. -/
theorem pageAt_recipe_eq_listTarget (dirs : List Str) (r : RecipeFile) (sv : Option Nat) :
    Source.pageAt (.recipe dirs r) sv = recipeListTarget sv dirs r := by
  rw [pageAt_recipe]
  unfold recipeListTarget
  cases r.servings <;> cases sv <;> rfl
theorem pageAt_recipe_none (dirs : List Str) (r : RecipeFile) (sv : Option Nat) (h : r.servings = none) :
    Source.pageAt (.recipe dirs r) sv = recipePath none dirs r.file := by
  rw [pageAt_recipe, h]
theorem pageAt_recipe_some (dirs : List Str) (r : RecipeFile) (sv : Option Nat) (n : Nat) (h : r.servings = some n) :
    Source.pageAt (.recipe dirs r) sv = recipePath (some (sv.getD n)) dirs r.file := by
  rw [pageAt_recipe, h]

theorem scalable_eq_false_iff (s : Source) : s.scalable = false ↔ ∃ dirs r, s = .recipe dirs r ∧ r.servings = none := by
  cases s with
  | recipe dirs r =>
    refine ⟨fun h => ⟨dirs, r, rfl, Option.isNone_iff_eq_none.mp (Option.isSome_eq_false_iff.mp h)⟩, ?_⟩
    rintro ⟨_, _, e, h⟩
    cases e
    show r.servings.isSome = false
    rw [h]
    rfl
  | _ => exact ⟨fun h => (by cases h), fun ⟨_, _, e, _⟩ => (by cases e)⟩

theorem recipeSource_eq_some (rn : List Str → Str) (n : Nat) (dirs : List Str) (r : RecipeFile) (e : SrcEntry) :
    recipeSource n dirs r = some e ↔
      e = Source.entry rn (.recipe dirs r) ∧ (r.servings = none ∨ r.servings = some n) := by
  unfold recipeSource
  rw [Source.entry, pageAt_recipe, Source.scalable]
  cases hs : r.servings with
  | none => simp [Source.key, eq_comm]
  | some native =>
    by_cases hn : native = n
    · subst hn; simp [Source.key, eq_comm]
    · have : (native == n) = false := by simpa using hn
      simp [this, hn]

theorem mem_allSources (rn : List Str → Str) (root : Dir) (M : Nat) (e : SrcEntry) :
    e ∈ allSources rn root M ↔
      (root.readmeTitle.isSome = true ∧ e = ([rn []], ("/index.html".toList, true))) ∨
      (∃ n, 1 ≤ n ∧ n ≤ M ∧ e ∈ scaledSources n [] root) ∨
      e ∈ unscaledSources rn [] true root := by
  unfold allSources homeSources
  simp only [List.mem_append, List.mem_flatMap, List.mem_range, ← exists_range_succ_iff, or_assoc,
    List.mem_ite_nil_right, List.mem_singleton]

/-- every pair met by the dict comprehension is the entry of a source of the tree (a recipe that states a serving
    count is met in the `serves<native>` hierarchy, so its count is one of 1..M) -/
theorem allSources_sound (rn : List Str → Str) (root : Dir) (M : Nat) (e : SrcEntry) (h : e ∈ allSources rn root M) :
    ∃ s : Source, s.Present root ∧ s.CountOK M ∧ e = s.entry rn := by
  rcases (mem_allSources rn root M e).mp h with ⟨hr, rfl⟩ | ⟨n, h1, h2, h⟩ | h
  · exact ⟨.rootReadme, hr, trivial, rfl⟩
  · obtain ⟨rel, r, hin, he⟩ := (mem_scaledSources_root n e root).mp h
    obtain ⟨rfl, hs⟩ := (recipeSource_eq_some rn n _ r e).mp he
    refine ⟨.recipe rel r, hin, fun native hnat => ?_, rfl⟩
    rcases hs with hs | hs
    · rw [hs] at hnat
      cases hnat
    · rw [hs] at hnat
      cases hnat
      exact ⟨h1, h2⟩
  · obtain ⟨rel, d', hd, rfl | ⟨hrel, hrd, rfl⟩⟩ := (mem_unscaledSources_root rn e root).mp h
    · exact ⟨.dir rel, ⟨d', hd⟩, trivial, rfl⟩
    · exact ⟨.readme rel, ⟨hrel, d', hd, hrd⟩, trivial, rfl⟩

/-- conversely every source of the tree is met, provided there is at least one `serves<n>` hierarchy (the shared page
    of an unscalable recipe is only ever reached through those) and stated serving counts lie in 1..M -/
theorem allSources_complete (rn : List Str → Str) (root : Dir) (M : Nat) (hM : 1 ≤ M) (s : Source)
    (hin : s.Present root) (hc : s.CountOK M) : s.entry rn ∈ allSources rn root M := by
  rw [mem_allSources]
  cases s with
  | rootReadme => exact .inl ⟨hin, rfl⟩
  | dir dirs =>
    obtain ⟨d, hd⟩ := hin
    exact .inr (.inr ((mem_unscaledSources_root rn _ root).mpr ⟨dirs, d, hd, .inl rfl⟩))
  | readme dirs =>
    obtain ⟨hne, d, hd, hrd⟩ := hin
    exact .inr (.inr ((mem_unscaledSources_root rn _ root).mpr ⟨dirs, d, hd, .inr ⟨hne, hrd, rfl⟩⟩))
  | recipe dirs r =>
    -- a recipe without a stated count is met in `serves1`, one with a count in the hierarchy of that count
    have key : ∀ n, (r.servings = none ∨ r.servings = some n) →
        Source.entry rn (.recipe dirs r) ∈ scaledSources n [] root := fun n hs =>
      (mem_scaledSources_root n _ root).mpr ⟨dirs, r, hin, (recipeSource_eq_some rn n _ r _).mpr ⟨rfl, hs⟩⟩
    cases hs : r.servings with
    | none => exact .inr (.inl ⟨1, Nat.le_refl 1, hM, key 1 (.inl hs)⟩)
    | some native =>
      obtain ⟨h1, h2⟩ := hc native hs
      exact .inr (.inl ⟨native, h1, h2, key native (.inr hs)⟩)

/-- every entry of the table is the entry of a source document of the tree: the root readme ↦ the home page; a
    directory and its readme ↦ the directory's `/categories/…` page; a recipe that states a serving count ↦ its page at
    the native count; a recipe without ↦ its only page, under `/categories/…`, and this is the only kind flagged
    not scalable -/
theorem entries_classified (rn : List Str → Str) (root : Dir) (rootName : Str) (M : Nat) (e : SrcEntry)
    (he : e ∈ sourceToPagePathsWith rn root rootName M) : ∃ s : Source, s.Present root ∧ s.CountOK M ∧ e = s.entry rn :=
  allSources_sound rn root M e (mem_dictOfList_sub _ e he)

theorem countOK_of_site {root : Dir} {rootName : Str} {M : Nat} {ps : List Page} (h : sitePages root rootName M = .ok ps)
    (hpos : ServingsPositive root) (s : Source) (hin : s.Present root) : s.CountOK M := by
  cases s with
  | recipe dirs r =>
    exact fun native hs => hpos.hierarchy h hin hs
  | _ => trivial

/-- the table has exactly one entry for every directory, every readme and every recipe file of the
    tree and no other entry — its keys are pairwise different, and a path is a key exactly if it is the path (relative
    to the source root) of a source document of the tree: `dirs` for a directory, `dirs ++ [readme file name]` for a
    readme, `dirs ++ [file name]` for a recipe.  (`1 ≤ M`: with `M = 0` the Python code raises `KeyError` as soon as the
    tree contains a recipe.) -/
theorem sources_complete (rn : List Str → Str) (root : Dir) (rootName : Str) (M : Nat) (ps : List Page)
    (h : sitePages root rootName M = .ok ps) (hpos : ServingsPositive root) (hM : 1 ≤ M) :
    ((sourceToPagePathsWith rn root rootName M).map (·.1)).Nodup ∧
    ∀ k, k ∈ (sourceToPagePathsWith rn root rootName M).map (·.1) ↔ ∃ s : Source, s.Present root ∧ k = s.key rn := by
  refine ⟨nodup_keys_dictOfList _, ?_⟩
  intro k
  unfold sourceToPagePathsWith
  rw [mem_keys_dictOfList]
  constructor
  · intro hk
    obtain ⟨e, he, rfl⟩ := List.mem_map.mp hk
    obtain ⟨s, hin, _, rfl⟩ := allSources_sound rn root M e he
    exact ⟨s, hin, rfl⟩
  · rintro ⟨s, hin, rfl⟩
    exact List.mem_map.mpr ⟨s.entry rn, allSources_complete rn root M hM s hin
      (countOK_of_site h hpos s hin), rfl⟩

/-- different source documents have different paths (true of every real directory tree; the abstract tree type does
    not enforce it) -/
def KeysDistinct (rn : List Str → Str) (root : Dir) : Prop :=
  ∀ s s' : Source, s.Present root → s'.Present root → s.key rn = s'.key rn → s = s'

/-- when different source documents have different paths (`KeysDistinct`), looking up the path of a source document gives
    that document's entry -/
theorem sources_lookup (rn : List Str → Str) (root : Dir) (rootName : Str) (M : Nat) (ps : List Page)
    (h : sitePages root rootName M = .ok ps) (hpos : ServingsPositive root) (hM : 1 ≤ M) (hk : KeysDistinct rn root)
    (s : Source) (hin : s.Present root) :
    dictLookup (s.key rn) (sourceToPagePathsWith rn root rootName M) = some (s.pageAt none, s.scalable) := by
  apply dictLookup_of_mem _ (nodup_keys_dictOfList _)
  apply mem_dictOfList_of_functional
  · exact List.mem_map.mpr ⟨s.entry rn, allSources_complete rn root M hM s hin
      (countOK_of_site h hpos s hin), rfl⟩
  · intro e he hek
    obtain ⟨s', hin', _, rfl⟩ := allSources_sound rn root M e he
    have : s' = s := hk s' s hin' hin hek
    rw [this]; rfl

theorem pageAt_mem {root : Dir} {rootName : Str} {M : Nat} {ps : List Page} (h : sitePages root rootName M = .ok ps)
    (s : Source) (hin : s.Present root) (hc : s.CountOK M) (sv : Option Nat) (hsv : Hierarchy M sv) :
    s.pageAt sv ∈ ps.map (·.path) := by
  cases s with
  | rootReadme => exact List.mem_map.mpr ⟨_, homePage_mem h, rfl⟩
  | dir dirs =>
    obtain ⟨d, hd⟩ := hin
    exact C15.category_pages root rootName M ps h dirs d hd sv hsv
  | readme dirs =>
    obtain ⟨_, d, hd, _⟩ := hin
    exact C15.category_pages root rootName M ps h dirs d hd sv hsv
  | recipe dirs r =>
    rw [pageAt_recipe_eq_listTarget]
    exact recipeListTarget_mem h hin hsv hc

/-- the website path of every entry is the path of a page of the site, and the entry's
    `scalable` flag is false exactly if it is the entry of a recipe file without a stated serving count -/
theorem sources_point_at_pages (rn : List Str → Str) (root : Dir) (rootName : Str) (M : Nat) (ps : List Page)
    (h : sitePages root rootName M = .ok ps) (e : SrcEntry) (he : e ∈ sourceToPagePathsWith rn root rootName M) :
    e.2.1 ∈ ps.map (·.path) ∧
    (e.2.2 = false ↔ ∃ dirs r, InTree root dirs r ∧ r.servings = none ∧ e = Source.entry rn (.recipe dirs r)) := by
  obtain ⟨s, hin, hc, rfl⟩ := entries_classified rn root rootName M e he
  refine ⟨pageAt_mem h s hin hc none trivial, ?_⟩
  constructor
  · intro hf
    obtain ⟨dirs, r, rfl, hs⟩ := (scalable_eq_false_iff s).mp hf
    exact ⟨dirs, r, hin, hs, rfl⟩
  · rintro ⟨dirs, r, _, hs, heq⟩
    rw [heq]
    exact (scalable_eq_false_iff _).mpr ⟨dirs, r, rfl, hs⟩

/-- the hierarchy a page belongs to, read off its path: `/serves<n>/…` ↦ `some n`; `/categories/…` and the home page
    `/index.html` ↦ `none` (a reader there sees every scalable recipe at its native count). Not `pageScale`
    (`Model/Site.lean`), which is the factor a page's quantities are multiplied with. -/
def PageScale (path : Str) (sv : Option Nat) : Prop :=
  (path = "/index.html".toList ∧ sv = none) ∨ ∃ rest, path = '/' :: (scaleRoot sv ++ '/' :: rest)

theorem pageScale_unique (path : Str) (sv sv' : Option Nat) (h : PageScale path sv) (h' : PageScale path sv') : sv = sv' := by
  have hhome : ∀ (sv : Option Nat) (rest : Str), "/index.html".toList ≠ '/' :: (scaleRoot sv ++ '/' :: rest) := by
    intro sv rest heq
    have h1 := slashes_home
    rw [heq, slashes_cons_slash, slashes_append, slashes_cons_slash] at h1
    omega
  rcases h with ⟨h1, h2⟩ | ⟨rest, h1⟩
  · rcases h' with ⟨_, h4⟩ | ⟨rest', h3⟩
    · rw [h2, h4]
    · rw [h1] at h3
      exact absurd h3 (hhome _ _)
  · rcases h' with ⟨h3, _⟩ | ⟨rest', h3⟩
    · rw [h3] at h1
      exact absurd h1 (hhome _ _)
    · rw [h1] at h3
      exact scaleRoot_inj _ _ (append_slash_inj _ _ _ _ (scaleRoot_ok sv).2.2.2 (scaleRoot_ok sv').2.2.2 (List.cons.inj h3).2)

theorem pageAt_segs (root : Dir) (hn : NamesOK root) (s : Source) (hin : s.Present root) (hsc : s.scalable = true)
    (hne : s ≠ .rootReadme) :
    ∃ B, B ≠ [] ∧ (∀ b ∈ B, '/' ∉ b) ∧ (∃ sv0, s.pageAt none = '/' :: joinSlash (scaleRoot sv0 :: B)) ∧
      ∀ n, s.pageAt (some n) = '/' :: joinSlash (scaleRoot (some n) :: B) := by
  have hcat : ∀ dirs d, DirAt root dirs d → ∃ B, B ≠ [] ∧ (∀ b ∈ B, '/' ∉ b) ∧
      (∃ sv0, catPath none dirs = '/' :: joinSlash (scaleRoot sv0 :: B)) ∧
      ∀ n, catPath (some n) dirs = '/' :: joinSlash (scaleRoot (some n) :: B) :=
    fun dirs d hd => ⟨_, by simp, fun b hb => (hn.segs hd slash_not_mem_index b hb).2.2.2,
      ⟨none, catPath_segs none dirs⟩, fun n => catPath_segs (some n) dirs⟩
  cases s with
  | rootReadme => exact absurd rfl hne
  | dir dirs =>
    obtain ⟨d, hd⟩ := hin
    exact hcat dirs d hd
  | readme dirs =>
    obtain ⟨_, d, hd, _⟩ := hin
    exact hcat dirs d hd
  | recipe dirs r =>
    have hin' : InTree root dirs r := hin
    obtain ⟨d, hd, _⟩ := (C15.inTree_iff ..).mp hin'
    obtain ⟨native, hs⟩ := Option.isSome_iff_exists.mp hsc
    have hp := fun sv => (pageAt_recipe_some dirs r sv native hs).trans (recipePath_segs _ dirs r.file)
    exact ⟨_, by simp, fun b hb => (hn.segs hd (hn.2 dirs r hin') b hb).2.2.2, ⟨some native, hp none⟩, fun n => hp (some n)⟩

theorem pageAt_unscalable (s : Source) (hsc : s.scalable = false) (sv : Option Nat) : s.pageAt sv = s.pageAt none := by
  obtain ⟨dirs, r, rfl, hs⟩ := (scalable_eq_false_iff s).mp hsc
  rw [pageAt_recipe_none dirs r sv hs, pageAt_recipe_none dirs r none hs]

section
variable {root : Dir} {rootName : Str} {M : Nat} {ps : List Page} (h : sitePages root rootName M = .ok ps)
include h

/-- every page belongs to a hierarchy, read off its path; a link written there to a source document of the tree aims at
    the page that shows the document in that hierarchy -/
theorem page_scale (hn : NamesOK root) (p : Page) (hp : p ∈ ps) : ∃ sv, Hierarchy M sv ∧ PageScale p.path sv ∧
    ∀ s : Source, s.Present root → authoredTarget p.path (s.pageAt none) s.scalable = s.pageAt sv := by
  obtain ⟨D, stem, hpath, hD, hshape⟩ := page_path_shape h hn p hp
  rcases hshape with ⟨_, h0⟩ | ⟨sv, dirs, d, hsv, rfl, _⟩
  · exact ⟨none, trivial, .inl ⟨h0, rfl⟩, fun s _ => by rw [h0, authoredTarget_home]⟩
  -- `p` lies below the scale root of `sv`: the segments `A` after it are `/`-free
  obtain ⟨A, hA0, hAs, hpath⟩ : ∃ A, A ≠ [] ∧ (∀ a ∈ A, '/' ∉ a) ∧ p.path = '/' :: joinSlash (scaleRoot sv :: A) :=
    ⟨dirs ++ [stem ++ ".html".toList], by simp, fun a ha => (hD a (List.mem_cons_of_mem _ ha)).2.2.2, hpath⟩
  refine ⟨sv, hsv, .inr ⟨joinSlash A, by rw [hpath, joinSlash_cons_of_ne_nil _ _ hA0]⟩, fun s hin => ?_⟩
  rw [hpath]
  cases sv with
  | none => exact authoredTarget_categories A _ _
  | some n =>
    cases hsc : s.scalable with
    | false =>
      rw [authoredTarget_unscalable]
      exact (pageAt_unscalable s hsc (some n)).symm
    | true =>
      by_cases hne : s = .rootReadme
      · rw [hne]
        exact authoredTarget_to_home _ _
      · obtain ⟨B, hB, hBs, ⟨sv1, h1⟩, h2⟩ := pageAt_segs root hn s hin hsc hne
        rw [h1, h2 n]
        exact authoredTarget_serves n sv1 A B hAs hBs hB

/-- the core statement, for a source document `s` of the tree and its entry `(s.pageAt none, s.scalable)`: in any page
    `p` of the site, a local link whose file is `s` is rewritten to a page link `href`; decoded and resolved against `p`
    (RFC 3986 §5.2) it leads to a page `q` of the site, namely the page that shows `s` in the hierarchy `p` belongs to -/
theorem authored_link_of_source (hn : NamesOK root) (hh : NoHtmlDirs root)
    (p : Page) (hp : p ∈ ps) (s : Source) (hin : s.Present root) (hc : s.CountOK M)
    (path : Str) (hpath : path ≠ []) (canon rootParts : List Str) (isFile : Bool) (assets : Str) :
    ∃ sv, Hierarchy M sv ∧ PageScale p.path sv ∧ ∃ q ∈ ps, q.path = s.pageAt sv ∧
      ∃ href, rewriteDecision [] [] path canon rootParts isFile (some (s.pageAt none, s.scalable)) p.path assets = .page href ∧
        ∃ ref, unquoteBytes href = utf8Bytes ref ∧ resolveRef p.path ref = q.path := by
  obtain ⟨sv, hsv, hps, htarget⟩ := page_scale h hn p hp
  obtain ⟨q, hq, hqp⟩ := List.mem_map.mp (pageAt_mem h s hin hc sv hsv)
  refine ⟨sv, hsv, hps, q, hq, hqp, _, rewrite_page path hpath canon rootParts isFile _ _ p.path assets, ?_⟩
  rw [htarget s hin, ← hqp]
  exact generated_link_resolves h hn p q hp hq (page_not_prefix h hn hh p q hp hq)

end

/-- an authored link to anything inside the tree is never dead and lands on the linked document at the reader's serving
    count: for every page `p` of the site and every entry `e` of the source → page table (the entry of a source document
    `s`), a local link in `p` whose file is the entry's key (`lookup = some e.2`; no scheme, no network location, a
    non-empty path) is rewritten to a page link which — decoded and resolved against `p` as a browser does — is the path
    of the page showing `s` in the hierarchy `sv` of `p` (`PageScale p.path sv`, unique by `pageScale_unique`): below
    `/serves<n>/` when `p` lies there and `s` is scalable, the entry's own page otherwise (`pageAt_cases`). -/
theorem authored_link_target (rn : List Str → Str) (root : Dir) (rootName : Str) (M : Nat) (ps : List Page)
    (h : sitePages root rootName M = .ok ps) (hn : NamesOK root) (hh : NoHtmlDirs root)
    (p : Page) (hp : p ∈ ps) (e : SrcEntry) (he : e ∈ sourceToPagePathsWith rn root rootName M)
    (path : Str) (hpath : path ≠ []) (canon rootParts : List Str) (isFile : Bool) (assets : Str) :
    ∃ s : Source, s.Present root ∧ e = s.entry rn ∧
    ∃ sv, Hierarchy M sv ∧ PageScale p.path sv ∧ ∃ q ∈ ps, q.path = s.pageAt sv ∧
      ∃ href, rewriteDecision [] [] path canon rootParts isFile (some e.2) p.path assets = .page href ∧
        ∃ ref, unquoteBytes href = utf8Bytes ref ∧ resolveRef p.path ref = q.path := by
  obtain ⟨s, hin, hc, rfl⟩ := entries_classified rn root rootName M e he
  exact ⟨s, hin, rfl, authored_link_of_source h hn hh p hp s hin hc path hpath canon rootParts isFile assets⟩

/-- the target in terms of the entry `(w, sc)` itself: from a page of hierarchy `none` (home page, `/categories/…`) or for
    an entry that is not scalable, the link leads to `w`; from a page below `/serves<n>/`, for a scalable entry, to the
    page of the same source below `/serves<n>/` -/
theorem authored_link_target_cases (rn : List Str → Str) (root : Dir) (rootName : Str) (M : Nat) (ps : List Page)
    (h : sitePages root rootName M = .ok ps) (hn : NamesOK root) (hh : NoHtmlDirs root)
    (p : Page) (hp : p ∈ ps) (e : SrcEntry) (he : e ∈ sourceToPagePathsWith rn root rootName M)
    (path : Str) (hpath : path ≠ []) (canon rootParts : List Str) (isFile : Bool) (assets : Str) :
    ∃ s : Source, s.Present root ∧ e = s.entry rn ∧
    ∃ href, rewriteDecision [] [] path canon rootParts isFile (some e.2) p.path assets = .page href ∧
      ∃ ref, unquoteBytes href = utf8Bytes ref ∧ resolveRef p.path ref ∈ ps.map (·.path) ∧
        ((PageScale p.path none ∨ e.2.2 = false) → resolveRef p.path ref = e.2.1) ∧
        (∀ n, PageScale p.path (some n) → e.2.2 = true → resolveRef p.path ref = s.pageAt (some n)) := by
  obtain ⟨s, hin, rfl, sv, _, hps, q, hq, hqp, href, hrw, ref, hdec, hres⟩ :=
    authored_link_target rn root rootName M ps h hn hh p hp e he path hpath canon rootParts isFile assets
  refine ⟨s, hin, rfl, href, hrw, ref, hdec, hres ▸ List.mem_map.mpr ⟨q, hq, rfl⟩, ?_, ?_⟩
  · rintro (h0 | hsc)
    · rw [hres, hqp, pageScale_unique _ _ _ hps h0]
      rfl
    · rw [hres, hqp, pageAt_unscalable s hsc sv]
      rfl
  · intro n hn' _
    rw [hres, hqp, pageScale_unique _ _ _ hps hn']

/-- the same, spelled out by kind of page and kind of target — what `Source.pageAt` means case by case -/
theorem pageAt_cases (s : Source) (sv : Option Nat) :
    (s.scalable = false → s.pageAt sv = s.pageAt none) ∧
    (s = .rootReadme → s.pageAt sv = "/index.html".toList) ∧
    (∀ dirs, s = .dir dirs ∨ s = .readme dirs → s.pageAt sv = catPath sv dirs) ∧
    (∀ dirs r native, s = .recipe dirs r → r.servings = some native →
      s.pageAt none = recipePath (some native) dirs r.file ∧ ∀ n, s.pageAt (some n) = recipePath (some n) dirs r.file) ∧
    (∀ dirs r, s = .recipe dirs r → r.servings = none → s.pageAt sv = recipePath none dirs r.file) := by
  refine ⟨fun hsc => pageAt_unscalable s hsc sv, ?_, ?_, ?_, ?_⟩
  · rintro rfl
    rfl
  · rintro dirs (rfl | rfl)
    · rfl
    · rfl
  · rintro dirs r native rfl hs
    exact ⟨pageAt_recipe_some dirs r none native hs, fun n => pageAt_recipe_some dirs r (some n) native hs⟩
  · rintro dirs r rfl hs
    exact pageAt_recipe_none dirs r sv hs

/-- a link to the root readme leads to the home page `/index.html` from EVERY page of the site,
    also from a page below `/serves<n>/` although the entry is flagged scalable: the home page exists once, directly in
    the site root, which `resolve_local_links` recognises by the single `/` in its path -/
theorem authored_link_home (root : Dir) (rootName : Str) (M : Nat) (ps : List Page)
    (h : sitePages root rootName M = .ok ps) (hn : NamesOK root) (hh : NoHtmlDirs root) (p : Page) (hp : p ∈ ps)
    (path : Str) (hpath : path ≠ []) (canon rootParts : List Str) (isFile : Bool) (assets : Str) :
    rewriteDecision [] [] path canon rootParts isFile (some ("/index.html".toList, true)) p.path assets
        = .page (hrefRelative p.path "/index.html".toList) ∧
      ∃ ref, unquoteBytes (hrefRelative p.path "/index.html".toList) = utf8Bytes ref ∧ resolveRef p.path ref = "/index.html".toList := by
  refine ⟨by rw [rewrite_page path hpath, authoredTarget_to_home], ?_⟩
  have hq := homePage_mem h
  -- stated for `(homePage …).path`: unifying the literal with it only at the end makes Lean evaluate `hrefRelative`
  rw [show "/index.html".toList = (homePage root rootName M).path from rfl]
  exact generated_link_resolves h hn p _ hp hq (page_not_prefix h hn hh p _ hp hq)

/-- the decision without the "more than one `/`" condition (the code before the repair of the defect "scaled page → home
    README link becomes `..`") -/
def authoredTargetUnrepaired (frm w : Str) (sc : Bool) : Str :=
  if rewriteDecision.isPrefixOfList "/serves".toList frm && sc then
    joinSlash ((splitSlash frm).take 2 ++ (splitSlash w).drop 2)
  else w

/-- the condition is needed: without it a link to the root readme in `/serves2/Cakes/sponge.html` is written as `..`,
    which resolves to the directory `/serves2/`, not to a page (and in `/serves2/soup.html` it is written as the empty
    reference, i.e. the page links to itself); with it the link is `../../index.html` -/
theorem home_condition_needed :
    hrefRelative "/serves2/Cakes/sponge.html".toList
      (authoredTargetUnrepaired "/serves2/Cakes/sponge.html".toList "/index.html".toList true) = "..".toList ∧
    resolveRef "/serves2/Cakes/sponge.html".toList "..".toList = "/serves2/".toList ∧
    hrefRelative "/serves2/soup.html".toList (authoredTargetUnrepaired "/serves2/soup.html".toList "/index.html".toList true) = [] ∧
    hrefRelative "/serves2/Cakes/sponge.html".toList
      (authoredTarget "/serves2/Cakes/sponge.html".toList "/index.html".toList true) = "../../index.html".toList ∧
    resolveRef "/serves2/Cakes/sponge.html".toList "../../index.html".toList = "/index.html".toList := by
  lit_chars
  decide +kernel

theorem treeOK_sub (rn : List Str → Str) (root s : Dir) (hs : s ∈ root.subdirs) (h : TreeOK rn root) :
    TreeOK (fun dirs => rn (s.name :: dirs)) s := by
  intro dirs d hd
  obtain ⟨h1, h2, h3, h4, h5, h6⟩ := h (s.name :: dirs) d (DirAt.sub hs hd)
  exact ⟨fun x hx => h1 x (List.mem_cons_of_mem _ hx), h2, h3, h4, h5, h6⟩

theorem dirAt_unique : ∀ (dirs : List Str) (rn : List Str → Str) (root : Dir), TreeOK rn root → ∀ d d',
    DirAt root dirs d → DirAt root dirs d' → d = d' := by
  intro dirs
  induction dirs with
  | nil =>
    intro _ root _ d d' h1 h2
    cases h1; cases h2; rfl
  | cons x dirs ih =>
    intro rn root hk d d' h1 h2
    have hnd := (hk [] root (DirAt.here root)).subdirs_nodup
    cases h1 with
    | sub hs1 hd1 =>
      rename_i s1
      generalize hx : s1.name = x at h2
      cases h2 with
      | sub hs2 hd2 =>
        rename_i s2
        have : s1 = s2 := inj_on_of_nodup_map Dir.name root.subdirs hnd s1 hs1 s2 hs2 hx
        subst this
        exact ih _ s1 (treeOK_sub rn root s1 hs1 hk) d d' hd1 hd2

theorem mem_subdirs_of_dirAt_snoc {rn : List Str → Str} {root : Dir} (hk : TreeOK rn root) {dirs : List Str} {d0 d : Dir} {x : Str}
    (hd0 : DirAt root dirs d0) (hd : DirAt root (dirs ++ [x]) d) : x ∈ d0.subdirs.map Dir.name := by
  obtain ⟨m, hm, hx⟩ := C15.dirAt_append.mp hd
  rw [dirAt_unique dirs rn root hk d0 m hd0 hm]
  cases hx with
  | sub hs h' =>
    cases h'
    exact List.mem_map.mpr ⟨d, hs, rfl⟩

theorem mem_recipes_of_inTree {rn : List Str → Str} {root : Dir} (hk : TreeOK rn root) {dirs : List Str} {d0 : Dir} {r : RecipeFile}
    (hd0 : DirAt root dirs d0) (hr : InTree root dirs r) : r ∈ d0.recipes := by
  obtain ⟨m, hm, hmem⟩ := (C15.inTree_iff ..).mp hr
  rwa [dirAt_unique dirs rn root hk d0 m hd0 hm]

theorem treeOK_keysDistinct (rn : List Str → Str) (root : Dir) (hk : TreeOK rn root) : KeysDistinct rn root := by
  -- no directory is called like the readme next to it
  have hA : ∀ dirs d0 d, DirAt root dirs d0 → d0.readmeTitle.isSome = true → DirAt root (dirs ++ [rn dirs]) d → False :=
    fun dirs d0 d hd0 hrd hd => ((hk dirs d0 hd0).readme_not_entry hrd).1 (mem_subdirs_of_dirAt_snoc hk hd0 hd)
  -- no recipe file is called like the readme next to it
  have hB : ∀ dirs d0 r, DirAt root dirs d0 → d0.readmeTitle.isSome = true → InTree root dirs r → r.file = rn dirs → False :=
    fun dirs d0 r hd0 hrd hr hfile =>
      ((hk dirs d0 hd0).readme_not_entry hrd).2 (List.mem_map.mpr ⟨r, mem_recipes_of_inTree hk hd0 hr, hfile⟩)
  -- no directory is called like a recipe file next to it
  have hC : ∀ dirs r d, InTree root dirs r → DirAt root (dirs ++ [r.file]) d → False := by
    intro dirs r d hr hd
    obtain ⟨d0, hd0, hmem0⟩ := (C15.inTree_iff ..).mp hr
    exact (hk dirs d0 hd0).recipe_not_subdir r hmem0 (mem_subdirs_of_dirAt_snoc hk hd0 hd)
  have snoc_inj : ∀ {a b : List Str} {x y : Str}, a ++ [x] = b ++ [y] → a = b ∧ x = y := fun h =>
    ⟨(List.append_inj' h rfl).1, by simpa using (List.append_inj' h rfl).2⟩
  -- the relation is symmetric: it suffices to look at the pairs in the order of the constructors
  suffices main : ∀ s s' : Source, s.Present root → s'.Present root → s.key rn = s'.key rn → s.ctorIdx ≤ s'.ctorIdx → s = s' by
    intro s s' hin hin' hkey
    rcases Nat.le_total s.ctorIdx s'.ctorIdx with h | h
    · exact main s s' hin hin' hkey h
    · exact (main s' s hin' hin hkey.symm h).symm
  intro s s' hin hin' hkey hle
  cases s <;> cases s'
  -- `hle` excludes the six pairs against that order
  case dir.rootReadme => simp [Source.ctorIdx] at hle
  case readme.rootReadme => simp [Source.ctorIdx] at hle
  case readme.dir => simp [Source.ctorIdx] at hle
  case recipe.rootReadme => simp [Source.ctorIdx] at hle
  case recipe.dir => simp [Source.ctorIdx] at hle
  case recipe.readme => simp [Source.ctorIdx] at hle
  case rootReadme.rootReadme => rfl
  case rootReadme.dir dirs =>
    obtain ⟨d, hd⟩ := hin'
    exact (hA [] root d (DirAt.here root) hin ((show [rn []] = dirs from hkey) ▸ hd)).elim
  case rootReadme.readme dirs => exact absurd (snoc_inj (show [] ++ [rn []] = dirs ++ [rn dirs] from hkey)).1.symm hin'.1
  case rootReadme.recipe dirs r =>
    obtain ⟨h1, h2⟩ := snoc_inj (show [] ++ [rn []] = dirs ++ [r.file] from hkey)
    subst h1
    exact (hB [] root r (DirAt.here root) hin hin' h2.symm).elim
  case dir.dir dirs dirs' => exact congrArg Source.dir hkey
  case dir.readme dirs dirs' =>
    obtain ⟨d, hd⟩ := hin
    obtain ⟨_, d0, hd0, hrd⟩ := hin'
    exact (hA dirs' d0 d hd0 hrd ((show dirs = dirs' ++ [rn dirs'] from hkey) ▸ hd)).elim
  case dir.recipe dirs dirs' r =>
    obtain ⟨d, hd⟩ := hin
    exact (hC dirs' r d hin' ((show dirs = dirs' ++ [r.file] from hkey) ▸ hd)).elim
  case readme.readme dirs dirs' => rw [(snoc_inj (show dirs ++ [rn dirs] = dirs' ++ [rn dirs'] from hkey)).1]
  case readme.recipe dirs dirs' r =>
    obtain ⟨_, d0, hd0, hrd⟩ := hin
    obtain ⟨h1, h2⟩ := snoc_inj (show dirs ++ [rn dirs] = dirs' ++ [r.file] from hkey)
    subst h1
    exact (hB dirs d0 r hd0 hrd hin' h2.symm).elim
  case recipe.recipe dirs r dirs' r' =>
    obtain ⟨h1, h2⟩ := snoc_inj (show dirs ++ [r.file] = dirs' ++ [r'.file] from hkey)
    subst h1
    obtain ⟨d, hd, hm⟩ := (C15.inTree_iff ..).mp (show InTree root dirs r from hin)
    rw [inj_on_of_nodup_map (·.file) d.recipes (hk dirs d hd).recipes_nodup r hm r' (mem_recipes_of_inTree hk hd hin') h2]

/-- for a tree that can exist on a file system (`TreeOK`): a local link, in any page `p` of the site, whose resolved
    file is the source document `s` of the tree — the table is consulted with the document's path — is rewritten to a
    page link that leads to the page showing `s` in the hierarchy of `p`; that page exists.  No authored link into the
    tree is dead, and none lands on another document or another serving count than the reader's. -/
theorem authored_link_by_path (rn : List Str → Str) (root : Dir) (rootName : Str) (M : Nat) (ps : List Page)
    (h : sitePages root rootName M = .ok ps) (hk : TreeOK rn root) (hM : 1 ≤ M)
    (p : Page) (hp : p ∈ ps) (s : Source) (hin : s.Present root)
    (path : Str) (hpath : path ≠ []) (canon rootParts : List Str) (isFile : Bool) (assets : Str) :
    ∃ sv, Hierarchy M sv ∧ PageScale p.path sv ∧ ∃ q ∈ ps, q.path = s.pageAt sv ∧
      ∃ href, rewriteDecision [] [] path canon rootParts isFile
          (dictLookup (s.key rn) (sourceToPagePathsWith rn root rootName M)) p.path assets = .page href ∧
        ∃ ref, unquoteBytes href = utf8Bytes ref ∧ resolveRef p.path ref = q.path := by
  have hpos := treeOK_servingsPositive rn root hk
  rw [sources_lookup rn root rootName M ps h hpos hM (treeOK_keysDistinct rn root hk) s hin]
  exact authored_link_of_source h (treeOK_namesOK rn root hk) (treeOK_noHtmlDirs rn root hk) p hp s hin
    (countOK_of_site h hpos s hin) path hpath canon rootParts isFile assets

/-- two directories (one with a readme called `index.md`, one with a space and a non-ASCII letter in its name), a root
    readme, a scalable recipe at the root, a scalable and an unscalable recipe in `Cakes` -/
def linkTree : Dir :=
  .mk "book".toList (some "My book".toList) [⟨"soup.md".toList, "Soup".toList, some 2⟩]
    [.mk "Cakes".toList (some "All cakes".toList)
        [⟨"tiffin.md".toList, "Tiffin".toList, none⟩, ⟨"sponge cake.md".toList, "Sponge".toList, some 1⟩] [],
     .mk "Sauces é".toList none [] []]

def linkReadmes : List Str → Str := readmeNamesOf [(["Cakes".toList], "index.md".toList)]

def linkSite : List Page := match sitePages linkTree "book".toList 2 with | .ok ps => ps | .error _ => []

theorem linkSite_ok : sitePages linkTree "book".toList 2 = .ok linkSite := sitePages_of_le _ _ _ (by decide)

theorem linkTree_ok : TreeOK linkReadmes linkTree := treeOK_of_check _ _ (by decide +kernel)

/-- the table of the example, in dict order -/
theorem linkTree_table : sourceToPagePathsWith linkReadmes linkTree "book".toList 2 =
    [(["README.md".toList], ("/index.html".toList, true)),
     (["Cakes".toList, "sponge cake.md".toList], ("/serves1/Cakes/sponge cake.html".toList, true)),
     (["Cakes".toList, "tiffin.md".toList], ("/categories/Cakes/tiffin.html".toList, false)),
     (["soup.md".toList], ("/serves2/soup.html".toList, true)),
     ([], ("/categories/index.html".toList, true)),
     (["Cakes".toList, "index.md".toList], ("/categories/Cakes/index.html".toList, true)),
     (["Cakes".toList], ("/categories/Cakes/index.html".toList, true)),
     (["Sauces é".toList], ("/categories/Sauces é/index.html".toList, true))] := by
  lit_chars
  decide +kernel

theorem linkSite_paths : linkSite.map (·.path) =
    ["/index.html".toList,
     "/serves1/index.html".toList, "/serves1/Cakes/index.html".toList, "/serves1/Cakes/sponge cake.html".toList,
     "/serves1/Sauces é/index.html".toList, "/serves1/soup.html".toList,
     "/serves2/index.html".toList, "/serves2/Cakes/index.html".toList, "/serves2/Cakes/sponge cake.html".toList,
     "/serves2/Sauces é/index.html".toList, "/serves2/soup.html".toList,
     "/categories/index.html".toList, "/categories/Cakes/index.html".toList, "/categories/Cakes/tiffin.html".toList,
     "/categories/Sauces é/index.html".toList] := by
  lit_chars
  decide +kernel

/-- the hypotheses of the theorems hold for the example, for all of its 15 pages and 8 entries -/
example : ∀ p ∈ linkSite, ∀ e ∈ sourceToPagePathsWith linkReadmes linkTree "book".toList 2,
    ∃ s : Source, s.Present linkTree ∧ e = s.entry linkReadmes ∧
    ∃ sv, Hierarchy 2 sv ∧ PageScale p.path sv ∧ ∃ q ∈ linkSite, q.path = s.pageAt sv ∧
      ∃ href, rewriteDecision [] [] "x.md".toList [] [] true (some e.2) p.path "/assets".toList = .page href ∧
        ∃ ref, unquoteBytes href = utf8Bytes ref ∧ resolveRef p.path ref = q.path :=
  fun p hp e he => authored_link_target linkReadmes linkTree "book".toList 2 linkSite linkSite_ok
    (treeOK_namesOK _ _ linkTree_ok) (treeOK_noHtmlDirs _ _ linkTree_ok) p hp e he _ (by decide) [] [] true _

example : (sourceToPagePathsWith linkReadmes linkTree "book".toList 2).length = 8 ∧ linkSite.length = 15 := by
  refine ⟨by rw [linkTree_table]; rfl, ?_⟩
  have := congrArg List.length linkSite_paths
  rw [List.length_map] at this
  rw [this]
  rfl

example : (Source.recipe ["Cakes".toList] ⟨"tiffin.md".toList, "Tiffin".toList, none⟩).Present linkTree :=
  InTree.sub (s := .mk "Cakes".toList (some "All cakes".toList)
      [⟨"tiffin.md".toList, "Tiffin".toList, none⟩, ⟨"sponge cake.md".toList, "Sponge".toList, some 1⟩] [])
    (List.Mem.head _) (InTree.here (List.Mem.head _))

/-- what the code writes in the example (the table is consulted by path), and where a browser lands:
    * from the `serves1` page of the sponge cake, `../soup.md` leads to the soup FOR 1 (its native count is 2);
    * from the `categories` page of `Cakes`, to the soup at its native count;
    * from the soup for 2, `Cakes/tiffin.md` (no stated count) leads to its only page under `categories`;
    * from the soup for 2, `Cakes/` and `Cakes/index.md` lead to the `Cakes` page of `serves2`;
    * from a page two levels down in `serves2`, the root readme leads to the home page -/
example :
    let tab := sourceToPagePathsWith linkReadmes linkTree "book".toList 2
    let go := fun (frm : String) (key : List String) =>
      match rewriteDecision [] [] "x".toList [] [] true (dictLookup (key.map String.toList) tab) frm.toList "/assets".toList with
      | .page h => some (String.ofList h, String.ofList (resolveRef frm.toList (relativePath frm.toList
          (authoredTarget frm.toList ((dictLookup (key.map String.toList) tab).getD ([], false)).1
            ((dictLookup (key.map String.toList) tab).getD ([], false)).2))))
      | _ => none
    go "/serves1/Cakes/sponge cake.html" ["soup.md"] = some ("../soup.html", "/serves1/soup.html") ∧
    go "/categories/Cakes/index.html" ["soup.md"] = some ("../../serves2/soup.html", "/serves2/soup.html") ∧
    go "/serves2/soup.html" ["Cakes", "tiffin.md"] = some ("../categories/Cakes/tiffin.html", "/categories/Cakes/tiffin.html") ∧
    go "/serves2/soup.html" ["Cakes"] = some ("Cakes/index.html", "/serves2/Cakes/index.html") ∧
    go "/serves2/soup.html" ["Cakes", "index.md"] = some ("Cakes/index.html", "/serves2/Cakes/index.html") ∧
    go "/serves2/Cakes/sponge cake.html" ["README.md"] = some ("../../index.html", "/index.html") ∧
    go "/index.html" ["Sauces é"] = some ("categories/Sauces%20%C3%A9/index.html", "/categories/Sauces é/index.html") := by
  decide +kernel

end RG.C14
