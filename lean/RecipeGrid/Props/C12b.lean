import RecipeGrid.Props.C12
import RecipeGrid.Lemmas.Stable
import RecipeGrid.Props.C03d
import RecipeGrid.Lemmas.Lower
/-! C12b — units: "two quantities are treated as equal amounts exactly when they denote the same physical amount
    (to within rounding error)".  `Quantity.has_equal_value_to` (model: `Quantity.hasEqualValueTo`) for every pair of
    quantities: which factor it compares with (the unit table's, decided over the regenerated table), when it refuses,
    and - by the binary64 error analysis of `Lemmas/Stable.lean` - that its answer is the exact rational comparison
    at relative tolerance `10⁻⁹` off a guard band of `2⁻²¹` around that tolerance. -/
namespace RG.C12

/-- the names of the table are lower case already (the code lower-cases the written unit before the lookup):
    they are written in ASCII without capitals; any other character of a name is looked up in the lower-casing table -/
theorem names_lower_fixed : ∀ a ∈ allNames, lowerStr a = a := by
  intro a ha
  exact lowerStr_eq_self fun c hc => (table_checked.ascii a ha c hc).elim lowerChar_eq_self id

/-- a name converts to itself, and to every alias of its unit, with an exact 1 -/
theorem table_alias_factor_one : ∀ ks ∈ Gen.unitSets, ∀ u ∈ ks.2, ∀ a ∈ u.names, ∀ b ∈ u.names,
    (match convertBetween false b.toList a.toList with
     | some sc => sc.val == 1 && !sc.isFlt
     | none => false) = true := table_checked.aliasOne

theorem sameKind_symm : ∀ a ∈ allNames, ∀ b ∈ allNames, sameKind a b = sameKind b a :=
  fun a ha b hb => (table_checked.pairs a ha b hb).symm

/-- where the table's factor is exact (an `int` or a `Fraction`: 506 of the 794 ordered pairs of different names of one
    kind), it *is* the ratio of the hand-written physical reference values - so for those pairs the comparison of
    `equal_amount_decided_by_factor` is the comparison of the two physical amounts themselves -/
theorem exact_factors_are_reference_ratios : ∀ a ∈ allNames, ∀ b ∈ allNames, sameKind a b = true →
    (match convertBetween false b a, refValue a, refValue b with
     | some sc, some ra, some rb => sc.isFlt || sc.val == rb / ra
     | _, _, _ => false) = true := fun a ha b hb h => ((table_checked.pairs a ha b hb).same h).exact

/-- non-vacuity of the exact case: g → kg is the exact 1/1000 -/
example : (convertBetween false "g".toList "kg".toList).map (fun sc => (sc.isFlt, sc.val)) = some (false, 1 / 1000) := by
  decide +kernel

/-- a quantity with a unit and one without are never equal amounts -/
theorem equal_amount_unit_vs_none {q iq : Quantity} (h : q.unit.isSome ≠ iq.unit.isSome) :
    q.hasEqualValueTo iq = false := by
  apply hev_none
  obtain ⟨-, hns, hsn, -⟩ := C03.hevFactor_cases q iq
  cases hq : q.unit with
  | none => exact hns hq fun hi => h (by rw [hq, hi])
  | some su =>
    cases hi : iq.unit with
    | none => exact hsn (by simp [hq]) hi
    | some ou => exact absurd (by simp [hq, hi]) h

/-- quantities in known units of different kinds (in any letter case) are never equal amounts, whatever their values -/
theorem equal_amount_refused_across_kinds {q iq : Quantity} {su ou : Str}
    (hq : q.unit = some su) (hiq : iq.unit = some ou)
    (ha : lowerStr su ∈ allNames) (hb : lowerStr ou ∈ allNames)
    (hk : sameKind (lowerStr su) (lowerStr ou) = false) :
    q.hasEqualValueTo iq = false := by
  apply hev_none
  obtain ⟨-, -, -, hss⟩ := C03.hevFactor_cases q iq
  have h := (table_checked.pairs _ ha _ hb).differ hk
  simp only [Bool.and_eq_true, Option.isNone_iff_eq_none, Bool.not_eq_true', beq_eq_false_iff_ne] at h
  rw [(hss su ou hq hiq).2 h.1]
  simp [h.2]

/-- known units of one kind (any letter case), exact values: the test compares the first value with the second
    times the table's factor from the second unit to the first (the factor `physical_constants`, `convert_recip_spec`
    and `convert_float_refines` characterise) and answers the exact comparison at relative tolerance `10⁻⁹`, off the
    guard band -/
theorem equal_amount_decided_by_factor {q iq : Quantity} {su ou : Str}
    (hq : q.unit = some su) (hiq : iq.unit = some ou)
    (ha : lowerStr su ∈ allNames) (hb : lowerStr ou ∈ allNames)
    (hk : sameKind (lowerStr su) (lowerStr ou) = true)
    (hqe : q.value.kind ≠ .flt) (hiqe : iq.value.kind ≠ .flt) :
    ∃ sc, convertBetween false (lowerStr ou) (lowerStr su) = some sc ∧
      (relDiff q.value.val (iq.value.val * sc.val) ≤ tolQ * (1 - edgeEps) → q.hasEqualValueTo iq = true) ∧
      (tolQ * (1 + edgeEps) ≤ relDiff q.value.val (iq.value.val * sc.val) → q.hasEqualValueTo iq = false) := by
  have h := ((table_checked.pairs _ ha _ hb).same hk).back
  obtain ⟨sc, hsc⟩ := Option.isSome_iff_exists.mp h
  refine ⟨sc, hsc, ?_⟩
  obtain ⟨-, -, -, hss⟩ := C03.hevFactor_cases q iq
  exact hev_off_edge hqe hiqe ((hss su ou hq hiq).1 sc hsc)

/-- without units the values themselves are compared -/
theorem equal_amount_unitless {q iq : Quantity} (hq : q.unit = none) (hiq : iq.unit = none)
    (hqe : q.value.kind ≠ .flt) (hiqe : iq.value.kind ≠ .flt) :
    (relDiff q.value.val iq.value.val ≤ tolQ * (1 - edgeEps) → q.hasEqualValueTo iq = true) ∧
    (tolQ * (1 + edgeEps) ≤ relDiff q.value.val iq.value.val → q.hasEqualValueTo iq = false) := by
  have := hev_off_edge hqe hiqe ((C03.hevFactor_cases q iq).1 hq hiq)
  simpa [Rat.mul_one] using this

/-- units the table does not know: equal amounts need the same unit name (ignoring letter case); then the values are
    compared -/
theorem equal_amount_unknown_units {q iq : Quantity} {su ou : Str}
    (hq : q.unit = some su) (hiq : iq.unit = some ou)
    (hun : findUnitSet (lowerStr ou) = none) :
    (lowerStr su ≠ lowerStr ou → q.hasEqualValueTo iq = false) ∧
    (lowerStr su = lowerStr ou → q.value.kind ≠ .flt → iq.value.kind ≠ .flt →
      (relDiff q.value.val iq.value.val ≤ tolQ * (1 - edgeEps) → q.hasEqualValueTo iq = true) ∧
      (tolQ * (1 + edgeEps) ≤ relDiff q.value.val iq.value.val → q.hasEqualValueTo iq = false)) := by
  have hc : convertBetween false (lowerStr ou) (lowerStr su) = none := by
    unfold convertBetween
    simp [hun]
  obtain ⟨-, -, -, hss⟩ := C03.hevFactor_cases q iq
  have hf := (hss su ou hq hiq).2 hc
  constructor
  · intro hne
    apply hev_none
    rw [hf]
    simp [hne]
  · intro he hqe hiqe
    rw [he] at hf
    have := hev_off_edge hqe hiqe (by simpa using hf)
    simpa [Rat.mul_one] using this

/-- the same exact value under two names of one unit (aliases, any letter case; in particular the same name) is an
    equal amount, and stays one under every exact scaling -/
theorem equal_amount_aliases {k : Num} (hk : k.kind ≠ .flt) {q iq : Quantity} {su ou : Str}
    {ks : String × List Gen.UnitDef} {u : Gen.UnitDef} {a b : String}
    (hks : ks ∈ Gen.unitSets) (hu : u ∈ ks.2) (ha : a ∈ u.names) (hb : b ∈ u.names)
    (hq : q.unit = some su) (hiq : iq.unit = some ou)
    (hsu : lowerStr su = a.toList) (hou : lowerStr ou = b.toList)
    (hqe : q.value.kind ≠ .flt) (hiqe : iq.value.kind ≠ .flt) (hv : q.value.val = iq.value.val) :
    (q.scale k).hasEqualValueTo (iq.scale k) = true ∧ q.hasEqualValueTo iq = true := by
  have h := table_alias_factor_one ks hks u hu a ha b hb
  rw [← hsu, ← hou] at h
  cases hc : convertBetween false (lowerStr ou) (lowerStr su) with
  | none => simp [hc] at h
  | some sc =>
    simp only [hc, Bool.and_eq_true, beq_iff_eq, Bool.not_eq_true'] at h
    exact hasEqualValueTo_scale_of_eq hk hqe hiqe hv (((C03.hevFactor_cases q iq).2.2.2 su ou hq hiq).1 sc hc)
      (fun hflt => by simp [Num.isFlt, hflt] at h) h.1

/-- a unit-less exact quantity is an equal amount to itself -/
theorem equal_amount_self_unitless {q : Quantity} (hq : q.unit = none) (hqe : q.value.kind ≠ .flt) :
    q.hasEqualValueTo q = true :=
  (hasEqualValueTo_scale_of_eq (k := ⟨1, .int⟩) (by simp) hqe hqe rfl ((C03.hevFactor_cases q q).1 hq hq) (by simp) rfl).2

example : lowerStr "KG".toList ∈ allNames ∧ lowerStr "g".toList ∈ allNames ∧
    sameKind (lowerStr "KG".toList) (lowerStr "g".toList) = true := by
  -- `lowerChar` walks the 1 400 entries of `Gen.lowerMap` for every character; on ASCII it is `asciiLower`
  rw [lowerStr_ascii _ (by decide +kernel), lowerStr_ascii _ (by decide +kernel)]
  decide +kernel
example : sameKind "kg".toList "cup".toList = false ∧ "kg".toList ∈ allNames ∧ "cup".toList ∈ allNames := by decide +kernel
example : findUnitSet (lowerStr "Handful".toList) = none := by
  rw [lowerStr_ascii _ (by decide +kernel)]
  decide +kernel
/-- 1 kg and 1000 g: an equal amount; 1 kg and 1001 g: not -/
example : (Quantity.mk ⟨1, .int⟩ (some "kg".toList) [] []).hasEqualValueTo (Quantity.mk ⟨1000, .int⟩ (some "g".toList) [] []) = true ∧
    (Quantity.mk ⟨1, .int⟩ (some "kg".toList) [] []).hasEqualValueTo (Quantity.mk ⟨1001, .int⟩ (some "g".toList) [] []) = false := by
  decide +kernel

end RG.C12
