import RecipeGrid.Model.Cache
import RecipeGrid.Lemmas.Assoc
/-! C17 ("site output is a pure function of the source tree"), the compile cache: `_cached_compile_markdown` is keyed by the document's
    text, so whatever the process has compiled before - and however many entries have been evicted - compiling a file gives exactly what
    compiling its current text gives.  The same cache keyed by the path does not have this property (witness). -/
namespace RG.C17

variable {κ ν ε : Type} [DecidableEq κ]

/-- every stored entry is what the function returns for its key -/
def CacheSound (f : κ → Except ε ν) (c : Lru κ ν) : Prop := ∀ k v, (k, v) ∈ c.entries → f k = .ok v

omit [DecidableEq κ] in
theorem empty_sound (f : κ → Except ε ν) (cap : Nat) : CacheSound f (Lru.empty cap) := by
  intro k v h
  simp [Lru.empty] at h

theorem find_mem {c : Lru κ ν} {k : κ} {v : ν} (hf : c.find k = some v) : (k, v) ∈ c.entries :=
  mem_of_find?_fst hf

theorem call_hit (f : κ → Except ε ν) {c : Lru κ ν} {k : κ} {v : ν} (hf : c.find k = some v) :
    Lru.call f c k = (.ok v, true, { c with entries := (k, v) :: c.entries.filter (·.1 ≠ k) }) := by
  rw [Lru.call, hf]

theorem call_miss {f : κ → Except ε ν} {c : Lru κ ν} {k : κ} {v : ν} (hf : c.find k = none) (hfk : f k = .ok v) :
    Lru.call f c k = (.ok v, false, { c with entries := ((k, v) :: c.entries).take c.cap }) := by
  rw [Lru.call, hf]
  simp only [hfk]

theorem call_error {f : κ → Except ε ν} {c : Lru κ ν} {k : κ} {e : ε} (hf : c.find k = none) (hfk : f k = .error e) :
    Lru.call f c k = (.error e, false, c) := by
  rw [Lru.call, hf]
  simp only [hfk]

/-- **never a stale result**: a call through a sound cache returns exactly what the function returns -/
theorem call_result (f : κ → Except ε ν) (c : Lru κ ν) (h : CacheSound f c) (k : κ) : (Lru.call f c k).1 = f k := by
  cases hf : c.find k with
  | some v => rw [call_hit f hf, h k v (find_mem hf)]
  | none =>
    cases hfk : f k with
    | ok v => rw [call_miss hf hfk]
    | error e => rw [call_error hf hfk]

theorem call_sound (f : κ → Except ε ν) (c : Lru κ ν) (h : CacheSound f c) (k : κ) : CacheSound f (Lru.call f c k).2.2 := by
  cases hf : c.find k with
  | some v =>
    rw [call_hit f hf]
    intro k' v' hm
    simp only [List.mem_cons, Prod.mk.injEq] at hm
    rcases hm with ⟨rfl, rfl⟩ | hm
    · exact h _ _ (find_mem hf)
    · exact h k' v' (List.mem_filter.1 hm).1
  | none =>
    cases hfk : f k with
    | error e =>
      rw [call_error hf hfk]
      exact h
    | ok v =>
      rw [call_miss hf hfk]
      intro k' v' hm
      have hm' := List.mem_of_mem_take hm
      simp only [List.mem_cons, Prod.mk.injEq] at hm'
      rcases hm' with ⟨rfl, rfl⟩ | hm'
      · exact hfk
      · exact h k' v' hm'

theorem call_size (f : κ → Except ε ν) (c : Lru κ ν) (k : κ) (h : c.entries.length ≤ c.cap) :
    (Lru.call f c k).2.2.entries.length ≤ (Lru.call f c k).2.2.cap ∧ (Lru.call f c k).2.2.cap = c.cap := by
  cases hf : c.find k with
  | some v =>
    rw [call_hit f hf]
    refine ⟨?_, rfl⟩
    -- the entry found is removed by the filter, so the length does not grow
    have hlt : (c.entries.filter (·.1 ≠ k)).length < c.entries.length :=
      List.length_filter_lt_length_iff_exists.2 ⟨(k, v), find_mem hf, by simp⟩
    simp only [List.length_cons]
    omega
  | none =>
    cases hfk : f k with
    | error e =>
      rw [call_error hf hfk]
      exact ⟨h, rfl⟩
    | ok v =>
      rw [call_miss hf hfk]
      refine ⟨?_, rfl⟩
      simp only [List.length_take, List.length_cons]
      omega

/-- **history independence of the compile step**: over any history of file writes and compilations, started from any sound cache of any
    capacity, every compilation returns what compiling the file's current text returns - the results with the cache are the results
    without it -/
theorem runCompiles_eq_plain {π τ : Type} [DecidableEq π] [DecidableEq τ] (f : τ → Except ε ν)
    (ops : List (CacheOp π τ)) : ∀ (fs : π → Option τ) (c : Lru τ ν), CacheSound f c →
    runCompiles f fs c ops = runCompilesPlain f fs ops := by
  induction ops with
  | nil => intro fs c _; rfl
  | cons op ops ih =>
    intro fs c hc
    cases op with
    | write p t => simpa [runCompiles, runCompilesPlain] using ih _ c hc
    | compile p =>
      simp only [runCompiles, runCompilesPlain]
      cases hp : fs p with
      | none => simpa using ih fs c hc
      | some t =>
        simp only
        rw [call_result f c hc t, ih fs _ (call_sound f c hc t)]

/-- in particular from the empty cache of a fresh process: what is compiled after a history `past` is what compiling without a cache
    gives after `past` (the statement speaks of one past; that the past leaves no trace but the files it wrote is
    `runCompiles_eq_plain`, of which this is two instances) -/
theorem runCompiles_fresh {π τ : Type} [DecidableEq π] [DecidableEq τ] (f : τ → Except ε ν) (cap : Nat)
    (fs : π → Option τ) (past ops : List (CacheOp π τ)) :
    (runCompiles f fs (Lru.empty cap) (past ++ ops)).drop (runCompiles f fs (Lru.empty cap) past).length
      = (runCompilesPlain f fs (past ++ ops)).drop (runCompilesPlain f fs past).length := by
  rw [runCompiles_eq_plain f (past ++ ops) fs _ (empty_sound f cap), runCompiles_eq_plain f past fs _ (empty_sound f cap)]

/-- the same cache asked with the path as its key returns a stale result after an edit: write, compile, edit, compile gives the OLD
    text's result the second time (this is the shape of several seeded defects; the pinned code keys by content) -/
theorem byPath_stale_witness :
    let f : Nat → Except Unit Nat := fun t => .ok (t * 10)
    let ops : List (CacheOp Nat Nat) := [.write 0 1, .compile 0, .write 0 2, .compile 0]
    (runCompilesByPath f (fun _ => none) (Lru.empty 8) ops).map Except.toOption = [some 10, some 10] ∧
    (runCompilesPlain f (fun _ => none) ops).map Except.toOption = [some 10, some 20] ∧
    (runCompiles f (fun _ => none) (Lru.empty 8) ops).map Except.toOption = [some 10, some 20] := by decide

-- non-vacuity: eviction at capacity 2 and an error that is not stored
example :
    let f : Nat → Except Unit Nat := fun t => if t = 7 then .error () else .ok (t + 100)
    let ops : List (CacheOp Nat Nat) := [.write 0 1, .write 1 2, .write 2 3, .write 3 7, .compile 0, .compile 1, .compile 2, .compile 0, .compile 3, .compile 3]
    (runCompiles f (fun _ => none) (Lru.empty 2) ops).map Except.toOption = [some 101, some 102, some 103, some 101, none, none] := by decide

end RG.C17
