import RecipeGrid.Lemmas.ParserErrBound
import RecipeGrid.Lemmas.ParserErrPrefixRules
import RecipeGrid.Props.C07b
/-! C07.3 — a syntax error is a *located* error too: the position `recipe_grid.parser.parse` reports for a text the
    grammar rejects (peggie's furthest failure, `Model/ParserErr.lean`: `parseE`) lies in the text, its line exists, the
    quoted line is that line, and it is not before the statements that were accepted.

    `parseE` is the parser of `Model/Parser.lean` plus the record of the furthest failure (`parseE_erase`), so that
    everything proved about `parse` holds for `parseE`.  Helper lemmas: `Lemmas/ParserErr*.lean`, `Lemmas/BuiltSh.lean`. -/
namespace RG.C07

/-- the offset of a syntax error, for the examples (`ParseResultE` has no decidable equality) -/
def errOffset : ParseResultE → Option Nat
  | .ok _ => none
  | .syntaxError off => some off

theorem eq_syntaxError_of_errOffset {r : ParseResultE} {off : Nat} (h : errOffset r = some off) :
    r = .syntaxError off := by
  cases r <;> cases h; rfl

/-- **the instrumented parser accepts exactly the same texts, with exactly the same AST**: forgetting the offset of
    the syntax error gives the result of `parse` -/
theorem parseE_erase (src : Str) : (parseE src).erase = parse src := RG.parseE_erase src

theorem parseE_ok_iff (src : Str) (stmts : List AStmt) : parseE src = .ok stmts ↔ parse src = .ok stmts := by
  rw [← parseE_erase]
  cases parseE src with
  | ok l => simp [ParseResultE.erase]
  | syntaxError off => simp [ParseResultE.erase]

theorem parseE_syntaxError_iff (src : Str) : (∃ off, parseE src = .syntaxError off) ↔ parse src = .syntaxError := by
  rw [← parseE_erase]
  cases parseE src with
  | ok l => simp [ParseResultE.erase]
  | syntaxError off => simp [ParseResultE.erase]

/-- non-vacuity: an unclosed bracket is reported at the end of the text -/
example : errOffset (parseE "fry(eggs".toList) = some 8 := by decide +kernel
/-- a stray `)` is reported where it stands, line 2, column 3 (read again in `Props/C19c.lean`) -/
theorem stray_paren_evaluated : errOffset (parseE "x = 1 egg\nx )".toList) = some 12 ∧
    syntaxErrorLineCol "x = 1 egg\nx )".toList 12 = (2, 3) ∧
    syntaxErrorSnippet "x = 1 egg\nx )".toList 12 = some "x )".toList := by decide +kernel
example : errOffset (parseE "x = 1 egg\nx )".toList) = some 12 ∧
    syntaxErrorLineCol "x = 1 egg\nx )".toList 12 = (2, 3) ∧
    syntaxErrorSnippet "x = 1 egg\nx )".toList 12 = some "x )".toList := stray_paren_evaluated
/-- a quantity without ingredient is reported at the end of the quantity; a text that parses has no error -/
example : errOffset (parseE "x = 2".toList) = some 5 ∧ errOffset (parseE "1 egg".toList) = none := by decide +kernel

/-- **the error is located inside the text or at its end** -/
theorem syntaxError_offset_le (src : Str) (off : Nat) (h : parseE src = .syntaxError off) : off ≤ src.length :=
  RG.syntaxError_offset_le src off h

/-- the bound is reached (an unclosed quote: the closing quote is missing at the end of the text), and the error can be
    at the very start -/
example : errOffset (parseE "'abc".toList) = some 4 ∧ errOffset (parseE ") x".toList) = some 0 := by decide +kernel

/-- **the reported line and column exist and the quoted line is that line**: for a syntax error at `off`, the line
    number is between 1 and the number of lines, the column between 1 and one past the length of that line (with its
    terminator), a snippet is always produced (`extract_line` does not raise), and — the text not being empty — the
    snippet is that very line without its terminator -/
theorem syntaxError_line_exists (src : Str) (off : Nat) (h : parseE src = .syntaxError off) :
    let lc := syntaxErrorLineCol src off
    off ≤ src.length ∧
    1 ≤ lc.1 ∧ lc.1 ≤ max 1 (splitLinesKeep src).length ∧
    1 ≤ lc.2 ∧ lc.2 ≤ ((splitLinesKeep src)[lc.1 - 1]?.getD []).length + 1 ∧
    (syntaxErrorSnippet src off).isSome = true ∧
    (src ≠ [] → syntaxErrorSnippet src off = ((splitLinesKeep src)[lc.1 - 1]?).map dropTerminator) := by
  intro lc
  obtain ⟨h1, h2, h3, h4⟩ := offset_located src off
  exact ⟨syntaxError_offset_le src off h, h1, h2, h3, h4, extractLine_total src off,
    fun hs => extractLine_is_line src off hs⟩

/-- for an error before the end of the text the position is exact: the characters before the offset are the lines
    before the reported line and `column − 1` characters of that line -/
theorem syntaxError_position_exact (src : Str) (off : Nat) (_h : parseE src = .syntaxError off) (hlt : off < src.length) :
    let lc := syntaxErrorLineCol src off
    (((splitLinesKeep src).take (lc.1 - 1)).flatten).length + (lc.2 - 1) = off ∧
    lc.2 ≤ ((splitLinesKeep src)[lc.1 - 1]?.getD []).length :=
  offset_exact src off hlt

/-- the empty text is rejected at line 1, column 1, quoting the empty line -/
example : errOffset (parseE []) = some 0 ∧ syntaxErrorLineCol [] 0 = (1, 1) ∧ syntaxErrorSnippet [] 0 = some [] := by
  decide +kernel

/-- non-vacuity of `syntaxError_line_exists`, with `\r\n` line ends: the error in line 3 -/
example : errOffset (parseE "a\r\nb\r\nc(".toList) = some 8 ∧
    syntaxErrorLineCol "a\r\nb\r\nc(".toList 8 = (3, 3) ∧
    (splitLinesKeep "a\r\nb\r\nc(".toList).length = 3 ∧
    syntaxErrorSnippet "a\r\nb\r\nc(".toList 8 = some "c(".toList := by decide +kernel

/-- **no statement before the reported offset is at fault**: if the grammar's `sp? stmt+` accepts statements from
    the start of the text up to position `p` (and the text is rejected because something that is neither a further
    statement nor the end of the text follows), the reported offset is at or after `p` -/
theorem syntaxError_after_accepted_statements (src : Str) (off : Nat) (stmts : List AStmt) (s' : Parser.PState)
    (h : parseE src = .syntaxError off) (hp : ParserE.stmtsPlus src.toArray ⟨0, false⟩ = some (stmts, s')) :
    s'.pos ≤ off := by
  obtain ⟨hn, rfl⟩ := parseE_syntaxError h
  obtain ⟨f, hf, hle⟩ := ParserE.recipe_far_ge_stmts hp hn
  rw [hf]; exact hle

/-- and if not even the first statement is accepted, the reported offset is at or after the start of that statement
    (the end of the leading white space) -/
theorem syntaxError_after_leading_space (src : Str) (off : Nat)
    (h : parseE src = .syntaxError off) (hp : ParserE.stmtsPlus src.toArray ⟨0, false⟩ = none) :
    Parser.spanEnd isReSpace src.toArray 0 ≤ off := by
  obtain ⟨hn, rfl⟩ := parseE_syntaxError h
  obtain ⟨f, hf, _, hge⟩ := ParserE.recipe_far_ge_start hn
  rw [hf]; exact hge hp

/-- **complete statements are never blamed for what follows them**: if `a` ends in a line break and is accepted by
    the grammar on its own, and `a ++ b` is rejected, then the reported offset is not inside `a`.  (The run on `a ++ b`
    need not go through `a` as the run on `a` did — `"2 tea\n" ++ "spoon x"` reads the unit `tea spoon` across the cut —
    but until a terminal looks beyond the end of `a` the two runs coincide, and a terminal that matches or fails beyond
    the end of `a` puts the furthest failure there: `ParserE.LE.recipe`.) -/
theorem syntaxError_after_accepted_prefix (a b : Str) (stmts : List AStmt) (c : Char)
    (hlast : a.getLast? = some c) (hnl : isNewline c = true) (ha : parse a = .ok stmts)
    (off : Nat) (hab : parseE (a ++ b) = .syntaxError off) : a.length ≤ off :=
  prefix_syntaxError_offset a b ⟨c, hlast, hnl⟩ stmts ((parseE_ok_iff a stmts).mpr ha) off hab

/-- non-vacuity: two accepted lines, then a line with an unclosed bracket; and a text whose first line is read
    differently when the second is there: `2 tea` alone is "2 of tea", but with `spoon (` after the line break the unit
    `tea spoon` matches across the cut, the amount is committed, no ingredient follows and the FIRST statement fails —
    the error is still reported beyond the first line (at the `(`, offset 12) -/
example : errOffset (parseE "a = b\nc\n".toList) = none ∧ "a = b\nc\n".toList.getLast? = some '\n' ∧
    errOffset (parseE ("a = b\nc\n".toList ++ "  d(".toList)) = some 12 ∧ "a = b\nc\n".toList.length = 8 := by
  decide +kernel
example : errOffset (parseE "2 tea\n".toList) = none ∧
    errOffset (parseE ("2 tea\n".toList ++ "spoon (".toList)) = some 12 ∧ "2 tea\n".toList.length = 6 := by
  decide +kernel

/-- the position `sp? stmt+` reaches, for the examples -/
def acceptedUpTo (src : Str) : Option Nat := (ParserE.stmtsPlus src.toArray ⟨0, false⟩).map (·.2.pos)

/-- non-vacuity: two statements are accepted (up to offset 10, the `\s*` after a line break included), the third is
    at fault and the error is in it; and a text whose first statement is at fault, after two blank lines -/
example : acceptedUpTo "a = b\nc\n  d(".toList = some 10 ∧ errOffset (parseE "a = b\nc\n  d(".toList) = some 12 ∧
    acceptedUpTo "\n\n(".toList = none ∧ Parser.spanEnd isReSpace "\n\n(".toList.toArray 0 = 2 ∧
    errOffset (parseE "\n\n(".toList) = some 3 := by decide +kernel

/-- the recorded failures of every rule lie between the place where the rule was started and the end of the text, and
    a rule that fails has recorded one (`ParserE.Good`); for the whole grammar: -/
theorem recipe_far_invariant (t : Array Char) :
    (∀ f, (ParserE.recipe t ⟨0, false⟩).2 = some f → f ≤ t.size) ∧
    ((ParserE.recipe t ⟨0, false⟩).1 = none → (ParserE.recipe t ⟨0, false⟩).2 ≠ none) :=
  ⟨fun f hf => ((ParserE.Good.recipe t ⟨0, false⟩ (Nat.zero_le _)).2.1 f hf).2,
   (ParserE.Good.recipe t ⟨0, false⟩ (Nat.zero_le _)).2.2⟩

/-- … and for a statement started anywhere in the text: it ends in the text and not before its start, its failures
    are recorded between its start and the end of the text, and if it fails a failure at or after its start has been
    recorded -/
theorem stmt_far_invariant (t : Array Char) (s : Parser.PState) (hs : s.pos ≤ t.size) :
    (∀ a s', (ParserE.stmt t s).1 = some (a, s') → s.pos ≤ s'.pos ∧ s'.pos ≤ t.size) ∧
    (∀ f, (ParserE.stmt t s).2 = some f → s.pos ≤ f ∧ f ≤ t.size) ∧
    ((ParserE.stmt t s).1 = none → ∃ f, (ParserE.stmt t s).2 = some f ∧ s.pos ≤ f ∧ f ≤ t.size) :=
  ⟨(ParserE.Good.stmt t s hs).1, (ParserE.Good.stmt t s hs).2.1, fun h => ParserE.Good.stmt.fail_far hs h⟩

/-- **C07 for syntax errors**: when `compile` reports a syntax error in block `b`, that block's text is rejected by
    the grammar at an offset `off` inside it, whose line and column exist, and a line is quoted -/
theorem compile_syntax_error_located (srcs : List Str) (b : Nat) (h : compile srcs = .syntaxError b) :
    ∃ s off, srcs[b]? = some s ∧ parseE s = .syntaxError off ∧ off ≤ s.length ∧
      1 ≤ (syntaxErrorLineCol s off).1 ∧ (syntaxErrorLineCol s off).1 ≤ max 1 (splitLinesKeep s).length ∧
      1 ≤ (syntaxErrorLineCol s off).2 ∧
      (syntaxErrorLineCol s off).2 ≤ ((splitLinesKeep s)[(syntaxErrorLineCol s off).1 - 1]?.getD []).length + 1 ∧
      (syntaxErrorSnippet s off).isSome = true := by
  rcases compile_cases srcs with ⟨e, hp, hc⟩ | ⟨asts, e, hp, hb, hc⟩ | ⟨asts, bs, st, bs', _, _, _, _, _, hc⟩
  · obtain ⟨b', s, he, hs, hps, _⟩ := parseAll_error_first srcs 0 e hp
    rw [hc, he] at h
    simp only [Nat.zero_add, CompileResult.syntaxError.injEq] at h
    subst h
    obtain ⟨off, hoff⟩ := (parseE_syntaxError_iff s).mpr hps
    obtain ⟨h0, h1, h2, h3, h4, h5, _⟩ := syntaxError_line_exists s off hoff
    exact ⟨s, off, hs, hoff, h0, h1, h2, h3, h4, h5⟩
  · rw [hc] at h
    -- an error of elaboration is a redefinition, a proportion or an internal error, never a syntax error
    rcases compileBlocks_error asts 0 {} e hb with ⟨b', off', hx | hx, _⟩ | ⟨why, hx⟩
    · rw [hx] at h; cases h
    · rw [hx] at h; cases h
    · rw [hx] at h; cases h
  · rw [hc] at h; cases h

/-- non-vacuity: the second block is rejected, at its offset 2 -/
example : compile ["x".toList, "f(".toList] = .syntaxError 1 ∧ errOffset (parseE "f(".toList) = some 2 := by
  decide +kernel

end RG.C07
