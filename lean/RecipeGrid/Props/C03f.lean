import RecipeGrid.Lemmas.Lint
/-! C03 (continued), what of scaling needs the linter's totals (`Model/Lint.lean`, which cannot be imported next to
    `Props/C03b.lean`): the share of a sub recipe that a quantity reference stands for, and with it every step of `lint`'s
    accumulation of the proportions used, does not depend on the scale. -/
namespace RG.C03

/-- the share of a sub recipe with total `tq` that a reference by quantity `q` stands for: `q · c / tq`, `c` the unit
    conversion factor (exact layer); `none`: incompatible units or a zero total.  (`C20.contribQ (some tq) (.quantity q)` is
    the same number with `0` for `none`, and `C20.factorQ` the value of `convFactor true`: `C20.factorQ_eq`.) -/
def usedProportion (q tq : Quantity) : Option Rat :=
  match convFactor true q tq with
  | none => none
  | some c => if tq.value.val = 0 then none else some (q.value.val * c.val / tq.value.val)

/-- **the share is invariant when both the reference and the sub recipe are scaled** -/
theorem usedProportion_scale {k : Num} (hk : k.kind ≠ .flt) (hk0 : k.val ≠ 0) (q tq : Quantity)
    (hq : q.value.kind ≠ .flt) (htq : tq.value.kind ≠ .flt) :
    usedProportion (q.scale k) (tq.scale k) = usedProportion q tq := by
  unfold usedProportion
  rw [convFactor_scale]
  cases convFactor true q tq with
  | none => rfl
  | some c =>
    have h3 : (tq.value.val * k.val = 0) ↔ (tq.value.val = 0) := by
      have := Rat.mul_right_beq_zero (a := tq.value.val) hk0
      rw [Bool.eq_iff_iff] at this
      simpa using this
    simp only [Quantity.scale_val hq hk, Quantity.scale_val htq hk, h3, Rat.mul_mul_div_mul_cancel _ _ _ _ hk0]

/-- and so is a step of `lint`'s accumulation of the proportions used (quantity, proportion or remainder) when the sub
    recipe and the reference are scaled together; for the whole sum and the verdicts see `C20.lintQ_scale_invariant` -/
theorem reference_share_scale {k : Num} (hk : k.kind ≠ .flt) (hk0 : k.val ≠ 0) (s : Tree) (hs : s.Good)
    (st : SumState) (a : Amount) (ha : a.Exact) :
    sumStep true (totalQuantity (Tree.scale k s)) st (a.scale k) = sumStep true (totalQuantity s) st a := by
  rw [totalQuantity_scale_of_good hk hk0 hs]
  exact sumStep_scale hk hk0 _ (totalQuantity_exact hs) st a ha

end RG.C03
