import RecipeGrid.Lemmas.Fold
import RecipeGrid.Props.C08
/-! C08.1 (with C07 for the inlining pass): whatever description is accepted by elaboration, the inlining pass of
    `compile` never fails (`list.remove` finds the definition, the definition block exists, the sub recipe and its
    reference have the expected shape) and its result passes the `Recipe` validity check.  Hence no undocumented
    exception escapes from the rewriting.  Helper lemmas and the loop invariant `FoldInv` are in `Lemmas/Fold.lean`. -/
namespace RG.C08

/-- **the pass never fails**: neither `"ValueError"` (`list.remove`), nor `"IndexError"`, nor `"AttributeError"` -/
theorem foldAll_ok (asts : List (List AStmt)) (bs : List Block) (st : CState)
    (h : compileBlocks 0 {} asts = .ok (bs, st)) :
    ∃ bs' outs', foldAll st.outputs.length 0 bs st.outputs = .ok (bs', outs') :=
  fold_total asts bs st h st.outputs.length

/-- every embedded copy of the result IS a sub recipe root at an earlier position (an earlier block, or earlier in
    the same block) -/
theorem foldAll_scoped (asts : List (List AStmt)) (bs : List Block) (st : CState)
    (h : compileBlocks 0 {} asts = .ok (bs, st)) (bs' : List Block) (outs' : List NamedOutput)
    (hf : foldAll st.outputs.length 0 bs st.outputs = .ok (bs', outs')) : Scoped bs'.flatten :=
  (fold_reachable asts bs st h _ bs' outs' hf).1.wf

/-- **the result is a valid recipe** -/
theorem foldAll_valid (asts : List (List AStmt)) (bs : List Block) (st : CState)
    (h : compileBlocks 0 {} asts = .ok (bs, st)) (bs' : List Block) (outs' : List NamedOutput)
    (hf : foldAll st.outputs.length 0 bs st.outputs = .ok (bs', outs')) : checkBlocks [] bs' = true :=
  checkBlocks_of_scoped bs' (foldAll_scoped asts bs st h bs' outs' hf)

theorem foldAll_blocks_length (asts : List (List AStmt)) (bs : List Block) (st : CState)
    (h : compileBlocks 0 {} asts = .ok (bs, st)) (bs' : List Block) (outs' : List NamedOutput)
    (hf : foldAll st.outputs.length 0 bs st.outputs = .ok (bs', outs')) : bs'.length = bs.length :=
  (fold_reachable asts bs st h _ bs' outs' hf).2.2.2.length_eq

/-- **no undocumented exception escapes from `compile`'s rewriting** (nor from elaboration) -/
theorem compile_no_internal (srcs : List Str) : ∀ why, compile srcs ≠ .internal why := by
  intro why h
  rcases compile_cases srcs with ⟨e, hp, hc⟩ | ⟨asts, e, _, hb, hc⟩ | ⟨_, _, _, _, _, _, _, _, _, hc⟩
  · rw [h] at hc
    obtain ⟨b, _, hb, _⟩ := parseAll_error_first srcs 0 e hp
    rw [hb] at hc
    cases hc
  · rw [h] at hc
    exact (C01.elab_no_other_error asts).2.2.1 why (hc ▸ hb)
  · rw [h] at hc
    cases hc

theorem compile_ok_valid (srcs : List Str) (bs : List Block) (h : compile srcs = .ok bs) : checkBlocks [] bs = true := by
  obtain ⟨asts, bs0, st, outs', _, hc, _, hf⟩ := compile_ok_phases h
  exact foldAll_valid asts bs0 st hc bs outs' hf

/-- the result is structurally valid (`C03.ValidS`: every embedded copy IS an earlier sub recipe root), which is
    the hypothesis under which scaling keeps validity (`C03.scale_valid`, C08.2) -/
theorem compile_validS (srcs : List Str) (bs : List Block) (h : compile srcs = .ok bs) : C03.ValidS [] bs := by
  obtain ⟨asts, bs0, st, outs', _, hc, _, hf⟩ := compile_ok_phases h
  exact validS_of_scoped _ (foldAll_scoped asts bs0 st hc _ outs' hf)

/-- hence a compiled recipe can be scaled and re-constructed: `Recipe.scale` never raises on it -/
theorem compile_scale_ok (srcs : List Str) (bs : List Block) (h : compile srcs = .ok bs) (k : Num) :
    mkRecipes (scaleBlocks k bs) = .ok (scaleBlocks k bs) :=
  C03.scale_mkRecipes_ok k bs (compile_validS srcs bs h)

/-- in the words of C08.4: every reference target met while walking the compiled recipe is `==` to a sub recipe root
    at an earlier position -/
theorem compile_refsResolve (srcs : List Str) (bs : List Block) (h : compile srcs = .ok bs) : RefsResolve bs :=
  (checkBlocks_iff_refsResolve bs).1 (compile_ok_valid srcs bs h)

/-- a tree the Python constructors build without raising: every step accepts its inputs (`mkStep`: no multi-output
    sub recipe below a step), every sub recipe accepts its body and has a name (`mkSub`), every reference selects an
    existing output of the sub recipe it holds (`mkReference`), recursively — also inside embedded copies -/
inductive Constructible : Tree → Prop
  | ingredient (d : SVS) (q : Option Quantity) : Constructible (.ingredient d q)
  | step (d : SVS) (inputs : List Tree) : (∀ t ∈ inputs, Constructible t) → mkStep d inputs = .ok (.step d inputs) →
      Constructible (.step d inputs)
  | reference (s : Tree) (idx : Nat) (a : Amount) : Constructible s →
      mkReference s idx a = .ok (.reference s idx a) → Constructible (.reference s idx a)
  | sub (b : Tree) (ns : List SVS) (sh : Bool) : Constructible b → mkSub b ns sh = .ok (.sub b ns sh) →
      Constructible (.sub b ns sh)

theorem wfBList_mem : ∀ (ts : List Tree), Tree.wfBList ts = true → ∀ t ∈ ts, t.canBeChild = true ∧ t.wfB = true
  | [], _, t, ht => by cases ht
  | x :: xs, h, t, ht => by
    simp only [Tree.wfBList, Bool.and_eq_true] at h
    rcases List.mem_cons.mp ht with rfl | ht
    · exact h.1
    · exact wfBList_mem xs h.2 t ht

theorem constructible_of_wfB : ∀ t : Tree, t.wfB = true → Constructible t
  | .ingredient d q, _ => .ingredient d q
  | .step d i, h =>
    .step d i (fun t ht => constructible_of_wfB t (wfBList_mem i h t ht).2)
      ((mkStep_ok_iff d i).mpr fun t ht => (Tree.canBeChild_iff t).mp (wfBList_mem i h t ht).1)
  | .reference s j a, h => by
    simp only [Tree.wfB, Bool.and_eq_true, decide_eq_true_eq] at h
    exact .reference s j a (constructible_of_wfB s h.2) ((mkReference_ok_iff s j a).mpr h.1)
  | .sub b ns sh, h => by
    simp only [Tree.wfB, Bool.and_eq_true] at h
    refine .sub b ns sh (constructible_of_wfB b h.2) ?_
    rw [(mkSub_refuses_iff b ns sh).2.2]
    refine ⟨(Tree.canBeChild_iff b).mp h.1.1, ?_⟩
    intro hn
    rw [hn] at h
    simp at h

/-- **C08.1** every tree of the compiled recipe is accepted by the constructors: in particular multi-output sub
    recipes occur only as roots (never below a step or inside another sub recipe) and every sub recipe has at least
    one name -/
theorem compile_constructible (srcs : List Str) (bs : List Block) (h : compile srcs = .ok bs) :
    ∀ b ∈ bs, ∀ t ∈ b, Constructible t := by
  obtain ⟨asts, bs0, st, outs', _, hc, _, hf⟩ := compile_ok_phases h
  intro b hb t ht
  exact constructible_of_wfB t (foldAll_wfAll asts bs0 st hc _ bs outs' hf t (List.mem_flatten.mpr ⟨b, hb, ht⟩))

section Examples
private def str (s : Str) : AString := [.sub 0 s]
/-- block 0: `A := mix(FIG)`, `B := heat(A)`, `C = serve(B, RYE)`; block 1: `eat(C)`: two nested definitions are
    folded, the cross-block reference is not -/
private def prog : List (List AStmt) :=
  [[ ⟨.step (str ['m','i','x']) [.ref (str ['F','I','G']) none], some [str ['A']], true⟩,
     ⟨.step (str ['h','e','a','t']) [.ref (str ['A']) none], some [str ['B']], true⟩,
     ⟨.step (str ['s','e','r','v','e']) [.ref (str ['B']) none, .ref (str ['R','Y','E']) none], some [str ['C']], false⟩ ],
   [ ⟨.step (str ['e','a','t']) [.ref (str ['C']) none], none, false⟩ ]]

/-- evaluated: the loop succeeds, [3, 1] roots become [1, 1], the result passes the check, and the remaining
    reference of block 1 holds a copy of the (rewritten) root of block 0 -/
example : (match compileBlocks 0 {} prog with
    | .ok (bs, st) =>
      match foldAll st.outputs.length 0 bs st.outputs with
      | .ok ([[c], [.step _ [.reference c' 0 _]]], _) =>
        decide (bs.map List.length = [3, 1] ∧ st.outputs.map NamedOutput.canBeInlined = [true, true, false] ∧ c' = c) &&
          checkBlocks [] [[c], [.step [] [.reference c' 0 Amount.whole]]]
      | _ => false
    | .error _ => false) = true := by decide +kernel

private theorem prog_elab : ∃ bs st, compileBlocks 0 {} prog = .ok (bs, st) := by
  cases h : compileBlocks 0 {} prog with
  | ok p => exact ⟨p.1, p.2, rfl⟩
  | error e =>
    have : (compileBlocks 0 {} prog).toBool = true := by decide +kernel
    rw [h] at this
    cases this

example : ∃ bs st bs' outs', compileBlocks 0 {} prog = .ok (bs, st) ∧
    foldAll st.outputs.length 0 bs st.outputs = .ok (bs', outs') ∧ checkBlocks [] bs' = true ∧ Scoped bs'.flatten := by
  obtain ⟨bs, st, h⟩ := prog_elab
  obtain ⟨bs', outs', hf⟩ := foldAll_ok prog bs st h
  exact ⟨bs, st, bs', outs', h, hf, foldAll_valid prog bs st h bs' outs' hf, foldAll_scoped prog bs st h bs' outs' hf⟩

/-- the same program from source text, through `compile`: accepted, [1, 1] roots, valid, no internal error -/
example : (match compile ["A := MIX(FIG)\nB := HEAT(A)\nC = SERVE(B, RYE)".toList, "EAT(C)".toList] with
    | .ok bs => bs.map List.length == [1, 1] && checkBlocks [] bs
    | _ => false) = true := by decide +kernel
end Examples

end RG.C08
