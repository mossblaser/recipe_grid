import RecipeGrid.Lemmas.MdCompile
/-! C19.5 — `compile_markdown` end to end: from the document text to the error the user sees.

    `Model/MdCompile.lean` puts the pieces together: `mdCompile doc` scans the document (`scanBlocks2`), groups the recipe
    blocks into independent recipes (`groupBlocks`), pads each block (`paddedSource`), compiles group after group
    (`compile`) and reports what the first failing group raises, with the line, column and quoted line the exception carries
    (`offsetToLineCol` / `extractLine` on the padded source of the block `compile` names; for a syntax error peggie's
    furthest failure, `parseE`).  It is compared exactly with the real `compile_markdown` by the correspondence check of C19, `harness/mdcompile_corr.py`.

    `doc2_error_line`, `doc_error_line` compose the scanner statements (`Props/C19e.lean`, `Props/C19d.lean`) with
    `markdown_error_line` (`Props/C19b.lean`).  For every document of the sub-language **D2** (`inDoc2`): where an error is
    reported (`mdCompile_error_line`), which recipe and which block it comes from (`mdCompile_first_group`,
    `mdCompile_error_block`), and when there is none (`mdCompile_ok_iff`). -/
namespace RG.C19

/-- `markdown_error_line` for blocks whose padding is known to be `startLine - 1` (the blocks of either scanner): the
    error is reported in the same block, `startLine - 1` lines further down, quoting the same line -/
theorem blocks_error_line (doc : Str) (grp : List MdBlock)
    (hpad : ∀ b ∈ grp, mdPadding doc b.pos b.kind.isFenced + 1 = b.startLine) (i off : Nat)
    (hc : compile (grp.map fun b => crToLf b.source) = .redefined i off ∨
          compile (grp.map fun b => crToLf b.source) = .proportion i off) :
    ∃ b, grp[i]? = some b ∧
      (compile (grp.map fun b => crToLf b.source) = .redefined i off →
        compile (mdSources doc (grp.map fun b => (b.pos, b.kind.isFenced, b.source))) =
          .redefined i (off + (b.startLine - 1))) ∧
      (compile (grp.map fun b => crToLf b.source) = .proportion i off →
        compile (mdSources doc (grp.map fun b => (b.pos, b.kind.isFenced, b.source))) =
          .proportion i (off + (b.startLine - 1))) ∧
      offsetToLineCol (paddedSource doc b.pos b.kind.isFenced b.source) (off + (b.startLine - 1)) =
        (b.startLine + ((offsetToLineCol (crToLf b.source) off).1 - 1), (offsetToLineCol (crToLf b.source) off).2) ∧
      ∃ q, extractLine (crToLf b.source) (offsetToLineCol (crToLf b.source) off).1 = some q ∧
        extractLine (paddedSource doc b.pos b.kind.isFenced b.source)
          (b.startLine + ((offsetToLineCol (crToLf b.source) off).1 - 1)) = some q := by
  have hmap : ((grp.map fun b => (b.pos, b.kind.isFenced, b.source)).map fun x => crToLf x.2.2) =
      grp.map fun b => crToLf b.source := by
    rw [List.map_map]; rfl
  obtain ⟨pos, fenced, src, hbi, _, h1, h2, h3, h4⟩ :=
    markdown_error_line doc (grp.map fun b => (b.pos, b.kind.isFenced, b.source)) i off (by rw [hmap]; exact hc)
  rw [hmap] at h1 h2
  rw [List.getElem?_map] at hbi
  cases hgi : grp[i]? with
  | none => rw [hgi] at hbi; cases hbi
  | some b =>
    rw [hgi] at hbi
    simp only [Option.map_some, Option.some.injEq, Prod.mk.injEq] at hbi
    obtain ⟨rfl, rfl, rfl⟩ := hbi
    have hpad0 := hpad b (List.mem_of_getElem? hgi)
    have hpad' : mdPadding doc b.pos b.kind.isFenced = b.startLine - 1 := by omega
    have hl1 := (C07.offset_located (crToLf b.source) off).1
    rw [hpad'] at h1 h2 h3 h4
    have hline : (offsetToLineCol (crToLf b.source) off).1 + (b.startLine - 1) =
        b.startLine + ((offsetToLineCol (crToLf b.source) off).1 - 1) := by omega
    rw [hline] at h3 h4
    obtain ⟨q, hq⟩ := Option.isSome_iff_exists.1 (C07.extractLine_total (crToLf b.source) off)
    exact ⟨b, rfl, h1, h2, h3, q, hq, by rw [h4, hq]⟩

/-- C19, end to end for **D2**: take any list `grp` of code blocks found by the scanner in a document
    of **D2** — at top level, in block quotes, in list items.  If compiling their texts reports a located error in block
    `i` at line `l`, column `c` of that block's text, then compiling what `markdown.py` actually passes to the compiler
    (`mdSources`: the texts padded by `get_line_number_corrected_source`) reports the same error in the same block at
    line `b.startLine + (l - 1)`, column `c`, quoting the same line `q` — and line `b.startLine + (l - 1)` **of the
    document** is `q` behind `n = qc + p` characters: `qc` of container prefix (`isCPrefix`) and `p ≤ 3` (fenced) or
    `p ≤ 4` (indented) spaces of indentation; the character at column `c` of the quoted line is the character at
    column `c + n` of the document line (`q[i]? = d[n + i]?`).  Nothing about marko is assumed. -/
theorem doc2_error_line (doc : Str) (hD : inDoc2 doc = true) (grp : List MdBlock) (hg : ∀ b ∈ grp, b ∈ scanBlocks2 doc)
    (i off : Nat)
    (hc : compile (grp.map fun b => crToLf b.source) = .redefined i off ∨
          compile (grp.map fun b => crToLf b.source) = .proportion i off) :
    ∃ b, grp[i]? = some b ∧ b ∈ scanBlocks2 doc ∧
      (compile (grp.map fun b => crToLf b.source) = .redefined i off →
        compile (mdSources doc (grp.map fun b => (b.pos, b.kind.isFenced, b.source))) =
          .redefined i (off + (b.startLine - 1))) ∧
      (compile (grp.map fun b => crToLf b.source) = .proportion i off →
        compile (mdSources doc (grp.map fun b => (b.pos, b.kind.isFenced, b.source))) =
          .proportion i (off + (b.startLine - 1))) ∧
      offsetToLineCol (paddedSource doc b.pos b.kind.isFenced b.source) (off + (b.startLine - 1)) =
        (b.startLine + ((offsetToLineCol (crToLf b.source) off).1 - 1), (offsetToLineCol (crToLf b.source) off).2) ∧
      ∃ q, extractLine (crToLf b.source) (offsetToLineCol (crToLf b.source) off).1 = some q ∧
        extractLine (paddedSource doc b.pos b.kind.isFenced b.source)
          (b.startLine + ((offsetToLineCol (crToLf b.source) off).1 - 1)) = some q ∧
        ((∃ d qc p, extractLine (crToLf (normaliseCrLf doc))
              (b.startLine + ((offsetToLineCol (crToLf b.source) off).1 - 1)) = some d ∧
            isCPrefix (d.take qc) = true ∧
            p ≤ (if b.kind.isFenced then 3 else 4) ∧ (∀ c ∈ (d.drop qc).take p, c = ' ') ∧
            q = d.drop (qc + p) ∧ qc + p + q.length = d.length ∧ ∀ i, q[i]? = d[qc + p + i]?) ∨
          (b.kind.isFenced = false ∧ q = [] ∧
            b.startLine + ((offsetToLineCol (crToLf b.source) off).1 - 1) =
              (splitLines (paddedSource doc b.pos b.kind.isFenced b.source)).length ∧
            extractLine (crToLf (normaliseCrLf doc))
              (b.startLine + ((offsetToLineCol (crToLf b.source) off).1 - 1)) = none)) := by
  obtain ⟨b, hgi, h1, h2, h3, q, hq, hq'⟩ :=
    blocks_error_line doc grp (fun b hb => scan2_padding doc hD b (hg b hb)) i off hc
  have hb := hg b (List.mem_of_getElem? hgi)
  refine ⟨b, hgi, hb, h1, h2, h3, q, hq, hq', ?_⟩
  rcases scan2_block_lines doc hD b hb _ q hq' with ⟨d, qc, p, hd, h5, h7, h8, h9, h10⟩ | h
  · exact Or.inl ⟨d, qc, p, hd, h5, h7, h8, h9, h10, fun i => by rw [h9, List.getElem?_drop]⟩
  · exact Or.inr h

/-- C19, end to end for **D**: `doc2_error_line` for a list `grp` of code blocks of a document of
    **D**: a located error in block `i` at line `l`, column `c` of that block's text is reported by what `markdown.py`
    compiles at line `b.startLine + (l - 1)`, column `c`, quoting the same line `q`, and that line of the document is `q`
    behind at most `blockIndent doc b` spaces.  Nothing about marko is assumed. -/
theorem doc_error_line (doc : Str) (hD : inDoc doc = true) (grp : List MdBlock) (hg : ∀ b ∈ grp, b ∈ scanBlocks doc)
    (i off : Nat)
    (hc : compile (grp.map fun b => crToLf b.source) = .redefined i off ∨
          compile (grp.map fun b => crToLf b.source) = .proportion i off) :
    ∃ b, grp[i]? = some b ∧ b ∈ scanBlocks doc ∧
      (compile (grp.map fun b => crToLf b.source) = .redefined i off →
        compile (mdSources doc (grp.map fun b => (b.pos, b.kind.isFenced, b.source))) =
          .redefined i (off + (b.startLine - 1))) ∧
      (compile (grp.map fun b => crToLf b.source) = .proportion i off →
        compile (mdSources doc (grp.map fun b => (b.pos, b.kind.isFenced, b.source))) =
          .proportion i (off + (b.startLine - 1))) ∧
      offsetToLineCol (paddedSource doc b.pos b.kind.isFenced b.source) (off + (b.startLine - 1)) =
        (b.startLine + ((offsetToLineCol (crToLf b.source) off).1 - 1), (offsetToLineCol (crToLf b.source) off).2) ∧
      ∃ q, extractLine (crToLf b.source) (offsetToLineCol (crToLf b.source) off).1 = some q ∧
        extractLine (paddedSource doc b.pos b.kind.isFenced b.source)
          (b.startLine + ((offsetToLineCol (crToLf b.source) off).1 - 1)) = some q ∧
        ((∃ d p, extractLine (crToLf (normaliseCrLf doc))
              (b.startLine + ((offsetToLineCol (crToLf b.source) off).1 - 1)) = some d ∧
            p ≤ blockIndent doc b ∧ (∀ c ∈ d.take p, c = ' ') ∧ q = d.drop p) ∨
          (b.kind.isFenced = false ∧ q = [] ∧
            b.startLine + ((offsetToLineCol (crToLf b.source) off).1 - 1) =
              (splitLines (paddedSource doc b.pos b.kind.isFenced b.source)).length ∧
            extractLine (crToLf (normaliseCrLf doc))
              (b.startLine + ((offsetToLineCol (crToLf b.source) off).1 - 1)) = none)) := by
  obtain ⟨b, hgi, h1, h2, h3, q, hq, hq'⟩ :=
    blocks_error_line doc grp (fun b hb => scan_padding doc hD b (hg b hb)) i off hc
  have hb := hg b (List.mem_of_getElem? hgi)
  exact ⟨b, hgi, hb, h1, h2, h3, q, hq, hq', scan_block_lines doc hD b hb _ q hq'⟩

def located : MdOutcome → Option (Nat × Nat × Str)
  | .syntaxError l c q => some (l, c, q)
  | .redefined l c q => some (l, c, q)
  | .proportion l c q => some (l, c, q)
  | _ => none

/-- Python's lines (`str.splitlines`) of the document as marko and `get_line_number_corrected_source` read it: `"\r\n"` and
    a lone `"\r"` are `"\n"`.  (marko's own lines of that text, cut at `"\n"` only, are `RG.docLines` of `Lemmas/MdHeading.lean`.) -/
def docLines (doc : Str) : List Str := splitLines (crToLf (normaliseCrLf doc))

theorem docLines_eq (doc : Str) : docLines doc = splitLines doc := splitLines_norm doc

/-- **line `L` of the document holds the quoted text `q`** behind `qc` characters of container prefix (`isCPrefix`:
    nothing, or the spaces of a list item's indentation, or up to 3 spaces, `>` and at most one space) and `p ≤ 4` spaces
    of indentation; the `i`-th character of the quoted text is character `qc + p + i` of the document line -/
def QuotesLine (doc : Str) (L : Nat) (q : Str) : Prop :=
  ∃ d qc p, 1 ≤ L ∧ (docLines doc)[L - 1]? = some d ∧ isCPrefix (d.take qc) = true ∧ p ≤ 4 ∧
    (∀ x ∈ (d.drop qc).take p, x = ' ') ∧ d = d.take (qc + p) ++ q ∧ ∀ i, q[i]? = d[qc + p + i]?

theorem QuotesLine.line_le {doc : Str} {L : Nat} {q : Str} (h : QuotesLine doc L q) :
    1 ≤ L ∧ L ≤ (docLines doc).length := by
  obtain ⟨d, qc, p, h1, hd, _⟩ := h
  have := (List.getElem?_eq_some_iff.1 hd).1
  omega

theorem posLine_le (doc : Str) (b : MdBlock) (hb : b ∈ scanBlocks2 doc) :
    1 ≤ (offsetToLineCol (crToLf (normaliseCrLf doc)) b.pos).1 ∧
      (offsetToLineCol (crToLf (normaliseCrLf doc)) b.pos).1 ≤ (docLines doc).length := by
  have hne := norm_ne_nil_of_block doc b hb
  obtain ⟨h1, h2, _⟩ := C07.offset_located (crToLf (normaliseCrLf doc)) b.pos
  have hlen : 0 < (splitLinesKeep (crToLf (normaliseCrLf doc))).length :=
    List.length_pos_iff.2 (by rwa [Ne, splitLinesKeep_eq_nil])
  simp only [docLines, splitLines, List.length_map]
  omega

/-- **the line of a block's padded source is the document's line** (`scan2_block_lines`, read on the lines of the
    document), or — an indented block at the very end of a document that ends in a line-break character other than the
    newline — the empty line that `CodeBlock` appends, one line below the last line of the document -/
theorem block_line (doc : Str) (hD : inDoc2 doc = true) (b : MdBlock) (hb : b ∈ scanBlocks2 doc) (j : Nat) (q : Str)
    (hq : extractLine (paddedSource doc b.pos b.kind.isFenced b.source) (b.startLine + j) = some q) :
    QuotesLine doc (b.startLine + j) q ∨
      (b.kind.isFenced = false ∧ q = [] ∧ b.startLine + j = (docLines doc).length + 1) := by
  have hne := norm_ne_nil_of_block doc b hb
  have h1 := scan2_padding doc hD b hb
  rcases scan2_extract doc hD b hb j q hq with ⟨d, qc, p, hd, hc, hp, hsp, hqd, hlen⟩ | ⟨hk, hq0, _, hL⟩
  · left
    rw [extractLine_pos _ _ hne (by omega)] at hd
    refine ⟨d, qc, p, by omega, hd, hc, ?_, hsp, ?_, ?_⟩
    · split at hp <;> omega
    · rw [hqd, List.take_append_drop]
    · intro i; rw [hqd, List.getElem?_drop]
  · exact Or.inr ⟨hk, hq0, hL⟩

/-- the empty fenced recipe block: `compile_markdown` raises a `ParseError` at the line of the block's opening fence,
    column 2, quoting the empty string (the padded source is `k` newlines — the last of them stands for the fence line —
    and peggie reports the end of the text on the last line, behind its newline) -/
def EmptyBlockError (doc : Str) (e : MdOutcome) (L c : Nat) (q : Str) : Prop :=
  ∃ b ∈ scanBlocks2 doc, b.kind.isRecipe = true ∧ b.kind.isFenced = true ∧ b.source = [] ∧
    e = .syntaxError L c q ∧ L + 1 = b.startLine ∧ c = 2 ∧ q = [] ∧ 1 ≤ L ∧ L ≤ (docLines doc).length

/-- the indented block at the very end of a document that ends in a line-break character other than the newline: the
    error is reported one line below the last line of the document, quoting the empty string -/
def BeyondEndError (doc : Str) (L : Nat) (q : Str) : Prop :=
  ∃ b ∈ scanBlocks2 doc, b.kind = .indented ∧ q = [] ∧ L = (docLines doc).length + 1

def NamesBlock (r : CompileResult) (i : Nat) : Prop :=
  r = .syntaxError i ∨ ∃ off, r = .redefined i off ∨ r = .proportion i off

theorem shiftResult_located {ks : List Nat} {r : CompileResult} {i off' : Nat}
    (h : shiftResult ks r = .redefined i off' ∨ shiftResult ks r = .proportion i off') :
    ∃ off, (r = .redefined i off ∨ r = .proportion i off) ∧ off' = off + ks.getD i 0 := by
  cases r <;> rcases h with h | h <;> cases h
  · exact ⟨_, Or.inl rfl, rfl⟩
  · exact ⟨_, Or.inr rfl, rfl⟩

/-- **an offset of a block's text, seen in the padded text**: offset `off` of the text of a block of the document — the
    text not empty — is offset `off + k` of the padded text, `k` the padding; the line `L` reported for it lies in the block
    and is the line of the document that holds the quoted text (or the line `BeyondEndError` describes) -/
theorem block_offset_line (doc : Str) (hD : inDoc2 doc = true) (b : MdBlock) (hb : b ∈ scanBlocks2 doc)
    (hne : b.source ≠ []) (off L : Nat) (q : Str)
    (hL : (offsetToLineCol (paddedSource doc b.pos b.kind.isFenced b.source)
      (off + mdPadding doc b.pos b.kind.isFenced)).1 = L)
    (hq : extractLine (paddedSource doc b.pos b.kind.isFenced b.source) L = some q) :
    b.startLine ≤ L + 1 ∧ L < b.startLine + max 1 (splitLines (crToLf b.source)).length ∧
      (QuotesLine doc L q ∨ BeyondEndError doc L q) := by
  have hpad := scan2_padding doc hD b hb
  obtain ⟨hl1, hl2, _⟩ := C07.offset_located (crToLf b.source) off
  have hline := pad_line_of_ne_nil (mdPadding doc b.pos b.kind.isFenced) (crToLf b.source) off (by rwa [Ne, crToLf_eq_nil])
  rw [Nat.add_comm off, paddedSource_pad, hline] at hL
  -- the line is `startLine + (l - 1)` with `1 ≤ l ≤` the number of lines of the block's text (`hl1`, `hl2`)
  obtain rfl : b.startLine + ((offsetToLineCol (crToLf b.source) off).1 - 1) = L := by
    rw [← hL]; show _ = _ + _; omega
  simp only [splitLines, List.length_map]
  refine ⟨by omega, by omega, ?_⟩
  exact (block_line doc hD b hb _ q hq).imp_right fun ⟨hk, hq0, hL⟩ => ⟨b, hb, (isFenced_false_iff _).1 hk, hq0, hL⟩

theorem block_syntax_line (doc : Str) (hD : inDoc2 doc = true) (b : MdBlock) (hb : b ∈ scanBlocks2 doc)
    (hrec : b.kind.isRecipe = true) (off' : Nat) (q : Str)
    (hp : parseE (paddedSource doc b.pos b.kind.isFenced b.source) = .syntaxError off')
    (hq : syntaxErrorSnippet (paddedSource doc b.pos b.kind.isFenced b.source) off' = some q) (L c : Nat)
    (hL : (syntaxErrorLineCol (paddedSource doc b.pos b.kind.isFenced b.source) off').1 = L)
    (hc : (syntaxErrorLineCol (paddedSource doc b.pos b.kind.isFenced b.source) off').2 = c) :
    b.startLine ≤ L + 1 ∧ L < b.startLine + max 1 (splitLines (crToLf b.source)).length ∧
      (QuotesLine doc L q ∨ EmptyBlockError doc (.syntaxError L c q) L c q ∨ BeyondEndError doc L q) := by
  subst hL hc
  have hpad := scan2_padding doc hD b hb
  have hmax : 1 ≤ max 1 (splitLines (crToLf b.source)).length := Nat.le_max_left _ _
  rw [paddedSource_pad, parseE_pad] at hp
  cases hp0 : parseE (crToLf b.source) with
  | ok l => rw [hp0] at hp; cases hp
  | syntaxError off =>
    rw [hp0] at hp
    simp only [ParseResultE.syntaxError.injEq] at hp
    subst hp
    by_cases hsrc : b.source = []
    · -- the empty block
      have hk : b.kind.isFenced = true := by
        cases hk : b.kind.isFenced with
        | true => rfl
        | false => exact absurd hsrc (scan2_indented_source_ne_nil doc b hb hk)
      have hle := posLine_le doc b hb
      have hpad' := hpad
      simp only [mdPadding, hk, if_true] at hpad'
      have hoff : off = 0 := by
        have := parseE_nil
        rw [hsrc] at hp0
        simp only [crToLf, List.map_nil] at hp0
        rw [this] at hp0
        cases hp0; rfl
      have hpd : paddedSource doc b.pos b.kind.isFenced b.source =
          List.replicate (mdPadding doc b.pos b.kind.isFenced) '\n' := by
        rw [paddedSource_eq, hsrc]; simp [crToLf]
      have hk0 : 0 < mdPadding doc b.pos b.kind.isFenced := by omega
      have hlc := offsetToLineCol_replicate_nl _ hk0
      subst hoff
      simp only [syntaxErrorLineCol, syntaxErrorSnippet, hpd, Nat.zero_add, hlc] at hq ⊢
      rw [extractLine_replicate_nl _ hk0] at hq
      simp only [Option.some.injEq] at hq
      -- the padding `k` is `startLine - 1` (`hpad'`) and the error is on line `k`, a line of the document (`hle`)
      exact ⟨by omega, by omega, Or.inr (Or.inl ⟨b, hb, hrec, hk, hsrc, by rw [← hq], by omega,
        rfl, hq.symm, by omega, by omega⟩)⟩
    · obtain ⟨h1, h2, h3⟩ := block_offset_line doc hD b hb hsrc off _ q rfl hq
      exact ⟨h1, h2, h3.imp_right Or.inr⟩

/-- **the error of a group of blocks of the document**: whatever `compile` raises on the padded sources of blocks found by
    the scanner is located on the document line of the offending text -/
theorem group_error_line (doc : Str) (hD : inDoc2 doc = true) (g : List MdBlock) (hg : ∀ b ∈ g, b ∈ scanBlocks2 doc)
    (hr : ∀ b ∈ g, b.kind.isRecipe = true)
    (e : MdOutcome) (he : compileOutcome (mdGroupSources doc g) = some e) (L c : Nat) (q : Str)
    (hloc : located e = some (L, c, q)) :
    ∃ i b, g[i]? = some b ∧ NamesBlock (compile (mdGroupSources doc g)) i ∧ 1 ≤ c ∧ c ≤ q.length + 2 ∧
      b.startLine ≤ L + 1 ∧ L < b.startLine + max 1 (splitLines (crToLf b.source)).length ∧
      (QuotesLine doc L q ∨ EmptyBlockError doc e L c q ∨ BeyondEndError doc L q) := by
  obtain ⟨i, s, off', q', hs, hq, hkind⟩ := compileOutcome_some _ e he
  rw [mdGroupSources_getElem?] at hs
  cases hgi : g[i]? with
  | none => rw [hgi] at hs; cases hs
  | some b =>
    rw [hgi] at hs
    cases hs
    have hmem := List.mem_of_getElem? hgi
    have hc1 := (C07.offset_located (paddedSource doc b.pos b.kind.isFenced b.source) off').2.2.1
    have hc2 := C07.col_le_of_no_cr _ (not_cr_mem_paddedSource _ _ _ _) off' q' hq
    rcases hkind with ⟨hc, hp, rfl⟩ | hkind
    · cases hloc
      obtain ⟨h1, h2, h3⟩ := block_syntax_line doc hD b (hg b hmem) (hr b hmem) off' _ hp hq _ _ rfl rfl
      exact ⟨i, b, hgi, Or.inl hc, hc1, hc2, h1, h2, h3⟩
    · have hc : compile (mdGroupSources doc g) = .redefined i off' ∨ compile (mdGroupSources doc g) = .proportion i off' :=
        hkind.imp (·.1) (·.1)
      have hraw := hc
      rw [compile_mdGroupSources] at hraw
      obtain ⟨off, hraw, hoff⟩ := shiftResult_located hraw
      -- a block that parses is not empty
      obtain ⟨stmts, hp⟩ :=
        compile_located_all_parse _ i off hraw _ (List.mem_map_of_mem (f := fun b => crToLf b.source) hmem)
      have hne : b.source ≠ [] := by
        rintro h0
        rw [h0] at hp
        exact parse_nil_not_ok stmts hp
      obtain rfl : off' = off + mdPadding doc b.pos b.kind.isFenced := by
        rw [hoff]; simp [List.getD, hgi]
      obtain ⟨h1, h2, h3⟩ := block_offset_line doc hD b (hg b hmem) hne off _ q' rfl hq
      rcases hkind with ⟨_, rfl⟩ | ⟨_, rfl⟩ <;> cases hloc <;>
        exact ⟨i, b, hgi, Or.inr ⟨_, hc⟩, hc1, hc2, h1, h2, h3.imp_right Or.inr⟩

theorem mdGroups_recipe (doc : Str) (g : List MdBlock) (hg : g ∈ mdGroups doc) : ∀ b ∈ g, b.kind.isRecipe = true := by
  rw [mdGroups_eq] at hg
  obtain ⟨ix, hix, rfl⟩ := List.mem_map.1 hg
  intro b hb
  simp only [C13.groupOf2, List.mem_filterMap] at hb
  obtain ⟨i, hi, hbi⟩ := hb
  obtain ⟨b', hb', hr⟩ := C13.scan2_group_members doc ix hix i hi
  rw [hbi] at hb'
  cases hb'
  exact hr

theorem mdCompile_of_inDoc2 (doc : Str) (hD : inDoc2 doc = true) : mdCompile doc = mdRun doc (mdGroups doc) 0 := by
  simp [mdCompile, hD]

theorem compileOutcome_located (srcs : List Str) (e : MdOutcome) (h : compileOutcome srcs = some e) :
    ∃ L c q, located e = some (L, c, q) := by
  obtain ⟨_, _, _, _, _, _, ⟨_, _, rfl⟩ | ⟨_, rfl⟩ | ⟨_, rfl⟩⟩ := compileOutcome_some srcs e h <;>
    exact ⟨_, _, _, rfl⟩

/-- the exception is a `ParseError` iff `compile` reports a syntax error -/
theorem compileOutcome_syntax_iff (srcs : List Str) (e : MdOutcome) (h : compileOutcome srcs = some e) :
    (∃ l c q, e = .syntaxError l c q) ↔ ∃ b, compile srcs = .syntaxError b := by
  obtain ⟨b, _, _, _, _, _, ⟨hc, _, rfl⟩ | ⟨hc, rfl⟩ | ⟨hc, rfl⟩⟩ := compileOutcome_some srcs e h
  · exact ⟨fun _ => ⟨b, hc⟩, fun _ => ⟨_, _, _, rfl⟩⟩
  all_goals
    constructor
    · rintro ⟨_, _, _, h'⟩; cases h'
    · rintro ⟨_, h'⟩; rw [hc] at h'; cases h'

/-- the three ways `compile_markdown` ends in the model: no claim outside **D2**; every independent recipe compiles; a
    first one does not, and what it raises is a located error -/
theorem mdCompile_cases (doc : Str) :
    (inDoc2 doc = false ∧ mdCompile doc = .outside) ∨
    (inDoc2 doc = true ∧ (∀ g ∈ mdGroups doc, compileOutcome (mdGroupSources doc g) = none) ∧
      mdCompile doc = .ok (mdGroups doc).length) ∨
    (inDoc2 doc = true ∧ (∃ L c q, located (mdCompile doc) = some (L, c, q)) ∧
      ∃ pre g post, mdGroups doc = pre ++ g :: post ∧
        (∀ g' ∈ pre, compileOutcome (mdGroupSources doc g') = none) ∧
        compileOutcome (mdGroupSources doc g) = some (mdCompile doc)) := by
  cases hD : inDoc2 doc with
  | false => exact Or.inl ⟨rfl, by simp [mdCompile, hD]⟩
  | true =>
    right
    rw [mdCompile_of_inDoc2 doc hD]
    rcases mdRun_cases doc (mdGroups doc) 0 with ⟨hall, hok⟩ | ⟨pre, g, post, e, hgs, hpre, hg, hrun⟩
    · exact Or.inl ⟨rfl, hall, by rw [hok, Nat.zero_add]⟩
    · rw [hrun]
      exact Or.inr ⟨rfl, compileOutcome_located _ _ hg, pre, g, post, hgs, hpre, hg⟩

theorem mdCompile_outside_iff (doc : Str) : mdCompile doc = .outside ↔ inDoc2 doc = false := by
  rcases mdCompile_cases doc with ⟨hD, h⟩ | ⟨hD, _, h⟩ | ⟨hD, ⟨_, _, _, h⟩, _⟩
  · simp [hD, h]
  · simp [hD, h]
  · constructor
    · intro h'; rw [h'] at h; cases h
    · intro h'; rw [hD] at h'; cases h'

/-- when `compile_markdown` raises, the exception is what `compile` raises on the first
    independent recipe (in document order) whose blocks do not compile: every earlier recipe compiles, this one does not,
    and the outcome is the same whatever recipes follow (they are not looked at) -/
theorem mdCompile_first_group (doc : Str) (L c : Nat) (q : Str) (h : located (mdCompile doc) = some (L, c, q)) :
    inDoc2 doc = true ∧
    ∃ pre g post, mdGroups doc = pre ++ g :: post ∧
      (∀ g' ∈ pre, ∃ bs, compile (mdGroupSources doc g') = .ok bs) ∧
      (∀ bs, compile (mdGroupSources doc g) ≠ .ok bs) ∧
      compileOutcome (mdGroupSources doc g) = some (mdCompile doc) ∧
      ∀ post', mdRun doc (pre ++ g :: post') 0 = mdCompile doc := by
  rcases mdCompile_cases doc with ⟨_, h'⟩ | ⟨_, _, h'⟩ | ⟨hD, _, pre, g, post, hgs, hpre, hg⟩
  · rw [h'] at h; cases h
  · rw [h'] at h; cases h
  · refine ⟨hD, pre, g, post, hgs, fun g' hg' => (compileOutcome_none_iff _).1 (hpre g' hg'), ?_, hg, ?_⟩
    · intro bs hbs
      rw [(compileOutcome_none_iff _).2 ⟨bs, hbs⟩] at hg; cases hg
    · intro post'
      rw [mdRun_append_of_none doc pre _ 0 hpre, mdRun_cons, hg]

/-- the main statement: for every document of **D2** — blocks at top level, in block quotes, in list
    items; LF, CRLF — every error `compile_markdown` raises (syntax error, redefinition, proportion of an unknown name)
    carries a line number `L`, a column `c` with `1 ≤ c ≤ |q| + 2` (under a character of the quoted line, or just behind
    it) and a quoted line `q` such that `1 ≤ L ≤` number of lines of the
    document, line `L` of the document is `pre ++ q` with `pre` a container prefix followed by at most 4 spaces, and the
    `i`-th character of `q` (in particular the one under the column marker, `i = c - 1`) is character `pre.length + i` of
    that document line (`QuotesLine`).  The two exceptions, exactly:

    * an EMPTY fenced recipe block (```` ```recipe ```` directly followed by the closing fence, or by the end of its
      container or of the document) is a `ParseError` reported on the line of its opening fence, column 2, quoting the
      empty string (`EmptyBlockError`);
    * an error at the end of an indented block that ends the document, when the document ends in a line-break character
      other than the newline (form feed, U+2028, …), is reported on the line after the last line of the document,
      quoting the empty string (`BeyondEndError`). -/
theorem mdCompile_error_line (doc : Str) (L c : Nat) (q : Str) (h : located (mdCompile doc) = some (L, c, q)) :
    1 ≤ c ∧ c ≤ q.length + 2 ∧
      (QuotesLine doc L q ∨ EmptyBlockError doc (mdCompile doc) L c q ∨ BeyondEndError doc L q) := by
  obtain ⟨hD, pre, g, post, hgs, _, _, hg, _⟩ := mdCompile_first_group doc L c q h
  have hmem : g ∈ mdGroups doc := by rw [hgs]; simp
  obtain ⟨_, _, _, _, hc, hc2, _, _, hres⟩ :=
    group_error_line doc hD g (mdGroups_mem doc g hmem) (mdGroups_recipe doc g hmem) _ hg L c q h
  exact ⟨hc, hc2, hres⟩

/-- in the regular case the reported line is a line of the document; in every case it is at most one line below -/
theorem mdCompile_error_line_bounds (doc : Str) (L c : Nat) (q : Str) (h : located (mdCompile doc) = some (L, c, q)) :
    1 ≤ L ∧ L ≤ (docLines doc).length + 1 ∧ (q ≠ [] → L ≤ (docLines doc).length) := by
  rcases (mdCompile_error_line doc L c q h).2.2 with hq | ⟨b, _, _, _, _, _, _, _, hq0, h1, h2⟩ | ⟨b, _, _, hq0, hL⟩
  · have := hq.line_le
    exact ⟨this.1, by omega, fun _ => this.2⟩
  · exact ⟨h1, by omega, fun _ => h2⟩
  · exact ⟨by omega, by omega, fun hne => absurd hq0 hne⟩

/-- the number of independent recipes of a list of code blocks: one for the first recipe block, one more for every later
    `new-recipe` fence -/
def recipeCount (ks : List CodeBlockKind) : Nat :=
  match ks.filter (·.isRecipe) with
  | [] => 0
  | _ :: rest => 1 + (rest.filter (·.startsNew)).length

theorem groupBlocks_length (ks : List CodeBlockKind) : (groupBlocks ks).length = recipeCount ks := by
  have h := congrArg List.length (groupBlocksAux_heads_nil ks.zipIdx)
  rw [List.length_map] at h
  unfold groupBlocks
  rw [h]
  have hf := filter_zipIdx_fst (fun k : CodeBlockKind => k.isRecipe) ks 0
  unfold recipeCount
  rw [← hf]
  cases hz : ks.zipIdx.filter (fun x => x.1.isRecipe) with
  | nil => simp
  | cons p rest =>
    simp only [List.map_cons, List.length_cons, List.length_map]
    rw [List.filter_map, List.length_map]
    simp only [Nat.add_comm 1]
    rfl

theorem mdGroups_length (doc : Str) : (mdGroups doc).length = recipeCount ((scanBlocks2 doc).map (·.kind)) := by
  rw [mdGroups, List.length_map, groupBlocks_length]

/-- `compile_markdown` returns — with `n` independent recipes — iff the document is in **D2**
    (otherwise the model makes no claim), every independent recipe compiles, and `n` is the number of recipe blocks that
    start a recipe: the first recipe block and every later `new-recipe` fence (`0` without recipe blocks) -/
theorem mdCompile_ok_iff (doc : Str) (n : Nat) :
    mdCompile doc = .ok n ↔
      inDoc2 doc = true ∧ (∀ g ∈ mdGroups doc, ∃ bs, compile (mdGroupSources doc g) = .ok bs) ∧
        n = recipeCount ((scanBlocks2 doc).map (·.kind)) := by
  constructor
  · intro h
    rcases mdCompile_cases doc with ⟨_, h'⟩ | ⟨hD, hall, h'⟩ | ⟨_, ⟨_, _, _, h'⟩, _⟩
    · rw [h'] at h; cases h
    · rw [h'] at h; cases h
      exact ⟨hD, fun g hg => (compileOutcome_none_iff _).1 (hall g hg), mdGroups_length doc⟩
    · rw [h] at h'; cases h'
  · rintro ⟨hD, hall, rfl⟩
    rw [mdCompile_of_inDoc2 doc hD]
    have := mdRun_append_of_none doc (mdGroups doc) [] 0 (fun g hg => (compileOutcome_none_iff _).2 (hall g hg))
    rw [List.append_nil, mdRun, Nat.zero_add, mdGroups_length] at this
    exact this

/-- the padding plays no part in success: an independent recipe compiles iff the texts of its blocks (as marko captured
    them, carriage returns read as line feeds) compile, to the same recipe (`C13.compile_pad`) -/
theorem group_compile_ok_iff (doc : Str) (g : List MdBlock) (bs : List Block) :
    compile (mdGroupSources doc g) = .ok bs ↔ compile (g.map fun b => crToLf b.source) = .ok bs := by
  rw [compile_mdGroupSources]
  cases compile (g.map fun b => crToLf b.source) <;> simp [shiftResult]

/-- which blocks start an independent recipe (`scan2_group`): block `i` of the document heads one of the `n` recipes iff
    it is the document's first recipe block or a fenced block whose language is exactly `new-recipe` -/
theorem mdCompile_recipe_starts (doc : Str) (i : Nat) :
    (∃ g ∈ groupBlocks ((scanBlocks2 doc).map (·.kind)), g.head? = some i) ↔
      ∃ n, (C13.recipeIndices ((scanBlocks2 doc).map (·.kind)))[n]? = some i ∧
        (n = 0 ∨ ∃ b, (scanBlocks2 doc)[i]? = some b ∧ b.kind = .fenced "new-recipe".toList) :=
  C13.scan2_group doc i

/-- **the independent recipes are the recipe blocks of the document, in document order**: every recipe block (indented,
    or fenced `recipe` / `new-recipe`) is compiled in exactly one group, the groups follow each other as the blocks do -/
theorem mdGroups_flatten (doc : Str) : (mdGroups doc).flatten = (scanBlocks2 doc).filter (·.kind.isRecipe) := by
  rw [mdGroups]
  have h1 : ((groupBlocks ((scanBlocks2 doc).map (·.kind))).map
      fun g => g.filterMap fun i => (scanBlocks2 doc)[i]?).flatten =
      (groupBlocks ((scanBlocks2 doc).map (·.kind))).flatten.filterMap fun i => (scanBlocks2 doc)[i]? := by
    rw [List.filterMap_flatten]
  rw [h1, C13.group_flatten, C13.recipeIndices]
  have := recipeIndices_filterMap (scanBlocks2 doc) []
  simpa using this

/-- which fault is reported, and where it lies: when `compile_markdown` raises, there is a
    first independent recipe `g` that does not compile (the recipes before it compile) and a block `b = g[i]` of it such
    that:

    * for a syntax error, `b` is the FIRST block of `g` that the grammar rejects — the blocks of `g` before it parse,
      whatever compile errors they hold (`compile` parses all blocks before it compiles any);
    * for a redefinition / a proportion of an unknown name, EVERY block of `g` parses, and `b` holds the offending name;
    * the reported line lies in `b`: between the line before its first content line (the opening fence, for the empty
      block) and its last content line. -/
theorem mdCompile_error_block (doc : Str) (L c : Nat) (q : Str) (h : located (mdCompile doc) = some (L, c, q)) :
    ∃ pre g post i b, mdGroups doc = pre ++ g :: post ∧
      (∀ g' ∈ pre, ∃ bs, compile (mdGroupSources doc g') = .ok bs) ∧
      g[i]? = some b ∧ b ∈ scanBlocks2 doc ∧ b.kind.isRecipe = true ∧
      b.startLine ≤ L + 1 ∧ L < b.startLine + max 1 (splitLines (crToLf b.source)).length ∧
      ((∃ l' c' q', mdCompile doc = .syntaxError l' c' q') →
          parse (paddedSource doc b.pos b.kind.isFenced b.source) = .syntaxError ∧
          ∀ (j : Nat) (b' : MdBlock), j < i → g[j]? = some b' →
            ∃ stmts, parse (paddedSource doc b'.pos b'.kind.isFenced b'.source) = .ok stmts) ∧
      ((∀ l' c' q', mdCompile doc ≠ .syntaxError l' c' q') →
          ∀ b' ∈ g, ∃ stmts, parse (paddedSource doc b'.pos b'.kind.isFenced b'.source) = .ok stmts) := by
  obtain ⟨hD, pre, g, post, hgs, hpre, _, hg, _⟩ := mdCompile_first_group doc L c q h
  have hmem : g ∈ mdGroups doc := by rw [hgs]; simp
  obtain ⟨i, b, hgi, hname, _, _, hb1, hb2, _⟩ :=
    group_error_line doc hD g (mdGroups_mem doc g hmem) (mdGroups_recipe doc g hmem) _ hg L c q h
  have hbg : b ∈ g := List.mem_of_getElem? hgi
  refine ⟨pre, g, post, i, b, hgs, hpre, hgi, mdGroups_mem doc g hmem b hbg, mdGroups_recipe doc g hmem b hbg, hb1, hb2,
    ?_, ?_⟩
  · intro hs
    obtain ⟨b0, hb0⟩ := (compileOutcome_syntax_iff _ _ hg).1 hs
    rcases hname with hsyn | ⟨off, hloc' | hloc'⟩
    · obtain ⟨⟨s, hs1, hs2⟩, hfirst⟩ := compile_syntaxError_first _ i hsyn
      rw [mdGroupSources_getElem?, hgi] at hs1
      cases hs1
      exact ⟨hs2, fun j b' hj hgj => hfirst j hj _ (by rw [mdGroupSources_getElem?, hgj]; rfl)⟩
    · rw [hb0] at hloc'; cases hloc'
    · rw [hb0] at hloc'; cases hloc'
  · intro hns b' hb'
    rcases hname with hsyn | ⟨off, hloc'⟩
    · obtain ⟨l', c', q', he⟩ := (compileOutcome_syntax_iff _ _ hg).2 ⟨i, hsyn⟩
      exact absurd he (hns l' c' q')
    · exact compile_located_all_parse _ i off hloc' _ (List.mem_map.2 ⟨b', hb', rfl⟩)

/-- a two-recipe document, CRLF line endings, both recipes inside block quotes; the second recipe (a `new-recipe` fence)
    redefines `b` on document line 9 (`">   b = 3 g z"`: quote prefix `"> "`, then the recipe text `"  b = 3 g z"`) -/
def exRedefined : Str :=
  "Stew\r\n\r\n> ```recipe\r\n> a = 1 g x\r\n> ```\r\n\r\n> ```new-recipe\r\n>  b = 2 g y\r\n>   b = 3 g z\r\n> ```\r\n".toList

/-- the same with a proportion of an unknown name, and with a stray `)`, on line 9 -/
def exProportion : Str :=
  "Stew\r\n\r\n> ```recipe\r\n> a = 1 g x\r\n> ```\r\n\r\n> ```new-recipe\r\n>  b = 2 g y\r\n>   c = f(b, 1/3 of d)\r\n> ```\r\n".toList
def exSyntax : Str :=
  "Stew\r\n\r\n> ```recipe\r\n> a = 1 g x\r\n> ```\r\n\r\n> ```new-recipe\r\n>  b = 2 g y\r\n>   c = f(b))\r\n> ```\r\n".toList

/-- the facts of the `example`s below (and of `Props/C07d.lean`) in one statement: one evaluation by the kernel for all -/
theorem exFaults_evaluated :
    ((inDoc2 exRedefined = true ∧ mdCompile exRedefined = .redefined 9 3 "  b = 3 g z".toList) ∧
    (located (mdCompile exRedefined) = some (9, 3, "  b = 3 g z".toList) ∧
    (docLines exRedefined)[9 - 1]? = some ">   b = 3 g z".toList ∧
    isCPrefix (">   b = 3 g z".toList.take 2) = true ∧
    ">   b = 3 g z".toList = ">   b = 3 g z".toList.take (2 + 0) ++ "  b = 3 g z".toList ∧
    "  b = 3 g z".toList[3 - 1]? = some 'b' ∧ ">   b = 3 g z".toList[2 + 0 + (3 - 1)]? = some 'b' ∧
    (docLines exRedefined).length = 10) ∧
    ((mdGroups exRedefined).length = 2 ∧
    compileOutcome (mdGroupSources exRedefined ((mdGroups exRedefined)[0]?.getD [])) = none ∧
    compileOutcome (mdGroupSources exRedefined ((mdGroups exRedefined)[1]?.getD [])) =
      some (.redefined 9 3 "  b = 3 g z".toList))) ∧
    (inDoc2 exProportion = true ∧ mdCompile exProportion = .proportion 9 12 "  c = f(b, 1/3 of d)".toList) ∧
    (inDoc2 exSyntax = true ∧ mdCompile exSyntax = .syntaxError 9 11 "  c = f(b))".toList) := by
  unfold exRedefined exProportion exSyntax; lit_chars
  decide +kernel

example : mdCompile exRedefined = .redefined 9 3 "  b = 3 g z".toList := exFaults_evaluated.1.1.2
example : mdCompile exProportion = .proportion 9 12 "  c = f(b, 1/3 of d)".toList := exFaults_evaluated.2.1.2
example : mdCompile exSyntax = .syntaxError 9 11 "  c = f(b))".toList := exFaults_evaluated.2.2.2

/-- the hypothesis of `mdCompile_error_line` / `mdCompile_first_group` is met, and the conclusion reads: line 9 of the
    document is `"> "` (a container prefix) followed by the quoted text; the character under the column marker (column 3)
    is the `b` at index 2 + 2 of the document line -/
example : located (mdCompile exRedefined) = some (9, 3, "  b = 3 g z".toList) ∧
    (docLines exRedefined)[9 - 1]? = some ">   b = 3 g z".toList ∧
    isCPrefix (">   b = 3 g z".toList.take 2) = true ∧
    ">   b = 3 g z".toList = ">   b = 3 g z".toList.take (2 + 0) ++ "  b = 3 g z".toList ∧
    "  b = 3 g z".toList[3 - 1]? = some 'b' ∧ ">   b = 3 g z".toList[2 + 0 + (3 - 1)]? = some 'b' ∧
    (docLines exRedefined).length = 10 := exFaults_evaluated.1.2.1

/-- the groups: the first recipe compiles, the second is the one at fault -/
example : (mdGroups exRedefined).length = 2 ∧
    compileOutcome (mdGroupSources exRedefined ((mdGroups exRedefined)[0]?.getD [])) = none ∧
    compileOutcome (mdGroupSources exRedefined ((mdGroups exRedefined)[1]?.getD [])) =
      some (.redefined 9 3 "  b = 3 g z".toList) := exFaults_evaluated.1.2.2

/-- without the fault the document compiles: two independent recipes (`a` may be defined in both) -/
example : mdCompile "Stew\r\n\r\n> ```recipe\r\n> a = 1 g x\r\n> ```\r\n\r\n> ```new-recipe\r\n>  a = 2 g y\r\n> ```\r\n".toList = .ok 2 := by
  lit_chars
  decide +kernel

/-- which fault wins: inside one recipe `compile` parses every block before it compiles any, so the syntax error of the
    second block is reported although the first block redefines `a`; when the second block starts a new recipe the first
    recipe fails first -/
example : mdCompile "```recipe\na = 1 g x\na = 2 g y\n```\n\n```recipe\nf(\n```\n".toList = .syntaxError 7 4 "f(".toList ∧
    mdCompile "```recipe\na = 1 g x\na = 2 g y\n```\n\n```new-recipe\nf(\n```\n".toList = .redefined 3 1 "a = 2 g y".toList := by
  lit_chars
  decide +kernel

/-- the two exceptional cases of `mdCompile_error_line` happen: the empty recipe block (in a quote, after a paragraph:
    the fence is on line 3) and the indented block at the end of a document that ends in a form feed (the document has
    one line, the error is reported on line 2) -/
example : mdCompile "a\r\n\r\n> ```recipe\r\n> ```\r\n".toList = .syntaxError 3 2 [] ∧
    (docLines "a\r\n\r\n> ```recipe\r\n> ```\r\n".toList)[3 - 1]? = some "> ```recipe".toList ∧
    mdCompile "    f(x\x0c".toList = .syntaxError 2 2 [] ∧ (docLines "    f(x\x0c".toList).length = 1 := by
  lit_chars
  decide +kernel

/-- documents outside **D2** are answered `outside` -/
example : mdCompile ">> ```recipe\n>> f(\n".toList = .outside := by decide +kernel

end RG.C19
