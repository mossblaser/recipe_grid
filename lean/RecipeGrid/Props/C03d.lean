import RecipeGrid.Props.C03b
import RecipeGrid.Lemmas.Stable
/-! C03 (continued): the floating-point proviso of `compile_scale_commute` (`InlineTestsStable`) discharged by a
    condition in exact rational arithmetic on the description alone.  `Quantity.has_equal_value_to(a, b)` is
    `math.isclose(float(a), float(b * f), rel_tol=1e-9)`, `f` the unit conversion factor; with
    `ρ = |a − b·f| / max(|a|, |b·f|)` in ℚ (`relDiff`) the test says yes for `ρ ≤ 10⁻⁹·(1 − 2⁻²¹)` and no for
    `ρ ≥ 10⁻⁹·(1 + 2⁻²¹)`, `ρ` is invariant under scaling, and a description with no pair of quantities inside the band
    (`OffEdge`, decidable) scales and compiles in either order.  The band cannot be much thinner: the roundings of `a`
    and `b·f` alone move the difference by `2.2·10⁻⁷` of the tolerance, and the counterexample of C03b sits `2·10⁻⁸`
    above it. -/
namespace RG.C03

/-- the factor `has_equal_value_to` uses, case by case (`Quantity.hevFactor` is a transcription of the `match`) -/
theorem hevFactor_cases (q iq : Quantity) :
    (q.unit = none → iq.unit = none → q.hevFactor iq = some ⟨1, .int⟩) ∧
    (q.unit = none → iq.unit ≠ none → q.hevFactor iq = none) ∧
    (q.unit ≠ none → iq.unit = none → q.hevFactor iq = none) ∧
    (∀ su ou, q.unit = some su → iq.unit = some ou →
      (∀ f, convertBetween false (lowerStr ou) (lowerStr su) = some f → q.hevFactor iq = some f) ∧
      (convertBetween false (lowerStr ou) (lowerStr su) = none →
        q.hevFactor iq = if lowerStr su == lowerStr ou then some ⟨1, .int⟩ else none)) := by
  unfold Quantity.hevFactor
  refine ⟨?_, ?_, ?_, ?_⟩
  · intro h1 h2; rw [h1, h2]
  · intro h1 h2; rw [h1]; cases h : iq.unit with
    | none => exact absurd h h2
    | some _ => rfl
  · intro h1 h2; rw [h2]; cases h : q.unit with
    | none => exact absurd h h1
    | some _ => rfl
  · intro su ou h1 h2
    rw [h1, h2]
    constructor
    · intro f hf; simp only [hf]
    · intro hn; simp only [hn]

/-- the computation the model makes for exact quantities: **no factor** ⇒ `False`; **exact factor** `f` (int or
    `Fraction`: the product `b·f` is exact and rounded once) ⇒ `isclose(rd(a), rd(b·f), 1e-9)`; **float factor** ⇒
    `isclose(rd(a), rd(rd(b)·f), 1e-9)`; `rd = toDouble`, `1e-9 = relTolDefault = rd(10⁻⁹)` -/
theorem hasEqualValueTo_computation (q iq : Quantity) (hq : q.value.kind ≠ .flt) (hiq : iq.value.kind ≠ .flt) :
    q.hasEqualValueTo iq =
      match q.hevFactor iq with
      | none => false
      | some f =>
        if f.kind = .flt then isclose (toDouble q.value.val) (toDouble (toDouble iq.value.val * f.val)) relTolDefault
        else isclose (toDouble q.value.val) (toDouble (iq.value.val * f.val)) relTolDefault := by
  rw [hasEqualValueTo_eq]
  cases q.hevFactor iq with
  | none => rfl
  | some f =>
    simp only [Num.toFlt_of_exact hq]
    by_cases hf : f.kind = .flt
    · obtain ⟨hv, hk⟩ := mul_float iq.value f (Or.inr hf)
      rw [if_pos hf, Num.toFlt_of_flt hk, hv, Num.toFlt_of_exact hiq, Num.toFlt_of_flt hf]
    · obtain ⟨hv, hk⟩ := mul_exact iq.value f hiq hf
      rw [if_neg hf, Num.toFlt_of_exact hk, hv]

theorem isclose_exact_factor_off_edge (a b f : Rat) :
    (relDiff a (b * f) ≤ tolQ * (1 - edgeEps) → isclose (toDouble a) (toDouble (b * f)) relTolDefault = true) ∧
    (tolQ * (1 + edgeEps) ≤ relDiff a (b * f) → isclose (toDouble a) (toDouble (b * f)) relTolDefault = false) := by
  -- `float(a)` and `float(b·f)` are one rounding each (`2⁻⁵³` relative): within the `2⁻⁵³` / `3·2⁻⁵³` that
  -- `isclose_off_edge` allows (where the band `2⁻²¹` comes from is said at `edgeEps`)
  refine isclose_off_edge (toDouble_err_mul a) ?_
  have := toDouble_err_mul (b * f)
  have n : 0 ≤ (b * f).abs := Rat.abs_nonneg
  grind

theorem isclose_float_factor_off_edge (a b f : Rat) :
    (relDiff a (b * f) ≤ tolQ * (1 - edgeEps) →
      isclose (toDouble a) (toDouble (toDouble b * f)) relTolDefault = true) ∧
    (tolQ * (1 + edgeEps) ≤ relDiff a (b * f) →
      isclose (toDouble a) (toDouble (toDouble b * f)) relTolDefault = false) := by
  -- `float(float(b)·f)` is two roundings of `b·f` (`mul_toFlt_err`: under `3·2⁻⁵³`), the most `isclose_off_edge` allows
  refine isclose_off_edge (toDouble_err_mul a) ?_
  have := mul_toFlt_err (b := ⟨b, .frac⟩) (by simp) ⟨f, .flt⟩
  simpa [Num.mul, Num.toFlt, Num.isFlt] using this

/-- the pair is not comparable, or its exact relative difference is outside the band around `10⁻⁹` -/
def PairOffEdge (q iq : Quantity) : Prop :=
  match q.hevFactor iq with
  | none => True
  | some f =>
    relDiff q.value.val (iq.value.val * f.val) ≤ tolQ * (1 - edgeEps) ∨
    tolQ * (1 + edgeEps) ≤ relDiff q.value.val (iq.value.val * f.val)

/-- **C03d.2** every two quantities written in the description (the enumeration of `InlineTestsStable`) are off the
    edge: a condition on the text, in rational arithmetic (the float factors of the unit table enter by their exact
    rational values) -/
def OffEdge (asts : List (List AStmt)) : Prop :=
  ∀ q ∈ astQuantities asts, ∀ iq ∈ astQuantities asts, PairOffEdge q iq

def pairOffEdgeB (q iq : Quantity) : Bool :=
  match q.hevFactor iq with
  | none => true
  | some f =>
    decide (relDiff q.value.val (iq.value.val * f.val) ≤ tolQ * (1 - edgeEps)) ||
    decide (tolQ * (1 + edgeEps) ≤ relDiff q.value.val (iq.value.val * f.val))

def offEdgeB (asts : List (List AStmt)) : Bool :=
  (astQuantities asts).all fun q => (astQuantities asts).all fun iq => pairOffEdgeB q iq

theorem pairOffEdge_iff_B (q iq : Quantity) : PairOffEdge q iq ↔ pairOffEdgeB q iq = true := by
  unfold PairOffEdge pairOffEdgeB
  cases q.hevFactor iq <;> simp

theorem offEdge_iff_B (asts : List (List AStmt)) : OffEdge asts ↔ offEdgeB asts = true := by
  simp only [OffEdge, offEdgeB, List.all_eq_true, pairOffEdge_iff_B]

instance (asts : List (List AStmt)) : Decidable (OffEdge asts) := decidable_of_iff _ (offEdge_iff_B asts).symm

theorem relDiff_scale (a b : Rat) {k : Rat} (hk : k ≠ 0) : relDiff (a * k) (b * k) = relDiff a b := relDiff_mul_right a b hk

/-- the `ρ` of a scaled pair of quantities (same factor: the units do not change) is the `ρ` of the pair -/
theorem relDiff_scale_quantities {k : Num} (hk : k.kind ≠ .flt) (hk0 : k.val ≠ 0) {q iq : Quantity}
    (hq : q.value.kind ≠ .flt) (hiq : iq.value.kind ≠ .flt) (f : Num) :
    relDiff (q.scale k).value.val ((iq.scale k).value.val * f.val) = relDiff q.value.val (iq.value.val * f.val) := by
  have e : iq.value.val * k.val * f.val = iq.value.val * f.val * k.val := by grind
  rw [Quantity.scale_val hq hk, Quantity.scale_val hiq hk, e, relDiff_mul_right _ _ hk0]

theorem pairOffEdge_scale {k : Num} (hk : k.kind ≠ .flt) (hk0 : k.val ≠ 0) {q iq : Quantity}
    (hq : q.value.kind ≠ .flt) (hiq : iq.value.kind ≠ .flt) :
    PairOffEdge (q.scale k) (iq.scale k) ↔ PairOffEdge q iq := by
  unfold PairOffEdge
  rw [hevFactor_scale]
  cases q.hevFactor iq with
  | none => exact Iff.rfl
  | some f => simp only [relDiff_scale_quantities hk hk0 hq hiq f]

theorem hasEqualValueTo_scale_of_offEdge {k : Num} (hk : k.kind ≠ .flt) (hk0 : k.val ≠ 0) {q iq : Quantity}
    (hq : q.value.kind ≠ .flt) (hiq : iq.value.kind ≠ .flt) (ho : PairOffEdge q iq) :
    (q.scale k).hasEqualValueTo (iq.scale k) = q.hasEqualValueTo iq := by
  unfold PairOffEdge at ho
  cases hf : q.hevFactor iq with
  | none => rw [hev_none hf, hev_none ((hevFactor_scale k q iq).trans hf)]
  | some f =>
    rw [hf] at ho
    have h1 := hev_off_edge hq hiq hf
    have h2 := hev_off_edge (Quantity.scale_exact hq hk) (Quantity.scale_exact hiq hk) ((hevFactor_scale k q iq).trans hf)
    rw [relDiff_scale_quantities hk hk0 hq hiq f] at h2
    rcases ho with h | h
    · rw [h1.1 h, h2.1 h]
    · rw [h1.2 h, h2.2 h]

/-- **C03d.3** an exact description whose quantities are off the edge has stable in-lining tests, for every exact
    non-zero factor -/
theorem inlineTestsStable_of_offEdge (k : Num) (hk : k.kind ≠ .flt) (hk0 : k.val ≠ 0) (asts : List (List AStmt))
    (h : AstExact asts) (ho : OffEdge asts) : InlineTestsStable k asts := by
  intro q hq iq hiq
  exact hasEqualValueTo_scale_of_offEdge hk hk0 (astQuantities_exact h q hq) (astQuantities_exact h iq hiq)
    (ho q hq iq hiq)

theorem inlineTestsStable_of_offEdge_pos (k : Num) (hk : k.kind ≠ .flt) (hk0 : 0 < k.val) (asts : List (List AStmt))
    (h : AstExact asts) (ho : OffEdge asts) : InlineTestsStable k asts :=
  inlineTestsStable_of_offEdge k hk (Rat.ne_of_gt hk0) asts h ho

theorem offEdge_scale {k : Num} (hk : k.kind ≠ .flt) (hk0 : k.val ≠ 0) {qs : List Quantity}
    (hex : ∀ q ∈ qs, q.value.kind ≠ .flt) :
    (∀ q ∈ qs, ∀ iq ∈ qs, PairOffEdge (q.scale k) (iq.scale k)) ↔ (∀ q ∈ qs, ∀ iq ∈ qs, PairOffEdge q iq) := by
  constructor
  · intro h q hq iq hiq
    exact (pairOffEdge_scale hk hk0 (hex q hq) (hex iq hiq)).1 (h q hq iq hiq)
  · intro h q hq iq hiq
    exact (pairOffEdge_scale hk hk0 (hex q hq) (hex iq hiq)).2 (h q hq iq hiq)

/-- **C03d.4 scaling commutes with compiling, off the edge.**  `k` exact and non-zero, the scalable numbers of the
    description exact, and no two written quantities with an exact relative difference within `2⁻²¹·10⁻⁹` of `10⁻⁹`:
    compiling the scaled description gives the scaled recipe (same trees, same kinds, same error at the same place). -/
theorem compile_scale_commute_offEdge {k : Num} (hk : k.kind ≠ .flt) (hk0 : k.val ≠ 0) (asts : List (List AStmt))
    (hex : AstExact asts) (ho : OffEdge asts) :
    compileAsts (scaleAst k asts) = mapOk (scaleBlocks k) (compileAsts asts) :=
  compile_scale_commute hk hk0 asts hex (inlineTestsStable_of_offEdge k hk hk0 asts hex ho)

theorem compile_scale_commute_offEdge_pos {k : Num} (hk : k.kind ≠ .flt) (hk0 : 0 < k.val) (asts : List (List AStmt))
    (hex : AstExact asts) (ho : OffEdge asts) :
    compileAsts (scaleAst k asts) = mapOk (scaleBlocks k) (compileAsts asts) :=
  compile_scale_commute_offEdge hk (Rat.ne_of_gt hk0) asts hex ho

theorem compile_scale_commute_of_checks {k : Num} (hk : k.kind ≠ .flt) (hk0 : k.val ≠ 0) (asts : List (List AStmt))
    (hex : astExactB asts = true) (ho : offEdgeB asts = true) :
    compileAsts (scaleAst k asts) = mapOk (scaleBlocks k) (compileAsts asts) :=
  compile_scale_commute_offEdge hk hk0 asts (astExact_of_B hex) ((offEdge_iff_B asts).2 ho)

/-- two quantities of the same ingredient in different units: `1 lb` against `454 g` (float factor
    `453.59237…`, `ρ ≈ 9·10⁻⁴`: far outside) -/
def butterText : Str := "1 lb butter\ncream(454 g butter)".toList
def butterAsts : List (List AStmt) := match parseAll 0 [butterText] with | .ok a => a | .error _ => []

theorem butterAsts_evaluated :
    (astQuantities butterAsts).length = 2 ∧ astExactB butterAsts = true ∧ offEdgeB butterAsts = true := by
  decide +kernel

example : (astQuantities butterAsts).length = 2 ∧ astExactB butterAsts = true ∧ offEdgeB butterAsts = true :=
  butterAsts_evaluated

/-- so it scales, by every exact non-zero factor at once -/
example (k : Num) (hk : k.kind ≠ .flt) (hk0 : k.val ≠ 0) :
    compileAsts (scaleAst k butterAsts) = mapOk (scaleBlocks k) (compileAsts butterAsts) :=
  compile_scale_commute_of_checks hk hk0 butterAsts butterAsts_evaluated.2.1 butterAsts_evaluated.2.2

/-- what is evaluated of the example of `C03b.lean`: the hypotheses of `compile_scale_commute` hold for it (`exact`,
    `stable`); both sides are accepted with 3 roots (`roots`) and are structurally equal, and compiling the text with the
    numbers multiplied by hand is `==` to them (`agree`); its quantities (`500g flour`, `400g tomatoes`, `250g of sauce`, …)
    are equal or far apart (`offEdge`) -/
structure ExAstsFacts : Prop where
  exact : astExactB exAsts = true
  stable : inlineTestsStableB ⟨3 / 2, .frac⟩ exAsts = true
  roots : rootCounts (compileAsts exAsts) = some [3]
  agree : (match compileAsts (scaleAst ⟨3 / 2, .frac⟩ exAsts), compileAsts exAsts, compile [exTextScaled] with
     | .ok a, .ok b, .ok c =>
       Tree.eqbList a.flatten (scaleBlocks ⟨3 / 2, .frac⟩ b).flatten && blocksBeq c (scaleBlocks ⟨3 / 2, .frac⟩ b)
     | _, _, _ => false) = true
  offEdge : offEdgeB exAsts = true

instance : Decidable ExAstsFacts :=
  decidable_of_iff (_ ∧ _ ∧ _ ∧ _ ∧ _)
    ⟨fun h => ⟨h.1, h.2.1, h.2.2.1, h.2.2.2.1, h.2.2.2.2⟩, fun h => ⟨h.exact, h.stable, h.roots, h.agree, h.offEdge⟩⟩

/-- evaluated in one statement: the text is parsed and compiled once for all five -/
theorem exAsts_evaluated : ExAstsFacts := by decide +kernel

example :
    astExactB exAsts = true ∧ inlineTestsStableB ⟨3 / 2, .frac⟩ exAsts = true ∧
    rootCounts (compileAsts exAsts) = some [3] ∧
    (match compileAsts (scaleAst ⟨3 / 2, .frac⟩ exAsts), compileAsts exAsts, compile [exTextScaled] with
     | .ok a, .ok b, .ok c =>
       Tree.eqbList a.flatten (scaleBlocks ⟨3 / 2, .frac⟩ b).flatten && blocksBeq c (scaleBlocks ⟨3 / 2, .frac⟩ b)
     | _, _, _ => false) = true :=
  ⟨exAsts_evaluated.exact, exAsts_evaluated.stable, exAsts_evaluated.roots, exAsts_evaluated.agree⟩

example : compileAsts (scaleAst ⟨3 / 2, .frac⟩ exAsts) = mapOk (scaleBlocks ⟨3 / 2, .frac⟩) (compileAsts exAsts) :=
  compile_scale_commute (by decide) (by decide +kernel) exAsts
    (astExact_of_B exAsts_evaluated.exact) (inlineTestsStable_of_B exAsts_evaluated.stable)

example : offEdgeB exAsts = true := exAsts_evaluated.offEdge

example (k : Num) (hk : k.kind ≠ .flt) (hk0 : k.val ≠ 0) :
    compileAsts (scaleAst k exAsts) = mapOk (scaleBlocks k) (compileAsts exAsts) :=
  compile_scale_commute_of_checks hk hk0 exAsts exAsts_evaluated.exact exAsts_evaluated.offEdge

/-- the counterexample of `compile_scale_commute_Full_false` is on the edge (`ρ = 1.00000002·10⁻⁹`), as it must be:
    off the edge its in-lining tests would be stable under the factor 3/2, and `cex_facts` evaluated that they are not -/
theorem cex_not_offEdge : ¬ OffEdge cexAsts := fun h => by
  have hs := (inlineTestsStableB_iff _ _).2
    (inlineTestsStable_of_offEdge ⟨3 / 2, .frac⟩ (by decide) (by decide +kernel) cexAsts (astExact_of_B cex_facts.exact) h)
  rw [cex_facts.unstable] at hs
  cases hs

end RG.C03
