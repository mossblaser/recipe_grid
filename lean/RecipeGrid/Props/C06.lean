import RecipeGrid.Lemmas.ParserLocal
/-! C06: the parser model is total, and everything that can be written is recovered verbatim.

    The round-trip statements all have the shape
    `rule (pre ++ print x ++ rest).toArray ⟨pre.length, z⟩ = some (x', ⟨(pre ++ print x).length, z⟩)`:
    wherever the printed text `print x` stands (after any `pre`), and whatever the flag `z`, the rule
    consumes exactly `print x` and returns the expected fragment `x'` (offsets are absolute, so they
    are shifted by `pre.length`), provided `rest` satisfies the *follow condition* of the rule.
    The printers of `Props/C06Spec.lean` are the specification of the permitted spellings; they do not mention
    the parser. -/
namespace RG.C06
open RG.Parser

/-- the parser model is total: for every text it returns statements or a syntax error (never the third constructor
    `zeroDivision` of `ParseResult`) -/
theorem parse_total (s : Str) : (∃ stmts, parse s = .ok stmts) ∨ parse s = .syntaxError := by
  unfold parse; split <;> simp

theorem digits_roundtrip (pre ds rest : Str) (z : Bool) (hd : IsDigits ds) (hr : NextNot isDigit rest) :
    digits (pre ++ ds ++ rest).toArray ⟨pre.length, z⟩ = some (ds, ⟨(pre ++ ds).length, z⟩) :=
  (reads_digits hd hr).after_prefix pre z

theorem hsp_roundtrip (pre bs rest : Str) (z : Bool) (hne : bs ≠ []) (hb : IsBlanks bs) (hr : NextNot isHsp rest) :
    hsp (pre ++ bs ++ rest).toArray ⟨pre.length, z⟩ = some ((), ⟨(pre ++ bs).length, z⟩) :=
  (reads_hsp hne hb hr).after_prefix pre z

/-- `hsp?` (also on the empty run) -/
theorem ohsp_roundtrip (pre bs rest : Str) (z : Bool) (hb : IsBlanks bs) (hr : NextNot isHsp rest) :
    ohsp (pre ++ bs ++ rest).toArray ⟨pre.length, z⟩ = some ((), ⟨(pre ++ bs).length, z⟩) :=
  (reads_ohsp hb hr).after_prefix pre z

theorem sp_roundtrip (pre ws rest : Str) (z : Bool) (hne : ws ≠ []) (hw : IsSpaces ws) (hr : NextNot isReSpace rest) :
    sp (pre ++ ws ++ rest).toArray ⟨pre.length, z⟩ = some ((), ⟨(pre ++ ws).length, z⟩) :=
  (reads_sp hne hw hr).after_prefix pre z

/-- `sp?` (also on the empty run) -/
theorem osp_roundtrip (pre ws rest : Str) (z : Bool) (hw : IsSpaces ws) (hr : NextNot isReSpace rest) :
    osp (pre ++ ws ++ rest).toArray ⟨pre.length, z⟩ = some ((), ⟨(pre ++ ws).length, z⟩) :=
  (reads_osp hw hr).after_prefix pre z

theorem lit_roundtrip (pre rest : Str) (c : Char) (z : Bool) :
    lit c (pre ++ [c] ++ rest).toArray ⟨pre.length, z⟩ = some ((), ⟨(pre ++ [c]).length, z⟩) :=
  run_after_prefix pre z fun h => lit_of_head z h

theorem lit_rejects (pre rest : Str) (c : Char) (z : Bool) (h : rest.head? ≠ some c) :
    lit c (pre ++ rest).toArray ⟨pre.length, z⟩ = none :=
  lit_fail_of_head z (by simp) h

example : digits "ab0129x".toList.toArray ⟨2, false⟩ = some ("0129".toList, ⟨6, false⟩) := by decide +kernel
example : hsp "a \t b".toList.toArray ⟨1, true⟩ = some ((), ⟨4, true⟩) := by decide +kernel
example : sp "a \n\t b".toList.toArray ⟨1, false⟩ = some ((), ⟨5, false⟩) := by decide +kernel

theorem decimal_int_roundtrip (pre ds rest : Str) (z : Bool) (hd : IsDigits ds)
    (hr : NextNot isDigit rest) (hdot : rest.head? ≠ some '.') :
    decimal (pre ++ (NumLit.int ds).print ++ rest).toArray ⟨pre.length, z⟩
      = some ((pre.length, (NumLit.int ds).value), ⟨(pre ++ (NumLit.int ds).print).length, z⟩) :=
  (reads_decimal_int hd hr hdot).after_prefix pre z

theorem decimal_dec_roundtrip (pre whole frac rest : Str) (z : Bool) (h : (NumLit.dec whole frac).WF)
    (hr : NextNot isDigit rest) :
    decimal (pre ++ (NumLit.dec whole frac).print ++ rest).toArray ⟨pre.length, z⟩
      = some ((pre.length, (NumLit.dec whole frac).value), ⟨(pre ++ (NumLit.dec whole frac).print).length, z⟩) :=
  (reads_decimal_dec h hr).after_prefix pre z

theorem fraction_frac_roundtrip (pre p s2 q rest : Str) (z : Bool) (h : (NumLit.frac p s2 q).WF)
    (hr : NextNot isDigit rest) :
    fraction (pre ++ (NumLit.frac p s2 q).print ++ rest).toArray ⟨pre.length, z⟩
      = some ((pre.length, (NumLit.frac p s2 q).value), ⟨(pre ++ (NumLit.frac p s2 q).print).length, z⟩) :=
  (reads_fraction_of (fractionL_frac h hr)).after_prefix pre z

theorem fraction_mixed_roundtrip (pre w s0 p s1 s2 q rest : Str) (z : Bool)
    (h : (NumLit.mixed w s0 p s1 s2 q).WF) (hr : NextNot isDigit rest) :
    fraction (pre ++ (NumLit.mixed w s0 p s1 s2 q).print ++ rest).toArray ⟨pre.length, z⟩
      = some ((pre.length, (NumLit.mixed w s0 p s1 s2 q).value),
              ⟨(pre ++ (NumLit.mixed w s0 p s1 s2 q).print).length, z⟩) :=
  (reads_fraction_of (fractionL_mixed h hr)).after_prefix pre z

/-- **numbers are recovered verbatim**: `number` on any permitted spelling -/
theorem number_roundtrip (pre : Str) (l : NumLit) (rest : Str) (z : Bool) (h : l.WF) (hf : l.Follow rest) :
    number (pre ++ l.print ++ rest).toArray ⟨pre.length, z⟩
      = some ((pre.length, l.value), ⟨(pre ++ l.print).length, z⟩) :=
  run_after_prefix pre z fun ht => numberAt_of_wf l rest h hf _ _ z ht

theorem decimal_natDigits (pre rest : Str) (n : Nat) (z : Bool)
    (hr : NextNot isDigit rest) (hdot : rest.head? ≠ some '.') :
    decimal (pre ++ natDigits n ++ rest).toArray ⟨pre.length, z⟩
      = some ((pre.length, ⟨(n : Rat), .int⟩), ⟨(pre ++ natDigits n).length, z⟩) := by
  have := decimal_int_roundtrip pre (natDigits n) rest z (isDigits_natDigits n) hr hdot
  simpa [NumLit.print, NumLit.value, digitsValue_natDigits] using this

theorem decimal_natDigits_dot (pre frac rest : Str) (w : Nat) (z : Bool)
    (hfrac : ∀ c ∈ frac, isDigit c = true) (hr : NextNot isDigit rest) :
    decimal (pre ++ (natDigits w ++ '.' :: frac) ++ rest).toArray ⟨pre.length, z⟩
      = some ((pre.length, ⟨toDouble (mkRat (w * 10 ^ frac.length + digitsValue frac : Nat) (10 ^ frac.length)), .flt⟩),
              ⟨(pre ++ (natDigits w ++ '.' :: frac)).length, z⟩) := by
  have := decimal_dec_roundtrip pre (natDigits w) frac rest z ⟨isDigits_natDigits w, hfrac⟩ hr
  have e : digitsValue (natDigits w ++ frac) = w * 10 ^ frac.length + digitsValue frac := by
    have := digitsVal_append (natDigits w) frac
    rw [digitsVal_natDigits] at this
    exact this
  simpa [NumLit.print, NumLit.value, e] using this

theorem fraction_natDigits (pre rest : Str) (p q : Nat) (z : Bool) (hq : 0 < q) (hr : NextNot isDigit rest) :
    fraction (pre ++ (natDigits p ++ '/' :: natDigits q) ++ rest).toArray ⟨pre.length, z⟩
      = some ((pre.length, ⟨mkRat p q, .frac⟩), ⟨(pre ++ (natDigits p ++ '/' :: natDigits q)).length, z⟩) := by
  have := fraction_frac_roundtrip pre (natDigits p) [] (natDigits q) rest z
    ⟨isDigits_natDigits p, by simp [IsBlanks], isDigits_natDigits q, by rw [digitsValue_natDigits]; omega⟩ hr
  simpa [NumLit.print, NumLit.value, digitsValue_natDigits] using this

theorem fraction_natDigits_mixed (pre rest : Str) (i p q : Nat) (z : Bool) (hq : 0 < q) (hr : NextNot isDigit rest) :
    fraction (pre ++ (natDigits i ++ ' ' :: natDigits p ++ '/' :: natDigits q) ++ rest).toArray ⟨pre.length, z⟩
      = some ((pre.length, ⟨(i : Rat) + mkRat p q, .frac⟩),
              ⟨(pre ++ (natDigits i ++ ' ' :: natDigits p ++ '/' :: natDigits q)).length, z⟩) := by
  have := fraction_mixed_roundtrip pre (natDigits i) [' '] (natDigits p) [] [] (natDigits q) rest z
    ⟨isDigits_natDigits i, by simp, by simp [IsBlanks, isHsp], isDigits_natDigits p, by simp [IsBlanks],
      by simp [IsBlanks], isDigits_natDigits q, by rw [digitsValue_natDigits]; omega⟩ hr
  simpa [NumLit.print, NumLit.value, digitsValue_natDigits] using this

theorem number_natDigits (pre rest : Str) (n : Nat) (z : Bool) (hf : (NumLit.int (natDigits n)).Follow rest) :
    number (pre ++ natDigits n ++ rest).toArray ⟨pre.length, z⟩
      = some ((pre.length, ⟨(n : Rat), .int⟩), ⟨(pre ++ natDigits n).length, z⟩) := by
  have := number_roundtrip pre (.int (natDigits n)) rest z (isDigits_natDigits n) hf
  simpa [NumLit.print, NumLit.value, digitsValue_natDigits] using this

theorem number_natDigits_frac (pre rest : Str) (p q : Nat) (z : Bool) (hq : 0 < q) (hr : NextNot isDigit rest) :
    number (pre ++ (natDigits p ++ '/' :: natDigits q) ++ rest).toArray ⟨pre.length, z⟩
      = some ((pre.length, ⟨mkRat p q, .frac⟩), ⟨(pre ++ (natDigits p ++ '/' :: natDigits q)).length, z⟩) := by
  have := number_roundtrip pre (.frac (natDigits p) [] (natDigits q)) rest z
    ⟨isDigits_natDigits p, by simp [IsBlanks], isDigits_natDigits q, by rw [digitsValue_natDigits]; omega⟩ hr
  simpa [NumLit.print, NumLit.value, digitsValue_natDigits] using this

/-- a zero denominator is not a fraction (so `Fraction(n, 0)` is never built) -/
example : fraction "1/0".toList.toArray ⟨0, false⟩ = none := by decide +kernel
/-- a blank before the slash is only allowed in the three-part form -/
example : fraction "1 /2".toList.toArray ⟨0, false⟩ = none := by decide +kernel
example : number "x2 1 / 04,".toList.toArray ⟨1, false⟩
    = some ((1, ⟨(2 : Rat) + mkRat 1 4, .frac⟩), ⟨9, false⟩) := by decide +kernel
example : number "12 g".toList.toArray ⟨0, false⟩ = some ((0, ⟨12, .int⟩), ⟨2, false⟩) := by decide +kernel
example : (NumLit.mixed "2".toList " ".toList "1".toList " ".toList " ".toList "04".toList).WF := by
  simp [NumLit.WF, IsDigits, IsBlanks, isDigit, isHsp, digitsValue]

/-! ## Strings.  The string rules are spoken of in two vocabularies.  `Lemmas/ParserStrings.lean` has its own
    (`QuotedItemOk`, `BPiece`/`PiecesOk`, `NakedText`, `StopChar`, `StringEnd`, `Atoms`), in which its lemmas about the
    rule `string` are stated; the specification has `QChar`, `BItem`, `IsNaked`, `EndsString`,
    `NakedFollow`/`ClosedFollow`, `SeqOk`.  The lemmas from here to `atomsAt_of_seqOk` translate the second into the first. -/

theorem escapeValue_eq_unescape (l : Char) : escapeValue l = unescape l := rfl

theorem quotedItemOk_of_ok {q : Char} {it : QChar} (h : it.Ok q) : QuotedItemOk q (it.print, it.value) := by
  cases it with
  | raw c => exact Or.inl ⟨c, rfl, h⟩
  | esc l => exact Or.inr ⟨l, rfl⟩

theorem quotedString_of_ok {q : Char} (hq : q ≠ '\\') {items : List QChar} (hok : ∀ it ∈ items, it.Ok q)
    (after : Str) :
    Reads (quotedString q) (printQuoted q items) after fun i => [.sub i (items.map QChar.value)] := by
  have := quotedString_items (q := q) hq (items := items.map fun it => (it.print, it.value)) after (by
    intro it hit
    simp only [List.mem_map] at hit
    obtain ⟨x, hx, rfl⟩ := hit
    exact quotedItemOk_of_ok (hok x hx))
  simpa [printQuoted, List.flatMap_map, Function.comp_def] using this

/-- **quoted strings are recovered item by item** (for any quote character other than the backslash;
    the grammar uses `'` and `"`) -/
theorem quoted_roundtrip_items (q : Char) (hq : q ≠ '\\') (pre : Str) (items : List QChar) (rest : Str)
    (z : Bool) (hok : ∀ it ∈ items, it.Ok q) :
    quotedString q (pre ++ printQuoted q items ++ rest).toArray ⟨pre.length, z⟩
      = some ([.sub pre.length (items.map QChar.value)], ⟨(pre ++ printQuoted q items).length, z⟩) :=
  (quotedString_of_ok hq hok rest).after_prefix pre z

theorem escapeChar_eq (c : Char) : escapeChar c = (quoteItem c).1 := by
  have e : escapeLetter c = escLetter? c := rfl
  unfold escapeChar quoteItem
  rw [e]
  cases escLetter? c <;> rfl

theorem flatMap_escapeChar (s : Str) : s.flatMap escapeChar = quoteBody s := by
  have e : escapeChar = fun c => (quoteItem c).1 := funext escapeChar_eq
  rw [e]; rfl

theorem quote_roundtrip (q : Char) (hq : q = '\'' ∨ q = '"') (pre s rest : Str) (z : Bool) :
    quotedString q (pre ++ quote q s ++ rest).toArray ⟨pre.length, z⟩
      = some ([.sub pre.length s], ⟨(pre ++ quote q s).length, z⟩) := by
  rw [quote, flatMap_escapeChar]
  exact (quotedString_quote hq s rest).after_prefix pre z

/-- **every string can be written between single quotes**: whatever `s` is — quotes, backslashes
    and newlines included, since they are written `\'`, `\\`, `\n`, `\r` — its canonical spelling is
    read back as `s` -/
theorem squoted_roundtrip (pre s rest : Str) (z : Bool) :
    quotedString '\'' (pre ++ quote '\'' s ++ rest).toArray ⟨pre.length, z⟩
      = some ([.sub pre.length s], ⟨(pre ++ quote '\'' s).length, z⟩) :=
  quote_roundtrip '\'' (Or.inl rfl) pre s rest z

/-- **every string can be written between double quotes** -/
theorem dquoted_roundtrip (pre s rest : Str) (z : Bool) :
    quotedString '"' (pre ++ quote '"' s ++ rest).toArray ⟨pre.length, z⟩
      = some ([.sub pre.length s], ⟨(pre ++ quote '"' s).length, z⟩) :=
  quote_roundtrip '"' (Or.inr rfl) pre s rest z

example : quote '\'' "it's\n".toList = "'it\\'s\\n'".toList := by decide +kernel
example : quotedString '\'' "x 'it\\'s\\n' y".toList.toArray ⟨2, false⟩
    = some ([.sub 2 "it's\n".toList], ⟨11, false⟩) := by decide +kernel
/-- an escape of a character without a meaning is that character -/
example : quotedString '"' "\"a\\qb\"".toList.toArray ⟨0, true⟩
    = some ([.sub 0 "aqb".toList], ⟨6, true⟩) := by decide +kernel
/-- a raw newline is refused -/
example : quotedString '"' "\"a\nb\"".toList.toArray ⟨0, false⟩ = none := by decide +kernel
example : ∀ it ∈ [QChar.raw 'a', .esc '\n', .esc '"', .raw '\''], it.Ok '"' := by
  simp [QChar.Ok, isNewline]

theorem isSpecial_iff (c : Char) : isSpecial c = true ↔ IsSpecialChar c := by
  simp [isSpecial, IsSpecialChar]

theorem isNakedInner_iff (c : Char) : isNakedInner c = true ↔ ¬ IsSpecialChar c ∧ isNewline c = false := by
  simp [isNakedInner, ← isSpecial_iff]

theorem isNakedInner_false_of_stops {c : Char} (h : StopsNaked c) : isNakedInner c = false := by
  cases hi : isNakedInner c with
  | false => rfl
  | true =>
    have := (isNakedInner_iff c).mp hi
    rcases h with h | h
    · exact absurd h this.1
    · rw [this.2] at h; cases h

theorem isNakedEdge_of (c : Char) (h1 : ¬ IsSpecialChar c) (h2 : isReSpace c = false) : isNakedEdge c = true := by
  have : isSpecial c = false := by
    cases hs : isSpecial c with
    | false => rfl
    | true => exact absurd ((isSpecial_iff c).mp hs) h1
  simp [isNakedEdge, this, h2]

theorem IsNaked.nakedText {txt : Str} (h : IsNaked txt) : NakedText txt := by
  obtain ⟨hne, hin, hfst, hlst⟩ := h
  exact ⟨hne, fun c hc => (isNakedInner_iff c).mpr (hin c hc),
    fun c hc => isNakedEdge_of c (hin c (List.mem_of_mem_head? hc)).1 (hfst c hc),
    fun c hc => isNakedEdge_of c (hin c (List.mem_of_mem_getLast? hc)).1 (hlst c hc)⟩

/-- **naked strings are recovered verbatim**; trailing white space `ws` (not newlines) is given
    back, and the string ends at a special character, at a newline or at the end of the text -/
theorem naked_roundtrip (pre txt ws rest : Str) (z : Bool) (h : IsNaked txt)
    (hws : ∀ c ∈ ws, isReSpace c = true ∧ isNewline c = false)
    (hr : ∀ c, rest.head? = some c → StopsNaked c) :
    nakedString (pre ++ txt ++ (ws ++ rest)).toArray ⟨pre.length, z⟩
      = some ([.sub pre.length txt], ⟨(pre ++ txt).length, z⟩) :=
  (nakedString_reads h.nakedText hws fun c hc => isNakedInner_false_of_stops (hr c hc)).after_prefix pre z

example : IsNaked "2 large eggs".toList := by
  refine ⟨by decide, by decide, by decide, by decide⟩
example : nakedString "2 large eggs \t, beaten".toList.toArray ⟨2, false⟩
    = some ([.sub 2 "large eggs".toList], ⟨12, false⟩) := by decide +kernel

/-- the items in the vocabulary of the parser lemmas -/
def BItem.toPiece : BItem → BPiece
  | .chr c => .chr c.print c.value
  | .num l => .num l.print l.value

theorem printPieces_toPiece (items : List BItem) : printPieces (items.map BItem.toPiece) = printBody items := by
  induction items with
  | nil => rfl
  | cons it items ih =>
    cases it <;> simp only [List.map_cons, printPieces_cons, ih, printBody, List.flatMap_cons] <;> rfl

theorem bracketCharOk_of_ok {c : QChar} (h : c.BracedOk) : BracketCharOk c.print c.value := by
  cases c with
  | raw c => exact Or.inl ⟨rfl, h⟩
  | esc l => exact Or.inr ⟨l, rfl, rfl⟩

theorem piecesOk_of_bracedOk (rest : Str) : ∀ items : List BItem, BracedOk rest items →
    PiecesOk rest (items.map BItem.toPiece)
  | [], _ => trivial
  | .chr c :: items, h => ⟨bracketCharOk_of_ok h.1, piecesOk_of_bracedOk rest items h.2⟩
  | .num l :: items, h => ⟨by
      rw [printPieces_toPiece]; exact numberAt_of_wf l _ h.1.1 h.1.2, piecesOk_of_bracedOk rest items h.2⟩

theorem specGo_toPiece : ∀ (items : List BItem) (off : Nat),
    (∀ (o : Nat) (s : Str), s ≠ [] →
      specGo off (some (o, s)) (items.map BItem.toPiece) = bracedRun o s off items)
    ∧ specGo off none (items.map BItem.toPiece) = bracedAfterNum off items
  | [], off => ⟨fun o s _ => by simp [specGo, closeRun, bracedRun], by simp [specGo, closeRun, bracedAfterNum]⟩
  | .chr c :: items, off => by
    have ih := specGo_toPiece items (off + c.print.length)
    refine ⟨fun o s hs => ?_, ?_⟩
    · simp only [List.map_cons, BItem.toPiece, specGo, extendRun, bracedRun]
      exact ih.1 o (s ++ [c.value]) (by simp)
    · simp only [List.map_cons, BItem.toPiece, specGo, extendRun, bracedAfterNum]
      exact ih.1 off [c.value] (by simp)
  | .num l :: items, off => by
    have ih := specGo_toPiece items (off + l.print.length)
    refine ⟨fun o s hs => ?_, ?_⟩
    · cases s with
      | nil => exact absurd rfl hs
      | cons x xs => simp [BItem.toPiece, specGo, flushRun, bracedRun, ih.2]
    · simp [BItem.toPiece, specGo, flushRun, bracedAfterNum, ih.2]

theorem bracketSpec_toPiece (i : Nat) : ∀ items : List BItem,
    bracketSpec i (items.map BItem.toPiece) = bracedValue i items
  | [] => rfl
  | .chr c :: items => by
    simp only [bracketSpec, List.map_cons, BItem.toPiece, specGo, extendRun, List.nil_append, bracedValue]
    exact (specGo_toPiece items _).1 i [c.value] (by simp)
  | .num l :: items => by
    simp [bracketSpec, BItem.toPiece, specGo, flushRun, bracedValue, (specGo_toPiece items _).2]

theorem bracketedString_of_ok {items : List BItem} {after : Str} (hok : BracedOk after items) :
    Reads bracketedString (printBraced items) after fun i => bracedValue i items := by
  have := bracketedString_pieces (piecesOk_of_bracedOk after items hok)
  simpa [printBraced, printPieces_toPiece, bracketSpec_toPiece] using this

/-- **bracketed strings are recovered verbatim**, numbers and all -/
theorem braced_roundtrip (pre : Str) (items : List BItem) (rest : Str) (z : Bool) (hok : BracedOk rest items) :
    bracketedString (pre ++ printBraced items ++ rest).toArray ⟨pre.length, z⟩
      = some (bracedValue pre.length items, ⟨(pre ++ printBraced items).length, z⟩) :=
  (bracketedString_of_ok hok).after_prefix pre z

theorem braceEscapeChar_eq (c : Char) : braceEscapeChar c = (bracketItem c).1 := by
  have e : escapeLetter c = escLetter? c := rfl
  unfold braceEscapeChar bracketItem
  rw [e]
  cases escLetter? c
  · simp only; split <;> rfl
  · rfl

theorem flatMap_braceEscapeChar (s : Str) : s.flatMap braceEscapeChar = bracketBody s := by
  have e : braceEscapeChar = fun c => (bracketItem c).1 := funext braceEscapeChar_eq
  rw [e]; rfl

/-- **every string can be written between braces** (digits included), as one `.sub` -/
theorem braceQuote_roundtrip (pre s rest : Str) (z : Bool) :
    bracketedString (pre ++ braceQuote s ++ rest).toArray ⟨pre.length, z⟩
      = some ([.sub pre.length s], ⟨(pre ++ braceQuote s).length, z⟩) := by
  rw [braceQuote, flatMap_braceEscapeChar]
  exact (bracketedString_quote s rest).after_prefix pre z

example : braceQuote "a{1}\n".toList = "{a\\{\\1\\}\\n}".toList := by decide +kernel
example : bracketedString "x{a 1/2 b3}".toList.toArray ⟨1, false⟩
    = some ([.sub 1 "a ".toList, .num 4 ⟨mkRat 1 2, .frac⟩, .sub 7 " b".toList, .num 9 ⟨3, .int⟩], ⟨11, false⟩) := by
  decide +kernel
example (l m : NumLit) :
    bracedValue 10 [.chr (.raw 'a'), .chr (.esc 'n'), .num l, .chr (.raw 'b'), .num m]
      = [.sub 10 ['a', '\n'], .num 14 l.value, .sub (14 + l.print.length) ['b'],
         .num (14 + l.print.length + 1) m.value] := rfl
example (l : NumLit) : bracedValue 10 [.num l, .chr (.raw 'b')] = [.num 11 l.value, .sub (11 + l.print.length) ['b']] := rfl
example : bracedValue 10 [] = [.sub 10 []] := rfl
/-- an instance of the theorem with a number inside: `{a12b}` -/
example : bracketedString "{a12b}".toList.toArray ⟨0, false⟩
    = some ([.sub 0 ['a'], .num 2 ⟨((12 : Nat) : Rat), .int⟩, .sub 4 ['b']], ⟨6, false⟩) :=
  braced_roundtrip [] [.chr (.raw 'a'), .num (.int ['1', '2']), .chr (.raw 'b')] [] false
    ⟨by unfold QChar.BracedOk; decide, ⟨⟨by decide, by decide⟩, by decide, by decide⟩,
      by unfold QChar.BracedOk; decide, trivial⟩

theorem stopChar_of_endsString {static : Bool} {c : Char} (h : EndsString static c) : StopChar static c := by
  rcases h with h | h | ⟨rfl, rfl⟩
  · exact stopChar_of_mem h
  · exact stopChar_of_isNewline h
  · exact stopChar_lbrace_static

theorem stringEnd_of_nakedFollow {static : Bool} {rest : Str} (h : NakedFollow static rest) :
    StringEnd static rest :=
  AfterRun.blanks h (fun _ hc _ => noAtomStart_of_isReSpace hc.1) fun _ hc =>
    ⟨isHsp_of_not_inner (stopChar_of_endsString hc).1, (stopChar_of_endsString hc).noAtomStart⟩

theorem stringEnd_of_closedFollow {static : Bool} {rest : Str} (h : ClosedFollow static rest) :
    StringEnd static rest :=
  AfterRun.mono h (fun _ hc => hc) fun _ hc =>
    ⟨hc.1, hc.2.elim noAtomStart_of_isReSpace fun he => (stopChar_of_endsString he).noAtomStart⟩

/-- the text after a naked atom lets the naked string end where it should: white space without newline (which the
    naked string takes and gives back), then the end of the text or a character that cannot be inside a naked string -/
def NakedAfter (after : Str) : Prop :=
  AfterRun (fun c => isReSpace c = true ∧ isNewline c = false) (fun c => isNakedInner c = false) after

theorem atom_of_ok {static : Bool} {a : StrAtom} {after : Str} (hok : a.Ok static after)
    (hnk : a.isNaked = true → NakedAfter after) : Reads (atom static) a.print after fun i => a.value i := by
  cases a with
  | naked txt =>
    obtain ⟨ws, r, rfl, hws, hr⟩ := hnk rfl
    exact atom_naked (IsNaked.nakedText hok) hws hr
  | squoted items => exact atom_quoted (.inl rfl) (quotedString_of_ok (by decide) hok after)
  | dquoted items => exact atom_quoted (.inr rfl) (quotedString_of_ok (by decide) hok after)
  | braced items =>
    obtain ⟨rfl, hb⟩ := hok
    exact atom_bracketed (bracketedString_of_ok hb)

theorem head_print_closed {b : StrAtom} (h : b.isNaked = false) :
    ∃ c tl, b.print = c :: tl ∧ (c = '\'' ∨ c = '"' ∨ c = '{') := by
  cases b with
  | naked _ => cases h
  | squoted items => exact ⟨_, _, rfl, Or.inl rfl⟩
  | dquoted items => exact ⟨_, _, rfl, Or.inr (Or.inl rfl)⟩
  | braced items => exact ⟨_, _, rfl, Or.inr (Or.inr rfl)⟩

theorem head_print_of_ok {static : Bool} {after : Str} {b : StrAtom} (h : b.Ok static after) :
    ∃ c tl, b.print = c :: tl ∧ (isNakedEdge c = true ∨ c = '\'' ∨ c = '"' ∨ c = '{') := by
  cases hb : b.isNaked with
  | false =>
    obtain ⟨c, tl, e, hc⟩ := head_print_closed hb
    exact ⟨c, tl, e, Or.inr hc⟩
  | true =>
    cases b with
    | naked txt =>
      obtain ⟨hne, _, hfst, _⟩ := IsNaked.nakedText h
      cases txt with
      | nil => exact absurd rfl hne
      | cons c tl => exact ⟨c, tl, rfl, Or.inl (hfst c rfl)⟩
    | squoted _ => cases hb
    | dquoted _ => cases hb
    | braced _ => cases hb

theorem SeqOk.headOk {static : Bool} {rest : Str} {b : StrAtom} {more : List (Str × StrAtom)}
    (h : SeqOk static rest b more) : ∃ after, b.Ok static after := by
  cases more with
  | nil => exact ⟨_, h.1⟩
  | cons p more => obtain ⟨bl, c⟩ := p; exact ⟨_, h.1⟩

theorem printString_nil (a : StrAtom) : printString a [] = a.print := List.append_nil _

theorem stringValue_nil (off : Nat) (a : StrAtom) : stringValue off a [] = a.value off := List.append_nil _

theorem StringLit.print_one (a : StrAtom) : (StringLit.mk a []).print = a.print := printString_nil a

theorem lastFollow_naked {static : Bool} {a : StrAtom} {rest : Str} (h : a.isNaked = true) :
    LastFollow static a rest = NakedFollow static rest := if_pos h

theorem lastFollow_closed {static : Bool} {a : StrAtom} {rest : Str} (h : a.isNaked = false) :
    LastFollow static a rest = ClosedFollow static rest := if_neg (by simp [h])

/-- an admissible sequence of atoms is a sequence of atoms of the rule `string` (`AtomsAt`), by induction over the
    further atoms.  The last atom is followed by what `LastFollow` allows, and that ends the string.  An atom in the
    middle is followed by blanks and the next atom; after a naked one the next atom is not naked, so it opens with a
    quote or a brace, where a naked string stops. -/
theorem atomsAt_of_seqOk {static : Bool} {rest : Str} : ∀ (more : List (Str × StrAtom)) (a : StrAtom),
    SeqOk static rest a more → AtomsAt static (printString a more) rest fun i => stringValue i a more
  | [], a, ⟨hok, hf⟩ => by
    simp only [printString_nil, stringValue_nil]
    cases hn : a.isNaked with
    | true =>
      rw [lastFollow_naked hn] at hf
      exact .last (atom_of_ok hok fun _ => AfterRun.mono hf (fun _ hc => hc) fun _ hc => (stopChar_of_endsString hc).1)
        (stringEnd_of_nakedFollow hf)
    | false =>
      rw [lastFollow_closed hn] at hf
      exact .last (atom_of_ok hok fun hn' => by rw [hn] at hn'; cases hn') (stringEnd_of_closedFollow hf)
  | (bl, b) :: m, a, ⟨hoka, hbl, hnn, hrest⟩ => by
    obtain ⟨after', hokb⟩ := hrest.headOk
    obtain ⟨c, tl, eb, hc⟩ := head_print_of_ok hokb
    have hna (hn : a.isNaked = true) : NakedAfter (bl ++ (printString b m ++ rest)) := by
      obtain ⟨c', tl', eb', hc'⟩ := head_print_closed (hnn hn)
      refine ⟨bl, printString b m ++ rest, rfl, fun x hx =>
        ⟨isReSpace_of_isHsp (hbl x hx), isNewline_of_isHsp (hbl x hx)⟩, ?_⟩
      rw [printString, eb']
      refine forall_head_cons ?_
      rcases hc' with rfl | rfl | rfl <;> decide
    rw [List.append_assoc] at hoka
    have := AtomsAt.cons (atom_of_ok hoka hna) hbl
      (by rw [printString, eb]; exact .cons (isHsp_of_atom_start hc)) (atomsAt_of_seqOk m b hrest)
    simp only [printString, printMore, stringValue, moreValue, List.append_assoc] at this ⊢
    cases bl <;> simpa using this

theorem stringAt_of_ok (static : Bool) (s : StringLit) (rest : Str) (h : s.Ok static rest) :
    StringAt static s.print rest (fun off => s.value off) :=
  stringAt_of_atoms (atomsAt_of_seqOk s.more s.first h)

/-- **strings are recovered verbatim**: every admissible sequence of atoms, with the blanks
    between them -/
theorem string_roundtrip (static : Bool) (pre : Str) (a : StrAtom) (more : List (Str × StrAtom))
    (rest : Str) (z : Bool) (hok : SeqOk static rest a more) :
    string static (pre ++ printString a more ++ rest).toArray ⟨pre.length, z⟩
      = some (stringValue pre.length a more, ⟨(pre ++ printString a more).length, z⟩) :=
  (stringAt_of_ok static ⟨a, more⟩ rest hok).reads.after_prefix pre z

theorem string_naked_roundtrip (static : Bool) (pre txt rest : Str) (z : Bool) (h : IsNaked txt)
    (hf : NakedFollow static rest) :
    string static (pre ++ txt ++ rest).toArray ⟨pre.length, z⟩
      = some ([.sub pre.length txt], ⟨(pre ++ txt).length, z⟩) := by
  have := string_roundtrip static pre (.naked txt) [] rest z ⟨h, (lastFollow_naked rfl).mpr hf⟩
  simpa [printString, printMore, stringValue, moreValue, StrAtom.print, StrAtom.value] using this

theorem string_quote_roundtrip (static : Bool) (q : Char) (hq : q = '\'' ∨ q = '"') (pre s rest : Str)
    (z : Bool) (hf : ClosedFollow static rest) :
    string static (pre ++ quote q s ++ rest).toArray ⟨pre.length, z⟩
      = some ([.sub pre.length s], ⟨(pre ++ quote q s).length, z⟩) := by
  rw [quote, flatMap_escapeChar]
  exact (stringAt_quote hq s (stringEnd_of_closedFollow hf)).reads.after_prefix pre z

theorem string_braceQuote_roundtrip (pre s rest : Str) (z : Bool) (hf : ClosedFollow false rest) :
    string false (pre ++ braceQuote s ++ rest).toArray ⟨pre.length, z⟩
      = some ([.sub pre.length s], ⟨(pre ++ braceQuote s).length, z⟩) := by
  rw [braceQuote, flatMap_braceEscapeChar]
  exact (stringAt_bracket_quote s (stringEnd_of_closedFollow hf)).reads.after_prefix pre z

example : string false "x 'y'{z} ,".toList.toArray ⟨0, false⟩
    = some ([.sub 0 ['x'], .sub 1 [' '], .sub 2 ['y'], .sub 5 ['z']], ⟨8, false⟩) := by decide +kernel
/-- a static string stops in front of a brace -/
example : string true "x{z}".toList.toArray ⟨0, false⟩ = some ([.sub 0 ['x']], ⟨1, false⟩) := by
  decide +kernel
/-- two naked words are one naked string -/
example : string false "a b".toList.toArray ⟨0, false⟩ = some ([.sub 0 "a b".toList], ⟨3, false⟩) := by
  decide +kernel

example : printString (.naked ['x']) [([' '], .squoted [.raw 'y']), ([], .braced [.chr (.raw 'z')])]
    = "x 'y'{z}".toList := by decide +kernel
example : stringValue 3 (.naked ['x']) [([' '], .squoted [.raw 'y']), ([], .braced [.chr (.raw 'z')])]
    = [.sub 3 ['x'], .sub 4 [' '], .sub 5 ['y'], .sub 8 ['z']] := rfl

/-- the admissibility conditions are satisfiable: `x 'y'{z}` followed by ` ,` -/
theorem seqOk_example : SeqOk false " ,".toList (.naked ['x'])
    [([' '], .squoted [.raw 'y']), ([], .braced [.chr (.raw 'z')])] := by
  refine ⟨⟨by decide, by decide, by decide, by decide⟩, by decide, fun _ => rfl, ?_⟩
  refine ⟨?_, by decide, (fun h => by cases h), ⟨rfl, ?_, trivial⟩, ?_⟩
  · intro it hit; simp only [List.mem_singleton] at hit; subst hit; exact ⟨by decide, by decide, by decide⟩
  · exact ⟨by decide, by decide, by decide, by decide, by decide⟩
  · exact ⟨[' '], [','], rfl, by decide, fun c hc => by
      cases hc; exact ⟨by decide, Or.inr (Or.inl (by decide))⟩⟩

/-- … and the theorem applies to it, after any prefix -/
example (pre : Str) (z : Bool) :
    string false (pre ++ "x 'y'{z}".toList ++ " ,".toList).toArray ⟨pre.length, z⟩
      = some ([.sub pre.length ['x'], .sub (pre.length + 1) [' '], .sub (pre.length + 1 + 1) ['y'],
               .sub (pre.length + 1 + 1 + 3) ['z']], ⟨(pre ++ "x 'y'{z}".toList).length, z⟩) :=
  string_roundtrip false pre (.naked ['x']) [([' '], .squoted [.raw 'y']), ([], .braced [.chr (.raw 'z')])]
    " ,".toList z seqOk_example

example : string true "flour , x".toList.toArray ⟨0, false⟩ = some ([.sub 0 "flour".toList], ⟨0 + 5, false⟩) := by
  have := string_naked_roundtrip true [] "flour".toList " , x".toList false
    ⟨by decide, by decide, by decide, by decide⟩
    ⟨[' '], ", x".toList, rfl, by decide, fun c hc => by cases hc; exact Or.inl (by decide)⟩
  simpa using this

example : string false (quote '\'' "it's".toList ++ ['\n']).toArray ⟨0, false⟩
    = some ([.sub 0 "it's".toList], ⟨(quote '\'' "it's".toList).length, false⟩) := by
  have := string_quote_roundtrip false '\'' (Or.inl rfl) [] "it's".toList ['\n'] false
    ⟨[], ['\n'], rfl, by simp [IsBlanks], fun c hc => by cases hc; exact ⟨by decide, Or.inl (by decide)⟩⟩
  simpa using this

/-- the side conditions on the table of unit names, re-checked by the kernel whenever the table is
    regenerated: the words are non-empty runs of ASCII lower-case letters, and no alternative's word
    list is a proper prefix of another alternative's (within a word the `\b` rejects the shorter name;
    a whole-word prefix such as `tea` before `tea spoon` would not be rejected).  `Parser.unitPatterns_table` checks
    a third one, on which the implicit quantity `2 cups flour` depends: no name begins with `of`. -/
theorem unitPatterns_sideConditions :
    Parser.unitPatterns.all unitWordsOk = true ∧ prefixFree Parser.unitPatterns = true :=
  ⟨unitPatterns_table.1, unitPatterns_prefixFree_table⟩

/-- **every spelling of every unit name is recognised, and the longest name wins**: for each
    alternative of the unit pattern, each choice of letter case and each choice of `\s+` separators,
    `known_unit` consumes exactly that text when a non-word character (or nothing) follows -/
theorem knownUnit_roundtrip (pre rest : Str) (z : Bool) (name : List String) (hname : name ∈ Gen.unitPatterns)
    (ms : List (List Bool)) (seps : List Str) (hok : UnitSpellingOk (name.map String.toList) ms seps)
    (hr : NextNot isReWord rest) :
    knownUnit (pre ++ printUnit (name.map String.toList) ms seps ++ rest).toArray ⟨pre.length, z⟩
      = some ((), ⟨(pre ++ printUnit (name.map String.toList) ms seps).length, z⟩) :=
  (knownUnit_reads ⟨name, ms, seps⟩ ⟨hname, hok⟩ hr).after_prefix pre z

example : knownUnit "2 Table \n SPOONS, heaped".toList.toArray ⟨2, false⟩ = some ((), ⟨16, false⟩) := by
  decide +kernel
example : printUnit ["table".toList, "spoons".toList]
    [[true, false, false, false, false], [true, true, true, true, true, true]] [" \n ".toList]
    = "Table \n SPOONS".toList := by decide +kernel
/-- "g" is listed before "grams"; the word boundary makes the longer name win -/
example : knownUnit "grams".toList.toArray ⟨0, false⟩ = some ((), ⟨5, false⟩) := by decide +kernel
/-- a word character after the name: no unit -/
example : knownUnit "gramsx".toList.toArray ⟨0, false⟩ = none := by decide +kernel

/-- **prepositions are recovered verbatim** (`(hsp preposition)?` returns the text it took) -/
theorem hspPreposition_roundtrip (pre : Str) (p : PrepLit) (rest : Str) (z : Bool) (h : p.WF) (hf : p.Follow rest) :
    hspPreposition (pre ++ p.print ++ rest).toArray ⟨pre.length, z⟩
      = some (p.print, ⟨(pre ++ p.print).length, z⟩) :=
  (prep_reads p rest h hf).after_prefix pre z

theorem remainder_roundtrip (pre : Str) (w : RemainderLit) (rest : Str) (z : Bool) (h : w.WF)
    (hf : NextNot isReWord rest) :
    Parser.remainder (pre ++ w.print ++ rest).toArray ⟨pre.length, z⟩
      = some ((), ⟨(pre ++ w.print).length, z⟩) :=
  (remainder_reads w rest h hf).after_prefix pre z

/-- `proportion` on its four kinds of spellings: a remainder word, or a number followed by `of`, `%` or `*` -/
theorem proportion_of_ok (a : AmountLit) (rest : Str) (h : a.Ok rest)
    (hk : match a with | .explicit .. => False | .implicit .. => False | _ => True) :
    Reads proportion a.print rest fun i => a.value i := by
  intro t i z
  have hnum {n : NumLit} {after : Str} (hn : NumberAt n.print after n.value) :
      Fails proportionRemainder (n.print ++ after) :=
    proportionRemainder_fails (remainderWordAt_of_digit hn.head_isDigit)
  cases a with
  | remainder w p =>
    obtain ⟨hw, hp, hpf, hr⟩ := h
    have hP := prep_reads p rest hp hpf
    have hW := remainder_reads w (p.print ++ rest) hw (prep_head_not_word p hp hr)
    simp only [AmountLit.print, List.append_assoc]
    exact .altLeft <| .getPos <| .bind hW.textOf <| .bind hP <| .pure rfl (by simp +arith)
  | ofNumber n p =>
    obtain ⟨hn, hnf, hne, hp, hpf⟩ := h
    have hN := numberAt_of_wf n (p.print ++ rest) hn hnf
    simp only [AmountLit.print, List.append_assoc]
    exact .altRight (hnum hN) <| .bind hN <| .altLeft <|
      .bind (prep_reads_hsp p hp hpf hne) <| .pure rfl (by simp +arith)
  | percent n bl p =>
    obtain ⟨hn, hnf, hbl, hp, hpf⟩ := h
    have hN := numberAt_of_wf n _ hn hnf
    have hpc : Reads (do ohsp; lit '%'; let _ ← hspPreposition) (bl ++ '%' :: p.print) rest fun _ => () :=
      fun _ _ _ => .bindEq (reads_ohsp hbl (.cons (by decide))) (by simp) <| .lit <|
        .bind (prep_reads p rest hp hpf) <| .pure rfl (by simp +arith)
    simp only [AmountLit.print, List.append_assoc, List.cons_append] at hN ⊢
    exact .altRight (hnum hN) <| .bind hN <|
      .altRight (fun _ _ _ => .fail (hsp_preposition_fails_of_head hbl (by decide) (by decide))) <|
      .altLeft <| .bindEq hpc.textOf (by simp) <| .pure rfl (by simp +arith)
  | times n bl =>
    obtain ⟨hn, hnf, hbl⟩ := h
    have hN := numberAt_of_wf n _ hn hnf
    have hsp := reads_ohsp (rest := '*' :: rest) hbl (.cons (by decide))
    have hst : Reads (do ohsp; lit '*') (bl ++ ['*']) rest fun _ => () := fun _ _ _ =>
      .bindEq hsp (by simp) <| .ret <| .lit <| .pure rfl (by simp +arith)
    simp only [AmountLit.print, List.append_assoc, List.cons_append, List.nil_append]
    exact .altRight (hnum hN) <| .bind hN <|
      .altRight (fun _ _ _ => .fail (hsp_preposition_fails_of_head hbl (by decide) (by decide))) <|
      .altRight (fun _ _ _ => .fail <| Fails.textOf fun _ _ _ => .bind hsp <| .fail (fails_lit (by simp))) <|
      .bindEq hst.textOf (by simp) <| .pure rfl (by simp +arith)
  | explicit b1 n u b3 p => exact absurd hk (by simp)
  | implicit n u => exact absurd hk (by simp)

theorem proportion_roundtrip (pre : Str) (a : AmountLit) (rest : Str) (z : Bool) (h : a.Ok rest)
    (hk : match a with | .explicit .. => False | .implicit .. => False | _ => True) :
    proportion (pre ++ a.print ++ rest).toArray ⟨pre.length, z⟩
      = some (a.value pre.length, ⟨(pre ++ a.print).length, z⟩) :=
  (proportion_of_ok a rest h hk).after_prefix pre z

/-- `explicit_quantity` on `{ number }` and `{ number unit }`, with the optional preposition -/
theorem explicitQuantity_of_ok (b1 : Str) (n : NumLit) (unit : Option (Str × StringLit))
    (b3 : Str) (p : PrepLit) (rest : Str) (h : (AmountLit.explicit b1 n unit b3 p).Ok rest) :
    Reads explicitQuantity (AmountLit.explicit b1 n unit b3 p).print rest
      fun i => (AmountLit.explicit b1 n unit b3 p).value i := by
  intro t i z
  cases unit with
  | none =>
    obtain ⟨hb1, hn, hnf, hb3, hp, hpf⟩ := h
    have hN := numberAt_of_wf n _ hn hnf
    have hsp3 := reads_ohsp (rest := '}' :: (p.print ++ rest)) hb3 (.cons (by decide))
    simp only [AmountLit.print, List.append_assoc, List.cons_append] at hN ⊢
    unfold explicitQuantity
    exact .getPos <| .lit <| .bind (reads_ohsp hb1 hN.follow_hsp) <| .bind hN <|
      .optNone (fun _ _ _ => .bind hsp3.textOf <| .fail <| string_fails_of_head
        (forall_head_cons (noAtomStart_rbrace true))) <|
      .bind hsp3 <| .lit <| .bind (prep_reads p rest hp hpf) <| .pure rfl (by simp +arith)
  | some bu =>
    obtain ⟨b2, u⟩ := bu
    obtain ⟨hb1, hn, hnf, hb2, hu, hb3, hp, hpf⟩ := h
    have hN := numberAt_of_wf n _ hn hnf
    have hU := stringAt_of_ok true u _ hu
    simp only [AmountLit.print, List.append_assoc, List.cons_append] at hN hU ⊢
    unfold explicitQuantity
    refine .getPos <| .lit <| .bind (reads_ohsp hb1 hN.follow_hsp) <| .bind hN <| .optSome ?_
    simp only [bind_assoc, pure_bind]
    exact .bind (reads_ohsp hb2 hU.head_not_hsp).textOf <| .bind hU <| .bind (reads_ohsp hb3 (.cons (by decide))) <|
      .lit <| .bind (prep_reads p rest hp hpf) <| .pure rfl (by simp +arith)

theorem explicitQuantity_roundtrip (pre : Str) (b1 : Str) (n : NumLit) (unit : Option (Str × StringLit))
    (b3 : Str) (p : PrepLit) (rest : Str) (z : Bool) (h : (AmountLit.explicit b1 n unit b3 p).Ok rest) :
    explicitQuantity (pre ++ (AmountLit.explicit b1 n unit b3 p).print ++ rest).toArray ⟨pre.length, z⟩
      = some ((AmountLit.explicit b1 n unit b3 p).value pre.length,
              ⟨(pre ++ (AmountLit.explicit b1 n unit b3 p).print).length, z⟩) :=
  (explicitQuantity_of_ok b1 n unit b3 p rest h).after_prefix pre z

/-- `implicit_quantity` on a number, optionally followed by a known unit and a preposition -/
theorem implicitQuantity_of_ok (n : NumLit) (unit : Option (Str × UnitLit × PrepLit))
    (rest : Str) (h : (AmountLit.implicit n unit).Ok rest) :
    Reads implicitQuantity (AmountLit.implicit n unit).print rest fun i => (AmountLit.implicit n unit).value i := by
  intro t i z
  cases unit with
  | none =>
    obtain ⟨hn, hnf, hu⟩ := h
    simp only [AmountLit.print]
    unfold implicitQuantity
    exact .bind (numberAt_of_wf n rest hn hnf) <|
      .optNone (fun _ _ _ => .bindEq (reads_ohsp_span rest).textOf List.takeWhile_append_dropWhile.symm <| .getPos <|
        .fail (knownUnit_fails hu).textOf) <|
      .pure rfl (by simp)
  | some sup =>
    obtain ⟨sp, u, p⟩ := sup
    obtain ⟨hn, hnf, hsp, hu, hp, hpf, hr⟩ := h
    have hP := prep_reads p rest hp hpf
    have hN := numberAt_of_wf n _ hn hnf
    simp only [AmountLit.print, List.append_assoc] at hN ⊢
    unfold implicitQuantity
    refine .bind hN <| .optSome ?_
    simp only [bind_assoc, pure_bind]
    exact .bind (reads_ohsp hsp (unit_nextNot_hsp u hu _)).textOf <| .getPos <|
      .bind (knownUnit_reads u hu (prep_head_not_word p hp hr)).textOf <| .bind hP <| .pure rfl (by simp +arith)

theorem implicitQuantity_roundtrip (pre : Str) (n : NumLit) (unit : Option (Str × UnitLit × PrepLit))
    (rest : Str) (z : Bool) (h : (AmountLit.implicit n unit).Ok rest) :
    implicitQuantity (pre ++ (AmountLit.implicit n unit).print ++ rest).toArray ⟨pre.length, z⟩
      = some ((AmountLit.implicit n unit).value pre.length,
              ⟨(pre ++ (AmountLit.implicit n unit).print).length, z⟩) :=
  (implicitQuantity_of_ok n unit rest h).after_prefix pre z

/-- **amounts are recovered verbatim**: the ordered choice of `reference` takes every permitted
    spelling of an amount as that amount -/
theorem amount_of_ok (a : AmountLit) (rest : Str) (h : a.Ok rest) (hr : a.Reached rest) :
    Reads amount a.print rest fun off => a.value off := by
  have hdigit {n : NumLit} {after : Str} (hN : NumberAt n.print after n.value) :
      (n.print ++ after).head? ≠ some '{' := by
    obtain ⟨d, hd, hdd⟩ := hN.head_isDigit
    rw [hd]
    intro e
    cases e
    simp [isDigit] at hdd
  cases a with
  | remainder w p => exact (proportion_of_ok _ rest h trivial).orElse
  | ofNumber n p => exact (proportion_of_ok _ rest h trivial).orElse
  | percent n bl p => exact (proportion_of_ok _ rest h trivial).orElse
  | times n bl => exact (proportion_of_ok _ rest h trivial).orElse
  | explicit b1 n u b3 p =>
    refine .orElse_right ?_ (explicitQuantity_of_ok b1 n u b3 p rest h).orElse
    cases u with
    | none => simpa [AmountLit.print] using proportion_fails_lbrace _
    | some bu => obtain ⟨b2, u⟩ := bu; simpa [AmountLit.print] using proportion_fails_lbrace _
  | implicit n u =>
    have hi := implicitQuantity_of_ok n u rest h
    cases u with
    | none =>
      obtain ⟨hn, hnf, _⟩ := h
      have hN := numberAt_of_wf n rest hn hnf
      exact .orElse_right (proportion_fails_number hN hr.1 hr.2) (.orElse_right (explicitQuantity_fails (hdigit hN)) hi)
    | some sup =>
      obtain ⟨sp, u, p⟩ := sup
      obtain ⟨hn, hnf, hsp, hu, hp, hpf, hrest⟩ := h
      have hN := numberAt_of_wf n _ hn hnf
      have hreach := no_proportion_after_unit u hu hsp (prep_head_not_word p hp hrest)
      simp only [AmountLit.print, List.append_assoc] at hN hi ⊢
      have e : n.print ++ (sp ++ (u.print ++ p.print)) ++ rest = n.print ++ (sp ++ (u.print ++ (p.print ++ rest))) := by
        simp
      exact .orElse_right (e ▸ proportion_fails_number hN hreach.1 hreach.2)
        (.orElse_right (e ▸ explicitQuantity_fails (hdigit hN)) hi)

theorem amount_roundtrip (pre : Str) (a : AmountLit) (rest : Str) (z : Bool) (h : a.Ok rest) (hr : a.Reached rest) :
    (proportion <|> explicitQuantity <|> implicitQuantity) (pre ++ a.print ++ rest).toArray ⟨pre.length, z⟩
      = some (a.value pre.length, ⟨(pre ++ a.print).length, z⟩) :=
  (amount_of_ok a rest h hr).after_prefix pre z

theorem referenceAt_of_ok (r : RefLit) (rest : Str) (h : r.Ok rest) :
    ReferenceAt r.print rest (fun i => r.value i) := by
  obtain ⟨amt, name⟩ := r
  cases amt with
  | none =>
    obtain ⟨hn, hrem, hdig, hbr⟩ := h
    exact referenceAt_plain (stringAt_of_ok false name rest hn) hrem hdig hbr
  | some abl =>
    obtain ⟨a, bl⟩ := abl
    obtain ⟨ha, hr, hbl, hn⟩ := h
    exact referenceAt_amount (amount_of_ok a _ ha hr) hbl (stringAt_of_ok false name rest hn)

theorem RefLit.print_plain {r : RefLit} (ha : r.amount = none) : r.print = r.name.print := by
  simp [RefLit.print, ha]

theorem RefLit.Ok.name_of_plain {r : RefLit} {rest : Str} (h : r.Ok rest) (ha : r.amount = none) :
    r.name.Ok false rest := by
  simp only [RefLit.Ok, ha] at h
  exact h.1

theorem RefLit.stringAt_of_plain {r : RefLit} {rest : Str} (h : r.Ok rest) (ha : r.amount = none) :
    StringAt false r.print rest (fun i => r.name.value i) := by
  rw [RefLit.print_plain ha]
  exact stringAt_of_ok false _ _ (h.name_of_plain ha)

/-- **references are recovered verbatim**: optional amount, blanks, name -/
theorem reference_roundtrip (pre : Str) (r : RefLit) (rest : Str) (z : Bool) (h : r.Ok rest) :
    reference (pre ++ r.print ++ rest).toArray ⟨pre.length, z⟩
      = some (r.value pre.length, ⟨(pre ++ r.print).length, z⟩) :=
  (referenceAt_of_ok r rest h).reads.after_prefix pre z

theorem nakedLit_ok (txt : Str) (h : IsNaked txt) (rest : Str) (hf : NakedFollow false rest) :
    (StringLit.mk (.naked txt) []).Ok false rest :=
  ⟨h, (lastFollow_naked rfl).mpr hf⟩

theorem nakedLit_ok_head (txt : Str) (h : IsNaked txt) (rest : Str) (c : Char) (tl : Str) (e : rest = c :: tl)
    (hc : EndsString false c) : (StringLit.mk (.naked txt) []).Ok false rest :=
  nakedLit_ok txt h rest (e ▸ AfterRun.of_head (forall_head_cons hc))

/-- a naked name without amount, where the text `X` from the name on does not start like an amount -/
theorem plainRef_ok (name : StringLit) (A X : Str) (c : Char) (tl : Str) (e : name.print ++ A = X)
    (eX : X = c :: tl) (hname : name.Ok false A) (hrem : remainderWordAt X = false)
    (hdig : isDigit c = false) (hbr : c ≠ '{') : (RefLit.mk none name).Ok A := by
  subst e
  refine ⟨hname, hrem, eX ▸ NextNot.cons hdig, ?_⟩
  intro s' es'
  rw [eX] at es'
  cases es'
  exact absurd rfl hbr

/-- `digits blanks name`: a bare number as the amount; `X` is the text after the digits and `Y` the
    text after the blanks -/
theorem bareNumberRef_ok (ds bl : Str) (name : StringLit) (A X Y : Str)
    (e : bl ++ name.print ++ A = X) (hY : X.dropWhile isHsp = Y)
    (hds : IsDigits ds) (hdot : X.head? ≠ some '.')
    (hc : ∀ c, Y.head? = some c → isDigit c = false ∧ c ≠ '/' ∧ c ≠ '%' ∧ c ≠ '*')
    (hunit : unitNameAt Y = false) (hof : blanksWordAt "of".toList X = false)
    (hbl : IsBlanks bl) (hname : name.Ok false A) :
    (RefLit.mk (some (.implicit (.int ds) none, bl)) name).Ok A := by
  subst hY; subst e
  exact ⟨⟨hds, ⟨hdot, fun c h => ⟨(hc c h).1, (hc c h).2.1⟩⟩, hunit⟩,
    ⟨hof, fun c h => ⟨(hc c h).2.2.1, (hc c h).2.2.2⟩⟩, hbl, hname⟩

/-- `digits unit blanks name` without preposition; `X` is the text after the unit, `U` the text
    after the digits -/
theorem unitRef_ok (ds sp : Str) (u : UnitLit) (bl : Str) (name : StringLit) (A X U Y : Str)
    (e : bl ++ name.print ++ A = X) (eU : sp ++ u.print ++ PrepLit.none.print ++ X = U)
    (hY : U.dropWhile isHsp = Y) (hds : IsDigits ds) (hdot : U.head? ≠ some '.')
    (hc : ∀ c, Y.head? = some c → isDigit c = false ∧ c ≠ '/')
    (hsp : IsBlanks sp) (hu : u.WF) (hof : blanksWordAt "of".toList X = false) (hword : NextNot isReWord X)
    (hbl : IsBlanks bl) (hname : name.Ok false A) :
    (RefLit.mk (some (.implicit (.int ds) (some (sp, u, .none)), bl)) name).Ok A := by
  subst hY; subst eU; subst e
  exact ⟨⟨hds, ⟨hdot, hc⟩, hsp, hu, trivial, hof, hword⟩, trivial, hbl, hname⟩

example : implicitQuantity "1 1/2 Table  Spoons of the sugar".toList.toArray ⟨0, false⟩
    = some (.qty 0 ⟨(1 : Rat) + mkRat 1 2, .frac⟩ (some [.sub 6 "Table  Spoons".toList]) [' '] " of the".toList,
            ⟨26, false⟩) := by decide +kernel
example : proportion "Left over OF flour".toList.toArray ⟨0, false⟩
    = some (.prop 0 none false (some "Left over".toList) " OF".toList, ⟨12, false⟩) := by decide +kernel
example : (proportion <|> explicitQuantity <|> implicitQuantity) "2 oz flour".toList.toArray ⟨0, false⟩
    = some (.qty 0 ⟨2, .int⟩ (some [.sub 2 "oz".toList]) [' '] [], ⟨4, false⟩) := by decide +kernel
/-- "of" wins over a unit: `2 of …` is a proportion -/
example : (proportion <|> explicitQuantity <|> implicitQuantity) "2 of flour".toList.toArray ⟨0, false⟩
    = some (.prop 0 (some ⟨2, .int⟩) false none " of".toList, ⟨4, false⟩) := by decide +kernel
example : explicitQuantity "{ 2 'big ones' } of the eggs".toList.toArray ⟨0, false⟩
    = some (.qty 0 ⟨2, .int⟩ (some [.sub 4 "big ones".toList]) [' '] " of the".toList, ⟨23, false⟩) := by
  decide +kernel

/-- "100g", followed by " flour", satisfies the hypotheses of the round-trip theorems -/
theorem amountOk_example :
    (AmountLit.implicit (.int "100".toList) (some ([], ⟨["g"], [[false]], []⟩, .none))).Ok " flour".toList := by
  refine ⟨⟨by decide, by decide⟩, ⟨by decide, ?_⟩, by simp [IsBlanks], ⟨by decide, by simp [UnitSpellingOk]⟩, trivial,
    (by decide +kernel : blanksWordAt "of".toList " flour".toList = false), ?_⟩
  · intro c hc
    have : c = 'g' := by
      simp [UnitLit.print, printUnit, caseWord, PrepLit.print] at hc
      simpa [isHsp] using hc.symm
    subst this; decide
  · intro c hc; cases hc; exact isReWord_of_isHsp (by decide)

example (pre : Str) (z : Bool) :
    (proportion <|> explicitQuantity <|> implicitQuantity) (pre ++ "100g".toList ++ " flour".toList).toArray ⟨pre.length, z⟩
      = some (.qty pre.length ⟨100, .int⟩ (some [.sub (pre.length + 3) ['g']]) [] [], ⟨(pre ++ "100g".toList).length, z⟩) := by
  have := amount_roundtrip pre _ _ z amountOk_example trivial
  simpa [AmountLit.print, AmountLit.value, NumLit.print, NumLit.value, UnitLit.print, printUnit, caseWord,
    PrepLit.print, digitsValue] using this

/-- "2 eggs" before a newline satisfies the hypotheses of `reference_roundtrip` -/
theorem refOk_example :
    (RefLit.mk (some (.implicit (.int ['2']) none, [' '])) ⟨.naked "eggs".toList, []⟩).Ok ['\n'] :=
  bareNumberRef_ok _ _ _ _ _ _ rfl rfl ⟨by decide, by decide⟩ (by decide)
    (forall_head_cons ⟨by decide, by decide, by decide, by decide⟩)
    (by decide +kernel) (by decide +kernel) (by decide)
    (nakedLit_ok_head _ (by decide +kernel) _ '\n' _ rfl (Or.inr (Or.inl (by decide))))

example (pre : Str) (z : Bool) :
    reference (pre ++ "2 eggs".toList ++ ['\n']).toArray ⟨pre.length, z⟩
      = some (.ref [.sub (pre.length + 2) "eggs".toList] (some (.qty pre.length ⟨2, .int⟩ none [] [])),
              ⟨(pre ++ "2 eggs".toList).length, z⟩) := by
  have := reference_roundtrip pre _ _ z refOk_example
  simpa [RefLit.print, RefLit.value, AmountLit.print, AmountLit.value, NumLit.print, NumLit.value,
    StringLit.print, StringLit.value, printString, printMore, stringValue, moreValue, StrAtom.print,
    StrAtom.value, digitsValue] using this

/-! ## The *flat* recipes: statements `outputs := reference, action, action …` whose reference is an optional amount
    and a name, and whose names, actions and outputs are arbitrary strings.  Steps `name(arg, …)` and parentheses
    follow in `Props/C06b.lean`. -/

/-- **ends of lines are recognised** -/
theorem eol_roundtrip (pre : Str) (e : EolLit) (rest : Str) (z : Bool) (h : e.WF) (hf : e.Follow rest) :
    eol (pre ++ e.print ++ rest).toArray ⟨pre.length, z⟩ = some ((), ⟨(pre ++ e.print).length, z⟩) :=
  (eol_reads e rest h hf).after_prefix pre z

theorem eof_roundtrip (pre : Str) (z : Bool) : eof pre.toArray ⟨pre.length, z⟩ = some ((), ⟨pre.length, z⟩) :=
  eof_of_nil z (by simp)

theorem eof_rejects (pre : Str) (c : Char) (rest : Str) (z : Bool) :
    eof (pre ++ c :: rest).toArray ⟨pre.length, z⟩ = none :=
  eof_fail_of_cons (c := c) (s := rest) z (by simp)

/-- **assignment signs are recognised** -/
theorem assign_roundtrip (pre : Str) (named : Bool) (rest : Str) (z : Bool) :
    assign (pre ++ printAssign named ++ rest).toArray ⟨pre.length, z⟩
      = some (named, ⟨(pre ++ printAssign named).length, z⟩) :=
  (assign_reads named rest).after_prefix pre z

theorem assign_rejects (pre rest : Str) (z : Bool) (h1 : rest.head? ≠ some '=')
    (h2 : ∀ r, rest = ':' :: r → r.head? ≠ some '=') : assign (pre ++ rest).toArray ⟨pre.length, z⟩ = none :=
  assign_fails h1 h2 _ _ z (by simp)

example : eol "a \t\n\n  b".toList.toArray ⟨1, false⟩ = some ((), ⟨7, false⟩) := by decide +kernel
example : eol "a \t".toList.toArray ⟨1, true⟩ = some ((), ⟨3, true⟩) := by decide +kernel
example : eol "a b".toList.toArray ⟨1, false⟩ = none := by decide +kernel
example : assign "x := y".toList.toArray ⟨2, false⟩ = some (true, ⟨4, false⟩) := by decide +kernel
example : assign "x : y".toList.toArray ⟨2, false⟩ = none := by decide +kernel
example : (EolLit.newline [' ', '\t'] '\n' ['\n', ' ', ' ']).WF ∧ (EolLit.newline [' ', '\t'] '\n' ['\n', ' ', ' ']).Follow ['b'] := by
  refine ⟨⟨by decide, by decide, by decide⟩, ?_⟩
  intro c hc; cases hc; decide

/-- **where no `(` stands in the rest of the text, an expression is a reference**: `expr` tries
    `step` first, and `step` starts by reading a `string` — which may tokenise the text quite
    differently from `reference` (see the example below) — but it needs a `(` to succeed -/
theorem expr_reference_roundtrip (pre rest : Str) (z : Bool) (fuel : Nat) (h : ∀ c ∈ rest, c ≠ '(') :
    expr (fuel + 1) (pre ++ rest).toArray ⟨pre.length, z⟩ = reference (pre ++ rest).toArray ⟨pre.length, z⟩ :=
  expr_eq_reference_of_text (by simp) h

/-- the hypothesis is needed: on `{2 '}'} flour, '(y)` the rule `reference` reads the quantity
    `{2 '}'}` of `flour` (13 characters), but `expr` reads a step whose name runs across the comma -/
example : (reference "{2 '}'} flour, '(y)".toList.toArray ⟨0, false⟩).map (·.2.pos) = some 13
    ∧ (expr 20 "{2 '}'} flour, '(y)".toList.toArray ⟨0, false⟩).map (·.2.pos) = some 19 := by
  constructor <;> decide +kernel

/-- the `, string` items of a list are what `(hsp? "," hsp? string)*` reads -/
theorem commas_reads {rest : Str} (hf : NoComma rest) : ∀ cs : List CommaLit, CommasOk rest cs →
    ReadsMany commaString rest (printCommas cs) fun i => commaValues i cs
  | [], _ => .nil (commaString_fails hf)
  | c :: cs, h =>
    .cons (by simp) (commaString_reads h.1 h.2.1 (stringAt_of_ok false c.s _ h.2.2.1))
      (commas_reads hf cs h.2.2.2)

theorem eol_split (e : EolLit) (rest : Str) (h : e.WF) (hf : e.Follow rest) :
    ∃ r, e.print ++ rest = e.blanks ++ r ∧ IsBlanks e.blanks ∧ ∀ c, r.head? = some c → isNewline c = true := by
  cases e with
  | newline bl nl ws =>
    exact ⟨nl :: ws ++ rest, by simp [EolLit.print, EolLit.blanks], h.1, fun c hc => by
      cases hc; exact h.2.1⟩
  | eof bl =>
    cases hf
    exact ⟨[], by simp [EolLit.print, EolLit.blanks], h, by simp⟩

theorem noAssign_of_eol (e : EolLit) (rest : Str) (h : e.WF) (hf : e.Follow rest) :
    NoAssign (e.print ++ rest) := by
  obtain ⟨r, e', hbl, hr⟩ := eol_split e rest h hf
  refine ⟨e.blanks, r, e', hbl, fun c hc => ?_, fun r' er => ?_⟩
  · have hn := hr c hc
    refine ⟨isHsp_of_isNewline hn, ?_, ?_⟩ <;> (rintro rfl; exact absurd hn (by decide))
  · subst er; exact absurd (hr ':' rfl) (by decide)

theorem noParen_after_name (cs : List CommaLit) (e : EolLit) (rest : Str) (hcs : CommasOk (e.print ++ rest) cs)
    (h : e.WF) (hf : e.Follow rest) :
    NoParen (printCommas cs ++ (e.print ++ rest)) := by
  cases cs with
  | nil =>
    obtain ⟨r, e', hbl, hr⟩ := eol_split e rest h hf
    refine ⟨e.blanks, r, by simpa [printCommas] using e', hbl, fun c hc => ?_⟩
    have hn := hr c hc
    exact ⟨isHsp_of_isNewline hn, by rintro rfl; exact absurd hn (by decide)⟩
  | cons c cs =>
    refine ⟨c.b1, ',' :: (c.b2 ++ c.s.print ++ (printCommas cs ++ (e.print ++ rest))),
      by simp [printCommas, CommaLit.print], hcs.1, fun x hx => ?_⟩
    cases hx
    exact ⟨by decide, by decide⟩

theorem StringLit.print_ne_nil {s : StringLit} {rest : Str} (h : s.Ok false rest) : s.print ≠ [] :=
  (stringAt_of_ok false s rest h).ne_nil

theorem RefLit.print_ne_nil {r : RefLit} {rest : Str} (h : r.Ok rest) : r.print ≠ [] := by
  obtain ⟨amt, name⟩ := r
  cases amt with
  | none => exact StringLit.print_ne_nil h.1
  | some abl =>
    obtain ⟨a, bl⟩ := abl
    have := StringLit.print_ne_nil h.2.2.2
    simp only [RefLit.print]
    intro e
    exact this (List.append_eq_nil_iff.mp e).2

theorem line_split (txt : Str) (cs : List CommaLit) (e : EolLit) (rest : Str) (hwf : e.WF) (hf : e.Follow rest) :
    ∃ tail, txt ++ (printCommas cs ++ (e.print ++ rest)) = (txt ++ (printCommas cs ++ e.blanks)) ++ tail
      ∧ ∀ c, tail.head? = some c → isNewline c = true := by
  obtain ⟨r, e', _, hr⟩ := eol_split e rest hwf hf
  exact ⟨r, by rw [e']; simp [List.append_assoc], hr⟩

theorem exprAt_of_ok (s : FlatStmt) (rest : Str) (h : s.Ok rest) :
    ExprAt 1 s.ref.print (printCommas s.actions ++ (s.eol.print ++ rest)) (fun i => s.ref.value i) := by
  obtain ⟨hrefok, hacts, hwf, hfollow, hline, _⟩ := h
  have href := referenceAt_of_ok s.ref _ hrefok
  cases ha : s.ref.amount with
  | none =>
    exact exprAt_reference_of_string href (RefLit.stringAt_of_plain hrefok ha) rfl
      (noParen_after_name s.actions s.eol rest hacts hwf hfollow)
  | some abl =>
    obtain ⟨tail, e, htail⟩ := line_split s.ref.print s.actions s.eol rest hwf hfollow
    exact exprAt_reference_of_line href e
      (fun c hc => ⟨(hline (by simp [ha]) c hc).1, (hline (by simp [ha]) c hc).2.1⟩) htail

/-- no target is found in front of a statement that begins with a reference: without an amount the name is read as an
    output and the actions as further outputs, but no assignment sign follows them; with an amount `string` reads
    something unrelated, and the line must contain neither `=` nor a backslash (`noTargetAt_of_line`) -/
theorem noTargetAt_of_ref {r : RefLit} {cs : List CommaLit} {e : EolLit} {rest : Str}
    (hr : r.Ok (printCommas cs ++ (e.print ++ rest))) (hcs : CommasOk (e.print ++ rest) cs) (hwf : e.WF)
    (hf : e.Follow rest)
    (hline : r.amount.isSome = true → ∀ c ∈ r.print ++ (printCommas cs ++ e.blanks), c ≠ '=' ∧ c ≠ '\\') :
    NoTargetAt (r.print ++ (printCommas cs ++ (e.print ++ rest))) := by
  cases ha : r.amount with
  | none =>
    have hnoassign := noAssign_of_eol e rest hwf hf
    exact noTargetAt_of_outputs (RefLit.stringAt_of_plain hr ha) (commas_reads hnoassign.noComma _ hcs) hnoassign
  | some abl =>
    obtain ⟨tail, e', htail⟩ := line_split r.print cs e rest hwf hf
    rw [e']
    exact noTargetAt_of_line (hline (by simp [ha])) htail

theorem noTargetAt_of_ok (s : FlatStmt) (rest : Str) (h : s.Ok rest) (ht : s.target = none) :
    NoTargetAt (s.ref.print ++ (printCommas s.actions ++ (s.eol.print ++ rest))) :=
  noTargetAt_of_ref h.1 h.2.1 h.2.2.1 h.2.2.2.1 fun ha c hc =>
    ⟨(h.2.2.2.2.1 ha c hc).2.2 (by simp [ht]), (h.2.2.2.2.1 ha c hc).2.1⟩

theorem stmt_of_ok (s : FlatStmt) (rest : Str) (h : s.Ok rest) : Reads stmt s.print rest fun i => s.value i := by
  have hexpr := exprAt_of_ok s rest h
  have hnot := noTargetAt_of_ok s rest h
  obtain ⟨hrefok, hacts, hwf, hfollow, _, htarget⟩ := h
  have hnoassign := noAssign_of_eol s.eol rest hwf hfollow
  have hltr := ltrAt_of hexpr (commas_reads hnoassign.noComma _ hacts)
  have heol := eol_reads s.eol rest hwf hfollow
  cases ht : s.target with
  | none =>
    have := stmt_reads hltr heol (by omega) (.optNone (by rw [List.append_assoc]; exact hnot ht))
    simpa [FlatStmt.print, FlatStmt.targetTxt, FlatStmt.value, ht] using this
  | some g =>
    rw [ht] at htarget
    obtain ⟨hout, hmore, hb1, hb2⟩ := htarget
    have htgt := targetP_reads (stringAt_of_ok false g.output _ hout)
      (commas_reads (noComma_assign hb1 g.named _) _ hmore) hb1 hb2 (.hsp_of_space hltr.head_not_space)
    have := stmt_reads hltr heol (by omega) htgt.opt
    simpa [FlatStmt.print, FlatStmt.targetTxt, FlatStmt.value, ht, Target.print] using this

theorem FlatStmt.print_ne_nil {s : FlatStmt} {rest : Str} (h : s.Ok rest) : s.print ≠ [] := by
  have hne := RefLit.print_ne_nil h.1
  intro e
  have := congrArg List.length e
  simp only [FlatStmt.print, List.length_append, List.length_nil] at this
  have : 0 < s.ref.print.length := List.length_pos_iff.mpr hne
  omega

theorem flat_reads : ∀ ss : List FlatStmt, FlatOk ss → ReadsMany stmt [] (printFlat ss) fun i => flatValues i ss
  | [], _ => .nil stmt_fails_nil
  | s :: ss, h => .cons_end (FlatStmt.print_ne_nil h.1) (stmt_of_ok s _ h.1) (flat_reads ss h.2)

/-- **flat statements are recovered verbatim** -/
theorem flatStmt_roundtrip (pre : Str) (s : FlatStmt) (rest : Str) (z : Bool) (h : s.Ok rest) :
    stmt (pre ++ s.print ++ rest).toArray ⟨pre.length, z⟩
      = some (s.value pre.length, ⟨(pre ++ s.print).length, z⟩) :=
  (stmt_of_ok s rest h).after_prefix pre z

/-- **`parse` recovers every flat recipe**: optional white space, then one or more admissible flat
    statements up to the end of the text -/
theorem flat_parse_roundtrip (ws0 : Str) (s : FlatStmt) (ss : List FlatStmt) (hws : IsSpaces ws0)
    (hok : FlatOk (s :: ss)) :
    parse (ws0 ++ printFlat (s :: ss)) = .ok (flatValues ws0.length (s :: ss)) :=
  parse_ok hws (stmt_of_ok s _ hok.1) (flat_reads ss hok.2)

def exStmt1 : FlatStmt :=
  { target := none, ref := ⟨none, ⟨.naked ['a'], []⟩⟩, actions := [⟨[], [' '], ⟨.naked ['b'], []⟩⟩],
    eol := .newline [] '\n' [] }

def exStmt2 : FlatStmt :=
  { target := some ⟨⟨.naked ['c'], []⟩, [], [' '], false, [' ']⟩, ref := ⟨none, ⟨.naked ['a'], []⟩⟩, actions := [],
    eol := .newline [] '\n' [] }

example : printFlat [exStmt1, exStmt2] = "a, b\nc = a\n".toList := by decide +kernel

theorem isNaked_a : IsNaked ['a'] := by decide +kernel
theorem endsString_newline : EndsString false '\n' := Or.inr (Or.inl (by decide))
theorem endsString_comma : EndsString false ',' := Or.inl (by decide)
theorem endsString_eq : EndsString false '=' := Or.inl (by decide)
theorem eolWF_newline : (EolLit.newline [] '\n' []).WF :=
  ⟨by decide, by decide, by decide⟩

theorem exStmt2_ok : exStmt2.Ok [] := by
  refine ⟨?_, trivial, eolWF_newline, ?_, (fun h => by cases h), ?_, trivial, by decide,
    by decide⟩
  · exact plainRef_ok _ _ _ 'a' _ rfl rfl (nakedLit_ok_head _ isNaked_a _ '\n' _ rfl endsString_newline)
      (by decide +kernel) (by decide) (by decide)
  · intro c hc; cases hc
  · exact nakedLit_ok _ (by decide +kernel) _ ⟨[' '], _, rfl, by decide, forall_head_cons endsString_eq⟩

theorem exStmt1_ok : exStmt1.Ok (printFlat [exStmt2]) := by
  refine ⟨?_, ⟨by decide, by decide, ?_, trivial⟩, eolWF_newline, ?_,
    (fun h => by cases h), trivial⟩
  · exact plainRef_ok _ _ _ 'a' _ rfl rfl (nakedLit_ok_head _ isNaked_a _ ',' _ rfl endsString_comma)
      (by decide +kernel) (by decide) (by decide)
  · exact nakedLit_ok_head _ (by decide +kernel) _ '\n' _ rfl endsString_newline
  · exact NextNot.cons (by decide)

/-- `a, b` / `c = a`: two statements, the second with an output -/
example : parse "a, b\nc = a\n".toList
    = .ok [{ expr := .step [.sub 3 ['b']] [.ref [.sub 0 ['a']] none], outputs := none, named := false },
           { expr := .ref [.sub 9 ['a']] none, outputs := some [[.sub 5 ['c']]], named := false }] :=
  flat_parse_roundtrip [] exStmt1 [exStmt2] (by decide) ⟨exStmt1_ok, exStmt2_ok, trivial⟩

/-! with amounts: `2 eggs, beaten` / `100g flour` / `batter = eggs, flour` -/

def exA1 : FlatStmt :=
  { target := none, ref := ⟨some (.implicit (.int ['2']) none, [' ']), ⟨.naked "eggs".toList, []⟩⟩,
    actions := [⟨[], [' '], ⟨.naked "beaten".toList, []⟩⟩], eol := .newline [] '\n' [] }

def exA2 : FlatStmt :=
  { target := none,
    ref := ⟨some (.implicit (.int "100".toList) (some ([], ⟨["g"], [[false]], []⟩, .none)), [' ']),
            ⟨.naked "flour".toList, []⟩⟩,
    actions := [], eol := .newline [] '\n' [] }

def exA3 : FlatStmt :=
  { target := some ⟨⟨.naked "batter".toList, []⟩, [], [' '], false, [' ']⟩,
    ref := ⟨none, ⟨.naked "eggs".toList, []⟩⟩,
    actions := [⟨[], [' '], ⟨.naked "flour".toList, []⟩⟩], eol := .newline [] '\n' [] }

theorem exA_print : printFlat [exA1, exA2, exA3]
    = "2 eggs, beaten\n100g flour\nbatter = eggs, flour\n".toList := by decide +kernel

theorem isNaked_eggs : IsNaked "eggs".toList := by decide +kernel
theorem isNaked_flour : IsNaked "flour".toList := by decide +kernel

theorem exA3_ok : exA3.Ok [] := by
  refine ⟨?_, ⟨by decide, by decide, ?_, trivial⟩, eolWF_newline, ?_,
    (fun h => by cases h), ?_, trivial, by decide, by decide⟩
  · exact plainRef_ok _ _ _ 'e' _ rfl rfl (nakedLit_ok_head _ isNaked_eggs _ ',' _ rfl endsString_comma)
      (by decide +kernel) (by decide) (by decide)
  · exact nakedLit_ok_head _ isNaked_flour _ '\n' _ rfl endsString_newline
  · intro c hc; cases hc
  · exact nakedLit_ok _ (by decide +kernel) _ ⟨[' '], _, rfl, by decide, forall_head_cons endsString_eq⟩

theorem exA2_ok : exA2.Ok (printFlat [exA3]) := by
  refine ⟨?_, trivial, eolWF_newline, ?_, by decide +kernel, trivial⟩
  · exact unitRef_ok _ _ _ _ _ _ _ _ _ rfl rfl rfl
      ⟨by decide, by decide⟩ (by decide) (forall_head_cons ⟨by decide, by decide⟩)
      (by simp [IsBlanks]) ⟨by decide, by simp [UnitSpellingOk]⟩ (by decide +kernel)
      (NextNot.cons (isReWord_of_isHsp (by decide)))
      (by decide)
      (nakedLit_ok_head _ isNaked_flour _ '\n' _ rfl endsString_newline)
  · exact NextNot.cons (by decide)

theorem exA1_ok : exA1.Ok (printFlat [exA2, exA3]) := by
  refine ⟨?_, ⟨by decide, by decide, ?_, trivial⟩, eolWF_newline, ?_,
    by decide +kernel, trivial⟩
  · exact bareNumberRef_ok _ _ _ _ _ _ rfl rfl ⟨by decide, by decide⟩ (by decide)
      (forall_head_cons ⟨by decide, by decide, by decide, by decide⟩)
      (by decide +kernel) (by decide +kernel) (by decide)
      (nakedLit_ok_head _ isNaked_eggs _ ',' _ rfl endsString_comma)
  · exact nakedLit_ok_head _ (by decide +kernel) _ '\n' _ rfl endsString_newline
  · exact NextNot.cons (by decide)

theorem exA_values : flatValues 0 [exA1, exA2, exA3]
    = [{ expr := .step [.sub 8 "beaten".toList]
                   [.ref [.sub 2 "eggs".toList] (some (.qty 0 ⟨((2 : Nat) : Rat), .int⟩ none [] []))],
         outputs := none, named := false },
       { expr := .ref [.sub 20 "flour".toList]
                   (some (.qty 15 ⟨((100 : Nat) : Rat), .int⟩ (some [.sub 18 ['g']]) [] [])),
         outputs := none, named := false },
       { expr := .step [.sub 41 "flour".toList] [.ref [.sub 35 "eggs".toList] none],
         outputs := some [[.sub 26 "batter".toList]], named := false }] := by
  rfl

/-- a recipe with amounts: the bare number `2`, and `100g` with a unit -/
example : parse "2 eggs, beaten\n100g flour\nbatter = eggs, flour\n".toList
    = .ok [{ expr := .step [.sub 8 "beaten".toList]
                       [.ref [.sub 2 "eggs".toList] (some (.qty 0 ⟨((2 : Nat) : Rat), .int⟩ none [] []))],
             outputs := none, named := false },
           { expr := .ref [.sub 20 "flour".toList]
                       (some (.qty 15 ⟨((100 : Nat) : Rat), .int⟩ (some [.sub 18 ['g']]) [] [])),
             outputs := none, named := false },
           { expr := .step [.sub 41 "flour".toList] [.ref [.sub 35 "eggs".toList] none],
             outputs := some [[.sub 26 "batter".toList]], named := false }] := by
  have key := flat_parse_roundtrip [] exA1 [exA2, exA3] (by decide)
    ⟨exA1_ok, exA2_ok, exA3_ok, trivial⟩
  rw [List.nil_append, exA_print, List.length_nil, exA_values] at key
  exact key

end RG.C06
