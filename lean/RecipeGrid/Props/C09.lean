import RecipeGrid.Lemmas.Html
/-! C09 — links land on the definition: the href of a reference is `#` + the id emitted where the same output name
    is defined (C09.1), ids of different independent recipes never coincide (C09.2), and the recorded finding that
    two different output names of one recipe can get the same id (C09.3), with the class of names on which ids are
    injective. Helper lemmas are in `Lemmas/Html.lean`. -/
namespace RG.C09

/-- the id prefix of the i-th independent recipe of a document (`markdown.py`): "recipe-" for the first,
    "recipe<i>-" after -/
def recipePrefix (i : Nat) : Str :=
  if i ≤ 1 then "recipe-".toList else "recipe".toList ++ natDigits i ++ ['-']

example : recipePrefix 1 = "recipe-".toList ∧ recipePrefix 2 = "recipe2-".toList ∧
    recipePrefix 12 = "recipe12-".toList := by decide +kernel

/-- after "recipe" the first prefix goes on with '-', the later ones with a digit -/
theorem first_ne_later (j : Nat) (hj : ¬ j ≤ 1) (s t : Str) : recipePrefix 1 ++ s ≠ recipePrefix j ++ t := by
  intro h
  simp only [recipePrefix, Nat.le_refl, hj, if_true, if_false] at h
  cases hn : natDigits j with
  | nil => exact natDigits_ne_nil j hn
  | cons a l =>
    have := natDigits_isDigit j a (hn ▸ List.mem_cons_self ..)
    rw [hn] at h
    simp at h
    rw [← h.1] at this; simp [dash_not_digit] at this

/-- C09.2 (strongest form): whatever follows the prefixes — no condition on the tails at all — equal ids mean the
    same recipe index; indices 0 and 1 share the prefix "recipe-" (the renderer never uses index 0) -/
theorem prefix_disjoint_any (i j : Nat) (s t : Str) (h : recipePrefix i ++ s = recipePrefix j ++ t) :
    i = j ∨ (i ≤ 1 ∧ j ≤ 1) := by
  have h1 : ∀ k, k ≤ 1 → recipePrefix k = recipePrefix 1 := fun k hk => by simp [recipePrefix, hk]
  by_cases hi : i ≤ 1 <;> by_cases hj : j ≤ 1
  · exact Or.inr ⟨hi, hj⟩
  · exact absurd (h1 i hi ▸ h) (first_ne_later j hj s t)
  · exact absurd (h1 j hj ▸ h.symm) (first_ne_later i hi t s)
  · left
    simp only [recipePrefix, hi, hj, if_false] at h
    have h' : natDigits i ++ '-' :: s = natDigits j ++ '-' :: t := by simpa using h
    exact natDigits_inj (digits_dash_inj (natDigits_isDigit i) (natDigits_isDigit j) h')

-- the proof uses none of `hi hj hs ht` (the option silences the linter about them): the statement without them is
-- `prefix_disjoint_any`
set_option linter.unusedVariables false in
/-- C09.2 ids of different independent recipes never coincide, whatever the output names: the prefix determines
    the recipe.  The hypotheses describe the renderer's ids (indices from 1; tails as in `C10.anchorId_charset`, which
    never start with '-' but may start with a digit); the conclusion does not depend on them. -/
theorem prefix_disjoint (i j : Nat) (hi : 1 ≤ i) (hj : 1 ≤ j) (s t : Str) (hs : s.head? ≠ some '-')
    (ht : t.head? ≠ some '-') (h : recipePrefix i ++ s = recipePrefix j ++ t) : i = j ∨ (i ≤ 1 ∧ j ≤ 1) :=
  prefix_disjoint_any i j s t h

/-- for the indices the renderer uses (from 1) the index is determined outright -/
theorem prefix_disjoint_pos (i j : Nat) (hi : 1 ≤ i) (hj : 1 ≤ j) (s t : Str)
    (h : recipePrefix i ++ s = recipePrefix j ++ t) : i = j := by
  rcases prefix_disjoint_any i j s t h with h | h
  · exact h
  · omega

example : recipePrefix 1 ++ "2-x".toList ≠ recipePrefix 12 ++ "x".toList := by decide +kernel
example : recipePrefix 2 ++ "x".toList ≠ recipePrefix 1 ++ "2-x".toList := by decide +kernel
example := prefix_disjoint 3 3 (by decide +kernel) (by decide +kernel) "x".toList "x".toList (by decide +kernel) (by decide +kernel) rfl

/-- C09.1 the href of a reference cell is "#" followed by the id emitted at the definition of the same output name
    with the same prefix -/
theorem href_hits_definition (pre : Str) (sub : Tree) (idx : Nat) (a : Amount) (name : SVS)
    (h : (subNames sub)[idx]? = some name) :
    ∃ body, renderCellBody pre (.reference sub idx a) = tagBody "a" [("href", '#' :: anchorId pre name)] body := by
  refine ⟨renderAmount a ++ renderSvs name, ?_⟩
  simp only [renderCellBody, h, Option.getD_some]

/-- a single-output root table carries exactly that id -/
theorem table_id (pre : Str) (body : Tree) (n : SVS) (sh : Bool) :
    renderRecipeTree pre (.sub body [n] sh) =
      renderTable pre (.sub body [n] sh) (layout (.sub body [n] sh)) (some (anchorId pre n)) := rfl

/-- the id really is an attribute of the `<table>` tag -/
theorem table_id_attr (pre : Str) (tree : Tree) (t : Tbl) (i : Str) :
    ∃ body, renderTable pre tree t (some i) = tagBody "table" [("class", S "rg-table"), ("id", i)] body :=
  ⟨_, rfl⟩

/-- non-vacuity: a reference to the output "sauce" and the table defining it -/
example : renderCellBody (S "recipe-") (.reference (.sub (.ingredient [] none) [[.text (S "sauce")]] false) 0 .whole)
    = S "<a href=\"#recipe-sauce\">sauce</a>" := by decide +kernel
example : renderRecipeTree (S "recipe-") (.sub (.ingredient [.text (S "x")] none) [[.text (S "sauce")]] false)
    = S ("<table class=\"rg-table\" id=\"recipe-sauce\"><tr><td class=\"rg-ingredient " ++
         "rg-border-left-sub-recipe rg-border-right-sub-recipe rg-border-top-sub-recipe " ++
         "rg-border-bottom-sub-recipe\">x</td></tr></table>") := by
  rw [renderRecipeTree_fast, S_append, S_append]
  S_chars
  decide +kernel

/-- C09.3 witness of the recorded finding: two different output names with the same id -/
theorem anchorId_collision :
    anchorId "recipe-".toList [.text "a b".toList] = anchorId "recipe-".toList [.text "a-b".toList] ∧
    ("a b".toList ≠ "a-b".toList) := by decide +kernel

/-- C09.3 ids are injective on names made only of id characters without leading/trailing '-' -/
theorem anchorId_injective_on (pre : Str) (s t : Str) (hs : ∀ c ∈ s, isIdChar c) (ht : ∀ c ∈ t, isIdChar c)
    (hs' : s.head? ≠ some '-' ∧ s.getLast? ≠ some '-') (ht' : t.head? ≠ some '-' ∧ t.getLast? ≠ some '-')
    (h : anchorId pre [.text s] = anchorId pre [.text t]) : s = t := by
  rw [anchorId_eq, anchorId_eq, anchorTail_text_of_clean s hs hs'.1 hs'.2,
    anchorTail_text_of_clean t ht ht'.1 ht'.2] at h
  exact List.append_cancel_left h

example := anchorId_injective_on [] "a.b".toList "a.b".toList (by decide +kernel) (by decide +kernel) (by decide +kernel) (by decide +kernel) rfl

end RG.C09
