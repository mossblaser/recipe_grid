import RecipeGrid.Props.C10b
/-! C04 (continued) / C10 — the body of a table cell (ingredient with optional quantity, step, reference with any
    amount, sub-recipe header) keeps user text inert: read by the HTML tokenizer of `Props/C10b.lean`, its visible
    text is amount ⧺ description resp. the output names (C04.5), and its element structure does not depend on the
    texts (C10.4). -/
namespace RG.C04
open RG.C10

def refName (sub : Tree) (idx : Nat) : SVS := (subNames sub)[idx]?.getD []

/-- what a cell shows, as plain text: the quantity and the description; the amount and the referenced name;
    the description of a step; the output name, or the output names each on an indented line of its own -/
def plainCell : Tree → Str
  | .ingredient d q => (match q with | some q => plainQuantity q ++ [' '] | none => []) ++ plainSvs d
  | .reference sub idx amount => plainAmount amount ++ plainSvs (refName sub idx)
  | .step d _ => plainSvs d
  | .sub _ names _ =>
    if names.length = 1 then plainSvs (names.headD [])
    else if names.length = 0 then []
    else names.flatMap (fun n => S "\n  " ++ plainSvs n) ++ ['\n']

/-- no text part of the scaled-value string has a line break (in the sense of `str.splitlines`) -/
def NoBreakSvs (s : SVS) : Prop := ∀ t, Part.text t ∈ s → NoBreak t

/-- the cell body is written without re-indentation inside user text: quantities have no conversions list and
    one-line spacing and unit; what goes inside the `<a>` of a reference has no newline; the output names listed in
    a header, and the id prefix, have no line breaks -/
def CellOK (pre : Str) : Tree → Prop
  | .ingredient _ q => ∀ q', q = some q' → OneLineQ q'
  | .reference sub idx amount => OneLineA amount ∧ ∀ t, Part.text t ∈ refName sub idx → '\n' ∉ t
  | .step _ _ => True
  | .sub _ names _ => names.length = 1 ∨ (NoBreak pre ∧ ∀ n ∈ names, NoBreakSvs n)

def SameList : List SVS → List SVS → Prop
  | [], [] => True
  | a :: as, b :: bs => SameShape a b ∧ SameList as bs
  | _, _ => False

/-- two cells of the same kind differing only in their (non-empty) texts -/
def SameCell : Tree → Tree → Prop
  | .ingredient d₁ q₁, .ingredient d₂ q₂ =>
    SameShape d₁ d₂ ∧ (match q₁, q₂ with | none, none => True | some a, some b => SameQ a b | _, _ => False)
  | .step d₁ _, .step d₂ _ => SameShape d₁ d₂
  | .reference s₁ i₁ a₁, .reference s₂ i₂ a₂ => SameA a₁ a₂ ∧ SameShape (refName s₁ i₁) (refName s₂ i₂)
  | .sub _ ns₁ _, .sub _ ns₂ _ => SameList ns₁ ns₂
  | _, _ => False

/-- the scaled-value string ends in a number or in a character that is not white space -/
def SvsEndsSolid (s : SVS) : Prop :=
  match s.getLast? with
  | some (.text t) => EndsSolid t
  | some (.num _) => True
  | none => False

/-- what a cell shows, with the alternative forms of its quantity -/
def plainCellFull : Tree → Str
  | .ingredient d q => (match q with | some q => plainQuantityFull q ++ [' '] | none => []) ++ plainSvs d
  | .reference sub idx (.quantity q) => plainQuantityFull q ++ [' '] ++ plainSvs (refName sub idx)
  | t => plainCell t

/-- as `CellOK`, but quantities may have alternative forms: then spacing, unit, and (in a reference, where
    the `<a>` body is re-indented) preposition and name have no line break, and the name does not end in white
    space (which the re-indentation would strip), and the id prefix has no line break -/
def CellOKFull (pre : Str) : Tree → Prop
  | .ingredient _ q => ∀ q', q = some q' → QOK q'
  | .reference sub idx (.quantity q) =>
    QOK q ∧ NoBreak q.prep ∧ NoBreakSvs (refName sub idx) ∧
      (conversions q ≠ [] → SvsEndsSolid (refName sub idx) ∧ NoBreak pre)
  | t => CellOK pre t


theorem nl_not_mem_renderSvs {s : SVS} (h : ∀ t, Part.text t ∈ s → '\n' ∉ t) : '\n' ∉ renderSvs s := by
  intro hm
  obtain ⟨p, hp, hm⟩ := List.mem_flatMap.1 hm
  cases p with
  | text t => exact nl_not_mem_htmlEscape (h t hp) hm
  | num n =>
    exact nl_not_mem_tagBody "span" [("class", S "rg-scaled-value")] _ isName_span (by simp [isName_class])
      (nl_not_mem_renderNumber n) hm

theorem nl_not_mem_reference {pre : Str} {sub : Tree} {idx : Nat} {a : Amount} (h : CellOK pre (.reference sub idx a)) :
    '\n' ∉ renderAmount a ++ renderSvs (refName sub idx) :=
  List.not_mem_append (nl_not_mem_renderAmount a h.1) (nl_not_mem_renderSvs h.2)

/-- the tokens of one output name in the list of a header (a device of the proofs, like `cellToks`, `liLine`,
    `cellLines`: not computable because the tokens of a number, `numToks`, are chosen, not computed) -/
noncomputable def liToks (pre : Str) (n : SVS) : List Token :=
  .open (S "li") [(S "id", anchorId pre n)] :: svsToks n ++ [.close (S "li")]

noncomputable def cellToks (pre : Str) : Tree → List Token
  | .ingredient d q => (match q with | some q => qToks q ++ [.text [' ']] | none => []) ++ svsToks d
  | .reference sub idx amount =>
    .open (S "a") [(S "href", '#' :: anchorId pre (refName sub idx))] ::
      (aToks amount ++ svsToks (refName sub idx)) ++ [.close (S "a")]
  | .step d _ => svsToks d
  | .sub _ names _ =>
    if names.length = 1 then svsToks (names.headD [])
    else if names.length = 0 then
      [.open (S "ul") [(S "class", S "rg-sub-recipe-output-list")], .close (S "ul")]
    else
      .open (S "ul") [(S "class", S "rg-sub-recipe-output-list")] ::
        names.flatMap (fun n => .text ['\n'] :: .text (S "  ") :: liToks pre n) ++ [.text ['\n'], .close (S "ul")]

noncomputable def liLine (pre : Str) (n : SVS) : Line :=
  (tagBody "li" [("id", anchorId pre n)] (renderSvs n), liToks pre n)

theorem liLine_valid (pre : Str) (n : SVS) (hp : NoBreak pre) (hn : NoBreakSvs n) : (liLine pre n).Valid := by
  have hb := noBreak_renderSvs hn
  refine ⟨Frag.tagBody "li" [("id", _)] isName_li (by simp [isName_id]) (svsToks_frag n) hb.nl, ?_, ?_⟩
  · exact noBreak_tagBody "li" _ _ isName_li (by simpa using ⟨isName_id, anchorId_noBreak pre n hp⟩) hb
  · show EndsSolid (tagBody "li" [("id", anchorId pre n)] (renderSvs n))
    rw [tagBody_eq _ _ _ hb.nl]
    exact (endsSolid_closeTag "li").prepend _

theorem outputListAttrs_ok : ∀ x ∈ [("class", S "rg-sub-recipe-output-list")], IsName x.1 ∧ NoBreak x.2 := by
  rw [S_lit rfl]; decide +kernel

/-- the body of a cell as lines of the page: an output list of two or more names goes over several lines, every other
    body is one line -/
noncomputable def cellLines (pre : Str) (n : Tree) : List Line :=
  match n with
  | .sub _ names _ =>
    if 2 ≤ names.length then wrapLines "ul" [("class", S "rg-sub-recipe-output-list")] (names.map (liLine pre))
    else [(renderCellBody pre n, cellToks pre n)]
  | _ => [(renderCellBody pre n, cellToks pre n)]

theorem linesToks_cellLines (pre : Str) (n : Tree) : linesToks (cellLines pre n) = cellToks pre n := by
  cases n with
  | sub b names sh =>
    simp only [cellLines]
    split
    · rename_i h2
      have h1 : names.length ≠ 1 := by omega
      have h0 : names.length ≠ 0 := by omega
      rw [linesToks_wrapLines, List.flatMap_map]
      simp [cellToks, h1, h0, liLine, readAttrs]
    · rfl
  | _ => rfl

theorem outputList_lines (pre : Str) (b : Tree) (names : List SVS) (sh : Bool) (h2 : 2 ≤ names.length)
    (hp : NoBreak pre) (hn : ∀ n ∈ names, NoBreakSvs n) :
    renderCellBody pre (.sub b names sh) = linesStr (cellLines pre (.sub b names sh)) ∧
      ∀ l ∈ cellLines pre (.sub b names sh), l.Valid := by
  have hv : ∀ l ∈ names.map (liLine pre), l.Valid := fun l hl => by
    obtain ⟨n, hn', rfl⟩ := List.mem_map.1 hl
    exact liLine_valid pre n hp (hn n hn')
  have e : renderCellBody pre (.sub b names sh) =
      tagBody "ul" [("class", S "rg-sub-recipe-output-list")] (linesStr (names.map (liLine pre))) := by
    simp only [renderCellBody, show names.length ≠ 1 by omega, if_false, linesStr, List.map_map, Function.comp_def, liLine]
  simp only [cellLines, if_pos h2]
  exact ⟨by rw [e, tagBody_lines _ _ _ (by rw [List.length_map]; exact h2) hv],
    wrapLines_valid "ul" _ _ isName_ul outputListAttrs_ok hv⟩

theorem cellToks_frag (pre : Str) (t : Tree) (h : CellOK pre t) : Frag (renderCellBody pre t) (cellToks pre t) := by
  cases t with
  | ingredient d q =>
    cases q with
    | none => simpa [renderCellBody, cellToks] using svsToks_frag d
    | some q =>
      have hq := h q rfl
      exact ((qToks_frag q hq).append (Frag.raw raw_sp)).append (svsToks_frag d)
  | step d inputs => exact svsToks_frag d
  | reference sub idx amount =>
    exact Frag.tagBody "a" [("href", _)] isName_a (by simp [isName_href])
      ((aToks_frag amount h.1).append (svsToks_frag _)) (nl_not_mem_reference h)
  | sub body names showNames =>
    by_cases h2 : 2 ≤ names.length
    · obtain ⟨hp, hn⟩ := h.resolve_left (by omega)
      obtain ⟨e, hv⟩ := outputList_lines pre body names showNames h2 hp hn
      rw [e, ← linesToks_cellLines]
      exact linesFrag _ hv
    · simp only [renderCellBody, cellToks]
      by_cases h1 : names.length = 1
      · simp only [h1, if_true]; exact svsToks_frag _
      · have : names = [] := List.eq_nil_of_length_eq_zero (by omega)
        subst this
        have := Frag.tagBody "ul" [("class", S "rg-sub-recipe-output-list")] isName_ul (by simp [isName_class])
          Frag.nil (by simp)
        simpa [joinNl, readAttrs] using this

theorem cellToks_text (pre : Str) (t : Tree) : textOf (cellToks pre t) = plainCell t := by
  cases t with
  | ingredient d q => cases q <;> simp [cellToks, plainCell, qToks_text]
  | step d inputs => simp [cellToks, plainCell]
  | reference sub idx amount => simp [cellToks, plainCell, aToks_text]
  | sub body names showNames =>
    simp only [cellToks, plainCell]
    split
    · simp
    · split
      · simp
      · have : ∀ ns : List SVS, textOf (ns.flatMap fun n => .text ['\n'] :: .text (S "  ") :: liToks pre n) =
            ns.flatMap (fun n => S "\n  " ++ plainSvs n) := by
          intro ns
          have e : S "\n  " = '\n' :: S "  " := by decide +kernel
          induction ns with
          | nil => rfl
          | cons n ns ih => simp only [List.flatMap_cons, textOf_append, ih]; simp [liToks, e]
        simp [this]

theorem sameList_shape (pre₁ pre₂ : Str) {ns₁ ns₂ : List SVS} (h : SameList ns₁ ns₂) :
    shape (ns₁.flatMap fun n => .text ['\n'] :: .text (S "  ") :: liToks pre₁ n) =
      shape (ns₂.flatMap fun n => .text ['\n'] :: .text (S "  ") :: liToks pre₂ n) := by
  fun_induction SameList ns₁ ns₂ with
  | case1 => rfl
  | case2 a as b bs ih =>
    simp only [List.flatMap_cons, shape_append, ih h.2]
    simp [liToks, svsToks_shape h.1, blankIds, S]
  | case3 => exact h.elim

theorem sameList_length {ns₁ ns₂ : List SVS} (h : SameList ns₁ ns₂) : ns₁.length = ns₂.length := by
  fun_induction SameList ns₁ ns₂ with
  | case1 => rfl
  | case2 a as b bs ih => simp [ih h.2]
  | case3 => exact h.elim

theorem cellToks_shape (pre₁ pre₂ : Str) {t₁ t₂ : Tree} (h : SameCell t₁ t₂) :
    shape (cellToks pre₁ t₁) = shape (cellToks pre₂ t₂) := by
  -- cells of different kinds are not `SameCell`: `h` is `False` there; one case per kind remains
  cases t₁ <;> cases t₂ <;> simp only [SameCell] at h
  case ingredient.ingredient d₁ q₁ d₂ q₂ =>
    obtain ⟨hd, hq⟩ := h
    cases q₁ <;> cases q₂ <;> simp only at hq
    · simp [cellToks, svsToks_shape hd]
    · simp [cellToks, svsToks_shape hd, qToks_shape hq]
  case step.step => simp [cellToks, svsToks_shape h]
  case reference.reference => simp [cellToks, svsToks_shape h.2, aToks_shape h.1, blankIds, S]
  case sub.sub b₁ ns₁ s₁ b₂ ns₂ s₂ =>
    have hl := sameList_length h
    simp only [cellToks, hl]
    split
    · rename_i h1
      obtain ⟨a, rfl⟩ := List.length_eq_one_iff.1 (hl ▸ h1)
      obtain ⟨b, rfl⟩ := List.length_eq_one_iff.1 h1
      exact svsToks_shape h.1
    · split
      · rfl
      · simp [sameList_shape pre₁ pre₂ h]

/-- C04.5 the visible text of a cell body is the amount followed by the description, resp. the output name(s) -/
theorem renderCellBody_text (pre : Str) (t : Tree) (h : CellOK pre t) :
    textOf (tokens (renderCellBody pre t)) = plainCell t :=
  (cellToks_frag pre t h).text.trans (cellToks_text pre t)

/-- C10.4 the element structure of a cell body (tags, classes; id and href values aside) does not depend on the
    texts, nor on the id prefix -/
theorem renderCellBody_skeleton (pre₁ pre₂ : Str) (t₁ t₂ : Tree) (h₁ : CellOK pre₁ t₁) (h₂ : CellOK pre₂ t₂)
    (h : SameCell t₁ t₂) :
    skeleton (tokens (renderCellBody pre₁ t₁)) = skeleton (tokens (renderCellBody pre₂ t₂)) :=
  (cellToks_frag pre₁ t₁ h₁).skeleton (cellToks_frag pre₂ t₂ h₂) (cellToks_shape pre₁ pre₂ h)

theorem EndsSolid.of_getLast? {l : Str} {c : Char} (h : l.getLast? = some c) (hc : isStripSpace c = false) :
    EndsSolid l :=
  (List.getLast?_eq_some_iff.1 h).elim fun b e => ⟨b, c, e, hc⟩

theorem endsSolid_escape {t : Str} (h : EndsSolid t) : EndsSolid (htmlEscape t) := by
  obtain ⟨b, c, rfl, hc⟩ := h
  have e : htmlEscape (b ++ [c]) = htmlEscape b ++ escapeChar c := by simp [htmlEscape]
  rw [e]
  -- every reference ends in `;`
  exact (escapeChar_cases (P := fun c s => isStripSpace c = false → EndsSolid s)
    (fun x hx _ => EndsSolid.of_getLast? ((by decide +kernel : ∀ x ∈ escapeTable, x.2.getLast? = some ';') x hx) (by decide +kernel))
    (fun c _ _ _ _ _ hc => ⟨[], c, rfl, hc⟩) c hc).prepend _

theorem endsSolid_renderSvs {s : SVS} (h : SvsEndsSolid s) : EndsSolid (renderSvs s) := by
  unfold SvsEndsSolid at h
  obtain ⟨init, p, rfl⟩ : ∃ init p, s = init ++ [p] := by
    cases hs : s.getLast? with
    | none => rw [hs] at h; exact h.elim
    | some p =>
      have hne : s ≠ [] := by rintro rfl; simp at hs
      exact ⟨s.dropLast, s.getLast hne, (List.dropLast_concat_getLast hne).symm⟩
  rw [renderSvs_append]
  apply EndsSolid.prepend
  simp only [List.getLast?_append, List.getLast?_singleton, Option.some_or] at h
  cases p with
  | text t => simpa [renderSvs] using endsSolid_escape h
  | num n =>
    simp only [renderSvs, List.flatMap_cons, List.flatMap_nil, List.append_nil]
    rw [tagBody_eq _ _ _ (nl_not_mem_renderNumber n)]
    exact (endsSolid_closeTag "span").prepend _

/-- C04.5 for every cell body, quantities with alternative forms included: up to white space the visible text is
    the amount (with the alternative forms the renderer lists) followed by the description resp. the name -/
theorem renderCellBody_text_full (pre : Str) (t : Tree) (h : CellOKFull pre t) :
    collapseWs (textOf (tokens (renderCellBody pre t))) = collapseWs (plainCellFull t) := by
  cases t with
  | step d inputs => exact congrArg collapseWs (renderCellBody_text pre _ h)
  | sub body names showNames => exact congrArg collapseWs (renderCellBody_text pre _ h)
  | ingredient d q =>
    cases q with
    | none => exact congrArg collapseWs (renderCellBody_text pre _ (by intro q' hq'; cases hq'))
    | some q =>
      obtain ⟨ts, hf, hw⟩ := quantity_frag_words q (h q rfl)
      have hfrag : Frag (renderCellBody pre (.ingredient d (some q))) (ts ++ [.text [' ']] ++ svsToks d) :=
        (hf.append (Frag.raw raw_sp)).append (svsToks_frag d)
      unfold collapseWs
      rw [hfrag.text]
      simp only [textOf_append, textOf_cons_text, svsToks_text, plainCellFull,
        List.append_assoc, List.singleton_append]
      rw [wsWords_append_ws _ _ _ isAsciiWs_sp, wsWords_append_ws _ _ _ isAsciiWs_sp, hw]
  | reference sub idx amount =>
    cases amount with
    | proportion v p w s => exact congrArg collapseWs (renderCellBody_text pre _ h)
    | quantity q =>
      obtain ⟨hq, hp, hn, hsolid⟩ := h
      by_cases hc : conversions q = []
      · have := renderCellBody_text pre (.reference sub idx (.quantity q))
          ⟨⟨hq.oneLine hc, hp.nl⟩, fun t ht => (hn t ht).nl⟩
        rw [this]
        simp only [plainCell, plainCellFull, plainAmount, plainQuantityFull_of_nil hc]
      · -- several lines inside the `<a>`: its body is the lines of the quantity (`qLines q u`) with preposition, space
        -- and name written after the last one (`postLast tail`); `tagBody` re-indents these lines, which changes
        -- white space only, and `collapseWs` (through `lineWords`) does not see that
        obtain ⟨u, hu⟩ := exists_unit_of_conversions hc
        obtain ⟨hs, hub⟩ := hq u hu
        let name := refName sub idx
        let tail : Str := htmlEscape q.prep ++ [' '] ++ renderSvs name
        let tailToks : List Token := [.text q.prep] ++ [.text [' ']] ++ svsToks name
        have htail : Frag tail tailToks := ((Frag.escape _).append (Frag.raw raw_sp)).append (svsToks_frag name)
        have htnb : NoBreak tail :=
          ((noBreak_htmlEscape hp).append (by decide +kernel)).append (noBreak_renderSvs hn)
        have htsolid : EndsSolid tail := (endsSolid_renderSvs (hsolid hc).1).prepend _
        have hvalid := postLast_valid tail tailToks (qLines q u) htail htnb htsolid (qLines_valid q u hs hub)
        have hne : qLines q u ≠ [] := tagLines_ne_nil _ _ _
        have hbody : renderAmount (.quantity q) ++ renderSvs name = linesStr (postLast tail tailToks (qLines q u)) := by
          rw [linesStr_postLast _ _ _ hne]
          simp [renderAmount, renderQuantity_lines q u hu hc hs hub, tail]
        have hstr : renderCellBody pre (.reference sub idx (.quantity q)) =
            linesStr (tagLines "a" [("href", '#' :: anchorId pre name)] (postLast tail tailToks (qLines q u))) := by
          rw [← tagLines_str _ _ _ hvalid, ← hbody]; rfl
        have hfrag := linesFrag _ (tagLines_valid "a" [("href", '#' :: anchorId pre name)] _ isName_a
          (by simpa using ⟨isName_href, NoBreak.cons (by decide +kernel) (anchorId_noBreak pre name (hsolid hc).2)⟩)
          hvalid)
        unfold collapseWs
        rw [hstr, hfrag.text, wsWords_linesToks, lineWords_tagLines, ← wsWords_linesToks,
          textOf_linesToks_postLast _ _ _ hne]
        have := qLines_words q u hu hc
        simp only [tailToks, textOf_cons_text, svsToks_text,
          plainCellFull, List.append_assoc, List.singleton_append] at this ⊢
        rw [← List.append_assoc, wsWords_append_ws _ _ _ isAsciiWs_sp, this, wsWords_append_ws _ _ _ isAsciiWs_sp]

/-- a reference to an output with a nasty name, half of it: the name is text inside the `<a>`, the href is an id -/
example : tokens (renderCellBody (S "r1-") (.reference (.sub (.step [] []) [[.text (S "<b>&amp;\"'")]] true) 0
      (.proportion (some ⟨mkRat 1 2, .frac⟩) false none (S " *<i>")))) =
    [.open (S "a") [(S "href", S "#r1-b--amp")], .open (S "span") [(S "class", S "rg-proportion")],
      .open (S "sup") [], .text (S "1"), .close (S "sup"), .text (S "⁄"), .open (S "sub") [], .text (S "2"),
      .close (S "sub"), .text (S " ×<i>"), .close (S "span"), .text (S " <b>&amp;\"'"), .close (S "a")] := by
  decide +kernel
/-- a header with two outputs: its text and its element structure, read off one tokenization -/
theorem header_text_skeleton :
    (textOf (tokens (renderCellBody (S "r1-") (.sub (.step [] []) [[.text (S "<b>&amp;\"'")], [.text (S "x")]] true))) =
    S "\n  <b>&amp;\"'\n  x\n") ∧
    (skeleton (tokens (renderCellBody (S "r1-") (.sub (.step [] []) [[.text (S "<b>&amp;\"'")], [.text (S "x")]] true))) =
    [.open (S "ul") [(S "class", S "rg-sub-recipe-output-list")], .text [], .open (S "li") [(S "id", [])], .text [],
      .close (S "li"), .text [], .open (S "li") [(S "id", [])], .text [], .close (S "li"), .text [], .close (S "ul")]) := by
  decide +kernel

example : textOf (tokens (renderCellBody (S "r1-") (.sub (.step [] []) [[.text (S "<b>&amp;\"'")], [.text (S "x")]] true))) =
    S "\n  <b>&amp;\"'\n  x\n" := header_text_skeleton.1
example : skeleton (tokens (renderCellBody (S "r1-") (.sub (.step [] []) [[.text (S "<b>&amp;\"'")], [.text (S "x")]] true))) =
    [.open (S "ul") [(S "class", S "rg-sub-recipe-output-list")], .text [], .open (S "li") [(S "id", [])], .text [],
      .close (S "li"), .text [], .open (S "li") [(S "id", [])], .text [], .close (S "li"), .text [], .close (S "ul")] :=
  header_text_skeleton.2

/-- the hypotheses of `renderCellBody_text_full` are needed: a referenced name with a newline makes the `<a>` body
    multi-line, and `tagBody` strips the white space at its end, the no-break space included (the name in the witness
    ends in U+00A0, not in a space) -/
theorem renderCellBody_text_newline_witness :
    ∃ pre t, collapseWs (textOf (tokens (renderCellBody pre t))) ≠ collapseWs (plainCellFull t) :=
  ⟨[], .reference (.sub (.step [] []) [[.text (S "x\ny ")]] true) 0 Amount.whole, by decide +kernel⟩

/-- the hypotheses of `renderCellBody_skeleton` are needed: a newline in a referenced name changes the layout of
    the `<a>` body, so that white-space text appears between the tags -/
theorem renderCellBody_skeleton_newline_witness :
    ∃ pre t₁ t₂, SameCell t₁ t₂ ∧
      skeleton (tokens (renderCellBody pre t₁)) ≠ skeleton (tokens (renderCellBody pre t₂)) :=
  ⟨[], .reference (.sub (.step [] []) [[.text (S "x")]] true) 0 (.proportion (some ⟨mkRat 1 2, .frac⟩) false none []),
    .reference (.sub (.step [] []) [[.text (S "x\ny")]] true) 0 (.proportion (some ⟨mkRat 1 2, .frac⟩) false none []),
    by simp [SameCell, SameA, SameProp, SameEmpty, SameShape, refName, subNames, S], by decide +kernel⟩

end RG.C04
