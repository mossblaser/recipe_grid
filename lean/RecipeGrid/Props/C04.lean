import RecipeGrid.Props.C02
import RecipeGrid.Lemmas.Html
/-! C04 — the HTML table realises the abstract table: fed to the HTML table-forming algorithm, the emitted rows put
    every cell back at its own position with its own extent (C04.1, C04.3), no row is empty (C04.2), and the classes
    and span attributes of a cell are as specified (C04.4). The table-forming algorithm (`place`) and the helper
    lemmas are in `Lemmas/Html.lean`. -/
namespace RG.C04

example : place [[(2, 1), (1, 1)], [(1, 1)]] = [(0, 0, 2, 1), (0, 1, 1, 1), (1, 1, 1, 1)] := by decide
example : place [[(1, 1), (3, 1)], [(1, 1)], [(1, 1)]] = [(0, 0, 1, 1), (0, 1, 3, 1), (1, 0, 1, 1), (2, 0, 1, 1)] := by
  decide
/-- a cell hanging down in the middle of a row is skipped over -/
example : place [[(1, 1), (2, 1), (1, 1)], [(1, 1), (1, 1)]] =
    [(0, 0, 1, 1), (0, 1, 2, 1), (0, 2, 1, 1), (1, 0, 1, 1), (1, 2, 1, 1)] := by decide
/-- rows that do not tile: HTML leaves holes / lets rows stick out, it never overlaps on its own -/
example : place [[(1, 2)], [(1, 1), (1, 1), (1, 1)]] = [(0, 0, 1, 2), (1, 0, 1, 1), (1, 1, 1, 1), (1, 2, 1, 1)] := by
  decide

private theorem occupied_eq : @occupied = @Place.occupied := rfl
private theorem width_eq : @width = @Place.width := rfl

private theorem rasterTiled {T : Tbl} (h : C02.Tiles T) : Place.RasterTiled (rasterSort T.cells) T.h T.w :=
  ⟨rasterSort_sorted _, fun x hx => h.ok x ((rasterSort_perm _).mem_iff.1 hx),
   fun r c hr hc => ((rasterSort_perm T.cells).countP_eq _).trans (h.one r c hr hc)⟩

theorem flatten_emitRows {T : Tbl} (h : C02.Tiles T) : (emitRows T).flatten = rasterSort T.cells :=
  Place.flatten_rows_eq (rasterTiled h)

/-- the class for one side of a cell: none for a normal border -/
def borderClass (side : String) (b : Border) : Option String :=
  if b = .normal then none else some ("rg-border-" ++ side ++ "-" ++ b.cls)

/-- C04.4 classes: the kind class first, then one class per non-normal border in the order left, right, top, bottom -/
theorem cell_classes (c : PCell) :
    cellClasses c = c.kind.cls ::
      [borderClass "left" c.bl, borderClass "right" c.br, borderClass "top" c.bt, borderClass "bottom" c.bb].filterMap id :=
  rfl

example : cellClasses { row := 0, col := 0, rows := 1, cols := 1, path := [], kind := .step, bl := .subRecipe, bb := .none }
    = ["rg-step", "rg-border-left-sub-recipe", "rg-border-bottom-none"] := by decide

/-- C04.4 span attributes are emitted iff the span differs from 1, colspan before rowspan, after class -/
theorem cell_attrs_spans (c : PCell) :
    (cellAttrs c).map (·.1) = ["class"] ++ (if c.cols ≠ 1 then ["colspan"] else []) ++ (if c.rows ≠ 1 then ["rowspan"] else []) ∧
    (c.cols ≠ 1 → ("colspan", natDigits c.cols) ∈ cellAttrs c) ∧ (c.rows ≠ 1 → ("rowspan", natDigits c.rows) ∈ cellAttrs c) := by
  by_cases h1 : c.cols = 1 <;> by_cases h2 : c.rows = 1 <;> simp [cellAttrs, h1, h2]

/-- and the class attribute is the classes joined by single spaces -/
theorem cell_attrs_class (c : PCell) : (cellAttrs c).head? = some ("class", S (" ".intercalate (cellClasses c))) := rfl

example : cellAttrs { row := 0, col := 0, rows := 3, cols := 12, path := [], kind := .step }
    = [("class", S "rg-step"), ("colspan", S "12"), ("rowspan", S "3")] := by decide +kernel

/-- every row of every layout starts at least one cell (well-formedness is not even needed) -/
theorem rows_nonempty_any (t : Tree) : ∀ r ∈ emitRows (layout t), r ≠ [] := by
  intro row hrow
  obtain ⟨k, hk, rfl⟩ := List.mem_map.1 hrow
  obtain ⟨x, hx, hxr⟩ := layoutAt_rowStarts t [] true k (List.mem_range.1 hk)
  have : x ∈ (rasterSort (layout t).cells).filter (·.row == k) :=
    List.mem_filter.2 ⟨(rasterSort_perm _).mem_iff.2 hx, by simpa using hxr⟩
  exact List.ne_nil_of_mem this

set_option linter.unusedVariables false in
/-- C04.2 every row of the layout of a well-formed tree starts at least one cell (so no empty <tr>) -/
theorem rows_nonempty (t : Tree) (h : C02.wf t = true) : ∀ r ∈ emitRows (layout t), r ≠ [] :=
  rows_nonempty_any t

theorem rows_exist (t : Tree) (h : C02.wf t = true) : emitRows (layout t) ≠ [] := by
  have := (C02.layout_nonempty t h).1
  intro e
  have := congrArg List.length e
  simp [emitRows] at this
  omega

example : (emitRows (layout C02.exTree)).map (·.map fun c => (c.row, c.col)) = [[(0, 0), (0, 1)], [(1, 0)], [(2, 0)]] := by
  decide

theorem emitRows_perm (T : Tbl) (h : C02.Tiles T) : (emitRows T).flatten.Perm T.cells := by
  rw [flatten_emitRows h]; exact rasterSort_perm _

/-- C04.1 for every table that tiles its rectangle, placing the emitted rows with the HTML algorithm puts every cell
    back at its own position with its own extent -/
theorem place_emit (T : Tbl) (h : C02.Tiles T) :
    place ((emitRows T).map (·.map fun c => (c.rows, c.cols))) =
      (emitRows T).flatten.map fun c => (c.row, c.col, c.rows, c.cols) := by
  rw [flatten_emitRows h]
  exact Place.place_rows_eq (rasterTiled h)

/-- C04.3 hence for every well-formed recipe tree -/
theorem place_emit_layout (t : Tree) (h : C02.wf t = true) :
    place ((emitRows (layout t)).map (·.map fun c => (c.rows, c.cols))) =
      (emitRows (layout t)).flatten.map fun c => (c.row, c.col, c.rows, c.cols) :=
  place_emit _ (C02.layout_tiles t h)

/-- non-vacuity: the step with two inputs, the second a titled sub recipe (3 rows, the step cell spans all) -/
example : (emitRows (layout C02.exTree)).map (·.map fun c => (c.rows, c.cols)) = [[(1, 1), (3, 1)], [(1, 1)], [(1, 1)]] := by
  decide
example : place ((emitRows (layout C02.exTree)).map (·.map fun c => (c.rows, c.cols))) =
    [(0, 0, 1, 1), (0, 1, 3, 1), (1, 0, 1, 1), (2, 0, 1, 1)] := by decide
example := place_emit_layout C02.exTree (by decide)
example := emitRows_perm _ (C02.layout_tiles C02.exTree (by decide))
/-- the hypothesis matters: a table with a gap is not reproduced -/
example : let T : Tbl := ⟨1, 2, [{ row := 0, col := 1, rows := 1, cols := 1, path := [], kind := .step }]⟩
    place ((emitRows T).map (·.map fun c => (c.rows, c.cols))) ≠
      (emitRows T).flatten.map fun c => (c.row, c.col, c.rows, c.cols) := by decide

end RG.C04
