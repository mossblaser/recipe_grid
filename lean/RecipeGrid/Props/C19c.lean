import RecipeGrid.Lemmas.ParserErrPrefixRules
import RecipeGrid.Props.C19b
import RecipeGrid.Props.C07c
/-! C19.3 — a *syntax* error in an embedded recipe is reported at its Markdown line.

    Companion of `Props/C19b.lean` (which does this for the errors of the compiler): the Markdown front end parses each
    recipe block with `k` newlines in front of its text.  The instrumented parser (`Model/ParserErr.lean`) is position
    independent, the furthest failure included (`rule_shiftE`, `parseE_pad`; rule by rule in
    `Lemmas/BuiltSh.lean`), hence peggie reports the error of the padded text `k` characters further on, and with
    C19.1 (`pad_line_of_ne_nil`, `pad_extract`) that is `k` lines further down, at the same column, quoting the same
    text (`padded_syntax_error_line`, `markdown_syntax_error_line`). -/
namespace RG.C19

/-- for any rule `pe` of the grammar (instances: `ParserE.ShE.stmt`,
    `ParserE.ShE.string`, … in `Lemmas/ParserErrPrefixRules.lean`): on `pre ++ s` from position `i + pre.length` the rule does
    what it does on `s` from `i`, with its value's offsets, its final position and its furthest failure moved by
    `pre.length`.  (`ShE` asks that the padding contains no word character: the bare combinator `wordBoundary` looks one
    character back; the terminals of the grammar do not.) -/
theorem rule_shiftE {α α' : Type} {g : α → α'} {pe' : ParserE.PE α'} {pe : ParserE.PE α} {pre : Str}
    (h : ParserE.ShE pre g pe' pe) (hpre : ∀ c ∈ pre, isReWord c = false) (s : Str) (i : Nat) (z : Bool) :
    pe' (pre ++ s).toArray ⟨i + pre.length, z⟩ =
      (((pe s.toArray ⟨i, z⟩).1).map (fun r => (g r.1, ⟨r.2.pos + pre.length, r.2.zero⟩)),
       ((pe s.toArray ⟨i, z⟩).2).map (· + pre.length)) :=
  h hpre s ⟨i, z⟩

/-- e.g. a statement in the middle of a padded text: same outcome, and its furthest failure `pre.length` further on -/
theorem stmt_shiftE (pre s : Str) (hpre : ∀ c ∈ pre, isReWord c = false) (i : Nat) (z : Bool) :
    ParserE.stmt (pre ++ s).toArray ⟨i + pre.length, z⟩ =
      (((ParserE.stmt s.toArray ⟨i, z⟩).1).map (fun r => (shiftStmt pre.length r.1, ⟨r.2.pos + pre.length, r.2.zero⟩)),
       ((ParserE.stmt s.toArray ⟨i, z⟩).2).map (· + pre.length)) :=
  rule_shiftE ParserE.ShE.stmt hpre s i z

/-- **shift invariance of `parseE`**: `k` newlines in front move every offset of the AST by `k`, move the offset of
    a syntax error by `k`, and change nothing else (no condition on the text: the leading `sp?` of `recipe` swallows
    the padding, and where it matches nothing it fails at offset 0, which is never the furthest failure alone) -/
theorem parseE_pad (k : Nat) (s : Str) :
    parseE (pad k s) =
      (match parseE s with
       | .ok stmts => .ok (stmts.map (shiftStmt k))
       | .syntaxError off => .syntaxError (off + k)) := by
  rw [pad, RG.parseE_pad k s]
  cases parseE s <;> rfl

/-- the same for any padding made of white space -/
theorem parseE_pad_space (pre s : Str) (hsp : ∀ c ∈ pre, isReSpace c = true) :
    parseE (pre ++ s) =
      (match parseE s with
       | .ok stmts => .ok (stmts.map (shiftStmt pre.length))
       | .syntaxError off => .syntaxError (off + pre.length)) := by
  rw [RG.parseE_pad_space pre s hsp]
  cases parseE s <;> rfl

/-- checked by evaluation, independently of `parseE_pad`: an unclosed bracket in the second line, at offset 15 of the
    text and at offset 18 of the text padded by three lines; an accepted text stays accepted -/
example : C07.errOffset (parseE "x = 1 egg\nfry(x".toList) = some 15 ∧
    C07.errOffset (parseE (pad 3 "x = 1 egg\nfry(x".toList)) = some (15 + 3) ∧
    C07.errOffset (parseE (pad 3 "x = 1 egg".toList)) = none := by decide +kernel

/-- the padding need not be swallowed by `sp?` alone: a text that starts with white space of its own -/
example : C07.errOffset (parseE "  \n x )".toList) = some 6 ∧
    C07.errOffset (parseE (pad 2 "  \n x )".toList)) = some (6 + 2) := by decide +kernel

/-- **C19 for syntax errors**: if the grammar rejects the (non-empty) block text `s` at offset `off` — that is at line
    `l`, column `c`, quoting line `l` of `s` — then it rejects the text padded by `k` newlines at offset `k + off`:
    line `l + k`, the same column `c`, quoting the same text -/
theorem padded_syntax_error_line (k : Nat) (s : Str) (off : Nat) (hs : s ≠ []) (h : parseE s = .syntaxError off) :
    parseE (pad k s) = .syntaxError (k + off) ∧
    syntaxErrorLineCol (pad k s) (k + off) = ((syntaxErrorLineCol s off).1 + k, (syntaxErrorLineCol s off).2) ∧
    syntaxErrorSnippet (pad k s) (k + off) = syntaxErrorSnippet s off := by
  refine ⟨by rw [parseE_pad, h, Nat.add_comm], pad_line_of_ne_nil k s off hs, ?_⟩
  unfold syntaxErrorSnippet
  rw [pad_line_of_ne_nil k s off hs]
  exact pad_extract k s _ (C07.offset_located s off).1 hs

/-- the hypothesis `s ≠ []` is needed (as in `pad_line_of_ne_nil`): the empty block is rejected at line 1, column 1;
    padded by two lines it is rejected at the end of the padding, which `offset_to_line_and_column` reports as line 2,
    column 2 — not line 3, column 1 -/
example : C07.errOffset (parseE []) = some 0 ∧ syntaxErrorLineCol [] 0 = (1, 1) ∧
    C07.errOffset (parseE (pad 2 [])) = some 2 ∧ syntaxErrorLineCol (pad 2 []) 2 = (2, 2) := by decide +kernel

/-- read off the reply `(syntax <offset> <line> <column> <quoted line>)`: line, column and quoted line of the error
    for the padded text, from those for the block text -/
theorem padded_syntax_error_report (k : Nat) (s : Str) (off : Nat) (hs : s ≠ []) (h : parseE s = .syntaxError off) :
    ∃ off', parseE (pad k s) = .syntaxError off' ∧
      (syntaxErrorLineCol (pad k s) off').1 = (syntaxErrorLineCol s off).1 + k ∧
      (syntaxErrorLineCol (pad k s) off').2 = (syntaxErrorLineCol s off).2 ∧
      syntaxErrorSnippet (pad k s) off' = syntaxErrorSnippet s off := by
  obtain ⟨h1, h2, h3⟩ := padded_syntax_error_line k s off hs h
  exact ⟨k + off, h1, by rw [h2], by rw [h2], h3⟩

/-- non-vacuity: the stray `)` in line 2 of a block padded by 5 lines (a fenced block whose fence is on document
    line 5) is reported on line 7, column 3, quoting `x )` -/
example :
    C07.errOffset (parseE "x = 1 egg\nx )".toList) = some 12 ∧
    syntaxErrorLineCol "x = 1 egg\nx )".toList 12 = (2, 3) ∧
    C07.errOffset (parseE (pad 5 "x = 1 egg\nx )".toList)) = some (5 + 12) ∧
    syntaxErrorLineCol (pad 5 "x = 1 egg\nx )".toList) (5 + 12) = (2 + 5, 3) ∧
    syntaxErrorSnippet (pad 5 "x = 1 egg\nx )".toList) (5 + 12) = some "x )".toList := by
  have h := C07.stray_paren_evaluated
  have hp := padded_syntax_error_line 5 _ 12 (by decide) (C07.eq_syntaxError_of_errOffset h.1)
  exact ⟨h.1, h.2.1, by rw [hp.1]; rfl, hp.2.1.trans (by rw [h.2.1]), hp.2.2.trans h.2.2⟩

/-- **C19 for syntax errors, through `get_line_number_corrected_source`**: the text the Markdown front end compiles
    for a (non-empty) recipe block found at `pos` is rejected `mdPadding md pos fenced` lines below the line at which
    the block's own text (carriage returns read as line feeds) is rejected — under the hypothesis H_marko of DESIGN.md
    that is the document line of the offending character — at the same column, quoting the same text -/
theorem markdown_syntax_error_line (md : Str) (pos : Nat) (fenced : Bool) (src : Str) (off : Nat)
    (hs : src ≠ []) (h : parseE (crToLf src) = .syntaxError off) :
    parseE (paddedSource md pos fenced src) = .syntaxError (mdPadding md pos fenced + off) ∧
    syntaxErrorLineCol (paddedSource md pos fenced src) (mdPadding md pos fenced + off) =
      ((syntaxErrorLineCol (crToLf src) off).1 + mdPadding md pos fenced, (syntaxErrorLineCol (crToLf src) off).2) ∧
    syntaxErrorSnippet (paddedSource md pos fenced src) (mdPadding md pos fenced + off) =
      syntaxErrorSnippet (crToLf src) off := by
  have hne : crToLf src ≠ [] := by
    cases src with
    | nil => exact absurd rfl hs
    | cons c cs => simp [crToLf]
  rw [paddedSource_pad]
  exact padded_syntax_error_line _ _ off hne h

/-- the same through `paddedSource`: a fenced block whose opening fence is on line 3 of the document; the stray `)`
    of its second line is reported on document line 5 -/
example :
    let md := "Title\n\n```recipe\nx = 1 egg\nx )\n```\n".toList
    mdPadding md 7 true = 3 ∧
    C07.errOffset (parseE (paddedSource md 7 true "x = 1 egg\nx )\n".toList)) = some (3 + 12) ∧
    syntaxErrorLineCol (paddedSource md 7 true "x = 1 egg\nx )\n".toList) (3 + 12) = (5, 3) ∧
    extractLine md 5 = some "x )".toList := by decide +kernel

end RG.C19
