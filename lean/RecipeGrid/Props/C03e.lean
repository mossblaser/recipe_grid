import RecipeGrid.Lemmas.PageValues
import RecipeGrid.Lemmas.Compiler
/-! C03 (page level): what scaling does to the whole page `MarkdownRecipe.render(k)` writes.  The page is the document's
    template with every hole filled by its value at factor `k`, whenever the chain of `str.replace` meets each
    placeholder only at its own holes (`renderDoc_template`, `renderDoc_canonical`); the scaled values it shows are the
    written ones with every number `.mul k`, units untouched (`page_numbers_scaled`); everything else does not depend
    on `k` (`page_frame_invariant`).  Helper lemmas are in `Lemmas/PageValues.lean`.  (`Lemmas/Compiler.lean` is imported for
    the decidable equality of numbers that the evaluated examples compare with.) -/
namespace RG.C03
open RG RG.C13

/-- **C03e.1** `render(k)` = the template with every hole filled by its value at factor `k`.  `t` is any token list whose
    flattening (hole i written as the i-th placeholder of the document) is the document's HTML; `ChainOK` says that each of the
    replacements `render` performs one after the other finds its placeholder, in the text as it is then, exactly at its own holes
    (so: placeholders pairwise different where it matters, not occurring in the literal text nor in a value already written,
    nor straddling a boundary).  `k` is arbitrary: int, Fraction or float. -/
theorem renderDoc_template (d : MdDoc) (k : Num) (t : List Tok)
    (hflat : d.html = flattenT (docPh d) t)
    (hOK : ChainOK (docPh d) (docVals d k) t)
    (hb : HolesBelow (docPhs d).length t) :
    renderDoc d k = fill (docVal d k) t := by
  rw [renderDoc_eq_chain, hflat]
  exact render_no_residue t (docVals d k) (docPh d) hOK (by rw [docVals_length]; exact hb)

/-- what the holes are filled with (1 of 3): hole `i < #prose values` by the rendering of the i-th value, its numbers multiplied
    by `k` -/
theorem hole_value_prose (d : MdDoc) (k : Num) (i : Nat) (ph : Str) (s : SVS) (h : d.svs[i]? = some (ph, s)) :
    docVal d k i = renderSvs (Svs.scale k s) := by
  have hi : i < d.svs.length := (List.getElem?_eq_some_iff.1 h).1
  unfold docVal docVals docPairs
  simp only [List.map_append, List.map_map, List.getD_eq_getElem?_getD, List.append_assoc]
  rw [List.getElem?_append_left (by simpa using hi)]
  simp [h]

/-- the HTML written into the hole of a prose value, spelled out: the written parts in order, text escaped, every written number
    `n` as one `<span class="rg-scaled-value">` holding the rendering of `n * k` — for any value and any factor -/
theorem prose_value_rendered (k : Num) (s : SVS) :
    renderSvs (Svs.scale k s) = s.flatMap fun p => match p with
      | .text t => htmlEscape t
      | .num n => tagBody "span" [("class", S "rg-scaled-value")] (renderNumber (n.mul k)) := by
  rw [Svs.scale_eq, renderSvs_normalise, List.flatMap_map]
  apply flatMap_congr_left
  intro p _
  cases p <;> rfl

/-- what the holes are filled with (2 of 3): the `#recipe blocks` holes after the prose values by `<div class="rg-recipe-block">`
    around the tables of the block's trees scaled by `k` (`Tree.scaleList k trees`), ids prefixed by the number of the
    independent recipe the block belongs to -/
theorem hole_value_block (d : MdDoc) (k : Num) (j : Nat) (ph : Str) (isNew : Bool) (trees : Block)
    (h : d.recipes[j]? = some (ph, isNew, trees)) :
    docVal d k (d.svs.length + j) =
      tagBody "div" [("class", "rg-recipe-block".toList)]
        (joinNl ((Tree.scaleList k trees).map (renderRecipeTree (idPrefix ((recipeIdx 0 d.recipes).getD j 0))))) := by
  show _ = blockHtml k ((recipeIdx 0 d.recipes).getD j 0) trees
  have hj : j < d.recipes.length := (List.getElem?_eq_some_iff.1 h).1
  unfold docVal docVals docPairs
  simp only [List.map_append, List.map_map, List.getD_eq_getElem?_getD, List.append_assoc]
  rw [List.getElem?_append_right (by simp), List.getElem?_append_left (by simpa [recipePairs_length] using hj)]
  simp [recipePairs_getElem? k d.recipes 0 j ph isNew trees h]

/-- the table of the scaled tree is laid out as the table of the tree: same rows, same cells, same spans and borders -/
theorem table_layout_unscaled (pre : Str) (k : Num) (t : Tree) :
    renderRecipeTree pre (Tree.scale k t) =
      renderTable pre (Tree.scale k t) (layout t)
        (match Tree.scale k t with | .sub _ [n] _ => some (anchorId pre n) | _ => none) := by
  unfold renderRecipeTree
  rw [layout_scale]
  rfl

theorem cell_of_scaled (pre : Str) (k : Num) (t : Tree) (c : PCell) :
    renderCell pre (Tree.scale k t) c =
      tagBody "td" (cellAttrs c) (renderCellBody pre (Tree.scale k ((t.at? c.path).getD t))) := by
  unfold renderCell
  rw [Tree.at?_scale]
  cases t.at? c.path <;> rfl

theorem cell_body_ingredient (pre : Str) (k : Num) (d : SVS) (q : Option Quantity) :
    renderCellBody pre (Tree.scale k (.ingredient d q)) =
      (match q with | some q => renderQuantity { q with value := q.value.mul k } ++ [' '] | none => []) ++ renderSvs (Svs.scale k d) := by
  cases q <;> rfl

/-- what the holes are filled with (3 of 3): the last two, for a document with a title, by `<header>` and by the note about the
    scaling followed by `</header>` -/
theorem hole_value_header (d : MdDoc) (k : Num) (pre post : Str) (h1 : d.hasTitle = true) (h2 : d.prePost = some (pre, post)) :
    docVal d k (d.svs.length + d.recipes.length) = "<header>".toList ∧
    docVal d k (d.svs.length + d.recipes.length + 1) = postTitleText d k ++ "</header>".toList := by
  unfold docVal docVals docPairs headerPairs
  simp only [List.map_append, List.map_map, List.getD_eq_getElem?_getD, h1, h2]
  constructor
  · rw [List.getElem?_append_right (by simp [recipePairs_length])]
    simp [recipePairs_length]
  · rw [List.getElem?_append_right (by simp [recipePairs_length])]
    have : d.svs.length + d.recipes.length + 1 - (d.svs.length + d.recipes.length) = 1 := by omega
    simp [recipePairs_length, this]

/-- the unscaled page carries no note -/
theorem header_note_unscaled (d : MdDoc) (k : Num) (h : k.val = 1) : postTitleText d k = [] := by
  simp [postTitleText, h]

/-- every document *has* a template: its HTML cut (leftmost, non-overlapping) at its placeholders; all its holes have values -/
theorem docTemplate_flatten (d : MdDoc) : d.html = flattenT (docPh d) (toToks (docTemplate d)) := by
  rw [flattenT_toToks]
  exact (tokenise_flatten (docPhs d) d.html).symm

theorem docTemplate_holesBelow (d : MdDoc) : HolesBelow (docPhs d).length (toToks (docTemplate d)) :=
  (holesBelow_iff_holesOf _ _).2 (tokenise_holes (docPhs d) d.html)

/-- **C03e.1 on the canonical template**: the only hypothesis left is the side condition on the placeholders, in its executable
    form (the request `page-nums` of the driver evaluates it for every document and factor of the correspondence) -/
theorem renderDoc_canonical (d : MdDoc) (k : Num) (hOK : chainOKb (docPh d) (docVals d k) (docTemplate d) = true) :
    renderDoc d k = pflatten (docVal d k) (docTemplate d) := by
  rw [← flattenT_toToks]
  exact renderDoc_template d k _ (docTemplate_flatten d) (chainOK_of_chainOKb hOK) (docTemplate_holesBelow d)

/-- **C03e.2 `page_numbers_scaled`** the scaled values shown by the page at factor `k` — per hole of the template in document
    order: the numbers of the prose value, resp. the numbers in the cells of the block's tables (quantity before name, cells row by
    row) — are the written ones, each number multiplied by `k` (Python's `*`), the spacing and unit behind it unchanged; none is
    added, dropped or reordered.  No hypothesis: any document, any template, any factor. -/
theorem page_numbers_scaled (d : MdDoc) (k : Num) (t : List PTok) :
    shownNums d k t = (writtenNums d t).map (scaleShown k) := by
  unfold shownNums writtenNums
  rw [List.map_flatMap]
  exact flatMap_congr_left (fun i _ => holeShown_eq d k i)

theorem page_numbers_scaled_values (d : MdDoc) (k : Num) (t : List PTok) :
    (shownNums d k t).map (·.1) = ((writtenNums d t).map (·.1)).map (·.mul k) ∧
    (shownNums d k t).map (·.2) = (writtenNums d t).map (·.2) := by
  rw [page_numbers_scaled]
  simp [scaleShown, Function.comp_def]

/-- every float written in the document is a double (true of everything the reader of numbers produces) -/
def WrittenOK (d : MdDoc) (t : List PTok) : Prop := ∀ x ∈ writtenNums d t, x.1.kind = .flt → IsDouble x.1.val

theorem page_numbers_one (d : MdDoc) (t : List PTok) (h : WrittenOK d t) :
    shownNums d ⟨1, .int⟩ t = writtenNums d t := by
  rw [page_numbers_scaled]
  conv => rhs; rw [← List.map_id (writtenNums d t)]
  apply List.map_congr_left
  intro x hx
  simp only [scaleShown, id]
  rw [Num.mul_one x.1 (h x hx)]

theorem page_numbers_scaled_from_one (d : MdDoc) (k : Num) (t : List PTok) (h : WrittenOK d t) :
    shownNums d k t = (shownNums d ⟨1, .int⟩ t).map (scaleShown k) := by
  rw [page_numbers_one d t h, page_numbers_scaled]

/-- tie to C03.1: the numbers of a prose value are the `svsNums` of `scale_numbers`; the numbers a table shows are among the
    scalable numbers `nums` of the tree — the table shows the cells' own numbers, not those inside the embedded copy of a
    referenced sub recipe -/
theorem prose_shown_eq (s : SVS) : (Svs.shown s).map (·.1) = svsNums s := by
  simp [Svs.shown, Svs.nums_eq, Function.comp_def]

/-- what a page consists of besides its numbers: literal HTML, and per hole the erased frame of its value -/
inductive FrameItem where
  | text (s : Str)
  | value (s : SVS)
  /-- a recipe block: the number of its independent recipe and the erased trees -/
  | block (idx : Nat) (trees : List Tree)
  | mark

def holeFrame (d : MdDoc) (k : Num) (i : Nat) : FrameItem :=
  match d.svs[i]? with
  | some (_, s) => .value (eraseSvs (Svs.scale k s))
  | none =>
    match d.recipes[i - d.svs.length]? with
    | some (_, _, trees) => .block ((recipeIdx 0 d.recipes).getD (i - d.svs.length) 0) (eraseList (Tree.scaleList k trees))
    | none => .mark

def holeFrameWritten (d : MdDoc) (i : Nat) : FrameItem :=
  match d.svs[i]? with
  | some (_, s) => .value (eraseSvs s)
  | none =>
    match d.recipes[i - d.svs.length]? with
    | some (_, _, trees) => .block ((recipeIdx 0 d.recipes).getD (i - d.svs.length) 0) (eraseList trees)
    | none => .mark

def pageFrame (d : MdDoc) (k : Num) (t : List PTok) : List FrameItem :=
  t.map fun tok => match tok with | .lit s => .text s | .hole i => holeFrame d k i
def writtenFrame (d : MdDoc) (t : List PTok) : List FrameItem :=
  t.map fun tok => match tok with | .lit s => .text s | .hole i => holeFrameWritten d i

/-- what the Python constructors guarantee of every string of the document -/
def DocNormal (d : MdDoc) : Prop := (∀ x ∈ d.svs, SvsNormal x.2) ∧ ∀ r ∈ d.recipes, TreeNormalList r.2.2

/-- **C03e.3 `page_frame_invariant`** everything that is not a scaled number — the literal HTML of the template, the text of
    every prose value, and of every tree its structure, text, units, spacing, prepositions, proportions and percentages, output
    indices — is the same at every factor (namely: as written) -/
theorem page_frame_invariant (d : MdDoc) (hn : DocNormal d) (k : Num) (t : List PTok) :
    pageFrame d k t = writtenFrame d t := by
  unfold pageFrame writtenFrame
  apply List.map_congr_left
  intro tok _
  cases tok with
  | lit s => rfl
  | hole i =>
    simp only [holeFrame, holeFrameWritten]
    split
    · rename_i ph s hs
      rw [svs_scale_frame k s (hn.1 _ (List.mem_of_getElem? hs))]
    · split
      · rename_i ph isNew trees hr
        rw [scale_frame_list k trees (hn.2 _ (List.mem_of_getElem? hr))]
      · rfl

theorem page_frame_same (d : MdDoc) (hn : DocNormal d) (k k' : Num) (t : List PTok) : pageFrame d k t = pageFrame d k' t := by
  rw [page_frame_invariant d hn k, page_frame_invariant d hn k']

def pgSvs : List (Str × SVS) :=
  [("%A%".toList, [.num ⟨2, .int⟩]), ("%B%".toList, [.num ⟨3 / 2, .frac⟩, .text " cm".toList]), ("%S%".toList, [.num ⟨4, .int⟩])]
def pgBlock1 : Block :=
  [.sub (.step [.text "mix".toList]
        [.ingredient [.text "flour".toList] (some ⟨⟨200, .int⟩, some "g".toList, " ".toList, []⟩),
         .ingredient [.num ⟨3, .int⟩, .text " eggs".toList] none]) [[.text "pastry".toList]] false]
def pgBlock2 : Block :=
  [.step [.text "bake ".toList, .num ⟨1, .int⟩, .text " h".toList]
        [.reference (.sub (.ingredient [.text "x".toList] none) [[.text "pastry".toList]] false) 0
           (.quantity ⟨⟨1 / 2, .frac⟩, none, [], " of the".toList⟩),
         .ingredient [.text "apples".toList] (some ⟨⟨5 / 2, .flt⟩, some "kg".toList, [], []⟩)]]
/-- "Pie for 4": two prose values (`{2}`, `{1 1/2} cm`), the serving count of the title, two recipe blocks of one recipe -/
def pgDoc : MdDoc where
  html := ("%P%<h1 class=\"rg-title-scalable\">Pie<span class=\"rg-serving-count\"> for %S%</span></h1>%Q%\n" ++
    "<p>Roll %A% sheets, 100% butter, of %B%.</p>\n%C%<p>Then:</p>\n%D%").toList
  svs := pgSvs
  recipes := [("%C%".toList, true, pgBlock1), ("%D%".toList, false, pgBlock2)]
  hasTitle := true
  servings := some 4
  prePost := some ("%P%".toList, "%Q%".toList)

def pgK : Num := ⟨3 / 2, .frac⟩

/-- what is evaluated of the example page at `k = 3/2`, one field per example below: the side condition of
    `renderDoc_canonical` (`chainOK`), the holes of its template (`holes`), the numbers as written and as shown (`written`,
    `shown`), and that every written float is a double (`doubles`) -/
structure PgDocFacts : Prop where
  chainOK : chainOKb (docPh pgDoc) (docVals pgDoc pgK) (docTemplate pgDoc) = true
  holes : holesOf (docTemplate pgDoc) = [5, 2, 6, 0, 1, 3, 4]
  written : (writtenNums pgDoc (docTemplate pgDoc)).map (fun x => (x.1.val, x.1.kind, x.2)) =
      [(4, .int, []), (2, .int, []), (3 / 2, .frac, []), (200, .int, " g".toList), (3, .int, []), (1 / 2, .frac, []),
       (1, .int, []), (5 / 2, .flt, "kg".toList)]
  shown : (shownNums pgDoc pgK (docTemplate pgDoc)).map (fun x => (x.1.val, x.1.kind, x.2)) =
      [(6, .frac, []), (3, .frac, []), (9 / 4, .frac, []), (300, .frac, " g".toList), (9 / 2, .frac, []), (3 / 4, .frac, []),
       (3 / 2, .frac, []), (15 / 4, .flt, "kg".toList)]
  doubles : ∀ x ∈ writtenNums pgDoc (docTemplate pgDoc), x.1.kind = .flt → decide (toDouble x.1.val = x.1.val) = true

instance : Decidable PgDocFacts :=
  decidable_of_iff (_ ∧ _ ∧ _ ∧ _ ∧ _)
    ⟨fun h => ⟨h.1, h.2.1, h.2.2.1, h.2.2.2.1, h.2.2.2.2⟩, fun h => ⟨h.chainOK, h.holes, h.written, h.shown, h.doubles⟩⟩

/-- evaluated in one statement: cutting the HTML at its placeholders is the slow part of evaluating each, and it is done once
    for all five -/
theorem pgDoc_evaluated : PgDocFacts := by decide +kernel

/-- the side condition of `renderDoc_canonical` holds for the example at k = 3/2 (a page of 2028 characters) -/
theorem pgDoc_chainOK : chainOKb (docPh pgDoc) (docVals pgDoc pgK) (docTemplate pgDoc) = true := pgDoc_evaluated.chainOK
example : renderDoc pgDoc pgK = pflatten (docVal pgDoc pgK) (docTemplate pgDoc) := renderDoc_canonical pgDoc pgK pgDoc_chainOK
/-- the holes of the example's template, in document order: pre-title mark, serving count, post-title mark, the two prose
    values, the two blocks -/
example : holesOf (docTemplate pgDoc) = [5, 2, 6, 0, 1, 3, 4] := pgDoc_evaluated.holes
/-- the written numbers (the step cell "bake 1 h" spans both rows of its table, so it comes before the second ingredient), and the
    numbers of the page for 6 (k = 3/2): every one multiplied, ints become Fractions, the float stays a float -/
example : (writtenNums pgDoc (docTemplate pgDoc)).map (fun x => (x.1.val, x.1.kind, x.2)) =
    [(4, .int, []), (2, .int, []), (3 / 2, .frac, []), (200, .int, " g".toList), (3, .int, []), (1 / 2, .frac, []), (1, .int, []),
     (5 / 2, .flt, "kg".toList)] := pgDoc_evaluated.written
example : (shownNums pgDoc pgK (docTemplate pgDoc)).map (fun x => (x.1.val, x.1.kind, x.2)) =
    [(6, .frac, []), (3, .frac, []), (9 / 4, .frac, []), (300, .frac, " g".toList), (9 / 2, .frac, []), (3 / 4, .frac, []),
     (3 / 2, .frac, []), (15 / 4, .flt, "kg".toList)] := pgDoc_evaluated.shown
example := page_numbers_scaled pgDoc pgK (docTemplate pgDoc)
theorem svsNormal_iff_normal (s : SVS) : SvsNormal s ↔ Svs.Normal s := (Svs.normal_iff s).symm
theorem pgDoc_normal : DocNormal pgDoc := by
  have e1 : pgDoc.svs = pgSvs := rfl
  have e2 : pgDoc.recipes = [("%C%".toList, true, pgBlock1), ("%D%".toList, false, pgBlock2)] := rfl
  constructor
  · intro x hx
    rw [e1] at hx
    simp only [pgSvs, List.mem_cons, List.not_mem_nil, or_false] at hx
    rcases hx with rfl | rfl | rfl <;> simp [svsNormal_iff_normal, Svs.Normal, Svs.startsText]
  · intro r hr
    rw [e2] at hr
    simp only [List.mem_cons, List.not_mem_nil, or_false] at hr
    rcases hr with rfl | rfl
    · simp [pgBlock1, TreeNormalList, TreeNormal, svsNormal_iff_normal, Svs.Normal, Svs.startsText]
    · simp [pgBlock2, TreeNormalList, TreeNormal, svsNormal_iff_normal, Svs.Normal, Svs.startsText, Svs.isText]
example := page_frame_invariant pgDoc pgDoc_normal pgK (docTemplate pgDoc)
theorem pgDoc_writtenOK : WrittenOK pgDoc (docTemplate pgDoc) := by
  intro x hx hk
  show toDouble x.1.val = x.1.val
  exact of_decide_eq_true (pgDoc_evaluated.doubles x hx hk)
example := page_numbers_one pgDoc (docTemplate pgDoc) pgDoc_writtenOK
/-- the side condition is needed: a placeholder that also occurs in the literal text is replaced there too -/
def pgBad : MdDoc := { html := "<p>%A% and %B% (see %A%B%)</p>".toList, svs := pgSvs, recipes := [], hasTitle := false, servings := none, prePost := none }
example : renderDoc pgBad pgK ≠
    pflatten (docVal pgBad pgK)
      [.lit "<p>".toList, .hole 0, .lit " and ".toList, .hole 1, .lit " (see %A".toList, .hole 1, .lit ")</p>".toList] := by
  decide +kernel

end RG.C03
