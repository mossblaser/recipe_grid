import RecipeGrid.Lemmas.Html
/-! C10 — recipe text is inert: escaped text decodes back to the original and contains no markup character (C10.1),
    attribute values are single well-formed quoted strings (C10.2), anchor ids use only id characters (C10.3),
    text parts of a scaled-value string contribute exactly their escaped characters (C10.4).
    Helper lemmas are in `Lemmas/Html.lean`. -/
namespace RG.C10

/-- the decoding side, written independently of the encoder: replace, left to right, each of the character
    references `&amp; &lt; &gt; &quot; &#x27; &#10; &#13; &#9;` by its character; every other character
    (including a stray `&`) stays -/
def unescape : Str → Str
  | '&' :: 'a' :: 'm' :: 'p' :: ';' :: rest => '&' :: unescape rest
  | '&' :: 'l' :: 't' :: ';' :: rest => '<' :: unescape rest
  | '&' :: 'g' :: 't' :: ';' :: rest => '>' :: unescape rest
  | '&' :: 'q' :: 'u' :: 'o' :: 't' :: ';' :: rest => '"' :: unescape rest
  | '&' :: '#' :: 'x' :: '2' :: '7' :: ';' :: rest => '\'' :: unescape rest
  | '&' :: '#' :: '1' :: '0' :: ';' :: rest => '\n' :: unescape rest
  | '&' :: '#' :: '1' :: '3' :: ';' :: rest => '\r' :: unescape rest
  | '&' :: '#' :: '9' :: ';' :: rest => '\t' :: unescape rest
  | c :: rest => c :: unescape rest
  | [] => []

example : unescape "a &amp;&lt;b&gt; &quot;&#x27; &#10;&#13;&#9; & &amp &#11; &amp;lt;".toList
    = "a &<b> \"' \n\r\t & &amp &#11; &lt;".toList := by
  rw [toList_lit rfl, toList_lit rfl]; decide +kernel

theorem unescape_other (c : Char) (h : c ≠ '&') (rest : Str) : unescape (c :: rest) = c :: unescape rest := by
  rw [unescape] <;> (intros; contradiction)

theorem decodes_escapeChar : Decodes unescape escapeChar id :=
  Decodes.escapeChar (by simp [escapeTable, S, unescape]) unescape_other

theorem decodes_quoteattrChar : Decodes unescape quoteattrChar id :=
  quoteattrChar_cases (P := fun c s => ∀ rest, unescape (s ++ rest) = c :: unescape rest)
    (by simp [quoteattrTable, S, unescape]) fun c h1 _ _ _ _ _ => unescape_other c h1

theorem decodes_quoteattr_both : Decodes unescape (fun c => (quoteattrChar c).flatMap quotEsc) id :=
  quoteattrChar_cases (P := fun c s => ∀ rest, unescape (s.flatMap quotEsc ++ rest) = c :: unescape rest)
    (by simp [quoteattrTable, S, unescape, quotEsc]) fun c h1 _ _ _ _ _ rest => by
      by_cases h7 : c = '"'
      · subst h7; simp [S, unescape, quotEsc]
      · simpa [quotEsc, h7] using unescape_other c h1 rest

/-- C10.1 escaped text decodes back to the original string, character for character -/
theorem unescape_escape (s : Str) : unescape (htmlEscape s) = s :=
  (decodes_escapeChar.flatMap rfl s).trans (List.map_id s)

example : htmlEscape "<b a='1' c=\"2\">&amp;</b>".toList
    = "&lt;b a=&#x27;1&#x27; c=&quot;2&quot;&gt;&amp;amp;&lt;/b&gt;".toList := by
  rw [toList_lit rfl, toList_lit rfl]; decide +kernel
example : unescape (htmlEscape "<b a='1' c=\"2\">&amp;</b>".toList) = "<b a='1' c=\"2\">&amp;</b>".toList := by
  rw [toList_lit rfl]; decide +kernel

/-- C10.1 escaped text contains no markup-significant character: no `<`, `>`, `"`, `'` -/
theorem escape_no_markup (s : Str) : ∀ c ∈ htmlEscape s, c ≠ '<' ∧ c ≠ '>' ∧ c ≠ '"' ∧ c ≠ '\'' := by
  intro c hc
  obtain ⟨d, _, hd⟩ := List.mem_flatMap.1 hc
  exact escapeChar_no_markup d c hd

/-- C10.1 every `&` of escaped text starts one of the five references -/
theorem escape_amp_starts_reference (s : Str) (pre post : Str) (h : htmlEscape s = pre ++ '&' :: post) :
    ∃ r ∈ ["amp;", "lt;", "gt;", "quot;", "#x27;"], r.toList <+: post :=
  ampOK_htmlEscape s pre post h

example := escape_no_markup "<&>".toList
example := escape_amp_starts_reference "<&>".toList "&lt;".toList "amp;&gt;".toList (by decide +kernel)

/-- C10.2 `quoteattr s` is one well-formed quoted attribute value: same quote at both ends, that quote nowhere
    inside, no `<` inside, and the inside decodes back to `s` -/
theorem quoteattr_wellformed (s : Str) :
    ∃ q body, (q = '"' ∨ q = '\'') ∧ quoteattr s = q :: body ++ [q] ∧ q ∉ body ∧ '<' ∉ body ∧ unescape body = s := by
  obtain ⟨q, body, h1, h2, h3, h4, h5⟩ := quoteattr_shape s
  refine ⟨q, body, h1, h2, h3, h4, ?_⟩
  rcases h5 with rfl | rfl
  · exact (decodes_quoteattrChar.flatMap rfl s).trans (List.map_id s)
  · exact (decodes_quoteattr_both.flatMap rfl s).trans (List.map_id s)

example : quoteattr "a<b".toList = "\"a&lt;b\"".toList := by decide +kernel
example : quoteattr "say \"hi\"\n".toList = "'say \"hi\"&#10;'".toList := by
  rw [toList_lit rfl, toList_lit rfl]; decide +kernel
example : quoteattr "it's \"x\" & y".toList = "\"it's &quot;x&quot; &amp; y\"".toList := by
  rw [toList_lit rfl, toList_lit rfl]; decide +kernel
example : unescape "it's &quot;x&quot; &amp; y".toList = "it's \"x\" & y".toList := by
  rw [toList_lit rfl, toList_lit rfl]; decide +kernel

/-- C10.3 every character of an anchor id after the prefix is in [A-Za-z0-9._-], and it neither starts nor ends
    with '-' -/
theorem anchorId_charset (pre : Str) (name : SVS) :
    ∃ tail, anchorId pre name = pre ++ tail ∧ (∀ c ∈ tail, isIdChar c = true) ∧ tail.head? ≠ some '-' ∧
      tail.getLast? ≠ some '-' :=
  ⟨anchorTail name, rfl, anchorTail_idChars name, stripDashes_head? _, stripDashes_getLast? _⟩

example : anchorId "recipe-".toList [.text " <Tomato> sauce!".toList] = "recipe-Tomato--sauce".toList := by
  rw [toList_lit rfl, toList_lit rfl]; decide +kernel

/-- C10.4 each text part of a scaled-value string contributes exactly its escaped characters (no wrapper, nothing
    else) -/
theorem renderSvs_text_only (t : Str) : renderSvs [.text t] = htmlEscape t := by
  simp [renderSvs]

/-- and text parts render independently of their neighbours -/
theorem renderSvs_append (a b : SVS) : renderSvs (a ++ b) = renderSvs a ++ renderSvs b := by
  simp [renderSvs]

example : renderSvs [.text "1 < 2".toList] = "1 &lt; 2".toList := by decide +kernel

end RG.C10
