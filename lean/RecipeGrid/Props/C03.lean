import RecipeGrid.Lemmas.Recipe
/-! C03: scaling multiplies exactly the scalable numbers and nothing else.
    What is only about `Svs.normalise` and `Tree.beq` is in `Lemmas/Recipe.lean`. -/
namespace RG.C03

mutual
/-- the scalable numbers of a tree, in reading order, including those inside embedded copies -/
def nums : Tree → List Num
  | .ingredient d q => svsNums d ++ (match q with | some q => [q.value] | none => [])
  | .step d i => svsNums d ++ numsList i
  | .reference s _ a => nums s ++ (match a with | .quantity q => [q.value] | _ => [])
  | .sub b ns _ => nums b ++ ns.flatMap svsNums
def numsList : List Tree → List Num
  | [] => []
  | t :: ts => nums t ++ numsList ts
end

theorem svsNums_scale (k : Num) (s : SVS) : svsNums (Svs.scale k s) = (svsNums s).map (·.mul k) := by
  unfold svsNums
  rw [Svs.scale_eq, Svs.filterMap_normalise _ (fun _ => rfl), List.filterMap_map, List.map_filterMap]
  congr 1
  funext p
  cases p <;> rfl

mutual
/-- C03.1 every scalable number is multiplied by k (Python's `*`), nothing is added or dropped, order kept -/
theorem scale_numbers (k : Num) : ∀ t : Tree, nums (Tree.scale k t) = (nums t).map (·.mul k)
  | .ingredient d q => by
    cases q <;> simp [Tree.scale, nums, svsNums_scale, Quantity.scale]
  | .step d i => by
    simp [Tree.scale, nums, svsNums_scale, scale_numbers_list k i]
  | .reference s n a => by
    cases a <;> simp [Tree.scale, nums, scale_numbers k s, Amount.scale, Quantity.scale]
  | .sub b ns sh => by
    simp [Tree.scale, nums, scale_numbers k b, List.flatMap_map, List.map_flatMap, svsNums_scale]
theorem scale_numbers_list (k : Num) : ∀ ts : List Tree,
    numsList (Tree.scaleList k ts) = (numsList ts).map (·.mul k)
  | [] => by simp [Tree.scaleList, numsList]
  | t :: ts => by simp [Tree.scaleList, numsList, scale_numbers k t, scale_numbers_list k ts]
end

/-- what `.mul k` does with the kinds of number: an exact number (int, Fraction) times an exact factor is the exact product
    (int × int stays int, otherwise a Fraction); as soon as one of the two is a float the product is the double nearest to the
    product of the two doubles -/
theorem mul_exact (w k : Num) (hw : w.kind ≠ .flt) (hk : k.kind ≠ .flt) :
    (w.mul k).val = w.val * k.val ∧ (w.mul k).kind ≠ .flt :=
  ⟨Num.mul_val_exact hw hk, Num.mul_kind_exact hw hk⟩
theorem mul_float (w k : Num) (h : w.kind = .flt ∨ k.kind = .flt) :
    (w.mul k).val = toDouble (w.toFlt * k.toFlt) ∧ (w.mul k).kind = .flt := by
  -- a float among the two: `Num.mul` takes its first branch
  have hf : (w.isFlt || k.isFlt) = true := by
    rcases h with h | h <;> simp [Num.isFlt, h]
  simp only [Num.mul, hf, if_true, and_self]

def eraseSvs (s : SVS) : SVS := s.map fun p => match p with | .num _ => .num ⟨0, .int⟩ | .text t => .text t
def eraseQuantity (q : Quantity) : Quantity := { q with value := ⟨0, .int⟩ }
def eraseAmount : Amount → Amount
  | .quantity q => .quantity (eraseQuantity q)
  | a => a

mutual
/-- replace every scalable number (exactly the places `nums` reads) by the integer 0 -/
def erase : Tree → Tree
  | .ingredient d q => .ingredient (eraseSvs d) (q.map eraseQuantity)
  | .step d i => .step (eraseSvs d) (eraseList i)
  | .reference s n a => .reference (erase s) n (eraseAmount a)
  | .sub b ns sh => .sub (erase b) (ns.map eraseSvs) sh
def eraseList : List Tree → List Tree
  | [] => []
  | t :: ts => erase t :: eraseList ts
end

/-- what the Python constructor guarantees: no empty text part, no two adjacent text parts -/
def SvsNormal (s : SVS) : Prop :=
  (∀ p ∈ s, p ≠ .text []) ∧ ∀ l a b r, s ≠ l ++ .text a :: .text b :: r

mutual
/-- all descriptions, step names and output names are normal, including inside embedded copies -/
def TreeNormal : Tree → Prop
  | .ingredient d _ => SvsNormal d
  | .step d i => SvsNormal d ∧ TreeNormalList i
  | .reference s _ _ => TreeNormal s
  | .sub b ns _ => TreeNormal b ∧ ∀ n ∈ ns, SvsNormal n
def TreeNormalList : List Tree → Prop
  | [] => True
  | t :: ts => TreeNormal t ∧ TreeNormalList ts
end

theorem normalise_normal (ps : List Part) : SvsNormal (Svs.normalise ps) :=
  (Svs.normal_iff _).1 (Svs.normal_normalise ps)

/-- on a normal string, scaling is the part-wise map: nothing is merged or dropped -/
theorem svs_scale_frame (k : Num) (s : SVS) (h : SvsNormal s) : eraseSvs (Svs.scale k s) = eraseSvs s := by
  rw [Svs.scale_of_normal k s ((Svs.normal_iff s).2 h)]
  unfold eraseSvs
  rw [List.map_map]
  apply List.map_congr_left
  intro p _
  cases p <;> rfl

mutual
/-- C03.2 frame: structure, text, units, spacing, prepositions, proportions, output indices are untouched -/
theorem scale_frame (k : Num) : ∀ t : Tree, TreeNormal t → erase (Tree.scale k t) = erase t
  | .ingredient d q, h => by
    simp only [TreeNormal] at h
    cases q <;> simp [Tree.scale, erase, svs_scale_frame k d h, Quantity.scale, eraseQuantity]
  | .step d i, h => by
    simp only [TreeNormal] at h
    simp [Tree.scale, erase, svs_scale_frame k d h.1, scale_frame_list k i h.2]
  | .reference s n a, h => by
    simp only [TreeNormal] at h
    cases a <;> simp [Tree.scale, erase, scale_frame k s h, Amount.scale, eraseAmount, Quantity.scale, eraseQuantity]
  | .sub b ns sh, h => by
    simp only [TreeNormal] at h
    simp only [Tree.scale, erase, scale_frame k b h.1, List.map_map]
    congr 1
    apply List.map_congr_left
    intro n hn
    exact svs_scale_frame k n (h.2 n hn)
theorem scale_frame_list (k : Num) : ∀ ts : List Tree, TreeNormalList ts →
    eraseList (Tree.scaleList k ts) = eraseList ts
  | [], _ => by simp [Tree.scaleList, eraseList]
  | t :: ts, h => by
    simp only [TreeNormalList] at h
    simp [Tree.scaleList, eraseList, scale_frame k t h.1, scale_frame_list k ts h.2]
end

mutual
/-- scaling re-normalises every string, so the result is normal (for any input, in fact) -/
theorem scale_normal (k : Num) : ∀ t : Tree, TreeNormal t → TreeNormal (Tree.scale k t)
  | .ingredient d q, _ => by simp only [Tree.scale, TreeNormal]; exact normalise_normal _
  | .step d i, h => by
    simp only [TreeNormal] at h
    simp only [Tree.scale, TreeNormal]
    exact ⟨normalise_normal _, scale_normal_list k i h.2⟩
  | .reference s n a, h => by
    simp only [TreeNormal] at h
    simp only [Tree.scale, TreeNormal]
    exact scale_normal k s h
  | .sub b ns sh, h => by
    simp only [TreeNormal] at h
    simp only [Tree.scale, TreeNormal]
    refine ⟨scale_normal k b h.1, ?_⟩
    intro n hn
    obtain ⟨m, _, rfl⟩ := List.mem_map.1 hn
    exact normalise_normal _
theorem scale_normal_list (k : Num) : ∀ ts : List Tree, TreeNormalList ts → TreeNormalList (Tree.scaleList k ts)
  | [], _ => by simp [Tree.scaleList, TreeNormalList]
  | t :: ts, h => by
    simp only [TreeNormalList] at h
    simp only [Tree.scaleList, TreeNormalList]
    exact ⟨scale_normal k t h.1, scale_normal_list k ts h.2⟩
end

/-- the rational is exactly representable as a binary64 -/
def IsDouble (q : Rat) : Prop := toDouble q = q
def NumsOK (t : Tree) : Prop := ∀ n ∈ nums t, n.kind = .flt → IsDouble n.val
def Exact (t : Tree) : Prop := ∀ n ∈ nums t, n.kind ≠ .flt

theorem svs_scale_one (s : SVS) (h : SvsNormal s) (hd : ∀ n ∈ svsNums s, n.kind = .flt → IsDouble n.val) :
    Svs.scale ⟨1, .int⟩ s = s := by
  rw [Svs.scale_of_normal _ s ((Svs.normal_iff s).2 h)]
  conv => rhs; rw [← List.map_id s]
  apply List.map_congr_left
  intro p hp
  cases p with
  | text t => rfl
  | num n => simp [Svs.scalePart, Num.mul_one n (hd n ((Svs.num_mem_iff n s).1 hp))]

mutual
/-- C03.3 scaling by the integer 1 is the identity -/
theorem scale_one : ∀ t : Tree, TreeNormal t → NumsOK t → Tree.scale ⟨1, .int⟩ t = t
  | .ingredient d q, hn, hd => by
    simp only [TreeNormal] at hn
    simp only [NumsOK, nums, List.mem_append] at hd
    have h1 := svs_scale_one d hn (fun n h => hd n (Or.inl h))
    cases q with
    | none => simp [Tree.scale, h1]
    | some q =>
      have := Num.mul_one q.value (hd q.value (Or.inr (by simp)))
      simp [Tree.scale, h1, Quantity.scale, this]
  | .step d i, hn, hd => by
    simp only [TreeNormal] at hn
    simp only [NumsOK, nums, List.mem_append] at hd
    have h1 := svs_scale_one d hn.1 (fun n h => hd n (Or.inl h))
    have h2 := scale_one_list i hn.2 (fun n h => hd n (Or.inr h))
    simp [Tree.scale, h1, h2]
  | .reference s n a, hn, hd => by
    simp only [TreeNormal] at hn
    simp only [NumsOK, nums, List.mem_append] at hd
    have h1 := scale_one s hn (fun n h => hd n (Or.inl h))
    cases a with
    | proportion v p w pr => simp [Tree.scale, h1, Amount.scale]
    | quantity q =>
      have := Num.mul_one q.value (hd q.value (Or.inr (by simp)))
      simp [Tree.scale, h1, Amount.scale, Quantity.scale, this]
  | .sub b ns sh, hn, hd => by
    simp only [TreeNormal] at hn
    simp only [NumsOK, nums, List.mem_append, List.mem_flatMap] at hd
    have h1 := scale_one b hn.1 (fun n h => hd n (Or.inl h))
    have h2 : ns.map (Svs.scale ⟨1, .int⟩) = ns := by
      conv => rhs; rw [← List.map_id ns]
      apply List.map_congr_left
      intro m hm
      exact svs_scale_one m (hn.2 m hm) (fun n h => hd n (Or.inr ⟨m, hm, h⟩))
    simp [Tree.scale, h1, h2]
theorem scale_one_list : ∀ ts : List Tree, TreeNormalList ts →
    (∀ n ∈ numsList ts, n.kind = .flt → IsDouble n.val) → Tree.scaleList ⟨1, .int⟩ ts = ts
  | [], _, _ => rfl
  | t :: ts, hn, hd => by
    simp only [TreeNormalList] at hn
    simp only [numsList, List.mem_append] at hd
    simp [Tree.scaleList, scale_one t hn.1 (fun n h => hd n (Or.inl h)),
      scale_one_list ts hn.2 (fun n h => hd n (Or.inr h))]
end

theorem svs_scale_mul (a b : Num) (s : SVS) (ha : a.kind ≠ .flt) (hb : b.kind ≠ .flt) (h : SvsNormal s)
    (he : ∀ n ∈ svsNums s, n.kind ≠ .flt) :
    Svs.scale b (Svs.scale a s) = Svs.scale (a.mul b) s := by
  have hs := (Svs.normal_iff s).2 h
  rw [Svs.scale_of_normal a s hs, Svs.scale_eq_map b, Svs.normalise_map (Svs.scalePart_shape a),
    Svs.normalise_of_normal s hs, Svs.scale_of_normal (a.mul b) s hs, List.map_map]
  apply List.map_congr_left
  intro p hp
  cases p with
  | text t => rfl
  | num n =>
    simp [Svs.scalePart, Num.mul_mul_exact n a b (he n ((Svs.num_mem_iff n s).1 hp)) ha hb]

mutual
theorem scale_mul_tree (a b : Num) (ha : a.kind ≠ .flt) (hb : b.kind ≠ .flt) : ∀ t : Tree, TreeNormal t → Exact t →
    Tree.scale b (Tree.scale a t) = Tree.scale (a.mul b) t
  | .ingredient d q, hn, he => by
    simp only [TreeNormal] at hn
    simp only [Exact, nums, List.mem_append] at he
    have h1 := svs_scale_mul a b d ha hb hn (fun n h => he n (Or.inl h))
    cases q with
    | none => simp [Tree.scale, h1]
    | some q =>
      have := Num.mul_mul_exact q.value a b (he q.value (Or.inr (by simp))) ha hb
      simp [Tree.scale, h1, Quantity.scale, this]
  | .step d i, hn, he => by
    simp only [TreeNormal] at hn
    simp only [Exact, nums, List.mem_append] at he
    have h1 := svs_scale_mul a b d ha hb hn.1 (fun n h => he n (Or.inl h))
    have h2 := scale_mul_list a b ha hb i hn.2 (fun n h => he n (Or.inr h))
    simp [Tree.scale, h1, h2]
  | .reference s n am, hn, he => by
    simp only [TreeNormal] at hn
    simp only [Exact, nums, List.mem_append] at he
    have h1 := scale_mul_tree a b ha hb s hn (fun n h => he n (Or.inl h))
    cases am with
    | proportion v p w pr => simp [Tree.scale, h1, Amount.scale]
    | quantity q =>
      have := Num.mul_mul_exact q.value a b (he q.value (Or.inr (by simp))) ha hb
      simp [Tree.scale, h1, Amount.scale, Quantity.scale, this]
  | .sub body ns sh, hn, he => by
    simp only [TreeNormal] at hn
    simp only [Exact, nums, List.mem_append, List.mem_flatMap] at he
    have h1 := scale_mul_tree a b ha hb body hn.1 (fun n h => he n (Or.inl h))
    have h2 : (ns.map (Svs.scale a)).map (Svs.scale b) = ns.map (Svs.scale (a.mul b)) := by
      rw [List.map_map]
      apply List.map_congr_left
      intro m hm
      exact svs_scale_mul a b m ha hb (hn.2 m hm) (fun n h => he n (Or.inr ⟨m, hm, h⟩))
    simp only [Tree.scale, h1, h2]
theorem scale_mul_list (a b : Num) (ha : a.kind ≠ .flt) (hb : b.kind ≠ .flt) : ∀ ts : List Tree,
    TreeNormalList ts → (∀ n ∈ numsList ts, n.kind ≠ .flt) →
    Tree.scaleList b (Tree.scaleList a ts) = Tree.scaleList (a.mul b) ts
  | [], _, _ => rfl
  | t :: ts, hn, he => by
    simp only [TreeNormalList] at hn
    simp only [numsList, List.mem_append] at he
    simp [Tree.scaleList, scale_mul_tree a b ha hb t hn.1 (fun n h => he n (Or.inl h)),
      scale_mul_list a b ha hb ts hn.2 (fun n h => he n (Or.inr h))]
end

/-- C03.3 composition for exact factors and exact numbers: scale a then b = scale (a*b) -/
theorem scale_mul (a b : Num) (t : Tree) (ha : a.kind ≠ .flt) (hb : b.kind ≠ .flt) (hn : TreeNormal t)
    (he : Exact t) : Tree.scale b (Tree.scale a t) = Tree.scale (a.mul b) t :=
  scale_mul_tree a b ha hb t hn he

/-- the float tag of every number is the same on both sides for any factors -/
theorem scale_mul_kinds (a b : Num) (t : Tree) :
    (nums (Tree.scale b (Tree.scale a t))).map (·.kind) = (nums (Tree.scale (a.mul b) t)).map (·.kind) := by
  rw [scale_numbers, scale_numbers, scale_numbers, List.map_map, List.map_map, List.map_map]
  apply List.map_congr_left
  intro n _
  exact Num.mul_mul_kind n a b

/-- one recipe block: every reference target met while walking a tree (including inside embedded copies)
    *is* (structural `=`) a sub-recipe root of an earlier block or earlier in this block -/
def ValidBlockS (prev : List Tree) : Block → Prop
  | [] => True
  | t :: ts => (∀ s ∈ Tree.refTargets t, s ∈ prev) ∧ ValidBlockS (if t.isSub then t :: prev else prev) ts

/-- structural validity, following the recursion of `checkBlocks` -/
def ValidS (prev : List Tree) : List Block → Prop
  | [] => True
  | b :: bs => ValidBlockS prev b ∧ ValidS (prev ++ b.filter Tree.isSub) bs

theorem scale_validBlock (k : Num) : ∀ (b : Block) (prev : List Tree), ValidBlockS prev b →
    ValidBlockS (prev.map (Tree.scale k)) (Tree.scaleList k b)
  | [], _, _ => by simp [Tree.scaleList, ValidBlockS]
  | t :: ts, prev, h => by
    obtain ⟨h1, h2⟩ := h
    simp only [Tree.scaleList, ValidBlockS]
    refine ⟨?_, ?_⟩
    · intro s hs
      rw [Tree.refTargets_scale] at hs
      obtain ⟨s', hs', rfl⟩ := List.mem_map.1 hs
      exact List.mem_map.2 ⟨s', h1 s' hs', rfl⟩
    · have := scale_validBlock k ts _ h2
      rw [Tree.isSub_scale]
      cases hsub : t.isSub <;> simpa [hsub] using this

theorem scale_valid_from (k : Num) : ∀ (bs : List Block) (prev : List Tree), ValidS prev bs →
    ValidS (prev.map (Tree.scale k)) (scaleBlocks k bs)
  | [], _, _ => by simp [scaleBlocks, ValidS]
  | b :: bs, prev, h => by
    obtain ⟨h1, h2⟩ := h
    have ih := scale_valid_from k bs _ h2
    simp only [scaleBlocks, List.map_cons, ValidS]
    refine ⟨scale_validBlock k b prev h1, ?_⟩
    rw [Tree.filter_isSub_scaleList, ← List.map_append]
    exact ih

/-- C03.4/C08.2 a structurally valid recipe stays valid under any scale, each reference embedding the
    scaled definition -/
theorem scale_valid (k : Num) (bs : List Block) (h : ValidS [] bs) : ValidS [] (scaleBlocks k bs) :=
  scale_valid_from k bs [] h

theorem validBlockS_check : ∀ (b : Block) (prev : List Tree), ValidBlockS prev b → checkBlock prev b = true
  | [], _, _ => rfl
  | t :: ts, prev, h => by
    obtain ⟨h1, h2⟩ := h
    simp only [checkBlock, Bool.and_eq_true, List.all_eq_true, List.any_eq_true]
    exact ⟨fun s hs => ⟨s, h1 s hs, Tree.beq_refl s⟩, validBlockS_check ts _ h2⟩

theorem validS_check_from : ∀ (bs : List Block) (prev : List Tree), ValidS prev bs → checkBlocks prev bs = true
  | [], _, _ => rfl
  | b :: bs, prev, h => by
    simp only [checkBlocks, Bool.and_eq_true]
    exact ⟨validBlockS_check b prev h.1, validS_check_from bs _ h.2⟩

/-- structural validity implies the Python constructor's (`==`-based) check passes -/
theorem validS_check (bs : List Block) (h : ValidS [] bs) : checkBlocks [] bs = true :=
  validS_check_from bs [] h

/-- so a structurally valid recipe can be re-constructed after scaling: `Recipe.scale` never raises -/
theorem scale_mkRecipes_ok (k : Num) (bs : List Block) (h : ValidS [] bs) :
    mkRecipes (scaleBlocks k bs) = .ok (scaleBlocks k bs) := by
  simp [mkRecipes, validS_check _ (scale_valid k bs h)]

/-- a sub recipe holding one ingredient whose quantity is `v` -/
def witnessSub (v : Num) : Tree :=
  .sub (.ingredient [.text ['x']] (some ⟨v, none, [], []⟩)) [[.text ['y']]] false
/-- block 0 defines the sub recipe with the int `1`; block 1 references a copy holding the float `1.0` -/
def witness : List Block :=
  [[witnessSub ⟨1, .int⟩], [.reference (witnessSub ⟨1, .flt⟩) 0 Amount.whole]]

/-- validity under Python's `==` (where `1 == 1.0`) is NOT preserved by scaling: after scaling by the
    fraction 1/3 the root holds `Fraction(1, 3)` and the copy holds the double nearest to 1/3 -/
theorem scale_breaks_beq_validity :
    checkBlocks [] witness = true ∧ checkBlocks [] (scaleBlocks ⟨1 / 3, .frac⟩ witness) = false := by
  decide +kernel

/-- the sub recipe `sauce`; `exTree` is the step "make {2} balls" of an ingredient "3/2 kg flour" and a reference (quantity
    200 g) to it -/
def exSub : Tree := .sub (.ingredient [.text "sauce".toList] none) [[.text "sauce".toList]] false
def exTree : Tree :=
  .step [.text "make ".toList, .num ⟨2, .int⟩, .text " balls".toList]
    [.ingredient [.text "flour".toList] (some ⟨⟨3 / 2, .frac⟩, some "kg".toList, " ".toList, []⟩),
     .reference exSub 0 (.quantity ⟨⟨200, .int⟩, some "g".toList, [], []⟩)]

theorem exTree_nums : (nums exTree).map (fun n => (n.val, n.kind)) = [(2, .int), (3 / 2, .frac), (200, .int)] := by
  decide +kernel
example : (nums (Tree.scale ⟨2, .int⟩ exTree)).map (fun n => (n.val, n.kind)) = [(4, .int), (3, .frac), (400, .int)] := by
  decide +kernel
theorem exTree_normal : TreeNormal exTree := by
  have h : ∀ t : Str, t ≠ [] → SvsNormal [.text t] := fun t ht =>
    (Svs.normal_iff _).1 ⟨ht, rfl, trivial⟩
  simp only [exTree, exSub, TreeNormal, TreeNormalList, and_true, List.mem_singleton, forall_eq]
  exact ⟨(Svs.normal_iff _).1 ⟨by decide, rfl, by decide, rfl, trivial⟩,
    h _ (by decide), h _ (by decide), h _ (by decide)⟩
theorem exTree_exact : Exact exTree := by
  intro n hn
  have h := exTree_nums
  have : (n.val, n.kind) ∈ (nums exTree).map (fun n => (n.val, n.kind)) := List.mem_map.2 ⟨n, hn, rfl⟩
  rw [h] at this
  simp at this
  rcases this with ⟨_, h⟩ | ⟨_, h⟩ | ⟨_, h⟩ <;> simp [h]
theorem exTree_valid : ValidS [] [[exSub], [exTree]] := by
  simp [ValidS, ValidBlockS, exSub, exTree, Tree.refTargets, Tree.refTargetsList, Tree.isSub]
example := scale_numbers ⟨2, .int⟩ exTree
example := scale_frame ⟨1 / 3, .flt⟩ exTree exTree_normal
example := scale_normal ⟨1 / 3, .flt⟩ exTree exTree_normal
example := scale_one exTree exTree_normal (fun n hn h => absurd h (exTree_exact n hn))
example := scale_mul ⟨2, .int⟩ ⟨1 / 3, .frac⟩ exTree (by simp) (by simp) exTree_normal exTree_exact
example := scale_valid ⟨1 / 3, .flt⟩ _ exTree_valid
example := validS_check _ exTree_valid
/-- the frame hypothesis is needed: an un-normalised string is merged by scaling -/
example : erase (Tree.scale ⟨1, .int⟩ (.ingredient [.text ['a'], .text ['b']] none))
    ≠ erase (.ingredient [.text ['a'], .text ['b']] none) := by
  simp [Tree.scale, Svs.scale, Svs.normalise, Svs.merge, erase, eraseSvs]
/-- `scale_one` needs `NumsOK`: a "float" that is not a double is rounded -/
example : Tree.scale ⟨1, .int⟩ (.ingredient [.num ⟨1 / 3, .flt⟩] none) ≠ .ingredient [.num ⟨1 / 3, .flt⟩] none := by
  simp [Tree.scale, Svs.scale, Svs.normalise, Svs.merge, Num.mul, Num.isFlt, Num.toFlt, toDouble_one,
    Rat.mul_one, toDouble_third_ne]

end RG.C03
