import RecipeGrid.Model.Parser
/-! C06, the specification: what can be written, and what it means.

    For every rule of the grammar a type of *spellings* (`NumLit`, `QChar`, `BItem`, `StrAtom`, `PrepLit`, `RemainderLit`,
    `UnitLit`, `AmountLit`, `RefLit`, `EolLit`, `CommaLit`, `FlatStmt`: the choices the grammar leaves open, white space
    included), its printer (`print`), the permitted spellings (`WF`, `Ok`), what may follow them (`Follow`, `NextNot`,
    `NakedFollow`, `ClosedFollow`) and the expected fragment of the AST with its offsets (`value`).  No rule of the parser
    is mentioned: of `Model/Parser.lean` only the character classes (`isHsp`, `isDigit`, `isReWord` …, `ciMatches`),
    the tables and the AST are used (and `natOfDigits`, in the one remark that the two readings of a digit run agree).
    `Props/C06.lean` proves that the rules recover every permitted spelling; the specification of steps, parentheses
    and blocks (`XExpr`, `XStmt`, `Spelling`, `XOk`) continues in `Props/C06b.lean`.

    `WF` is a condition on the spelling alone, `Ok` takes the text `rest` that follows and includes what must follow
    (`Follow`); the `Ok` of the single characters (`QChar.Ok q`, `QChar.BracedOk`) depends on the kind of string only.
    The printers are parenthesised to the right (`a ++ (b ++ (c ++ rest))`), the way the rules consume the text. -/
namespace RG.C06
open RG.Parser

def NextNot (p : Char → Bool) (rest : Str) : Prop := ∀ c, rest.head? = some c → p c = false

/-- a non-empty run of ASCII digits (leading zeros allowed) -/
def IsDigits (ds : Str) : Prop := ds ≠ [] ∧ ∀ c ∈ ds, isDigit c = true

/-- a possibly empty run of blanks `[ \t]` -/
def IsBlanks (s : Str) : Prop := ∀ c ∈ s, isHsp c = true

/-- a possibly empty run of `\s` characters -/
def IsSpaces (s : Str) : Prop := ∀ c ∈ s, isReSpace c = true

instance (s : Str) : Decidable (IsBlanks s) := by unfold IsBlanks; infer_instance

instance (s : Str) : Decidable (IsSpaces s) := by unfold IsSpaces; infer_instance

def digitsValue (ds : Str) : Nat := ds.foldl (fun n d => 10 * n + (d.toNat - 48)) 0

/-- the specification's reading of a digit run is the model's -/
theorem natOfDigits_eq_digitsValue (ds : Str) : natOfDigits ds = digitsValue ds := rfl

inductive NumLit where
  /-- `[0-9]+` -/
  | int (ds : Str)
  /-- `[0-9]+ "." [0-9]*` -/
  | dec (whole frac : Str)
  /-- `p "/" blanks q`: no blank before the slash -/
  | frac (p s2 q : Str)
  /-- `w blanks p blanks "/" blanks q` -/
  | mixed (w s0 p s1 s2 q : Str)

namespace NumLit

def print : NumLit → Str
  | int ds => ds
  | dec whole fr => whole ++ '.' :: fr
  | frac p s2 q => p ++ '/' :: s2 ++ q
  | mixed w s0 p s1 s2 q => w ++ s0 ++ p ++ s1 ++ '/' :: s2 ++ q

/-- which spellings are permitted: digit runs where digits are required (the part after the
    decimal point may be empty), blanks `[ \t]*` where blanks are allowed, at least one blank after
    the integer part of a mixed fraction, and a denominator with a non-zero digit -/
def WF : NumLit → Prop
  | int ds => IsDigits ds
  | dec whole fr => IsDigits whole ∧ ∀ c ∈ fr, isDigit c = true
  | frac p s2 q => IsDigits p ∧ IsBlanks s2 ∧ IsDigits q ∧ digitsValue q ≠ 0
  | mixed w s0 p s1 s2 q =>
    IsDigits w ∧ s0 ≠ [] ∧ IsBlanks s0 ∧ IsDigits p ∧ IsBlanks s1 ∧ IsBlanks s2 ∧ IsDigits q ∧ digitsValue q ≠ 0

/-- the number that is meant: an `int`, the `float` nearest to the decimal, or an exact `Fraction` -/
def value : NumLit → Num
  | int ds => ⟨(digitsValue ds : Nat), .int⟩
  | dec whole fr => ⟨toDouble (mkRat (digitsValue (whole ++ fr) : Nat) (10 ^ fr.length)), .flt⟩
  | frac p _ q => ⟨mkRat (digitsValue p) (digitsValue q), .frac⟩
  | mixed w _ p _ _ q => ⟨((digitsValue w : Nat) : Rat) + mkRat (digitsValue p) (digitsValue q), .frac⟩

end NumLit

/-- what may follow a spelling for `number` to recover exactly that spelling:
    * after any spelling, no further digit;
    * after an integer spelling moreover no ".", and - after optional blanks - neither a "/" nor
      a digit (otherwise the text is, or starts like, a fraction). -/
def NumLit.Follow : NumLit → Str → Prop
  | .int _, rest => rest.head? ≠ some '.' ∧
      ∀ c, (rest.dropWhile isHsp).head? = some c → isDigit c = false ∧ c ≠ '/'
  | _, rest => NextNot isDigit rest

/-- `ESCAPE_CHARS.get(l, l)`: the character meant by the escape `\l` -/
def escapeValue (l : Char) : Char :=
  match Gen.escapeChars.lookup l.toNat with
  | some n => Char.ofNat n
  | none => l

/-- one item of a quoted (or bracketed) string as written: a character standing for itself, or a
    backslash followed by any character at all -/
inductive QChar where
  | raw (c : Char)
  | esc (l : Char)

namespace QChar

def print : QChar → Str
  | raw c => [c]
  | esc l => ['\\', l]

def value : QChar → Char
  | raw c => c
  | esc l => escapeValue l

/-- what may stand between two quotes `q`: every escape (also of a newline, of the quote, of the
    backslash), and every raw character except the quote, the backslash and the newlines -/
def Ok (q : Char) : QChar → Prop
  | raw c => c ≠ q ∧ c ≠ '\\' ∧ isNewline c = false
  | esc _ => True

end QChar

def printQuoted (q : Char) (items : List QChar) : Str := q :: items.flatMap QChar.print ++ [q]

/-- the letter `l` such that `\l` means `c`, if `ESCAPE_CHARS` has one -/
def escapeLetter (c : Char) : Option Char :=
  (Gen.escapeChars.find? fun p => p.2 == c.toNat).map fun p => Char.ofNat p.1

/-- a character as `escape` writes it between quotes: the backslash, both quotes and the control
    characters of `ESCAPE_CHARS` (among them both newlines) get their letter, everything else is raw -/
def escapeChar (c : Char) : Str :=
  match escapeLetter c with
  | some l => ['\\', l]
  | none => [c]

def quote (q : Char) (s : Str) : Str := q :: s.flatMap escapeChar ++ [q]

/-- the characters that cannot occur in a naked string: `"',:=/(){}` -/
def IsSpecialChar (c : Char) : Prop := c ∈ ['"', '\'', ',', ':', '=', '/', '(', ')', '{', '}']

instance (c : Char) : Decidable (IsSpecialChar c) := by unfold IsSpecialChar; infer_instance

/-- a naked string: non-empty, without special characters and newlines, and neither starting nor
    ending with a `\s` character (inside, blanks are fine) -/
def IsNaked (txt : Str) : Prop :=
  txt ≠ [] ∧ (∀ c ∈ txt, ¬ IsSpecialChar c ∧ isNewline c = false)
  ∧ (∀ c, txt.head? = some c → isReSpace c = false) ∧ (∀ c, txt.getLast? = some c → isReSpace c = false)

instance (txt : Str) : Decidable (IsNaked txt) := by unfold IsNaked IsSpecialChar; infer_instance

def StopsNaked (c : Char) : Prop := IsSpecialChar c ∨ isNewline c = true

/-- one item between the braces as written: a character (raw or escaped) or a number -/
inductive BItem where
  | chr (c : QChar)
  | num (l : NumLit)

def BItem.print : BItem → Str
  | .chr c => c.print
  | .num l => l.print

def printBody (items : List BItem) : Str := items.flatMap BItem.print

def printBraced (items : List BItem) : Str := '{' :: printBody items ++ ['}']

/-- what may stand between braces as a character: every escape, and every raw character except
    the digits (they belong to numbers), the braces, the backslash and the newlines -/
def QChar.BracedOk : QChar → Prop
  | .raw c => isDigit c = false ∧ c ≠ '{' ∧ c ≠ '}' ∧ c ≠ '\\' ∧ isNewline c = false
  | .esc _ => True

/-- admissible bodies (`rest` is what follows the closing brace): admissible characters, and
    permitted spellings of numbers, each followed by something that does not continue it -/
def BracedOk (rest : Str) : List BItem → Prop
  | [] => True
  | .chr c :: items => c.BracedOk ∧ BracedOk rest items
  | .num l :: items => (l.WF ∧ l.Follow (printBody items ++ '}' :: rest)) ∧ BracedOk rest items

/-! The expected value.  Maximal runs of characters become one `.sub` each, numbers one `.num`
    each.  Offsets: a `.num` carries the offset of its first digit; a run carries the offset of the
    text of its first character — except for a run right after the `{`, which carries the offset of
    the `{` itself.  `{}` is one empty `.sub`; a number right after the `{` leaves no empty `.sub`. -/

mutual
/-- inside a run that started at offset `o` with the characters `s` so far; the next item is
    written at offset `off` -/
def bracedRun (o : Nat) (s : Str) (off : Nat) : List BItem → AString
  | [] => [.sub o s]
  | .chr c :: items => bracedRun o (s ++ [c.value]) (off + c.print.length) items
  | .num l :: items => .sub o s :: .num off l.value :: bracedAfterNum (off + l.print.length) items
/-- right after a number; the next item is written at offset `off` -/
def bracedAfterNum (off : Nat) : List BItem → AString
  | [] => []
  | .chr c :: items => bracedRun off [c.value] (off + c.print.length) items
  | .num l :: items => .num off l.value :: bracedAfterNum (off + l.print.length) items
end

/-- the value of `{items}` written at offset `i` -/
def bracedValue (i : Nat) : List BItem → AString
  | [] => [.sub i []]
  | .chr c :: items => bracedRun i [c.value] (i + 1 + c.print.length) items
  | .num l :: items => .num (i + 1) l.value :: bracedAfterNum (i + 1 + l.print.length) items

/-- a character as it can always be written between braces: as between quotes, and moreover the
    braces and the digits get a backslash (`\{`, `\}`, `\0` … `\9` mean the character itself) -/
def braceEscapeChar (c : Char) : Str :=
  match escapeLetter c with
  | some l => ['\\', l]
  | none => if c = '{' ∨ c = '}' ∨ isDigit c = true then ['\\', c] else [c]

def braceQuote (s : Str) : Str := '{' :: s.flatMap braceEscapeChar ++ ['}']

inductive StrAtom where
  | naked (txt : Str)
  | squoted (items : List QChar)
  | dquoted (items : List QChar)
  | braced (items : List BItem)

namespace StrAtom

def print : StrAtom → Str
  | naked txt => txt
  | squoted items => printQuoted '\'' items
  | dquoted items => printQuoted '"' items
  | braced items => printBraced items

def value (off : Nat) : StrAtom → AString
  | naked txt => [.sub off txt]
  | squoted items => [.sub off (items.map QChar.value)]
  | dquoted items => [.sub off (items.map QChar.value)]
  | braced items => bracedValue off items

def isNaked : StrAtom → Bool
  | naked _ => true
  | _ => false

/-- admissible atoms (`after` is the text that follows the atom; only the numbers of a bracketed
    atom care); a static string has no bracketed atoms -/
def Ok (static : Bool) (after : Str) : StrAtom → Prop
  | naked txt => IsNaked txt
  | squoted items => ∀ it ∈ items, it.Ok '\''
  | dquoted items => ∀ it ∈ items, it.Ok '"'
  | braced items => static = false ∧ BracedOk after items

end StrAtom

def printMore : List (Str × StrAtom) → Str
  | [] => []
  | (bl, a) :: more => bl ++ a.print ++ printMore more

def printString (a : StrAtom) (more : List (Str × StrAtom)) : Str := a.print ++ printMore more

/-- the value of the atoms after the first one, written from offset `off` on: non-empty blanks
    are kept as a `.sub` of their own between the atoms -/
def moreValue (off : Nat) : List (Str × StrAtom) → AString
  | [] => []
  | (bl, a) :: more =>
    (if bl.isEmpty then [] else [.sub off bl]) ++ a.value (off + bl.length)
      ++ moreValue (off + bl.length + a.print.length) more

def stringValue (off : Nat) (a : StrAtom) (more : List (Str × StrAtom)) : AString :=
  a.value off ++ moreValue (off + a.print.length) more

/-- a character that ends every string: one of `,:=/()}`, a newline — and `{` in a static string -/
def EndsString (static : Bool) (c : Char) : Prop :=
  c ∈ [',', ':', '=', '/', '(', ')', '}'] ∨ isNewline c = true ∨ (static = true ∧ c = '{')

/-- what may follow a string whose last atom is naked: white space (no newline), then the end of
    the text or a character that ends every string.  (This and `ClosedFollow` have the shape `Parser.AfterRun` of
    `Lemmas/ParserBasic.lean`, through which the lemmas pass from one follow condition to another.) -/
def NakedFollow (static : Bool) (rest : Str) : Prop :=
  ∃ ws rest', rest = ws ++ rest' ∧ (∀ c ∈ ws, isReSpace c = true ∧ isNewline c = false)
    ∧ ∀ c, rest'.head? = some c → EndsString static c

/-- what may follow a string whose last atom is quoted or bracketed: blanks, then the end of the
    text, or any other `\s` character, or a character that ends every string -/
def ClosedFollow (static : Bool) (rest : Str) : Prop :=
  ∃ bl rest', rest = bl ++ rest' ∧ IsBlanks bl
    ∧ ∀ c, rest'.head? = some c → isHsp c = false ∧ (isReSpace c = true ∨ EndsString static c)

def LastFollow (static : Bool) (a : StrAtom) (rest : Str) : Prop :=
  if a.isNaked = true then NakedFollow static rest else ClosedFollow static rest

/-- admissible strings: admissible atoms separated by blanks `[ \t]*`; a naked atom is followed —
    after its blanks — by an atom that is not naked (two naked atoms would read as one), or is the
    last one; what follows the last atom must end the string -/
def SeqOk (static : Bool) (rest : Str) : StrAtom → List (Str × StrAtom) → Prop
  | a, [] => a.Ok static rest ∧ LastFollow static a rest
  | a, (bl, b) :: more =>
    a.Ok static (bl ++ printString b more ++ rest) ∧ IsBlanks bl
      ∧ (a.isNaked = true → b.isNaked = false) ∧ SeqOk static rest b more

/-- a word as written: each letter in lower (`false`) or upper (`true`) case -/
def caseWord (w : Str) (upper : List Bool) : Str :=
  List.zipWith (fun l up => if up then l.toUpper else l) w upper

/-- a spelling of a unit name with the words `ws`: for each word the case of each of its letters,
    and the separators between consecutive words -/
def printUnit : List Str → List (List Bool) → List Str → Str
  | [], _, _ => []
  | [w], ms, _ => caseWord w (ms.headD [])
  | w :: ws, ms, seps => caseWord w (ms.headD []) ++ seps.headD [] ++ printUnit ws ms.tail seps.tail

/-- permitted spellings: one case choice per letter, and between two words one or more `\s` characters -/
def UnitSpellingOk : List Str → List (List Bool) → List Str → Prop
  | [w], [m], [] => m.length = w.length
  | w :: w2 :: ws, m :: ms, s :: seps =>
      m.length = w.length ∧ s ≠ [] ∧ IsSpaces s ∧ UnitSpellingOk (w2 :: ws) ms seps
  | _, _, _ => False

/-! regex fragments read on the text (follow conditions) -/

/-- `s` starts with the literal `w` under `(?i)` -/
def startsWithCI : Str → Str → Bool
  | [], _ => true
  | _ :: _, [] => false
  | l :: w, c :: s => ciMatches c l && startsWithCI w s

/-- regex `w\b` matches at the start of `s` (for a word `w` of letters) -/
def wordAt (w s : Str) : Bool := startsWithCI w s && !((s.drop w.length).head?.any isReWord)

/-- regex `[ \t]+w\b` matches at the start of `s` -/
def blanksWordAt (w s : Str) : Bool := s.head?.any isHsp && wordAt w (s.dropWhile isHsp)

/-- regex `(remaining|remainder|rest|left[ \t]*over)\b` matches at the start of `s` -/
def remainderWordAt (s : Str) : Bool :=
  wordAt "remaining".toList s || wordAt "remainder".toList s || wordAt "rest".toList s
  || (startsWithCI "left".toList s && wordAt "over".toList ((s.drop 4).dropWhile isHsp))

/-- one alternative of the unit regex (words joined by `\s+`, then `\b`) matches at the start of `s` -/
def unitWordsAt : List Str → Str → Bool
  | [], _ => false
  | [w], s => wordAt w s
  | w :: w2 :: ws, s => startsWithCI w s &&
      ((s.drop w.length).head?.any isReSpace &&
        unitWordsAt (w2 :: ws) ((s.drop w.length).dropWhile isReSpace))

def unitNameAt (s : Str) : Bool := Gen.unitPatterns.any fun name => unitWordsAt (name.map String.toList) s

/-- the optional preposition after an amount, as written (`m`, `m2`: the case of each letter) -/
inductive PrepLit where
  | none
  /-- blanks, "of" -/
  | of (bl : Str) (m : List Bool)
  /-- blanks, "of", blanks, "the" -/
  | ofThe (bl : Str) (m : List Bool) (bl2 : Str) (m2 : List Bool)

namespace PrepLit

def print : PrepLit → Str
  | none => []
  | of bl m => bl ++ caseWord "of".toList m
  | ofThe bl m bl2 m2 => bl ++ caseWord "of".toList m ++ bl2 ++ caseWord "the".toList m2

def WF : PrepLit → Prop
  | none => True
  | of bl m => bl ≠ [] ∧ IsBlanks bl ∧ m.length = 2
  | ofThe bl m bl2 m2 => bl ≠ [] ∧ IsBlanks bl ∧ m.length = 2 ∧ bl2 ≠ [] ∧ IsBlanks bl2 ∧ m2.length = 3

/-- what may follow: no preposition is taken only where the text does not go on with `[ \t]+of\b`;
    "of" is taken only where no `[ \t]+the\b` follows; and the word must end -/
def Follow : PrepLit → Str → Prop
  | none, rest => blanksWordAt "of".toList rest = false
  | of _ _, rest => NextNot isReWord rest ∧ blanksWordAt "the".toList rest = false
  | ofThe _ _ _ _, rest => NextNot isReWord rest

end PrepLit

inductive RemainderLit where
  | remaining (m : List Bool)
  | remainder (m : List Bool)
  | rest (m : List Bool)
  /-- "left", optional blanks, "over" -/
  | leftOver (m1 : List Bool) (bl : Str) (m2 : List Bool)

namespace RemainderLit

def print : RemainderLit → Str
  | remaining m => caseWord "remaining".toList m
  | remainder m => caseWord "remainder".toList m
  | rest m => caseWord "rest".toList m
  | leftOver m1 bl m2 => caseWord "left".toList m1 ++ bl ++ caseWord "over".toList m2

def WF : RemainderLit → Prop
  | remaining m => m.length = 9
  | remainder m => m.length = 9
  | rest m => m.length = 4
  | leftOver m1 bl m2 => m1.length = 4 ∧ IsBlanks bl ∧ m2.length = 4

end RemainderLit

/-- a unit name as written: which alternative, the case of every letter, the `\s+` between the words -/
structure UnitLit where
  name : List String
  ms : List (List Bool)
  seps : List Str

def UnitLit.print (u : UnitLit) : Str := printUnit (u.name.map String.toList) u.ms u.seps

def UnitLit.WF (u : UnitLit) : Prop :=
  u.name ∈ Gen.unitPatterns ∧ UnitSpellingOk (u.name.map String.toList) u.ms u.seps

/-- a whole `string` as written: the first atom and the further (blanks, atom) pairs -/
structure StringLit where
  first : StrAtom
  more : List (Str × StrAtom)

def StringLit.print (s : StringLit) : Str := printString s.first s.more

def StringLit.value (off : Nat) (s : StringLit) : AString := stringValue off s.first s.more

def StringLit.Ok (static : Bool) (rest : Str) (s : StringLit) : Prop := SeqOk static rest s.first s.more

inductive AmountLit where
  /-- `remaining`, `rest of the`, … -/
  | remainder (w : RemainderLit) (prep : PrepLit)
  /-- `1/2 of`, `2 of the` -/
  | ofNumber (n : NumLit) (prep : PrepLit)
  /-- `50%`, `50 % of the` -/
  | percent (n : NumLit) (bl : Str) (prep : PrepLit)
  /-- `0.5 *` -/
  | times (n : NumLit) (bl : Str)
  /-- `{2}`, `{ 2 large } of` -/
  | explicit (b1 : Str) (n : NumLit) (unit : Option (Str × StringLit)) (b3 : Str) (prep : PrepLit)
  /-- `2`, `100g`, `1 1/2 Table Spoons of the` -/
  | implicit (n : NumLit) (unit : Option (Str × UnitLit × PrepLit))

namespace AmountLit

def print : AmountLit → Str
  | remainder w p => w.print ++ p.print
  | ofNumber n p => n.print ++ p.print
  | percent n bl p => n.print ++ bl ++ '%' :: p.print
  | times n bl => n.print ++ bl ++ ['*']
  | explicit b1 n none b3 p => '{' :: b1 ++ n.print ++ b3 ++ '}' :: p.print
  | explicit b1 n (some (b2, u)) b3 p => '{' :: b1 ++ n.print ++ b2 ++ u.print ++ b3 ++ '}' :: p.print
  | implicit n none => n.print
  | implicit n (some (sp, u, p)) => n.print ++ sp ++ u.print ++ p.print

/-- the expected `ast.Quantity` / `ast.Proportion` for the amount written at offset `off` -/
def value (off : Nat) : AmountLit → AAmount
  | remainder w p => .prop off none false (some w.print) p.print
  | ofNumber n p => .prop off (some n.value) false none p.print
  | percent n bl p => .prop off (n.value.div (Num.ofNat 100)) true none (bl ++ '%' :: p.print)
  | times n bl => .prop off (some n.value) false none (bl ++ ['*'])
  | explicit _ n none _ p => .qty off n.value none [] p.print
  | explicit b1 n (some (b2, u)) _ p =>
    .qty off n.value (some (u.value (off + 1 + b1.length + n.print.length + b2.length))) b2 p.print
  | implicit n none => .qty off n.value none [] []
  | implicit n (some (sp, u, p)) =>
    .qty off n.value (some [.sub (off + n.print.length + sp.length) u.print]) sp p.print

def Ok (rest : Str) : AmountLit → Prop
  | remainder w p => w.WF ∧ p.WF ∧ p.Follow rest ∧ NextNot isReWord rest
  | ofNumber n p => n.WF ∧ n.Follow (p.print ++ rest) ∧ p.print ≠ [] ∧ p.WF ∧ p.Follow rest
  | percent n bl p => n.WF ∧ n.Follow (bl ++ '%' :: p.print ++ rest) ∧ IsBlanks bl ∧ p.WF ∧ p.Follow rest
  | times n bl => n.WF ∧ n.Follow (bl ++ '*' :: rest) ∧ IsBlanks bl
  | explicit b1 n none b3 p =>
    IsBlanks b1 ∧ n.WF ∧ n.Follow (b3 ++ '}' :: p.print ++ rest) ∧ IsBlanks b3 ∧ p.WF ∧ p.Follow rest
  | explicit b1 n (some (b2, u)) b3 p =>
    IsBlanks b1 ∧ n.WF ∧ n.Follow (b2 ++ u.print ++ b3 ++ '}' :: p.print ++ rest) ∧ IsBlanks b2
      ∧ u.Ok true (b3 ++ '}' :: p.print ++ rest) ∧ IsBlanks b3 ∧ p.WF ∧ p.Follow rest
  | implicit n none => n.WF ∧ n.Follow rest ∧ unitNameAt (rest.dropWhile isHsp) = false
  | implicit n (some (sp, u, p)) =>
    n.WF ∧ n.Follow (sp ++ u.print ++ p.print ++ rest) ∧ IsBlanks sp ∧ u.WF ∧ p.WF ∧ p.Follow rest
      ∧ NextNot isReWord rest

end AmountLit

/-- besides `Ok`: a bare number is only an implicit quantity where `proportion` does not take it,
    i.e. where neither `[ \t]+of\b` nor (after optional blanks) `%` or `*` follows -/
def AmountLit.Reached (rest : Str) : AmountLit → Prop
  | .implicit _ none => blanksWordAt "of".toList rest = false ∧
      ∀ c, (rest.dropWhile isHsp).head? = some c → c ≠ '%' ∧ c ≠ '*'
  | _ => True

/-- a reference as written: an optional amount with the blanks after it, and the name -/
structure RefLit where
  amount : Option (AmountLit × Str)
  name : StringLit

namespace RefLit

def print (r : RefLit) : Str :=
  match r.amount with
  | none => r.name.print
  | some (a, bl) => a.print ++ bl ++ r.name.print

/-- the expected `ast.Reference` for the reference written at offset `off` -/
def value (off : Nat) (r : RefLit) : AExpr :=
  match r.amount with
  | none => .ref (r.name.value off) none
  | some (a, bl) => .ref (r.name.value (off + a.print.length + bl.length)) (some (a.value off))

/-- permitted spellings.  Without an amount the name must not itself start like an amount: not with
    a remainder word, not with a digit, not with `{ number` (such names have to be quoted). -/
def Ok (rest : Str) (r : RefLit) : Prop :=
  match r.amount with
  | none =>
    r.name.Ok false rest ∧ remainderWordAt (r.name.print ++ rest) = false
      ∧ NextNot isDigit (r.name.print ++ rest)
      ∧ ∀ s', r.name.print ++ rest = '{' :: s' → NextNot isDigit (s'.dropWhile isHsp)
  | some (a, bl) =>
    a.Ok (bl ++ r.name.print ++ rest) ∧ a.Reached (bl ++ r.name.print ++ rest) ∧ IsBlanks bl
      ∧ r.name.Ok false rest

end RefLit

inductive EolLit where
  /-- blanks, one newline character, then any white space (further empty lines, indentation) -/
  | newline (bl : Str) (nl : Char) (ws : Str)
  /-- blanks, at the end of the text -/
  | eof (bl : Str)

namespace EolLit

def print : EolLit → Str
  | newline bl nl ws => bl ++ nl :: ws
  | eof bl => bl

def blanks : EolLit → Str
  | newline bl _ _ => bl
  | eof bl => bl

def WF : EolLit → Prop
  | newline bl nl ws => IsBlanks bl ∧ isNewline nl = true ∧ IsSpaces ws
  | eof bl => IsBlanks bl

/-- after a newline-end-of-line no further white space (it would belong to it); after an
    end-of-text-end-of-line nothing at all -/
def Follow : EolLit → Str → Prop
  | newline _ _ _, rest => NextNot isReSpace rest
  | eof _, rest => rest = []

end EolLit

/-- the assignment sign: `:=` for a named sub-recipe, `=` otherwise -/
def printAssign : Bool → Str
  | true => [':', '=']
  | false => ['=']

/-- one further item of a comma separated list: blanks, `,`, blanks, a string -/
structure CommaLit where
  b1 : Str
  b2 : Str
  s : StringLit

def CommaLit.print (c : CommaLit) : Str := c.b1 ++ ',' :: c.b2 ++ c.s.print

def printCommas : List CommaLit → Str
  | [] => []
  | c :: cs => c.print ++ printCommas cs

def CommasOk (rest : Str) : List CommaLit → Prop
  | [] => True
  | c :: cs => IsBlanks c.b1 ∧ IsBlanks c.b2 ∧ c.s.Ok false (printCommas cs ++ rest) ∧ CommasOk rest cs

def commaValues (off : Nat) : List CommaLit → List AString
  | [] => []
  | c :: cs => c.s.value (off + c.b1.length + 1 + c.b2.length) :: commaValues (off + c.print.length) cs

/-- the target of a statement: `output (, output)* blanks (:= | =) blanks` -/
structure Target where
  output : StringLit
  more : List CommaLit
  b1 : Str
  named : Bool
  b2 : Str

def Target.print (g : Target) : Str :=
  g.output.print ++ (printCommas g.more ++ (g.b1 ++ (printAssign g.named ++ g.b2)))

/-- a flat statement: an optional target, a reference (an optional amount and a name), actions
    applied to it from left to right, and the end of the line -/
structure FlatStmt where
  target : Option Target
  ref : RefLit
  actions : List CommaLit
  eol : EolLit

namespace FlatStmt

def targetTxt (s : FlatStmt) : Str :=
  match s.target with
  | some g => g.print
  | none => []

def print (s : FlatStmt) : Str := s.targetTxt ++ ((s.ref.print ++ printCommas s.actions) ++ s.eol.print)

/-- the line from the reference up to the newline character (or the end of the text) -/
def line (s : FlatStmt) : Str := s.ref.print ++ (printCommas s.actions ++ s.eol.blanks)

/-- the statement written at offset `off`: `ref, a1, a2` is `a2(a1(ref))` -/
def value (off : Nat) (s : FlatStmt) : AStmt :=
  let o := off + s.targetTxt.length
  { expr := (commaValues (o + s.ref.print.length) s.actions).foldl (fun e action => .step action [e])
      (s.ref.value o)
    outputs := s.target.map fun g => g.output.value off :: commaValues (off + g.output.print.length) g.more
    named := (s.target.map (·.named)).getD false }

end FlatStmt

/-- admissible flat statements in front of `rest`: the reference and every string are admissible
    where they stand, blanks are blanks, and the line ends properly.  A reference *with an amount*
    is read in an unrelated way by the rules tried before `reference` (`step` and the output list
    start with a `string`, which tokenises the amount text differently), so for it the line must
    moreover contain no `(` and no backslash — and no `=` unless the statement has a target:
    then no rule can get past the end of the line, and neither a step nor a target is found. -/
def FlatStmt.Ok (rest : Str) (s : FlatStmt) : Prop :=
  s.ref.Ok (printCommas s.actions ++ (s.eol.print ++ rest))
  ∧ CommasOk (s.eol.print ++ rest) s.actions
  ∧ s.eol.WF ∧ s.eol.Follow rest
  ∧ (s.ref.amount.isSome = true →
      ∀ c ∈ s.line, c ≠ '(' ∧ c ≠ '\\' ∧ (s.target.isNone = true → c ≠ '='))
  ∧ match s.target with
    | none => True
    | some g =>
      g.output.Ok false (printCommas g.more ++ (g.b1 ++ (printAssign g.named ++ (g.b2 ++
        ((s.ref.print ++ printCommas s.actions) ++ (s.eol.print ++ rest))))))
      ∧ CommasOk (g.b1 ++ (printAssign g.named ++ (g.b2 ++
        ((s.ref.print ++ printCommas s.actions) ++ (s.eol.print ++ rest))))) g.more
      ∧ IsBlanks g.b1 ∧ IsBlanks g.b2

def printFlat : List FlatStmt → Str
  | [] => []
  | s :: ss => s.print ++ printFlat ss

def FlatOk : List FlatStmt → Prop
  | [] => True
  | s :: ss => s.Ok (printFlat ss) ∧ FlatOk ss

def flatValues (off : Nat) : List FlatStmt → List AStmt
  | [] => []
  | s :: ss => s.value off :: flatValues (off + s.print.length) ss

/-- after optional blanks, no `(`: what keeps a reference from being read as the beginning of a step (a
    `Parser.AfterRun`) -/
def NoParen (rest : Str) : Prop :=
  ∃ bl r, rest = bl ++ r ∧ IsBlanks bl ∧ ∀ c, r.head? = some c → isHsp c = false ∧ c ≠ '('

/-- the end of a step: an optional trailing comma, white space, `)` -/
def printClose : Option Str → Str → Str
  | none, ws => ws ++ [')']
  | some ws1, ws => ws1 ++ ',' :: (ws ++ [')'])

end RG.C06
