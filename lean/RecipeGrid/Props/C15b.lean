import RecipeGrid.Model.Site
/-! C15b — the second half of C15: "The page for recipe r at count n shows r's tables and prose scaled by n divided by r's stated servings
    (the page at the stated count is unscaled)".  `pageScale` is the factor `website.py` / `standalone_page.py` hand to
    `MarkdownRecipe.render`; these theorems are about that factor and about what it does to the stated count itself. -/
namespace RG.C15

/-- the factor is defined for every stated count ≥ 1 (the quantifier of C15), and only a stated count of 0 makes it undefined -/
theorem pageScale_defined_iff (n native : Nat) : (pageScale (some n) (some native)).isSome = true ↔ native ≠ 0 := by
  unfold pageScale
  by_cases h : native = 0 <;> simp [h]

/-- a recipe without stated servings is rendered unscaled whatever count is asked for -/
theorem pageScale_unscalable (s : Option Nat) : pageScale s none = some ⟨1, .int⟩ := by
  cases s <;> rfl

theorem pageScale_some (n native : Nat) (h : native ≠ 0) :
    pageScale (some n) (some native) = some ⟨(n : Rat) / (native : Rat), .frac⟩ := by
  rw [pageScale, if_neg h, Rat.mkRat_eq_div]; rfl

theorem eq_of_pageScale {n native : Nat} (h : native ≠ 0) {k : Num} (hk : pageScale (some n) (some native) = some k) :
    k = ⟨(n : Rat) / (native : Rat), .frac⟩ :=
  (Option.some.inj ((pageScale_some n native h).symm.trans hk)).symm

/-- the value of the factor is exactly n / native (a `Fraction`, never a float) -/
theorem pageScale_value (n native : Nat) (h : native ≠ 0) :
    ∃ k, pageScale (some n) (some native) = some k ∧ k.val = (n : Rat) / (native : Rat) ∧ k.kind = .frac :=
  ⟨_, pageScale_some n native h, rfl, rfl⟩

/-- the page at the stated count is unscaled: its factor has value 1 -/
theorem pageScale_native (native : Nat) (h : native ≠ 0) :
    ∃ k, pageScale (some native) (some native) = some k ∧ k.val = 1 :=
  ⟨_, pageScale_some native native h, by
    have : (native : Rat) ≠ 0 := by exact_mod_cast h
    rw [Rat.div_def]
    exact Rat.mul_inv_cancel _ this⟩

/-- scaling the stated count itself by the page's factor gives exactly the page's count (the heading of the page for n says n);
    the product of an `int` and a `Fraction` is exact in Python, so there is no rounding -/
theorem pageScale_count (n native : Nat) (h : native ≠ 0) (k : Num) (hk : pageScale (some n) (some native) = some k) :
    ((Num.ofNat native).mul k).val = (n : Rat) ∧ ((Num.ofNat native).mul k).kind ≠ .flt := by
  obtain rfl := eq_of_pageScale h hk
  have hn : (native : Rat) ≠ 0 := by exact_mod_cast h
  constructor
  · simp [Num.mul, Num.ofNat, Num.isFlt]
    rw [Rat.mul_comm, Rat.div_mul_cancel hn]
  · simp [Num.mul, Num.ofNat, Num.isFlt, Num.exactKind]

/-- and that count is displayed as the plain digits of n -/
theorem pageScale_count_shown (n native : Nat) (h : native ≠ 0) (k : Num) (hk : pageScale (some n) (some native) = some k) :
    formatNumber ((Num.ofNat native).mul k) = natDigits n := by
  obtain ⟨hv, hkind⟩ := pageScale_count n native h k hk
  have hflt : ((Num.ofNat native).mul k).isFlt = false := by simpa [Num.isFlt] using hkind
  simp [formatNumber, hflt, formatFraction, hv, intStr]

/-- different counts of one recipe get different factors (no two of the M pages of a recipe show the same scaling) -/
theorem pageScale_injective (n m native : Nat) (h : native ≠ 0) (k : Num)
    (hn : pageScale (some n) (some native) = some k) (hm : pageScale (some m) (some native) = some k) : n = m := by
  obtain ⟨v1, _⟩ := pageScale_count n native h k hn
  obtain ⟨v2, _⟩ := pageScale_count m native h k hm
  rw [v1] at v2
  exact_mod_cast v2

/-- going from the page for m to the page for n is the same as going there from the stated count: (n/m)·(m/native) = n/native -/
theorem pageScale_compose (n m native : Nat) (hm : m ≠ 0) (hnat : native ≠ 0) (a b c : Num)
    (ha : pageScale (some m) (some native) = some a) (hb : pageScale (some n) (some m) = some b)
    (hc : pageScale (some n) (some native) = some c) : (a.mul b).val = c.val ∧ (a.mul b).kind = c.kind := by
  obtain rfl := eq_of_pageScale hnat ha
  obtain rfl := eq_of_pageScale hm hb
  obtain rfl := eq_of_pageScale hnat hc
  have h1 : (m : Rat) ≠ 0 := by exact_mod_cast hm
  constructor
  · simp [Num.mul, Num.isFlt]
    rw [Rat.div_def, Rat.div_def, Rat.div_def]
    rw [Rat.mul_comm (m : Rat), Rat.mul_assoc, ← Rat.mul_assoc (m : Rat), Rat.mul_comm (m : Rat) (n : Rat),
        Rat.mul_assoc (n : Rat), Rat.mul_inv_cancel _ h1, Rat.mul_one, Rat.mul_comm]
  · simp [Num.mul, Num.isFlt, Num.exactKind]

-- non-vacuity: a recipe for 4 shown on the page for 6
example : (pageScale (some 6) (some 4)).map (fun k => (k.val, k.kind)) = some (3 / 2, .frac) := by decide +kernel
example : formatNumber ((Num.ofNat 4).mul ⟨3 / 2, .frac⟩) = "6".toList := by decide +kernel
example : (pageScale (some 2) (some 0)).isNone = true := by decide +kernel

end RG.C15
