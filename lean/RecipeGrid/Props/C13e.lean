import RecipeGrid.Props.C19f
/-! C13 and C19 together: `C19.doc_error_line` / `C19.doc2_error_line` read on the blocks `groupOf doc g` / `groupOf2 doc g`
    picked by a list of indices `g` — as `markdown.py` picks the blocks of an independent recipe.  The statements hold for any
    list of indices (the hypothesis that `g` is a group is not used); what `compile_markdown` reports for the groups it
    really compiles, in the order it compiles them, is `C19.mdCompile_error_line`. -/
namespace RG.C13

/-- `doc_error_line` for the blocks with the indices `g` (for instance an independent recipe of the document): a located
    error in the `i`-th of them is reported on the document line that holds the offending text -/
theorem scan_group_error_line (doc : Str) (hD : inDoc doc = true) (g : List Nat) (_hg : g ∈ groupBlocks (docKinds doc))
    (i off : Nat)
    (hc : compile ((groupOf doc g).map fun b => crToLf b.source) = .redefined i off ∨
          compile ((groupOf doc g).map fun b => crToLf b.source) = .proportion i off) :
    ∃ b, (groupOf doc g)[i]? = some b ∧ b ∈ scanBlocks doc ∧
      (compile (C19.mdSources doc ((groupOf doc g).map fun b => (b.pos, b.kind.isFenced, b.source))) =
          .redefined i (off + (b.startLine - 1)) ∨
       compile (C19.mdSources doc ((groupOf doc g).map fun b => (b.pos, b.kind.isFenced, b.source))) =
          .proportion i (off + (b.startLine - 1))) ∧
      (offsetToLineCol (paddedSource doc b.pos b.kind.isFenced b.source) (off + (b.startLine - 1))).1 =
        b.startLine + ((offsetToLineCol (crToLf b.source) off).1 - 1) ∧
      ∃ q, extractLine (paddedSource doc b.pos b.kind.isFenced b.source)
          (b.startLine + ((offsetToLineCol (crToLf b.source) off).1 - 1)) = some q ∧
        ((∃ d p, extractLine (crToLf (normaliseCrLf doc))
              (b.startLine + ((offsetToLineCol (crToLf b.source) off).1 - 1)) = some d ∧
            p ≤ C19.blockIndent doc b ∧ (∀ c ∈ d.take p, c = ' ') ∧ q = d.drop p) ∨ q = []) := by
  obtain ⟨b, hb, hmem, h1, h2, h3, q, _, hq, hrel⟩ :=
    C19.doc_error_line doc hD (groupOf doc g) (groupOf_mem _ g) i off hc
  refine ⟨b, hb, hmem, ?_, by rw [h3], q, hq, ?_⟩
  · rcases hc with hc | hc
    · exact Or.inl (h1 hc)
    · exact Or.inr (h2 hc)
  · rcases hrel with h | ⟨_, hq0, _⟩
    · exact Or.inl h
    · exact Or.inr hq0

/-- `doc2_error_line` for the blocks with the indices `g` (for instance an independent recipe of the document): a located
    error in the `i`-th of them is reported on the document line that holds the offending text, which is the quoted line
    behind a container prefix and at most 3 / 4 spaces -/
theorem scan2_group_error_line (doc : Str) (hD : inDoc2 doc = true) (g : List Nat) (_hg : g ∈ groupBlocks (docKinds2 doc))
    (i off : Nat)
    (hc : compile ((groupOf2 doc g).map fun b => crToLf b.source) = .redefined i off ∨
          compile ((groupOf2 doc g).map fun b => crToLf b.source) = .proportion i off) :
    ∃ b, (groupOf2 doc g)[i]? = some b ∧ b ∈ scanBlocks2 doc ∧
      (compile (C19.mdSources doc ((groupOf2 doc g).map fun b => (b.pos, b.kind.isFenced, b.source))) =
          .redefined i (off + (b.startLine - 1)) ∨
       compile (C19.mdSources doc ((groupOf2 doc g).map fun b => (b.pos, b.kind.isFenced, b.source))) =
          .proportion i (off + (b.startLine - 1))) ∧
      (offsetToLineCol (paddedSource doc b.pos b.kind.isFenced b.source) (off + (b.startLine - 1))).1 =
        b.startLine + ((offsetToLineCol (crToLf b.source) off).1 - 1) ∧
      ∃ q, extractLine (paddedSource doc b.pos b.kind.isFenced b.source)
          (b.startLine + ((offsetToLineCol (crToLf b.source) off).1 - 1)) = some q ∧
        ((∃ d qc p, extractLine (crToLf (normaliseCrLf doc))
              (b.startLine + ((offsetToLineCol (crToLf b.source) off).1 - 1)) = some d ∧
            isCPrefix (d.take qc) = true ∧ p ≤ (if b.kind.isFenced then 3 else 4) ∧
            (∀ c ∈ (d.drop qc).take p, c = ' ') ∧ q = d.drop (qc + p)) ∨ q = []) := by
  obtain ⟨b, hb, hmem, h1, h2, h3, q, _, hq, hrel⟩ :=
    C19.doc2_error_line doc hD (groupOf2 doc g) (groupOf_mem _ g) i off hc
  refine ⟨b, hb, hmem, ?_, by rw [h3], q, hq, ?_⟩
  · rcases hc with hc | hc
    · exact Or.inl (h1 hc)
    · exact Or.inr (h2 hc)
  · rcases hrel with ⟨d, qc, p, hd, h5, h6, h7, h8, _⟩ | ⟨_, hq0, _⟩
    · exact Or.inl ⟨d, qc, p, hd, h5, h6, h7, h8⟩
    · exact Or.inr hq0

/-- the example document of `Props/C19e.lean`: the quoted ```` ```recipe ```` block is one recipe, the `~~~new-recipe`
    block inside the list item starts another -/
example : groupBlocks (docKinds2 C19.exDoc2) = [[0], [1]] ∧
    (groupOf2 C19.exDoc2 [1]).map (·.startLine) = [13] := by
  unfold docKinds2 groupOf2; rw [C19.exDoc2_evaluated.2.1]; decide

/-- a recipe continued across containers: a top-level indented block, a ```` ```recipe ```` fence in a quote and an
    indented block in a list item form one recipe; `~~~new-recipe` in a second item starts the next -/
example :
    groupBlocks (docKinds2 "    a = 1 egg\n\n> ```recipe\n> b = fry(a)\n> ```\n\n- then\n\n      c = boil(b)\n- ~~~new-recipe\n  d = 2 eggs\n".toList) =
      [[0, 1, 2], [3]] ∧
    inDoc2 "    a = 1 egg\n\n> ```recipe\n> b = fry(a)\n> ```\n\n- then\n\n      c = boil(b)\n- ~~~new-recipe\n  d = 2 eggs\n".toList = true := by
  lit_chars
  decide +kernel

end RG.C13
