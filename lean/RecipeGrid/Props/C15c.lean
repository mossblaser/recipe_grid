import RecipeGrid.Model.Enumerate
import RecipeGrid.Lemmas.Lower
/-! C15c — the first clause of C15 ("exactly … one category page per directory … one page … for every recipe"): which entries of a
    directory are taken as sub directories, readme and recipes by `enumerate_recipe_directory` - the step before the page
    hierarchy of `Model/Site.lean`. -/
namespace RG.C15

def readmeFiles (es : List DirEntry) : List Str := (es.filter fun e => !e.isDir && isReadmeName e.name).map (·.name)
def recipeFiles (es : List DirEntry) : List Str :=
  (es.filter fun e => !e.isDir && !isReadmeName e.name && isRecipeName e.name).map (·.name)
def subDirs (es : List DirEntry) : List Str := (es.filter (·.isDir)).map (·.name)

theorem foldl_enumStep_err (es : List DirEntry) (a b : Str) : es.foldl enumStep (.multipleReadme a b) = .multipleReadme a b := by
  induction es with
  | nil => rfl
  | cons e es ih => exact ih

theorem foldl_enumStep (es : List DirEntry) (l : Listing) :
    es.foldl enumStep (.ok l) = match l.readme.toList ++ readmeFiles es with
      | a :: b :: _ => .multipleReadme a b
      | rs => .ok ⟨rs.head?, l.subdirs ++ subDirs es, l.recipes ++ recipeFiles es⟩ := by
  induction es generalizing l with
  | nil => obtain ⟨_ | r, sd, rc⟩ := l <;> simp [readmeFiles, subDirs, recipeFiles]
  | cons e es ih =>
    obtain ⟨name, d⟩ := e
    obtain ⟨r, sd, rc⟩ := l
    rw [List.foldl_cons]
    -- in each case `enumStep` changes one field, the three lists gain `name` accordingly, and `ih` does the rest
    cases d with
    | true => simp [enumStep, ih, readmeFiles, subDirs, recipeFiles]
    | false =>
      cases hr : isReadmeName name with
      | true => cases r <;> simp [enumStep, hr, ih, foldl_enumStep_err, readmeFiles, subDirs, recipeFiles]
      | false => cases hm : isRecipeName name <;> simp [enumStep, hr, hm, ih, readmeFiles, subDirs, recipeFiles]

/-- what `enumerate_recipe_directory` returns, in terms of the three lists -/
theorem enumerateDir_eq (es : List DirEntry) :
    enumerateDir es = match readmeFiles es with
      | a :: b :: _ => .multipleReadme a b
      | rs => .ok ⟨rs.head?, subDirs es, recipeFiles es⟩ := by
  rw [enumerateDir, foldl_enumStep]
  rfl

/-- **what is taken**: with at most one readme file the listing is - in listing order - all directories, the readme, and every other file
    whose suffix is `.md` in any letter case; nothing else, nothing twice -/
theorem enumerate_spec (es : List DirEntry) (h : (readmeFiles es).length ≤ 1) :
    enumerateDir es = .ok ⟨(readmeFiles es).head?, subDirs es, recipeFiles es⟩ := by
  rw [enumerateDir_eq]
  match hr : readmeFiles es, h with
  | [], _ | [_], _ => simp

/-- **the error**: refused exactly when the directory holds two or more files named `readme.md` / `index.md` in any letter case, naming the
    first two in listing order -/
theorem enumerate_error_iff (es : List DirEntry) :
    (∃ a b, enumerateDir es = .multipleReadme a b) ↔ 2 ≤ (readmeFiles es).length := by
  rw [enumerateDir_eq]
  match readmeFiles es with
  | [] | [_] | _ :: _ :: _ => simp

/-- the three tests by which `subDirs`, `readmeFiles` and `recipeFiles` pick their entries exclude one another.  This is a fact about
    the shape of the tests (`p && (!p && q) = false`): it holds of any three Booleans and says nothing about `isReadmeName` or
    `isRecipeName`. -/
theorem enumerate_classes_disjoint (e : DirEntry) :
    ((e.isDir : Bool) && (!e.isDir && isReadmeName e.name)) = false ∧
    ((!e.isDir && isReadmeName e.name) && (!e.isDir && !isReadmeName e.name && isRecipeName e.name)) = false ∧
    ((e.isDir : Bool) && (!e.isDir && !isReadmeName e.name && isRecipeName e.name)) = false := by
  cases e.isDir <;> cases isReadmeName e.name <;> cases isRecipeName e.name <;> simp

/-! The examples are evaluated on the two name tests with `asciiLower` in place of `str.lower()`, which agrees with it on ASCII
    names (`lowerStr_ascii`): `lowerChar` itself walks the 1 400 entries of `Gen.lowerMap` for every character. -/

theorem asciiStr_pathSuffix (name : Str) (h : asciiStr name = true) : asciiStr (pathSuffix name) = true := by
  unfold pathSuffix
  split
  · split
    · exact List.all_eq_true.2 fun c hc => List.all_eq_true.1 h c (List.mem_of_mem_drop hc)
    · rfl
  · rfl

def isRecipeNameA (name : Str) : Bool :=
  if asciiStr name then (pathSuffix name).map asciiLower == ".md".toList else isRecipeName name
def isReadmeNameA (name : Str) : Bool :=
  if asciiStr name then name.map asciiLower == "readme.md".toList || name.map asciiLower == "index.md".toList
  else isReadmeName name

theorem isRecipeName_eq : isRecipeName = isRecipeNameA := by
  funext name
  unfold isRecipeNameA
  split
  · next h => rw [isRecipeName, lowerStr_ascii _ (asciiStr_pathSuffix name h)]
  · rfl

theorem isReadmeName_eq : isReadmeName = isReadmeNameA := by
  funext name
  unfold isReadmeNameA
  split
  · next h => rw [isReadmeName, lowerStr_ascii _ h]
  · rfl

-- the suffix rule: hidden files and names ending in a dot have no suffix; a directory is a directory whatever its name
example : isRecipeName "soup.md".toList = true ∧ isRecipeName "Soup.MD".toList = true ∧ isRecipeName "a.b.Md".toList = true ∧
    isRecipeName ".md".toList = false ∧ isRecipeName "soup.md.".toList = false ∧ isRecipeName "soup.markdown".toList = false ∧
    isRecipeName "md".toList = false ∧ isRecipeName "..md".toList = true := by
  rw [isRecipeName_eq]; decide +kernel
example : isReadmeName "ReadMe.md".toList = true ∧ isReadmeName "INDEX.MD".toList = true ∧ isReadmeName "readme.markdown".toList = false := by
  rw [isReadmeName_eq]; decide +kernel
example : enumerateDir [⟨"b.md".toList, false⟩, ⟨"x.md".toList, true⟩, ⟨"README.md".toList, false⟩, ⟨"notes.txt".toList, false⟩, ⟨"a.MD".toList, false⟩]
    = .ok ⟨some "README.md".toList, ["x.md".toList], ["b.md".toList, "a.MD".toList]⟩ := by
  rw [enumerateDir_eq, readmeFiles, recipeFiles, isReadmeName_eq, isRecipeName_eq]; decide +kernel
example : enumerateDir [⟨"index.md".toList, false⟩, ⟨"a.md".toList, false⟩, ⟨"Readme.MD".toList, false⟩, ⟨"README.md".toList, false⟩]
    = .multipleReadme "index.md".toList "Readme.MD".toList := by
  rw [enumerateDir_eq, readmeFiles, recipeFiles, isReadmeName_eq, isRecipeName_eq]; decide +kernel

end RG.C15
