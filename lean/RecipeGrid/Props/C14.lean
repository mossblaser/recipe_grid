import RecipeGrid.Lemmas.Site
import RecipeGrid.Props.C15
/-! C14 — generated links: percent-encoding loses nothing and introduces no URL syntax; a relative link
    resolves (RFC 3986 §5.2) to the page it was made for; page paths are file-like; every generated link
    targets a page of the same site. At the end: the conditions a source tree on a file system meets (`DirOK`, `TreeOK`),
    with a checker `treeOKb` for concrete trees (used in `Props/C14b.lean`, `Props/C14c.lean`), and what they imply. -/
namespace RG.C14
theorem relative_example : hrefRelative "/foo/bar/baz.html".toList "/foo/qux/quo.html".toList = "../qux/quo.html".toList := by decide +kernel

def utf8Bytes (s : Str) : List UInt8 := s.flatMap String.utf8EncodeChar

/-- value of a hexadecimal digit (either case, as `urllib.parse.unquote` accepts) -/
def hexVal (c : Char) : Option Nat :=
  if '0' ≤ c ∧ c ≤ '9' then some (c.toNat - 48)
  else if 'A' ≤ c ∧ c ≤ 'F' then some (c.toNat - 55)
  else if 'a' ≤ c ∧ c ≤ 'f' then some (c.toNat - 87)
  else none

/-- `urllib.parse.unquote_to_bytes`, written independently of `urlQuote`: `%XX` becomes the byte XX, everything else
    its UTF-8 bytes; a `%` not followed by two hex digits is kept literally. The first argument counts characters
    still to be skipped (the two hex digits of an escape just decoded). (`Model/Fs.lean` has an `RG.unquoteGo` of its own,
    on byte values as `Nat`, for decoding authored links; this one is the specification that `urlQuote` is inverted by.) -/
def unquoteGo : Nat → Str → List UInt8
  | _, [] => []
  | k + 1, _ :: rest => unquoteGo k rest
  | 0, c :: rest =>
    if c = '%' then
      match rest with
      | a :: b :: _ =>
        match hexVal a, hexVal b with
        | some x, some y => UInt8.ofNat (16 * x + y) :: unquoteGo 2 rest
        | _, _ => String.utf8EncodeChar c ++ unquoteGo 0 rest
      | _ => String.utf8EncodeChar c ++ unquoteGo 0 rest
    else String.utf8EncodeChar c ++ unquoteGo 0 rest
def unquoteBytes (s : Str) : List UInt8 := unquoteGo 0 s

/-- RFC 3986 unreserved characters -/
def isUnreserved (c : Char) : Bool :=
  ('a' ≤ c && c ≤ 'z') || ('A' ≤ c && c ≤ 'Z') || ('0' ≤ c && c ≤ '9') || c == '-' || c == '.' || c == '_' || c == '~'
def isUpperHex (c : Char) : Bool := ('0' ≤ c && c ≤ '9') || ('A' ≤ c && c ≤ 'F')

/-- only unreserved characters, `/`, and complete `%XX` escapes (upper-case hex); the first argument counts the hex
    digits still owed by an escape -/
def wellEscapedGo : Nat → Str → Bool
  | 0, [] => true
  | _ + 1, [] => false
  | k + 1, c :: rest => isUpperHex c && wellEscapedGo k rest
  | 0, c :: rest => if c = '%' then wellEscapedGo 2 rest else (isUnreserved c || c == '/') && wellEscapedGo 0 rest
def wellEscaped (s : Str) : Bool := wellEscapedGo 0 s

example : unquoteBytes "a%20b%zz%".toList = [97, 32, 98, 37, 122, 122, 37] := by decide +kernel
example : urlQuote "a b/é#?%".toList = "a%20b/%C3%A9%23%3F%25".toList := by decide +kernel
example : wellEscaped "a%20b/%C3%A9".toList = true := by decide +kernel
example : wellEscaped "a%2".toList = false := by decide
example : wellEscaped "a#b".toList = false := by decide
example : wellEscaped "a b".toList = false := by decide
example : wellEscaped "50%zz".toList = false := by decide

theorem hexDigit_spec (n : Nat) (h : n < 16) :
    hexVal (hexDigit n) = some n ∧ isUpperHex (hexDigit n) = true ∧ isUnreserved (hexDigit n) = true :=
  (by decide : ∀ n : Fin 16, hexVal (hexDigit n.val) = some n.val ∧ isUpperHex (hexDigit n.val) = true ∧
    isUnreserved (hexDigit n.val) = true) ⟨n, h⟩

theorem urlQuoteChar_cases (c : Char) :
    (urlQuoteChar c = [c] ∧ (isUnreserved c || c == '/') = true ∧ c ≠ '%') ∨
    urlQuoteChar c = (String.utf8EncodeChar c).flatMap fun b => ['%', hexDigit (b.toNat / 16), hexDigit (b.toNat % 16)] := by
  unfold urlQuoteChar
  split
  · rename_i h
    refine .inl ⟨rfl, ?_, ?_⟩
    · -- the test of `urlQuoteChar` is `isUnreserved c || c == '/'` with the four punctuation marks in another order
      rw [← h, isUnreserved]
      ac_rfl
    · rintro rfl
      revert h
      decide
  · exact .inr rfl

/-- percent-encoding loses nothing: decoding the encoded string gives back the UTF-8 bytes of the original -/
theorem quote_roundtrip (s : Str) : unquoteBytes (urlQuote s) = utf8Bytes s := by
  have esc : ∀ (bs : List UInt8) (t : Str),
      unquoteGo 0 (bs.flatMap (fun b => ['%', hexDigit (b.toNat / 16), hexDigit (b.toNat % 16)]) ++ t) = bs ++ unquoteGo 0 t := by
    intro bs t
    induction bs with
    | nil => rfl
    | cons b bs ih =>
      have hb : b.toNat < 256 := UInt8.toNat_lt b
      simp only [List.flatMap_cons, List.cons_append, List.nil_append, unquoteGo, if_true,
        (hexDigit_spec (b.toNat / 16) (by omega)).1, (hexDigit_spec (b.toNat % 16) (by omega)).1, ih]
      congr 1
      rw [Nat.div_add_mod]
      simp
  have key : ∀ (c : Char) (t : Str), unquoteGo 0 (urlQuoteChar c ++ t) = String.utf8EncodeChar c ++ unquoteGo 0 t := by
    intro c t
    rcases urlQuoteChar_cases c with ⟨e, _, hc⟩ | e <;> rw [e]
    · simp [unquoteGo, hc]
    · exact esc _ _
  show unquoteGo 0 (urlQuote s) = utf8Bytes s
  induction s with
  | nil => rfl
  | cons c s ih =>
    simp only [urlQuote, List.flatMap_cons, utf8Bytes] at *
    rw [key, ih]

example : unquoteBytes (urlQuote "a b/é#?%".toList) = utf8Bytes "a b/é#?%".toList := quote_roundtrip _

theorem utf8Bytes_injective (a b : Str) (h : utf8Bytes a = utf8Bytes b) : a = b := by
  have h1 : a.utf8Encode = b.utf8Encode := by
    unfold List.utf8Encode
    unfold utf8Bytes at h
    rw [h]
  have h2 : String.ofList a = String.ofList b := by
    apply String.toByteArray_inj.mp
    simpa using h1
  have := congrArg String.toList h2
  simpa using this

/-- … hence the only string a percent-encoded string decodes to is the original -/
theorem quote_decodes_uniquely (s r : Str) (h : unquoteBytes (urlQuote s) = utf8Bytes r) : r = s :=
  utf8Bytes_injective r s (by rw [← h, quote_roundtrip])

/-- the encoded string consists of unreserved characters, `/` and complete upper-case `%XX` escapes only -/
theorem quote_safe (s : Str) : wellEscaped (urlQuote s) = true := by
  have esc : ∀ (bs : List UInt8) (t : Str),
      wellEscapedGo 0 (bs.flatMap (fun b => ['%', hexDigit (b.toNat / 16), hexDigit (b.toNat % 16)]) ++ t) = wellEscapedGo 0 t := by
    intro bs t
    induction bs with
    | nil => rfl
    | cons b bs ih =>
      have hb : b.toNat < 256 := UInt8.toNat_lt b
      simp only [List.flatMap_cons, List.cons_append, List.nil_append, wellEscapedGo, if_true,
        (hexDigit_spec (b.toNat / 16) (by omega)).2.1, (hexDigit_spec (b.toNat % 16) (by omega)).2.1, ih, Bool.true_and]
  have key : ∀ (c : Char) (t : Str), wellEscapedGo 0 (urlQuoteChar c ++ t) = wellEscapedGo 0 t := by
    intro c t
    rcases urlQuoteChar_cases c with ⟨e, hu, hc⟩ | e <;> rw [e]
    · simp [wellEscapedGo, hc, hu]
    · exact esc _ _
  show wellEscapedGo 0 (urlQuote s) = true
  induction s with
  | nil => rfl
  | cons c s ih =>
    simp only [urlQuote, List.flatMap_cons] at *
    rw [key, ih]

/-- character-wise reading of `quote_safe`: no `#`, `?`, space, quote … can appear; `%` only as part of an escape -/
theorem quote_safe_chars (s : Str) : ∀ c ∈ urlQuote s, isUnreserved c = true ∨ c = '/' ∨ c = '%' := by
  intro c hc
  obtain ⟨x, _, hx⟩ := List.mem_flatMap.mp hc
  rcases urlQuoteChar_cases x with ⟨e, hu, _⟩ | e <;> rw [e] at hx
  · rw [List.mem_singleton.mp hx]
    rcases Bool.or_eq_true _ _ |>.mp hu with h1 | h1
    · exact .inl h1
    · exact .inr (.inl (by simpa using h1))
  · obtain ⟨b, _, hb⟩ := List.mem_flatMap.mp hx
    have hb' : b.toNat < 256 := UInt8.toNat_lt b
    simp only [List.mem_cons, List.not_mem_nil, or_false] at hb
    rcases hb with rfl | rfl | rfl
    · exact .inr (.inr rfl)
    · exact .inl (hexDigit_spec _ (by omega)).2.2
    · exact .inl (hexDigit_spec _ (by omega)).2.2

/-- a path is *file-like*: absolute, every segment non-empty and not "." or ".." (so it ends in a file segment) -/
def FileLike (p : Str) : Prop :=
  ∃ segs, p = '/' :: joinSlash segs ∧ segs ≠ [] ∧ ∀ s ∈ segs, s ≠ [] ∧ s ≠ ".".toList ∧ s ≠ "..".toList ∧ '/' ∉ s

def segsOf (p : Str) : List Str := (splitSlash p).drop 1

/-- the target `to` is not, segment by segment, a directory above the page `frm`: the side condition of `relative_resolves`
    (a link to such a target is a run of `..`, which resolves to the directory, with a trailing `/`) -/
def NotAbove (to frm : Str) : Prop := ¬ segsOf to <+: (segsOf frm).dropLast

theorem segsOf_abs (L : List Str) (h1 : L ≠ []) (h2 : ∀ s ∈ L, '/' ∉ s) : segsOf ('/' :: joinSlash L) = L := by
  simp [segsOf, splitSlash_abs L h1 h2]

theorem relative_resolves (frm to : Str) (hf : FileLike frm) (ht : FileLike to)
    (hne : ¬ segsOf to <+: (segsOf frm).dropLast) :
    resolveRef frm (relativePath frm to) = to := by
  obtain ⟨fs, rfl, hf1, hf2⟩ := hf
  obtain ⟨ts, rfl, ht1, ht2⟩ := ht
  rw [segsOf_abs fs hf1 (fun s hs => (hf2 s hs).2.2.2), segsOf_abs ts ht1 (fun s hs => (ht2 s hs).2.2.2)] at hne
  exact relative_resolves_segs fs ts hf1 ht1 (fun s hs => (hf2 s hs).2) ht2 hne

/-- the link as written (percent-encoded) decodes to a reference that resolves to the target -/
theorem link_resolves (frm to : Str) (hf : FileLike frm) (ht : FileLike to)
    (hne : ¬ segsOf to <+: (segsOf frm).dropLast) :
    ∃ ref, unquoteBytes (hrefRelative frm to) = utf8Bytes ref ∧ resolveRef frm ref = to :=
  ⟨relativePath frm to, quote_roundtrip _, relative_resolves frm to hf ht hne⟩

theorem cssPath_fileLike : FileLike cssPath := ⟨["css".toList, "style.css".toList], by decide +kernel⟩
theorem segsOf_cssPath : segsOf cssPath = ["css".toList, "style.css".toList] := by decide +kernel

/-- a link to the page itself is its own file name, which resolves to itself -/
theorem relative_resolves_self (frm : Str) (hf : FileLike frm) :
    relativePath frm frm = (segsOf frm).getLast?.getD [] ∧ resolveRef frm (relativePath frm frm) = frm := by
  obtain ⟨fs, rfl, hf1, hf2⟩ := hf
  have hsl : ∀ s ∈ fs, '/' ∉ s := fun s hs => (hf2 s hs).2.2.2
  have e1 := segsOf_abs fs hf1 hsl
  refine ⟨?_, relative_resolves _ _ ⟨fs, rfl, hf1, hf2⟩ ⟨fs, rfl, hf1, hf2⟩ fun h => ?_⟩
  · rw [e1, relativePath_self_segs fs hf1 hsl, List.getLast?_eq_some_getLast hf1]
    rfl
  · have hl := h.length_le
    rw [List.length_dropLast, e1] at hl
    have : fs.length ≠ 0 := by simpa using hf1
    omega

example : FileLike "/serves2/Soups/leek soup.html".toList :=
  ⟨["serves2".toList, "Soups".toList, "leek soup.html".toList], by
    lit_chars
    decide +kernel⟩
example : resolveRef "/serves2/a b/x.html".toList (relativePath "/serves2/a b/x.html".toList "/categories/é/y.html".toList)
    = "/categories/é/y.html".toList := by
  lit_chars
  decide +kernel
example : ¬ segsOf "/categories/é/y.html".toList <+: (segsOf "/serves2/a b/x.html".toList).dropLast := by
  lit_chars
  decide +kernel
/-- the side condition is needed: a target that is an ancestor *directory* name of the source resolves to a directory -/
example : resolveRef "/a/b/c.html".toList (relativePath "/a/b/c.html".toList "/a".toList) = "/a/".toList := by decide +kernel

/-- every directory name below the root is a proper path segment, and no recipe file stem contains "/"
    (the stem gets ".html" appended, so it cannot be empty, "." or "..") -/
def NamesOK (root : Dir) : Prop :=
  (∀ dirs d, C15.DirAt root dirs d → ∀ s ∈ dirs, SegOK s) ∧
  (∀ dirs r, C15.InTree root dirs r → '/' ∉ stemOf r.file)

theorem NamesOK.segs {root : Dir} (hn : NamesOK root) {dirs : List Str} {d : Dir} (hd : C15.DirAt root dirs d)
    {stem : Str} (hstem : '/' ∉ stem) : ∀ s ∈ dirs ++ [stem ++ ".html".toList], SegOK s := by
  intro s hs
  rcases List.mem_append.mp hs with hs | hs
  · exact hn.1 dirs d hd s hs
  · rw [List.mem_singleton.mp hs]; exact htmlSeg_ok stem hstem

/-- the shape of every page path: directory segments (none for the home page, else the scale root of one of the site's
    hierarchies followed by the directory names of a directory of the tree), then a file segment `<stem>.html`; all of
    them proper segments -/
theorem page_path_shape {root : Dir} {rootName : Str} {M : Nat} {ps : List Page}
    (h : sitePages root rootName M = .ok ps) (hn : NamesOK root) :
    ∀ p ∈ ps, ∃ D stem, p.path = '/' :: joinSlash (D ++ [stem ++ ".html".toList]) ∧
      (∀ s ∈ D ++ [stem ++ ".html".toList], SegOK s) ∧
      ((D = [] ∧ p.path = "/index.html".toList) ∨
        ∃ sv dirs d, C15.Hierarchy M sv ∧ D = scaleRoot sv :: dirs ∧ C15.DirAt root dirs d) := by
  intro p hp
  have below : ∀ sv dirs d stem, C15.DirAt root dirs d → '/' ∉ stem →
      ∀ s ∈ (scaleRoot sv :: dirs) ++ [stem ++ ".html".toList], SegOK s := by
    intro sv dirs d stem hd hstem s hs
    rcases List.mem_cons.mp hs with rfl | hs
    · exact scaleRoot_ok sv
    · exact hn.segs hd hstem s hs
  rcases C15.pages_classified root rootName M ps h p hp with h0 | ⟨sv, dirs, hsv, ⟨d, hd, hpath⟩ | ⟨r, hr, _, hpath, _⟩⟩
  · refine ⟨[], "index".toList, by rw [h0]; decide +kernel, ?_, .inl ⟨rfl, h0⟩⟩
    intro s hs
    rw [List.mem_singleton.mp hs]; exact htmlSeg_ok _ slash_not_mem_index
  · exact ⟨scaleRoot sv :: dirs, "index".toList, by rw [hpath, catPath_segs], below sv dirs d _ hd slash_not_mem_index,
      .inr ⟨sv, dirs, d, hsv, rfl, hd⟩⟩
  · obtain ⟨d, hd, _⟩ := (C15.inTree_iff ..).mp hr
    exact ⟨scaleRoot sv :: dirs, stemOf r.file, by rw [hpath, recipePath_segs], below sv dirs d _ hd (hn.2 dirs r hr),
      .inr ⟨sv, dirs, d, hsv, rfl, hd⟩⟩

theorem segsOf_page {path : Str} {D : List Str} {file : Str} (hpath : path = '/' :: joinSlash (D ++ [file]))
    (hD : ∀ s ∈ D ++ [file], SegOK s) : segsOf path = D ++ [file] := by
  rw [hpath, segsOf_abs _ (by simp) (fun s hs => (hD s hs).2.2.2)]

theorem paths_are_files (root : Dir) (rootName : Str) (M : Nat) (ps : List Page)
    (h : sitePages root rootName M = .ok ps) (hn : NamesOK root) : ∀ p ∈ ps, FileLike p.path := by
  intro p hp
  obtain ⟨D, stem, hpath, hD, _⟩ := page_path_shape h hn p hp
  exact ⟨_, hpath, by simp, hD⟩

/-- no recipe states zero servings (the Python code divides by the stated number) -/
def ServingsPositive (root : Dir) : Prop := ∀ dirs r, C15.InTree root dirs r → r.servings ≠ some 0

/-- … so the stated count of a recipe is the count of one of the site's `serves<n>` hierarchies -/
theorem ServingsPositive.hierarchy {root : Dir} {rootName : Str} {M : Nat} {ps : List Page} (hpos : ServingsPositive root)
    (h : sitePages root rootName M = .ok ps) {dirs : List Str} {r : RecipeFile} (hr : C15.InTree root dirs r)
    {native : Nat} (hs : r.servings = some native) : C15.Hierarchy M (some native) :=
  ⟨Nat.pos_of_ne_zero fun h0 => hpos dirs r hr (by rw [hs, h0]),
    (C15.recipe_pages_per_count root rootName M ps h dirs r hr native hs).1⟩

theorem recipeListTarget_mem {root : Dir} {rootName : Str} {M : Nat} {ps : List Page} (h : sitePages root rootName M = .ok ps)
    {dirs : List Str} {r : RecipeFile} (hr : C15.InTree root dirs r) {sv : Option Nat} (hsv : C15.Hierarchy M sv)
    (hc : ∀ native, r.servings = some native → C15.Hierarchy M (some native)) :
    recipeListTarget sv dirs r ∈ ps.map (·.path) := by
  unfold recipeListTarget
  cases hs : r.servings with
  | none => exact C15.recipe_path_mem h hr (sv := none) trivial (by rw [hs])
  | some native =>
    cases sv with
    | some n => exact C15.recipe_path_mem h hr hsv (by rw [hs]; rfl)
    | none => exact C15.recipe_path_mem h hr (hc native hs) (by rw [hs])

/-- C14: every generated link (breadcrumbs, stylesheet, category lists, serving menu, "rescaled from" link) of every
    page is the in-page anchor `#` or `href.relative(page, target)` for a page `target` of the same site or the stylesheet -/
theorem generated_links_target_pages (root : Dir) (rootName : Str) (M : Nat) (ps : List Page)
    (h : sitePages root rootName M = .ok ps) (hpos : ServingsPositive root) :
    ∀ p ∈ ps, ∀ l ∈ p.links, l = ['#'] ∨ ∃ t, (t ∈ ps.map (·.path) ∨ t = cssPath) ∧ l = hrefRelative p.path t := by
  have hhome : "/index.html".toList ∈ ps.map (·.path) :=
    List.mem_map.mpr ⟨homePage root rootName M, (mem_sitePages_iff h _).mpr (.inl rfl), rfl⟩
  intro p hp
  rcases (mem_sitePages_iff h p).mp hp with rfl | ⟨sv, hsv, dirs, d, hd, hpd⟩
  · intro l hl
    rcases (mem_homePage_links root rootName M l).mp hl with e | ⟨sv, hsv, e⟩
    · exact .inr ⟨cssPath, .inr rfl, e⟩
    · exact .inr ⟨_, .inl (C15.category_pages root rootName M ps h [] root (.here root) sv hsv), e⟩
  · -- breadcrumbs lead to the home page and to the category pages of the directories above
    have hcrumb : ∀ t ∈ crumbsAt sv dirs, t ∈ ps.map (·.path) := by
      intro t ht
      rcases mem_crumbsAt.mp ht with rfl | ⟨pre, hpre, rfl⟩
      · exact hhome
      · obtain ⟨m, hm⟩ := hd.of_prefix hpre
        exact C15.category_pages root rootName M ps h pre m hm sv hsv
    have hin : ∀ r ∈ d.recipes, C15.InTree root dirs r := fun r hr => (C15.inTree_iff ..).mpr ⟨d, hd, hr⟩
    rcases mem_sitePagesAt.mp hpd with rfl | ⟨r, hr, hpr⟩
    · intro l hl
      obtain ⟨t, e, ht⟩ := mem_catPageOf_links.mp hl
      refine .inr ⟨t, ?_, e⟩
      rcases ht with ht | rfl | ⟨s, hs, rfl⟩ | ⟨r, hr, rfl⟩
      · exact .inl (hcrumb t ht)
      · exact .inr rfl
      · exact .inl (C15.category_pages root rootName M ps h _ s (hd.snoc hs) sv hsv)
      · exact .inl (recipeListTarget_mem h (hin r hr) hsv fun _ => hpos.hierarchy h (hin r hr))
    · obtain ⟨_, _, _, hlinks⟩ := recipePageAt_some hpr
      intro l hl
      rcases hlinks l hl with h0 | ⟨t, e, ht⟩
      · exact .inl h0
      refine .inr ⟨t, ?_, e⟩
      rcases ht with ht | rfl | rfl | ⟨native, hs, rfl | ⟨m, hm, rfl⟩⟩
      · exact .inl (hcrumb t ht)
      · exact .inl (List.mem_map.mpr ⟨p, hp, rfl⟩)
      · exact .inr rfl
      · exact .inl (C15.recipe_path_mem h (hin r hr) (hpos.hierarchy h (hin r hr) hs) (by rw [hs]))
      · exact .inl (C15.recipe_path_mem h (hin r hr) (sv := some (m + 1)) ⟨by omega, by omega⟩ (by rw [hs]; rfl))

/-- the hypothesis on servings is needed: a recipe "for 0" makes the `categories` list link to `/serves0/…`,
    which is not a page of the site (in Python the site build fails with `ZeroDivisionError` instead) -/
theorem generated_links_zero_servings :
    ∃ ps, sitePages (.mk "r".toList none [⟨"x.md".toList, "X".toList, some 0⟩] []) "r".toList 1 = .ok ps ∧
      ∃ p ∈ ps, ∃ l ∈ p.links, l ≠ ['#'] ∧ ∀ t ∈ cssPath :: ps.map (·.path), l ≠ hrefRelative p.path t :=
  ⟨_, sitePages_of_le _ _ _ (by decide), by decide +kernel⟩

/-- links resolve: a generated link of a page, decoded and resolved against the page's own path, gives the target page
    (for targets that are not an ancestor directory name of the page, which file-like page paths never are in practice) -/
theorem generated_link_resolves {root : Dir} {rootName : Str} {M : Nat} {ps : List Page}
    (h : sitePages root rootName M = .ok ps) (hn : NamesOK root) (p t : Page) (hp : p ∈ ps) (ht : t ∈ ps)
    (hne : NotAbove t.path p.path) :
    ∃ ref, unquoteBytes (hrefRelative p.path t.path) = utf8Bytes ref ∧ resolveRef p.path ref = t.path :=
  link_resolves p.path t.path (paths_are_files root rootName M ps h hn p hp) (paths_are_files root rootName M ps h hn t ht) hne

/-- no directory of the tree is named like a page file (`….html`); otherwise the directory `x.html/` and the page
    `x.html` would claim the same output path -/
def NoHtmlDirs (root : Dir) : Prop := ∀ dirs d, C15.DirAt root dirs d → ∀ s ∈ dirs, ¬ ".html".toList <:+ s

theorem page_not_prefix {root : Dir} {rootName : Str} {M : Nat} {ps : List Page}
    (h : sitePages root rootName M = .ok ps) (hn : NamesOK root) (hh : NoHtmlDirs root) (p q : Page) (hp : p ∈ ps) (hq : q ∈ ps) :
    NotAbove q.path p.path := by
  obtain ⟨D, stem, hpath, hD, hDshape⟩ := page_path_shape h hn p hp
  obtain ⟨D', stem', hpath', hD', _⟩ := page_path_shape h hn q hq
  rw [NotAbove, segsOf_page hpath hD, segsOf_page hpath' hD', List.dropLast_concat]
  -- the file segment `<stem'>.html` of `q` would be one of the directory segments of `p`: the scale root or a directory name
  rintro ⟨t, hpre⟩
  have hm : stem' ++ ".html".toList ∈ D := hpre ▸ by simp
  rcases hDshape with ⟨rfl, _⟩ | ⟨sv, dirs, d, _, rfl, hd⟩
  · cases hm
  rcases List.mem_cons.mp hm with hm | hm
  · exact (not_mem_scaleRoot sv).2 (hm ▸ List.mem_append_right _ (by decide))
  · exact hh dirs d hd _ hm ⟨stem', rfl⟩

/-- the stylesheet lies below `/css/`, and no page does -/
theorem css_not_above {root : Dir} {rootName : Str} {M : Nat} {ps : List Page}
    (h : sitePages root rootName M = .ok ps) (hn : NamesOK root) (p : Page) (hp : p ∈ ps) : NotAbove cssPath p.path := by
  obtain ⟨D, stem, hpath, hD, hDshape⟩ := page_path_shape h hn p hp
  rw [NotAbove, segsOf_page hpath hD, List.dropLast_concat, segsOf_cssPath]
  rintro ⟨rest, hrest⟩
  rcases hDshape with ⟨rfl, _⟩ | ⟨sv, dirs, d, _, rfl, hd⟩
  · simp at hrest
  · exact scaleRoot_ne_css sv (List.cons.inj hrest).1.symm

/-- C14.1 for the whole site: every generated link of every page — decoded and resolved against the page's own path as a
    browser does (RFC 3986 §5.2) — is the in-page anchor `#` or leads exactly to the path of a page of the site or to the
    stylesheet -/
theorem every_link_resolves (root : Dir) (rootName : Str) (M : Nat) (ps : List Page)
    (h : sitePages root rootName M = .ok ps) (hn : NamesOK root) (hh : NoHtmlDirs root) (hpos : ServingsPositive root) :
    ∀ p ∈ ps, ∀ l ∈ p.links, l = ['#'] ∨
      ∃ t, (t ∈ ps.map (·.path) ∨ t = cssPath) ∧ ∃ ref, unquoteBytes l = utf8Bytes ref ∧ resolveRef p.path ref = t := by
  intro p hp l hl
  rcases generated_links_target_pages root rootName M ps h hpos p hp l hl with h0 | ⟨t, ht, rfl⟩
  · exact .inl h0
  refine .inr ⟨t, ht, ?_⟩
  rcases ht with ht | rfl
  · obtain ⟨q, hq, rfl⟩ := List.mem_map.mp ht
    exact generated_link_resolves h hn p q hp hq (page_not_prefix h hn hh p q hp hq)
  · exact link_resolves p.path cssPath (paths_are_files root rootName M ps h hn p hp) cssPath_fileLike
      (css_not_above h hn p hp)

open C15 (DirAt InTree Hierarchy)
/-- what holds for every directory (reached by `dirs`) of a source tree that exists on a file system and meets the name
    conditions of C14: the directory names on the way are proper path segments not ending in `.html`; recipe stems
    contain no `/`, no recipe states 0 servings; the entries of the directory (sub-directories, recipe files, the
    readme if there is one) have pairwise different names. `rn dirs` is the file name of the readme of the directory
    reached by `dirs`, which `Dir` does not record. -/
def DirOK (rn : List Str → Str) (dirs : List Str) (d : Dir) : Prop :=
  (∀ s ∈ dirs, SegOK s ∧ ¬ ".html".toList <:+ s) ∧
  (∀ r ∈ d.recipes, '/' ∉ stemOf r.file ∧ r.servings ≠ some 0) ∧
  (d.subdirs.map Dir.name).Nodup ∧ (d.recipes.map (·.file)).Nodup ∧
  (∀ r ∈ d.recipes, r.file ∉ d.subdirs.map Dir.name) ∧
  (d.readmeTitle.isSome = true → rn dirs ∉ d.subdirs.map Dir.name ∧ rn dirs ∉ d.recipes.map (·.file))

instance (rn : List Str → Str) (dirs : List Str) (d : Dir) : Decidable (DirOK rn dirs d) := by
  unfold DirOK SegOK; infer_instance

def TreeOK (rn : List Str → Str) (root : Dir) : Prop := ∀ dirs d, DirAt root dirs d → DirOK rn dirs d

theorem DirOK.subdirs_nodup {rn : List Str → Str} {dirs : List Str} {d : Dir} (h : DirOK rn dirs d) :
    (d.subdirs.map Dir.name).Nodup := h.2.2.1
theorem DirOK.recipes_nodup {rn : List Str → Str} {dirs : List Str} {d : Dir} (h : DirOK rn dirs d) :
    (d.recipes.map (·.file)).Nodup := h.2.2.2.1
theorem DirOK.recipe_not_subdir {rn : List Str → Str} {dirs : List Str} {d : Dir} (h : DirOK rn dirs d) :
    ∀ r ∈ d.recipes, r.file ∉ d.subdirs.map Dir.name := h.2.2.2.2.1
theorem DirOK.readme_not_entry {rn : List Str → Str} {dirs : List Str} {d : Dir} (h : DirOK rn dirs d)
    (hr : d.readmeTitle.isSome = true) : rn dirs ∉ d.subdirs.map Dir.name ∧ rn dirs ∉ d.recipes.map (·.file) :=
  h.2.2.2.2.2 hr

mutual
def treeOKb (rn : List Str → Str) (dirs : List Str) : Dir → Bool
  | .mk n rd recs subs => decide (DirOK rn dirs (.mk n rd recs subs)) && treeOKbList rn dirs subs
def treeOKbList (rn : List Str → Str) (dirs : List Str) : List Dir → Bool
  | [] => true
  | d :: ds => treeOKb rn (dirs ++ [d.name]) d && treeOKbList rn dirs ds
end

theorem treeOKbList_mem (rn : List Str → Str) (dirs : List Str) (ds : List Dir) (h : treeOKbList rn dirs ds = true) :
    ∀ s ∈ ds, treeOKb rn (dirs ++ [s.name]) s = true := by
  induction ds with
  | nil => intro s hs; cases hs
  | cons d ds ih =>
    simp only [treeOKbList, Bool.and_eq_true] at h
    intro s hs
    rcases List.mem_cons.mp hs with rfl | hs
    · exact h.1
    · exact ih h.2 s hs

theorem treeOKb_sound (rn : List Str → Str) : ∀ (d : Dir) (dirs0 : List Str), treeOKb rn dirs0 d = true →
    ∀ rel d', DirAt d rel d' → DirOK rn (dirs0 ++ rel) d' := by
  intro d
  induction d using Dir.ind with
  | h d ih =>
    obtain ⟨n, rd, recs, subs⟩ := d
    intro dirs0 hb rel d' hd
    simp only [treeOKb, Bool.and_eq_true, decide_eq_true_eq] at hb
    cases hd with
    | here => rw [List.append_nil]; exact hb.1
    | sub hs hd =>
      have := ih _ hs _ (treeOKbList_mem rn dirs0 subs hb.2 _ hs) _ _ hd
      rwa [List.append_assoc] at this

theorem treeOK_of_check (rn : List Str → Str) (root : Dir) (h : treeOKb rn [] root = true) : TreeOK rn root := by
  intro dirs d hd
  have := treeOKb_sound rn root [] h dirs d hd
  rwa [List.nil_append] at this

theorem treeOK_namesOK (rn : List Str → Str) (root : Dir) (h : TreeOK rn root) : NamesOK root :=
  ⟨fun dirs d hd s hs => ((h dirs d hd).1 s hs).1,
   fun dirs r hr => by
    obtain ⟨d, hd, hrd⟩ := (C15.inTree_iff ..).mp hr
    exact ((h dirs d hd).2.1 r hrd).1⟩

theorem treeOK_noHtmlDirs (rn : List Str → Str) (root : Dir) (h : TreeOK rn root) : NoHtmlDirs root :=
  fun dirs d hd s hs => ((h dirs d hd).1 s hs).2

theorem treeOK_servingsPositive (rn : List Str → Str) (root : Dir) (h : TreeOK rn root) : ServingsPositive root :=
  fun dirs r hr => by
    obtain ⟨d, hd, hrd⟩ := (C15.inTree_iff ..).mp hr
    exact ((h dirs d hd).2.1 r hrd).2

end RG.C14
