import RecipeGrid.Lemmas.FoldSpec
import RecipeGrid.Props.C08b
/-! C07.1 — `compile` returns a recipe or one of the documented, located errors, never an undocumented exception;
    and every reported error position lies in the input (so that C07.2's `offset_located`/`offset_exact` apply).
    Helper lemmas are in `Lemmas/FoldSpec.lean`. -/
namespace RG.C07

/-- **C07.1** for every list of source texts the compiler model returns a recipe or one of the documented, located
    errors — never `ZeroDivisionError` and never another undocumented exception -/
theorem compile_documented_outcomes (srcs : List Str) :
    (∃ bs, compile srcs = .ok bs) ∨ (∃ b, compile srcs = .syntaxError b) ∨
    (∃ b off, compile srcs = .redefined b off) ∨ (∃ b off, compile srcs = .proportion b off) := by
  rcases compile_cases srcs with ⟨e, hp, hc⟩ | ⟨asts, e, hp, hb, hc⟩ | ⟨asts, bs, st, bs', _, _, _, _, _, hc⟩
  · obtain ⟨b, hb, _⟩ := parseAll_error_syntax srcs 0 e hp
    exact Or.inr (Or.inl ⟨b, by rw [hc, hb]⟩)
  · rcases compileBlocks_error asts 0 {} e hb with ⟨b, off, hx | hx, _⟩ | ⟨why, hx⟩
    · exact Or.inr (Or.inr (Or.inr ⟨b, off, by rw [hc, hx]⟩))
    · exact Or.inr (Or.inr (Or.inl ⟨b, off, by rw [hc, hx]⟩))
    · exact absurd (by rw [hc, hx]) (C08.compile_no_internal srcs why)
  · exact Or.inl ⟨bs', hc⟩

/-- in particular no `ZeroDivisionError` and no other exception -/
theorem compile_never_undocumented (srcs : List Str) :
    (∀ b, compile srcs ≠ .zeroDivision b) ∧ (∀ why, compile srcs ≠ .internal why) := by
  constructor
  · intro b h
    rcases compile_documented_outcomes srcs with ⟨x, hx⟩ | ⟨x, hx⟩ | ⟨x, y, hx⟩ | ⟨x, y, hx⟩ <;>
      rw [hx] at h <;> cases h
  · exact C08.compile_no_internal srcs

/-- where a reported error comes from: a syntax error is reported for a block of the input; a redefinition or a
    proportion error is reported for a block of the input that parses, at an offset recorded in one of its statements
    (`AStmt.errOffsets`: the offsets of the written proportions and of the written output names) -/
theorem compile_error_provenance (srcs : List Str) :
    (∀ b, compile srcs = .syntaxError b → b < srcs.length) ∧
    (∀ b off, compile srcs = .redefined b off ∨ compile srcs = .proportion b off →
      ∃ s stmts, srcs[b]? = some s ∧ parse s = .ok stmts ∧ ∃ st ∈ stmts, off ∈ st.errOffsets) := by
  rcases compile_cases srcs with ⟨e, hp, hc⟩ | ⟨asts, e, hp, hb, hc⟩ | ⟨asts, bs, st, bs', _, _, _, _, _, hc⟩
  · obtain ⟨b', hb', _, hlt⟩ := parseAll_error_syntax srcs 0 e hp
    rw [hc, hb']
    constructor
    · intro b h
      cases h
      omega
    · intro b off h; rcases h with h | h <;> cases h
  · obtain ⟨hlen, hk⟩ := parseAll_ok srcs 0 asts hp
    rw [hc]
    rcases compileBlocks_error asts 0 {} e hb with ⟨b', off', hx, _, ss, hss, s, hs, ho⟩ | ⟨why, hx⟩
    · constructor
      · intro b h; rcases hx with hx | hx <;> rw [hx] at h <;> cases h
      · intro b off h
        -- the error is the one reported, whichever of the two kinds it is
        have hbo : b = b' ∧ off = off' := by
          rcases hx with hx | hx
          · rw [hx] at h
            rcases h with h | h
            · cases h
            · cases h
              exact ⟨rfl, rfl⟩
          · rw [hx] at h
            rcases h with h | h
            · cases h
              exact ⟨rfl, rfl⟩
            · cases h
        obtain ⟨rfl, rfl⟩ := hbo
        simp only [Nat.sub_zero] at hss
        have hlt : b < srcs.length := by rw [← hlen]; exact (List.getElem?_eq_some_iff.mp hss).1
        obtain ⟨a, ha, hpa⟩ := hk b _ (List.getElem?_eq_getElem hlt)
        rw [hss] at ha
        cases ha
        exact ⟨_, ss, List.getElem?_eq_getElem hlt, hpa, s, hs, ho⟩
    · exact absurd (by rw [hc, hx]) (C08.compile_no_internal srcs why)
  · rw [hc]
    constructor
    · intro b h
      cases h
    · intro b off h; rcases h with h | h <;> cases h

/-- **C07.1 located**: the block index of every reported error is a block of the input, and the reported offset lies
    inside that block's text, so that C07.2 (`offset_located`, and `offset_exact` when the offset is not the end of
    the text) applies to it -/
theorem compile_error_in_source (srcs : List Str) :
    (∀ b, compile srcs = .syntaxError b → b < srcs.length) ∧
    (∀ b off, compile srcs = .redefined b off → ∃ s, srcs[b]? = some s ∧ off ≤ s.length) ∧
    (∀ b off, compile srcs = .proportion b off → ∃ s, srcs[b]? = some s ∧ off ≤ s.length) := by
  obtain ⟨h1, h2⟩ := compile_error_provenance srcs
  refine ⟨h1, ?_, ?_⟩
  · intro b off h
    obtain ⟨s, stmts, hs, hp, st, hst, ho⟩ := h2 b off (Or.inl h)
    exact ⟨s, hs, parse_offsets_in_source s stmts hp st hst off ho⟩
  · intro b off h
    obtain ⟨s, stmts, hs, hp, st, hst, ho⟩ := h2 b off (Or.inr h)
    exact ⟨s, hs, parse_offsets_in_source s stmts hp st hst off ho⟩

/-- the reported line and column of a located error exist in the block's text -/
theorem compile_error_located (srcs : List Str) (b off : Nat)
    (h : compile srcs = .redefined b off ∨ compile srcs = .proportion b off) :
    ∃ s, srcs[b]? = some s ∧ off ≤ s.length ∧
      1 ≤ (offsetToLineCol s off).1 ∧ (offsetToLineCol s off).1 ≤ max 1 (splitLinesKeep s).length ∧
      1 ≤ (offsetToLineCol s off).2 ∧
      (offsetToLineCol s off).2 ≤ ((splitLinesKeep s)[(offsetToLineCol s off).1 - 1]?.getD []).length + 1 := by
  obtain ⟨_, h2, h3⟩ := compile_error_in_source srcs
  obtain ⟨s, hs, hle⟩ : ∃ s, srcs[b]? = some s ∧ off ≤ s.length := by
    rcases h with h | h
    · exact h2 b off h
    · exact h3 b off h
  exact ⟨s, hs, hle, offset_located s off⟩

/-- non-vacuity: a redefinition in the second block, and a proportion of something that is not a sub recipe -/
example : compile ["x".toList, "a = f(x)\n a = g(y)".toList] = .redefined 1 10 := by decide +kernel
example : compile ["f(1/2 of x)".toList] = .proportion 0 2 := by decide +kernel
example : compile ["f(".toList] = .syntaxError 0 := by decide +kernel

end RG.C07
