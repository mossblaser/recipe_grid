import RecipeGrid.Lemmas.MdBlockLines
import RecipeGrid.Lemmas.MdAssemble
import RecipeGrid.Lemmas.Compiler
import RecipeGrid.Lemmas.StrLit
/-! C19.4 — recipe blocks inside block quotes and list items.

    Property C19 says "wherever the block sits (… in a list or quote …)".  Here the scanner is the container-aware one (`Model/MdContainers.lean`: `scanBlocks2`, compared exactly with marko by `harness/mdcontainers_corr.py`) for the
    sub-language **D2 ⊇ D** (`inDoc2`) with one level of container, and the statements are proved for **D2**: a line of a
    code block inside a container is the document line less the container prefix (`isCPrefix`: the list item's indentation —
    spaces —, or up to 3 spaces, `>` and at most one space) and at most 3 spaces of fence indentation (4 for an indented block). -/
namespace RG.C19

theorem tagDoc2_ne_nil (doc : Str) (pre : List TLine2) (t : TLine2) (rest : List TLine2)
    (hts : tagDoc2 doc = pre ++ t :: rest) : crToLf (normaliseCrLf doc) ≠ [] := by
  have hT : Tags doc (pre ++ t :: rest) := hts ▸ Tags.doc2 doc
  rw [Ne, crToLf_eq_nil, hT.norm]; simp [hT.linesOk.append_right.head.1]

/-- on the container-free sub-language **D** the container-aware scanner finds the blocks of the container-free one -/
theorem scan2_conservative (doc : Str) (hD : inDoc doc = true) :
    inDoc2 doc = true ∧ scanBlocks2 doc = scanBlocks doc :=
  ⟨inDoc2_of_inDoc doc hD, scanBlocks2_of_inDoc doc hD⟩

section
variable (doc : Str) (hD : inDoc2 doc = true) (pre : List TLine2) (t : TLine2) (rest : List TLine2)
  (hts : tagDoc2 doc = pre ++ t :: rest)
include hts

/-- the padding in front of the indented block that `t` opens: the lines before `t` -/
theorem code2_padding : mdPadding doc (lenSum2 pre) false = lineSum2 pre := by
  have hline := (hts ▸ Tags.doc2 doc : Tags doc (pre ++ t :: rest)).line_of_start
  simp [mdPadding, hline]

include hD

/-- the padding in front of the fenced block that `t` opens: the lines before `t`, and `t` -/
theorem fenced2_padding (f : FenceInfo) (hf : t.tag = .fenceOpen f) :
    mdPadding doc (lenSum2 pre) true = lineSum2 pre + pyLineCount t.text := by
  have hline := (hts ▸ Tags.doc2 doc : Tags doc (pre ++ t :: rest)).line_of_start
  have h1 := (fenced2_block_lines doc hD pre t rest f hts hf).1
  simp only [mdPadding, hline, if_true, h1]
  omega

theorem fenced2_extract (f : FenceInfo) (hf : t.tag = .fenceOpen f) (j : Nat) (s : Str)
    (hs : extractLine (paddedSource doc (lenSum2 pre) true
        (fencedSource f.indent ((rest.takeWhile (·.tag.isFenceBody)).map TLine2.inner)))
      (1 + lineSum2 pre + pyLineCount t.text + j) = some s) :
    ∃ d, extractLine (crToLf (normaliseCrLf doc)) (1 + lineSum2 pre + pyLineCount t.text + j) = some d ∧
      PRel (BPrefix (CP (tagDoc2 doc)) f.indent) s d := by
  obtain ⟨h1, hlines⟩ := fenced2_block_lines doc hD pre t rest f hts hf
  have hst : 1 + lineSum2 pre + pyLineCount t.text + j - 1 = lineSum2 pre + pyLineCount t.text + j := by omega
  have hpne : List.replicate (lineSum2 pre + pyLineCount t.text) '\n' ++
      crToLf (fencedSource f.indent ((rest.takeWhile (·.tag.isFenceBody)).map TLine2.inner)) ≠ [] := by
    rw [h1]; simp [List.replicate_succ]
  rw [paddedSource_eq, fenced2_padding doc hD pre t rest hts f hf, extractLine_pos _ _ hpne (by omega), hst,
    getElem?_splitLines_padded] at hs
  rw [extractLine_pos _ _ (tagDoc2_ne_nil doc pre t rest hts) (by omega), hst]
  exact hlines j s hs

/-- the lines of the indented block that `t` opens, read with `extractLine`; the exception is the empty last line of
    `code2_block_lines`: the last line of the padded text, and the line just past the end of the document -/
theorem code2_extract (hc : t.tag = .codeStart) (j : Nat) (s : Str)
    (hs : extractLine (paddedSource doc (lenSum2 pre) false
        (codeSource ((t :: rest.takeWhile (·.tag.isCodeMore)).map TLine2.inner))) (1 + lineSum2 pre + j) = some s) :
    (∃ d, extractLine (crToLf (normaliseCrLf doc)) (1 + lineSum2 pre + j) = some d ∧
        PRel (BPrefix (CP (tagDoc2 doc)) 4) s d) ∨
      (s = [] ∧
        1 + lineSum2 pre + j = (splitLines (paddedSource doc (lenSum2 pre) false
          (codeSource ((t :: rest.takeWhile (·.tag.isCodeMore)).map TLine2.inner)))).length ∧
        1 + lineSum2 pre + j = (splitLines (crToLf (normaliseCrLf doc))).length + 1) := by
  have hst : 1 + lineSum2 pre + j - 1 = lineSum2 pre + j := by omega
  have hpne : List.replicate (lineSum2 pre) '\n' ++
      crToLf (codeSource ((t :: rest.takeWhile (·.tag.isCodeMore)).map TLine2.inner)) ≠ [] := by
    simp [codeSource, crToLf]
  rw [paddedSource_eq, code2_padding doc pre t rest hts] at hs ⊢
  rw [extractLine_pos _ _ hpne (by omega), hst, getElem?_splitLines_padded] at hs
  rw [extractLine_pos _ _ (tagDoc2_ne_nil doc pre t rest hts) (by omega), hst]
  refine (code2_block_lines doc hD pre t rest hts hc j s hs).imp_right fun ⟨hse, hlast, hpast⟩ => ⟨hse, ?_, by omega⟩
  rw [splitLines_replicate_nl, List.length_append, List.length_replicate, ← hlast]
  omega

end

/-- **the padding is the number of document lines before the block's first content line**, also inside containers: `pos`
    is the offset of the whole line (container prefix included) that holds the opening fence -/
theorem scan2_padding (doc : Str) (hD : inDoc2 doc = true) (b : MdBlock) (hb : b ∈ scanBlocks2 doc) :
    mdPadding doc b.pos b.kind.isFenced + 1 = b.startLine := by
  obtain ⟨pre, t, rest, hts, h⟩ := assemble2_origin hb
  rcases h with ⟨f, hf, rfl⟩ | ⟨hc, rfl⟩
  · have := fenced2_padding doc hD pre t rest hts f hf
    simp only [CodeBlockKind.isFenced]
    omega
  · have := code2_padding doc pre t rest hts
    simp only [CodeBlockKind.isFenced]
    omega

theorem norm_ne_nil_of_block (doc : Str) (b : MdBlock) (hb : b ∈ scanBlocks2 doc) : crToLf (normaliseCrLf doc) ≠ [] := by
  obtain ⟨pre, t, rest, hts, _⟩ := assemble2_origin hb
  exact tagDoc2_ne_nil doc pre t rest hts

/-- `fenced2_extract` / `code2_extract` for a block of the scanner: the statement of `scan2_block_lines`, with the exceptional
    line located exactly — it is the line just past the last line of the document -/
theorem scan2_extract (doc : Str) (hD : inDoc2 doc = true) (b : MdBlock) (hb : b ∈ scanBlocks2 doc) (j : Nat) (s : Str)
    (hs : extractLine (paddedSource doc b.pos b.kind.isFenced b.source) (b.startLine + j) = some s) :
    (∃ d q p, extractLine (crToLf (normaliseCrLf doc)) (b.startLine + j) = some d ∧
        isCPrefix (d.take q) = true ∧
        p ≤ (if b.kind.isFenced then 3 else 4) ∧ (∀ c ∈ (d.drop q).take p, c = ' ') ∧
        s = d.drop (q + p) ∧ q + p + s.length = d.length) ∨
      (b.kind.isFenced = false ∧ s = [] ∧
        b.startLine + j = (splitLines (paddedSource doc b.pos b.kind.isFenced b.source)).length ∧
        b.startLine + j = (splitLines (crToLf (normaliseCrLf doc))).length + 1) := by
  obtain ⟨pre, t, rest, hts, h⟩ := assemble2_origin hb
  rcases h with ⟨f, hf, rfl⟩ | ⟨hc, rfl⟩
  · obtain ⟨d, hd, h⟩ := fenced2_extract doc hD pre t rest hts f hf j s hs
    obtain ⟨q, p, hq, hp, hsp, hsd, hlen⟩ := h.bprefix_split
    have hf3 := (fenceOpen?_indent _ _ (((Tags.doc2 doc).sound t (by rw [hts]; simp)).fenceOpen hf)).2.1
    exact Or.inl ⟨d, q, p, hd, hq.1, Nat.le_trans hp hf3, hsp, hsd, hlen⟩
  · rcases code2_extract doc hD pre t rest hts hc j s hs with ⟨d, hd, h⟩ | ⟨h1, h2, h3⟩
    · obtain ⟨q, p, hq, hp, hsp, hsd, hlen⟩ := h.bprefix_split
      exact Or.inl ⟨d, q, p, hd, hq.1, hp, hsp, hsd, hlen⟩
    · exact Or.inr ⟨rfl, h1, h2, h3⟩

/-- for every document of **D2** and every code block `b` the scanner finds in it — fenced or
    indented; at top level, in a block quote or in a list item —, every line of the text the compiler is given for `b`
    from line `b.startLine` on is the document's own line `d` of the same number with a prefix of `q + p` characters
    removed: `q` characters of container prefix (`isCPrefix (d.take q)`: nothing, or the spaces of the list item's
    indentation, or up to 3 spaces, `>` and at most one space) followed by `p ≤ 3` spaces of fence indentation
    (`p ≤ 4` spaces for an indented block).  So a token at line `l`, column `c` of what the compiler sees sits on line
    `l` of the document, at column `c + q + p`.

    The only exception is harmless: the text of an indented block always ends with `"\n"` (`CodeBlock.parse`), which adds
    one empty last line when the document ends, without a newline, in another line-break character; that line lies just
    past the last line of the document. -/
theorem scan2_block_lines (doc : Str) (hD : inDoc2 doc = true) (b : MdBlock) (hb : b ∈ scanBlocks2 doc) (j : Nat) (s : Str)
    (hs : extractLine (paddedSource doc b.pos b.kind.isFenced b.source) (b.startLine + j) = some s) :
    (∃ d q p, extractLine (crToLf (normaliseCrLf doc)) (b.startLine + j) = some d ∧
        isCPrefix (d.take q) = true ∧
        p ≤ (if b.kind.isFenced then 3 else 4) ∧ (∀ c ∈ (d.drop q).take p, c = ' ') ∧
        s = d.drop (q + p) ∧ q + p + s.length = d.length) ∨
      (b.kind.isFenced = false ∧ s = [] ∧
        b.startLine + j = (splitLines (paddedSource doc b.pos b.kind.isFenced b.source)).length ∧
        extractLine (crToLf (normaliseCrLf doc)) (b.startLine + j) = none) :=
  (scan2_extract doc hD b hb j s hs).imp_right fun ⟨h1, h2, h3, h4⟩ =>
    ⟨h1, h2, h3, extractLine_past _ _ (norm_ne_nil_of_block doc b hb) h4⟩

/-- the blocks are listed in document order: positions strictly increase (and first-content-line numbers do not
    decrease) -/
theorem scanBlocks2_ordered (doc : Str) :
    (scanBlocks2 doc).Pairwise fun b1 b2 => b1.pos < b2.pos ∧ b1.startLine ≤ b2.startLine :=
  (Tags.doc2 doc).ordered

/-- there is exactly one block per opening-fence line and per first line of an indented block -/
theorem scanBlocks2_length (doc : Str) :
    (scanBlocks2 doc).length = ((tagDoc2 doc).filter fun t => t.tag.startsBlock).length := assemble2_length _ _ _

/-- **blocks are disjoint**: the text captured by a block (never longer than the document lines it was taken from) ends
    before the next block starts -/
theorem scanBlocks2_disjoint (doc : Str) :
    (scanBlocks2 doc).Pairwise fun b1 b2 => b1.pos + b1.source.length ≤ b2.pos :=
  (Tags.doc2 doc).disjoint

/-- a document of **D2 \ D**: a paragraph; a block quote with a paragraph, an empty quote line and a ```` ```recipe ```` fence indented by 1 behind
    `"> "` (body lines indented by 1 and 3); an ordered list whose first item holds a paragraph, a blank line and a
    `~~~new-recipe` fence at the item's content offset 3 (body: a line at the offset, a blank line shorter than the
    offset, a line indented one more, a line that redefines `z`); a second item; CRLF line endings. -/
def exDoc2 : Str :=
  "Stew\r\n\r\n> Note:\r\n>\r\n>  ```recipe\r\n>  x = 1 egg\r\n>    y = fry(x)\r\n>  ```\r\n\r\n1. First\r\n\r\n   ~~~new-recipe\r\n   z = 2 eggs\r\n\r\n    w = boil(z)\r\n   z = 3 eggs\r\n   ~~~\r\n2. Done\r\n".toList

/-- the facts of the `example`s below in one statement: one evaluation by the kernel shares the scanning of the document -/
theorem exDoc2_evaluated :
    (inDoc2 exDoc2 = true ∧ inDoc exDoc2 = false) ∧
    scanBlocks2 exDoc2 =
    [⟨.fenced "recipe".toList, 16, "x = 1 egg\n  y = fry(x)\n".toList, 6⟩,
     ⟨.fenced "new-recipe".toList, 76, "z = 2 eggs\n\n w = boil(z)\nz = 3 eggs\n".toList, 13⟩] ∧
    (extractLine (paddedSource exDoc2 16 true "x = 1 egg\n  y = fry(x)\n".toList) (6 + 1) = some "  y = fry(x)".toList ∧
    extractLine (crToLf (normaliseCrLf exDoc2)) (6 + 1) = some ">    y = fry(x)".toList ∧
    isCPrefix (">    y = fry(x)".toList.take 2) = true ∧
    extractLine (paddedSource exDoc2 76 true "z = 2 eggs\n\n w = boil(z)\nz = 3 eggs\n".toList) (13 + 2) = some " w = boil(z)".toList ∧
    extractLine (crToLf (normaliseCrLf exDoc2)) (13 + 2) = some "    w = boil(z)".toList ∧
    isCPrefix ("    w = boil(z)".toList.take 3) = true ∧
    extractLine (paddedSource exDoc2 76 true "z = 2 eggs\n\n w = boil(z)\nz = 3 eggs\n".toList) (13 + 1) = some [] ∧
    extractLine (crToLf (normaliseCrLf exDoc2)) (13 + 1) = some []) ∧
    (let grp : List MdBlock := [⟨.fenced "new-recipe".toList, 76, "z = 2 eggs\n\n w = boil(z)\nz = 3 eggs\n".toList, 13⟩]
    compile (grp.map fun b => crToLf b.source) = .redefined 0 25 ∧
    offsetToLineCol (crToLf "z = 2 eggs\n\n w = boil(z)\nz = 3 eggs\n".toList) 25 = (4, 1) ∧
    extractLine (crToLf (normaliseCrLf exDoc2)) (13 + (4 - 1)) = some "   z = 3 eggs".toList) := by
  unfold exDoc2; lit_chars
  decide +kernel

example : inDoc2 exDoc2 = true ∧ inDoc exDoc2 = false := exDoc2_evaluated.1

example : scanBlocks2 exDoc2 =
    [⟨.fenced "recipe".toList, 16, "x = 1 egg\n  y = fry(x)\n".toList, 6⟩,
     ⟨.fenced "new-recipe".toList, 76, "z = 2 eggs\n\n w = boil(z)\nz = 3 eggs\n".toList, 13⟩] := exDoc2_evaluated.2.1

/-- the hypotheses of `scan2_block_lines` are met, e.g. by the second body line of the quoted block (document line 7:
    `">    y = fry(x)"`, of which the quote prefix `"> "` — `q = 2` — and the fence's indentation — `p = 1` — are
    removed) and by the third body line of the block in the list item (line 15, `q = 3` spaces of item indentation,
    `p = 0`); line 14 is a blank line shorter than the item's indentation -/
example :
    extractLine (paddedSource exDoc2 16 true "x = 1 egg\n  y = fry(x)\n".toList) (6 + 1) = some "  y = fry(x)".toList ∧
    extractLine (crToLf (normaliseCrLf exDoc2)) (6 + 1) = some ">    y = fry(x)".toList ∧
    isCPrefix (">    y = fry(x)".toList.take 2) = true ∧
    extractLine (paddedSource exDoc2 76 true "z = 2 eggs\n\n w = boil(z)\nz = 3 eggs\n".toList) (13 + 2) = some " w = boil(z)".toList ∧
    extractLine (crToLf (normaliseCrLf exDoc2)) (13 + 2) = some "    w = boil(z)".toList ∧
    isCPrefix ("    w = boil(z)".toList.take 3) = true ∧
    extractLine (paddedSource exDoc2 76 true "z = 2 eggs\n\n w = boil(z)\nz = 3 eggs\n".toList) (13 + 1) = some [] ∧
    extractLine (crToLf (normaliseCrLf exDoc2)) (13 + 1) = some [] := exDoc2_evaluated.2.2.1

/-- the hypotheses of `doc2_error_line` (`Props/C19f.lean`) are met: the redefinition of `z` inside the list item (document line 16, behind
    3 spaces of item indentation) is at line 4, column 1 of the block's text, hence reported at line 13 + 3 = 16, column 1 -/
example :
    let grp : List MdBlock := [⟨.fenced "new-recipe".toList, 76, "z = 2 eggs\n\n w = boil(z)\nz = 3 eggs\n".toList, 13⟩]
    compile (grp.map fun b => crToLf b.source) = .redefined 0 25 ∧
    offsetToLineCol (crToLf "z = 2 eggs\n\n w = boil(z)\nz = 3 eggs\n".toList) 25 = (4, 1) ∧
    extractLine (crToLf (normaliseCrLf exDoc2)) (13 + (4 - 1)) = some "   z = 3 eggs".toList := exDoc2_evaluated.2.2.2

/-- documents just outside **D2** are rejected by `inDoc2` (no claim is made about them; for most of them marko's
    behaviour is irregular): a quote marker at the very end of the document (marko raises `IndexError`),
    a blank line with more than 4 spaces inside an indented block that sits in a quote or a list item (marko drops those
    spaces), a list marker followed by 5 spaces, an empty item, nested containers, a
    form feed / a lone carriage return / a no-break space after `>` or after a list marker, a tab, a thematic break that looks like a list item, an ordered-list
    marker with a non-ASCII digit, setext underlines and HTML inside containers or as lazy continuation lines -/
example : inDoc2 ">".toList = false ∧ inDoc2 "> a\n> ".toList = false ∧ inDoc2 ">     a\n>      \n>     b\n".toList = false ∧
    inDoc2 "- x\n\n      a\n       \n      b\n".toList = false ∧ inDoc2 "-     code\n".toList = false ∧ inDoc2 "-\n".toList = false ∧
    inDoc2 "- a\n  ".toList = false ∧ inDoc2 ">> a\n".toList = false ∧ inDoc2 "> - a\n".toList = false ∧
    inDoc2 "- a\n  - b\n".toList = false ∧ inDoc2 "- > a\n".toList = false ∧ inDoc2 ">\x0ca\n".toList = false ∧
    inDoc2 ">\ra\n".toList = false ∧ inDoc2 "-\x0ca\n".toList = false ∧ inDoc2 "- \u00a0a\n".toList = false ∧
    inDoc2 ">\ta\n".toList = false ∧ inDoc2 "- - -\n".toList = false ∧ inDoc2 "\u0661. a\n".toList = false ∧
    inDoc2 "> a\n> ===\n".toList = false ∧ inDoc2 "> a\n===\n".toList = false ∧ inDoc2 "> <div>\n".toList = false ∧
    inDoc2 "text\n2. a\n".toList = false := by
  lit_chars
  decide +kernel

/-- … while these are members: a quote whose paragraph is continued lazily (no block: the indented line is paragraph
    text), a list that interrupts a paragraph and whose first line opens the fence (`pos` is the offset of the line that
    starts with the list marker), an unterminated fence closed by the end of its quote, a fence closed by the end of its
    list item, and the top-level fence that follows -/
example :
    inDoc2 "> foo\nbar\n    baz\n".toList = true ∧ scanBlocks2 "> foo\nbar\n    baz\n".toList = [] ∧
    inDoc2 "text\n- ```recipe\n  x\n".toList = true ∧
    scanBlocks2 "text\n- ```recipe\n  x\n".toList = [⟨.fenced "recipe".toList, 5, "x\n".toList, 3⟩] ∧
    inDoc2 "> ```recipe\n> x\ny\n".toList = true ∧
    scanBlocks2 "> ```recipe\n> x\ny\n".toList = [⟨.fenced "recipe".toList, 0, "x\n".toList, 2⟩] ∧
    inDoc2 "- a\n  ```recipe\n  x\n```\nz\n".toList = true ∧
    scanBlocks2 "- a\n  ```recipe\n  x\n```\nz\n".toList =
      [⟨.fenced "recipe".toList, 4, "x\n".toList, 3⟩, ⟨.fenced [], 20, "z\n".toList, 5⟩] := by
  lit_chars
  decide +kernel

/-- indented blocks inside containers are members too: in a quote (behind `>`, one space and 4 more), with an empty quote
    line inside; in a list item (behind the item's 3 spaces and 4 more), with a short blank line inside -/
example :
    inDoc2 "> Note\r\n>\r\n>     x = 1 egg\r\n>\r\n>       y = fry(x)\r\n".toList = true ∧
    scanBlocks2 "> Note\r\n>\r\n>     x = 1 egg\r\n>\r\n>       y = fry(x)\r\n".toList =
      [⟨.indented, 9, "x = 1 egg\n\n  y = fry(x)\n".toList, 3⟩] ∧
    inDoc2 "1. Sauce:\n\n       z = 2 eggs\n \n       w = boil(z)\ntext\n".toList = true ∧
    scanBlocks2 "1. Sauce:\n\n       z = 2 eggs\n \n       w = boil(z)\ntext\n".toList =
      [⟨.indented, 11, "z = 2 eggs\n\nw = boil(z)\n".toList, 3⟩] ∧
    extractLine (paddedSource "1. Sauce:\n\n       z = 2 eggs\n \n       w = boil(z)\ntext\n".toList 11 false
      "z = 2 eggs\n\nw = boil(z)\n".toList) (3 + 2) = some "w = boil(z)".toList ∧
    extractLine (crToLf (normaliseCrLf "1. Sauce:\n\n       z = 2 eggs\n \n       w = boil(z)\ntext\n".toList)) (3 + 2) =
      some "       w = boil(z)".toList ∧
    isCPrefix ("       w = boil(z)".toList.take 3) = true := by
  lit_chars
  decide +kernel

end RG.C19
