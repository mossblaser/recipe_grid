import RecipeGrid.Props.C03e
import RecipeGrid.Props.C15b
import RecipeGrid.Lemmas.HtmlText
/-! C15 (what a page for n shows): "each page /servesN/<recipe>.html is the recipe scaled by n / servings".
    `website.py` / `standalone_page.py` hand `pageScale (some n) recipe.servings` to `MarkdownRecipe.render`; with
    `RG.C03.renderDoc_template` and `RG.C03.page_numbers_scaled` this says what the page for n consists of and what numbers it shows:
    the written numbers times n / s — exactly for ints and Fractions, as one rounded double product for floats — and on the page for
    n = s the written numbers themselves. -/
namespace RG.C15
open RG RG.C03

theorem pageScale_eq {n s : Nat} (hs : s ≠ 0) {k : Num} (hk : pageScale (some n) (some s) = some k) :
    k.val = (n : Rat) / (s : Rat) ∧ k.kind = .frac ∧ (n = s → k.val = 1) := by
  obtain rfl := eq_of_pageScale hs hk
  refine ⟨rfl, rfl, ?_⟩
  rintro rfl
  show (n : Rat) / (n : Rat) = 1
  rw [Rat.div_def]
  exact Rat.mul_inv_cancel _ (by exact_mod_cast hs)

/-- **C15d.1** the page for `n` of a document stating `s ≠ 0` servings: its factor is the Fraction n / s, the page is the document's
    template with every hole filled by its value at that factor (given the side condition of `renderDoc_canonical` for this
    document and factor), and the scaled values it shows are the written ones, every number multiplied by n / s, units unchanged -/
theorem page_for_n (d : MdDoc) (n s : Nat) (hd : d.servings = some s) (hs : s ≠ 0) :
    ∃ k, pageScale (some n) d.servings = some k ∧ k.val = (n : Rat) / (s : Rat) ∧ k.kind = .frac ∧
      shownNums d k (docTemplate d) = (writtenNums d (docTemplate d)).map (scaleShown k) ∧
      (chainOKb (docPh d) (docVals d k) (docTemplate d) = true →
        renderDoc d k = pflatten (docVal d k) (docTemplate d)) := by
  obtain ⟨k, hk, hv, hkind⟩ := pageScale_value n s hs
  exact ⟨k, by rw [hd]; exact hk, hv, hkind, page_numbers_scaled d k _, renderDoc_canonical d k⟩

/-- what multiplying by the page's factor does to a written int or Fraction: the exact product w · n / s, shown as an exact
    number (int × Fraction is a Fraction in Python: no rounding anywhere) -/
theorem page_exact_value (w : Num) (hw : w.kind ≠ .flt) (n s : Nat) (hs : s ≠ 0) (k : Num)
    (hk : pageScale (some n) (some s) = some k) :
    (w.mul k).val = w.val * (n : Rat) / (s : Rat) ∧ (w.mul k).kind = .frac := by
  obtain ⟨hv, hkind, _⟩ := pageScale_eq hs hk
  have h1 := (mul_exact w k hw (by simp [hkind])).1
  refine ⟨by rw [h1, hv, Rat.div_def, Rat.div_def, Rat.mul_assoc], ?_⟩
  rw [Num.mul_kind]
  simp [hw, hkind]

/-- … and to a written float: one rounded product of the float and the double nearest to n / s; it stays a float -/
theorem page_float_value (w : Num) (hw : w.kind = .flt) (n s : Nat) (hs : s ≠ 0) (k : Num)
    (hk : pageScale (some n) (some s) = some k) :
    (w.mul k).val = toDouble (w.val * toDouble ((n : Rat) / (s : Rat))) ∧ (w.mul k).kind = .flt := by
  obtain ⟨hv, hkind, _⟩ := pageScale_eq hs hk
  have h := mul_float w k (Or.inl hw)
  refine ⟨?_, h.2⟩
  rw [h.1]
  simp [Num.toFlt, Num.isFlt, hw, hkind, hv]

/-- **C15d.2** on the page for the stated count a number is shown exactly as written (floats: when the written float is a double,
    as every parsed float is): multiplying by the Fraction s / s = 1 changes neither the value nor whether it is a float, and the
    text of a number depends on nothing else -/
theorem native_number_shown (w : Num) (hw : w.kind = .flt → IsDouble w.val) (s : Nat) (hs : s ≠ 0) (k : Num)
    (hk : pageScale (some s) (some s) = some k) :
    (w.mul k).val = w.val ∧ (w.mul k).isFlt = w.isFlt ∧ formatNumber (w.mul k) = formatNumber w ∧
      renderNumber (w.mul k) = renderNumber w := by
  obtain ⟨_, hkind, h1⟩ := pageScale_eq hs hk
  have hv := h1 rfl
  have hval : (w.mul k).val = w.val := by
    by_cases hf : w.kind = .flt
    · have h := (mul_float w k (Or.inl hf)).1
      have hd : toDouble w.val = w.val := hw hf
      rw [h]
      simp [Num.toFlt, Num.isFlt, hf, hkind, hv, toDouble_one, Rat.mul_one, hd]
    · rw [(mul_exact w k hf (by simp [hkind])).1, hv, Rat.mul_one]
  have hflt : (w.mul k).isFlt = w.isFlt := by
    simp only [Num.isFlt, Num.mul_kind, hkind]
    cases w.kind <;> decide
  refine ⟨hval, hflt, ?_, ?_⟩
  · simp [formatNumber, hval, hflt]
  · simp [renderNumber, formatNumber, hval, hflt]

/-- **C15d.2 (page level)** the page for the stated count shows every written number as written, and carries no "Rescaled" note -/
theorem native_page_shows_written (d : MdDoc) (s : Nat) (hs : s ≠ 0) (k : Num) (hk : pageScale (some s) (some s) = some k)
    (t : List PTok) (hw : WrittenOK d t) :
    (shownNums d k t).map (fun x => (renderNumber x.1, x.2)) = (writtenNums d t).map (fun x => (renderNumber x.1, x.2)) ∧
    postTitleText d k = [] := by
  constructor
  · rw [page_numbers_scaled, List.map_map]
    apply List.map_congr_left
    intro x hx
    simp only [Function.comp, scaleShown]
    rw [(native_number_shown x.1 (hw x hx) s hs k hk).2.2.2]
  · exact header_note_unscaled d k ((pageScale_eq hs hk).2.2 rfl)

/-- **C15d.3** the count in the heading: the title's "for s" is the scaled value `SVS(s)`; on the page for `n` its hole shows the
    single number s · n / s, written with the plain digits of `n` (`pageScale_count_shown`) -/
theorem heading_count_shown (d : MdDoc) (n s : Nat) (hs : s ≠ 0) (k : Num) (hk : pageScale (some n) (some s) = some k)
    (i : Nat) (ph : Str) (h : d.svs[i]? = some (ph, [.num (Num.ofNat s)])) :
    holeShown d k i = [((Num.ofNat s).mul k, [])] ∧ formatNumber ((Num.ofNat s).mul k) = natDigits n ∧
      docVal d k i = tagBody "span" [("class", S "rg-scaled-value")] (natDigits n) := by
  have hsc : Svs.scale k [.num (Num.ofNat s)] = [.num ((Num.ofNat s).mul k)] := by
    simp [Svs.scale, Svs.normalise, Svs.merge]
  have hfmt := pageScale_count_shown n s hs k hk
  refine ⟨?_, hfmt, ?_⟩
  · simp [holeShown, h, hsc, Svs.shown, Svs.nums]
  · rw [hole_value_prose d k i ph _ h, hsc]
    have hd : '/' ∉ natDigits n := by
      intro hc
      have := natDigits_all_digit n _ hc
      simp [isDigit] at this
    have := renderNumberStr_plain _ hd
    simp [renderSvs, renderNumber, hfmt, this]

theorem pg_factor : pageScale (some 6) pgDoc.servings = some pgK := by decide +kernel
example : ∃ k, pageScale (some 6) pgDoc.servings = some k ∧ k.val = 3 / 2 := ⟨pgK, pg_factor, rfl⟩
example := page_for_n pgDoc 6 4 rfl (by decide)
/-- the written 200 (g flour) is 300 on the page for 6, exactly; the written float 2.5 (kg apples) is the double 3.75 -/
example : ((⟨200, .int⟩ : Num).mul pgK).val = 200 * (6 : Rat) / 4 :=
  (page_exact_value ⟨200, .int⟩ (by decide) 6 4 (by decide) pgK pg_factor).1
example : ((⟨5 / 2, .flt⟩ : Num).mul pgK).val = 15 / 4 := by decide +kernel
theorem pg_native : pageScale (some 4) (some 4) = some ⟨1, .frac⟩ := by decide +kernel
/-- the page for 4 shows the written numbers and no note -/
example := native_page_shows_written pgDoc 4 (by decide) _ pg_native (docTemplate pgDoc) pgDoc_writtenOK
/-- the heading of the page for 6 says 6: hole 2 is the title's serving count -/
example := heading_count_shown pgDoc 6 4 (by decide) pgK pg_factor 2 "%S%".toList rfl
example : (holeShown pgDoc pgK 2).map (fun x => formatNumber x.1) = ["6".toList] := by decide +kernel

end RG.C15
