import RecipeGrid.Lemmas.BraceErr
import RecipeGrid.Lemmas.BraceDecl
import RecipeGrid.Lemmas.StrLit
import RecipeGrid.Props.C03
/-! C13 (with C03 / C07 flavoured statements) for the `{…}` scaled-value expressions of Markdown prose
    (`recipe_grid.markdown.ScaledValueExpression`, model `Model/BraceExpr.lean`): the match (`pattern.match`), the
    tokenisation (`any_part_pattern.finditer` with the values of `__init__`), the exceptions of the constructor,
    writing and reading back, scaling. -/
namespace RG.C13
open Brace Parser

deriving instance DecidableEq for Num
deriving instance DecidableEq for Part

/-- **characterisation of the match**: `pattern.match` on `{t` finds what the search `closeAt` finds in `t` -
    a search in which only backslashes and braces matter: a `}` closes, a `{` cannot be passed, a backslash is first
    an escape of the next character (not of a line feed) and, if that leads nowhere, an ordinary character.
    The numbers play no role in where the expression ends. -/
theorem braceMatch_search (t : Str) :
    braceMatch ('{' :: t) = (closeAt t).map (fun r => (t.take (t.length - (r.length + 1)), r)) :=
  braceMatch_eq_closeAt t

theorem braceMatch_anchored : braceMatch [] = none ∧ ∀ ch t, ch ≠ '{' → braceMatch (ch :: t) = none :=
  ⟨braceMatch_nil, braceMatch_not_open⟩

/-- **soundness of the match**: the text is `{`, the source, `}`, the rest, and inside the source every brace stands
    directly after a backslash -/
theorem braceMatch_sound (text src rest : Str) (h : braceMatch text = some (src, rest)) :
    text = '{' :: (src ++ '}' :: rest) ∧ bracesEscaped false src = true := by
  cases text with
  | nil => simp [braceMatch_nil] at h
  | cons ch t =>
    by_cases hc : ch = '{'
    · subst hc
      rw [braceMatch_eq_closeAt] at h
      cases hr : closeAt t with
      | none => rw [hr] at h; cases h
      | some r =>
        rw [hr] at h
        simp only [Option.map_some, Option.some.injEq, Prod.mk.injEq] at h
        obtain ⟨hsrc, rfl⟩ := h
        obtain ⟨src', hs, he⟩ := closeAt_escaped t r hr
        subst hs
        simp at hsrc
        rw [← hsrc]
        exact ⟨rfl, he⟩
    · rw [braceMatch_not_open ch t hc] at h
      cases h

example : braceMatch "{a\\}".toList = some ("a\\".toList, []) := by decide +kernel
example : braceMatch "{1/0} x".toList = some ("1/0".toList, " x".toList) := by decide +kernel

theorem braceMatch_source_escaped (text src rest : Str) (h : braceMatch text = some (src, rest)) :
    bracesEscaped false src = true :=
  (braceMatch_sound text src rest h).2

/-- **when there is a match** (declaratively): `{t` matches exactly when `t` starts with a stretch in which every brace
    stands directly after a backslash, followed by a `}`.  (Which such `}` is taken is what `braceMatch_search` says.) -/
theorem braceMatch_iff (t : Str) :
    (braceMatch ('{' :: t)).isSome = true ↔ ∃ src r, t = src ++ '}' :: r ∧ bracesEscaped false src = true := by
  rw [braceMatch_eq_closeAt]
  constructor
  · intro h
    cases hr : closeAt t with
    | none => rw [hr] at h; cases h
    | some r =>
      obtain ⟨src, hs, he⟩ := closeAt_escaped t r hr
      exact ⟨src, r, hs, he⟩
  · rintro ⟨src, r, rfl, he⟩
    have := closeAt_isSome_of_escaped src r he
    cases hq : closeAt (src ++ '}' :: r) with
    | none => rw [hq] at this; cases this
    | some _ => rfl

/-- **the search is needed only where the greedy reading of escapes fails**: if reading every backslash as an
    escape (of anything but a line feed) reaches a closing brace, that is the match -/
theorem braceMatch_greedy (t r : Str) (h : closeGreedy t = some r) :
    braceMatch ('{' :: t) = some (t.take (t.length - (r.length + 1)), r) := by
  rw [braceMatch_eq_closeAt, closeAt_of_greedy t r h]
  rfl

/-- **when the search was needed**: if the greedy reading finds no end but there is a match, then the greedy reading of
    the matched source is not clean - it ends on a backslash (the trailing-backslash case: `\}` was first taken for an
    escape) or it meets a brace that it does not escape (a brace after an even number of backslashes, as in `{\\{}`) -/
theorem braceMatch_search_needed (t src r : Str) (hg : closeGreedy t = none)
    (hm : braceMatch ('{' :: t) = some (src, r)) : greedyClean src = false := by
  have hs := (braceMatch_sound _ _ _ hm).1
  simp only [List.cons.injEq, true_and] at hs
  cases hc : greedyClean src with
  | false => rfl
  | true =>
    rw [hs, closeGreedy_of_clean src r hc] at hg
    cases hg

/-- the trailing backslash: the greedy reading takes `\}` for an escape and finds no end; the search re-reads the
    backslash as a character -/
example : closeGreedy "a\\}".toList = none ∧ braceMatch "{a\\}".toList = some ("a\\".toList, []) := by decide +kernel
/-- the search can also pass a brace that the greedy reading cannot: `{\\{}` has the source `\\{`
    (and `finditer` then silently drops the `{`: the expression renders as a single backslash) -/
example : closeGreedy "\\\\{}".toList = none ∧ braceMatch "{\\\\{}".toList = some ("\\\\{".toList, []) ∧
    braceParts "\\\\{".toList = [.text ['\\']] := by decide +kernel
/-- and it can stop before a later closing brace that a different reading would reach -/
example : braceMatch "{\\\\}x}".toList = some ("\\\\".toList, "x}".toList) := by decide +kernel

/-- **one step of `finditer`, groups included, is a deterministic lexer**: maximal runs of digits and blanks; a
    mixed fraction if there is one, else a fraction, else a decimal; a backslash escapes anything but a line feed -/
theorem brace_step_groups (s : Str) : Brace.partAt s = lexCaps s := partAt_eq_lexCaps s

/-- **the tokenisation is the deterministic lexer** -/
theorem braceTokens_deterministic (src : Str) : braceTokens src = lexTokens src := braceTokens_eq_lexTokens src

/-- **C07 for prose: no `ZeroDivisionError`** - whenever `__init__` calls `Fraction(numerator, denominator)` the
    denominator text is there and its value is not zero; and the result is a normal scaled value string -/
theorem braceParts_total (src : Str) :
    (∀ c ∈ Brace.matches src, ∀ numer, c.get gNumerator = some numer →
        ∃ d, c.get gDenominator = some d ∧ natOfDigits d ≠ 0) ∧
    C03.SvsNormal (braceParts src) :=
  ⟨fun _ hc numer hn =>
    let ⟨s0, _, _, hp⟩ := matchesF_mem_len _ _ _ hc
    lexCaps_denominator (partAt_eq_lexCaps s0 ▸ hp) numer hn,
   C03.normalise_normal _⟩

/-- **C07 for prose: no exception at all on sources of sane size** - with at most 300 characters between the braces,
    `ScaledValueExpression(match)` returns a string of finite numbers (no `ValueError` from `int()`, no `OverflowError` from
    `float(Fraction)`, no float infinity) -/
theorem braceExpr_total (src : Str) (h : src.length ≤ 300) : braceExpr src = .ok (braceParts src) := by
  have h1 : (Brace.matches src).any capsIntTooLong = false :=
    matches_no_intTooLong src (by simp only [intMaxStrDigits]; omega)
  have h2 : renderSvsErr (braceParts src) = none := by
    apply renderSvsErr_none
    intro n hn
    obtain ⟨c, hc, hcv⟩ := List.mem_map.1 (Svs.num_mem_normalise hn)
    obtain ⟨s0, s', hl, hp⟩ := matchesF_mem_len _ _ _ hc
    have hq := partAt_eq_lexTok s0
    rw [hp, Option.map_some, hcv] at hq
    rw [lexTok_num hq.symm]
    exact renderNumErr_lexNumber s0 (by omega)
  unfold braceExpr
  rw [h1, h2]
  rfl

/-- the `ValueError` of `int()` needs more than 4300 characters -/
theorem braceExpr_int_limit (src : Str) (h : src.length ≤ 4300) : (Brace.matches src).any capsIntTooLong = false :=
  matches_no_intTooLong src h

def isValueError : Except BraceErr SVS → Bool | .error .valueError => true | _ => false
def isOverflowError : Except BraceErr SVS → Bool | .error .overflowError => true | _ => false
def isInfiniteFloat : Except BraceErr SVS → Bool | .error .infiniteFloat => true | _ => false

/-- `1/0` is not read as a fraction: three parts, none of them a `Fraction` -/
example : braceParts "1/0".toList = [.num ⟨1, .int⟩, .text ['/'], .num ⟨0, .int⟩] := by decide +kernel
example : (Brace.matches "1 2/03".toList).map (fun c => (c.get gInteger, c.get gNumerator, c.get gDenominator))
    = [(some ['1'], some ['2'], some ['0', '3'])] := by decide +kernel

/-- `integer blanks+ numerator blanks* / blanks* denominator` is `int(integer) + Fraction(numerator, denominator)` -/
theorem spelling_mixed (i h1 n h2 h3 d r : Str)
    (hine : i ≠ []) (hi : ∀ ch ∈ i, isDigit ch = true) (h1ne : h1 ≠ []) (hh1 : ∀ ch ∈ h1, isHsp ch = true)
    (hne : n ≠ []) (hn : ∀ ch ∈ n, isDigit ch = true) (hh2 : ∀ ch ∈ h2, isHsp ch = true)
    (hh3 : ∀ ch ∈ h3, isHsp ch = true) (hdne : d ≠ []) (hd : ∀ ch ∈ d, isDigit ch = true) (hnz : natOfDigits d ≠ 0)
    (hr : ∀ ch, r.head? = some ch → isDigit ch = false) :
    lexTok (i ++ (h1 ++ (n ++ (h2 ++ '/' :: (h3 ++ (d ++ r)))))) = some (.num (fracValue (some i) n d), r) :=
  lexTok_mixed ⟨hine, hi⟩ h1ne hh1 ⟨⟨hne, hn⟩, hh2, hh3, ⟨hdne, hd⟩, hnz⟩ hr

/-- `numerator blanks* / blanks* denominator` is `0 + Fraction(numerator, denominator)` -/
theorem spelling_fraction (n h2 h3 d r : Str)
    (hne : n ≠ []) (hn : ∀ ch ∈ n, isDigit ch = true) (hh2 : ∀ ch ∈ h2, isHsp ch = true)
    (hh3 : ∀ ch ∈ h3, isHsp ch = true) (hdne : d ≠ []) (hd : ∀ ch ∈ d, isDigit ch = true) (hnz : natOfDigits d ≠ 0)
    (hr : ∀ ch, r.head? = some ch → isDigit ch = false) :
    lexTok (n ++ (h2 ++ '/' :: (h3 ++ (d ++ r)))) = some (.num (fracValue none n d), r) :=
  lexTok_frac ⟨⟨hne, hn⟩, hh2, hh3, ⟨hdne, hd⟩, hnz⟩ hr

/-- `whole . digits*` is `float(…)` -/
theorem spelling_float (w f r : Str) (hne : w ≠ []) (hw : ∀ ch ∈ w, isDigit ch = true)
    (hf : ∀ ch ∈ f, isDigit ch = true) (hr : ∀ ch, r.head? = some ch → isDigit ch = false) :
    lexTok (w ++ '.' :: (f ++ r)) = some (.num (floatValue w f), r) :=
  lexTok_float ⟨hne, hw⟩ hf hr

/-- digits alone are `int(…)` - if what follows is no ".", and after optional blanks neither a digit nor a "/" -/
theorem spelling_int (w r : Str) (hne : w ≠ []) (hw : ∀ ch ∈ w, isDigit ch = true) (hr : IntFollow r) :
    lexTok (w ++ r) = some (.num (intValue w), r) :=
  lexTok_int ⟨hne, hw⟩ hr

/-- a zero denominator is no fraction: the numerator is read on its own -/
example : lexTok "1 / 00 x".toList = some (.num ⟨1, .int⟩, " / 00 x".toList) := by decide +kernel
example : lexTok "01 \t 02 /\t003}".toList = some (.num ⟨5 / 3, .frac⟩, "}".toList) := by decide +kernel

theorem replicate_digits (k : Nat) (c : Char) (hc : isDigit c = true) : ∀ ch ∈ List.replicate k c, isDigit ch = true :=
  fun _ h => List.eq_of_mem_replicate h ▸ hc

/-- the constructor does raise on long numbers: 4301 digits - `ValueError` (CPython's limit on `int(str)`) -/
theorem braceExpr_valueError_witness : isValueError (braceExpr (List.replicate 4301 '1')) = true := by
  rw [braceExpr_long_digits _ (replicate_digits _ _ (by decide)) (by rw [List.length_replicate]; decide)]
  rfl
/-- 309 digits and a point - `float()` gives `inf`, which `format_float` shows as `inf`: no exception, the string holds an
    infinity (outside the model's exact numbers, hence the outcome `infiniteFloat`) -/
theorem braceExpr_infinite_witness : isInfiniteFloat (braceExpr (List.replicate 309 '9' ++ ['.'])) = true := by
  have h : lexTok (List.replicate 309 '9' ++ ['.']) = some (.num (floatValue (List.replicate 309 '9') []), []) :=
    spelling_float _ [] [] (List.ne_nil_of_length_pos (by rw [List.length_replicate]; decide))
      (replicate_digits _ _ (by decide)) (by simp) (by simp)
  have hv : renderNumErr (floatValue (List.replicate 309 '9') []) = some .infiniteFloat := by decide +kernel
  rw [braceExpr_single_num (by rw [List.length_append, List.length_replicate]; decide) h, hv]
  rfl
/-- 309 digits and `1/9` - a `Fraction` whose denominator is not shown as a fraction goes through `float()`, which raises `OverflowError` -/
theorem braceExpr_overflow_witness : isOverflowError (braceExpr (List.replicate 309 '9' ++ " 1/9".toList)) = true := by
  have h : lexTok (List.replicate 309 '9' ++ " 1/9".toList)
      = some (.num (fracValue (some (List.replicate 309 '9')) ['1'] ['9']), []) :=
    spelling_mixed _ [' '] ['1'] [] [] ['9'] [] (List.ne_nil_of_length_pos (by rw [List.length_replicate]; decide))
      (replicate_digits _ _ (by decide)) (by simp) (by decide) (by simp) (by decide) (by simp) (by simp) (by simp)
      (by decide) (by decide) (by simp)
  have hv : renderNumErr (fracValue (some (List.replicate 309 '9')) ['1'] ['9']) = some .overflowError := by
    decide +kernel
  rw [braceExpr_single_num (by rw [List.length_append, List.length_replicate]; decide) h, hv]
  rfl

/-- **what an author writes in braces is what gets scaled.**  For a normal scaled value string `s` whose numbers are
    expressible (`NumOK`: not negative, an `int` whole, a `float` a double) and each followed by something that
    cannot be taken for a continuation of it (`Printable`, see `printable_of_sepOK` for a criterion on the parts):
    the written expression is matched as a whole, wherever it stands, and is read back as `s`.
    The match needs no side condition at all. -/
theorem print_parse_roundtrip (s : SVS) (rest : Str) (hn : C03.SvsNormal s) (hp : Printable s) :
    braceMatch ('{' :: (printBrace s ++ '}' :: rest)) = some (printBrace s, rest) ∧
    braceParts (printBrace s) = s :=
  ⟨braceMatch_printBrace s rest, braceParts_printBrace s ((Svs.normal_iff s).2 hn) hp⟩

/-- the side conditions in terms of the parts: numbers are separated by text; the text after an `int` does not
    start with "." and its first character other than a blank exists and is not "/" -/
theorem print_parse_roundtrip_parts (s : SVS) (rest : Str) (hn : C03.SvsNormal s)
    (hok : ∀ n ∈ C03.svsNums s, NumOK n) (hsep : sepOK s = true) :
    braceMatch ('{' :: (printBrace s ++ '}' :: rest)) = some (printBrace s, rest) ∧
    braceParts (printBrace s) = s := by
  have hnorm := (Svs.normal_iff s).2 hn
  refine print_parse_roundtrip s rest hn (printable_of_sepOK s hnorm ?_ hsep)
  intro p hp n hpn
  subst hpn
  apply hok
  simp only [C03.svsNums, List.mem_filterMap]
  exact ⟨_, hp, rfl⟩

/-- the image alt text of a written expression is the plain rendering of the string -/
theorem braceChildren_printBrace (s : SVS) (hn : C03.SvsNormal s) (hp : Printable s) :
    braceChildren (printBrace s) = Svs.render s := by
  unfold braceChildren
  rw [braceParts_printBrace s ((Svs.normal_iff s).2 hn) hp]

/-- an example with every kind of number and text that needs escapes -/
def exSvs : SVS :=
  [.text "Serves ".toList, .num ⟨4, .int⟩, .text ": ".toList, .num ⟨3 / 2, .frac⟩, .text " cups {2%}, ".toList,
   .num ⟨5 / 2, .flt⟩, .text "kg \\ ".toList, .num ⟨2 / 3, .frac⟩]

theorem exSvs_evaluated : printBrace exSvs = "Serves 4: 1 1/2 cups \\{\\2%\\}, 2.5kg \\\\ 2/3".toList ∧
    sepOK exSvs = true ∧ braceParts (printBrace exSvs) = exSvs := by
  lit_chars
  decide +kernel

example : printBrace exSvs = "Serves 4: 1 1/2 cups \\{\\2%\\}, 2.5kg \\\\ 2/3".toList := exSvs_evaluated.1
example : sepOK exSvs = true := exSvs_evaluated.2.1
example : braceParts (printBrace exSvs) = exSvs := exSvs_evaluated.2.2

theorem exSvs_numOK : ∀ n ∈ C03.svsNums exSvs, NumOK n := by
  intro n hn
  simp only [C03.svsNums, exSvs, List.filterMap_cons, List.filterMap_nil, List.mem_cons, List.not_mem_nil,
    or_false] at hn
  rcases hn with rfl | rfl | rfl | rfl
  · refine ⟨?_, ?_, ?_⟩
    · decide +kernel
    · intro _; rfl
    · intro h; cases h
  · refine ⟨?_, ?_, ?_⟩
    · decide +kernel
    · intro h; cases h
    · intro h; cases h
  · refine ⟨?_, ?_, ?_⟩
    · decide +kernel
    · intro h; cases h
    · intro _; exact ⟨by decide +kernel, 1, by decide +kernel⟩
  · refine ⟨?_, ?_, ?_⟩
    · decide +kernel
    · intro h; cases h
    · intro h; cases h

theorem exSvs_normal : C03.SvsNormal exSvs := by
  exact (Svs.normal_iff _).1 (by simp [exSvs, Svs.Normal, Svs.startsText, Svs.isText])

/-- the hypotheses of the round trip are satisfiable -/
example : braceParts (printBrace exSvs) = exSvs :=
  (print_parse_roundtrip_parts exSvs [] exSvs_normal exSvs_numOK exSvs_evaluated.2.1).2

/-- two numbers with nothing between them are read as one -/
example : braceParts (printBrace [.num ⟨1, .int⟩, .num ⟨2, .int⟩]) = [.num ⟨12, .int⟩] := by decide +kernel
example : braceParts (printBrace [.num ⟨1 / 2, .frac⟩, .num ⟨3, .int⟩]) = [.num ⟨1 / 23, .frac⟩] := by decide +kernel
/-- an `int` followed by text that starts with "." is read as a `float` -/
example : braceParts (printBrace [.num ⟨1, .int⟩, .text ['.']]) = [.num ⟨1, .flt⟩] := by decide +kernel
/-- an `int`, "/" (blanks around it or not), an `int`: read as a fraction -/
example : braceParts (printBrace [.num ⟨1, .int⟩, .text " / ".toList, .num ⟨2, .int⟩]) = [.num ⟨1 / 2, .frac⟩] := by decide +kernel
/-- an `int`, blanks, and then something that starts like a fraction: read as a mixed fraction -/
example : braceParts (printBrace [.num ⟨1, .int⟩, .text [' '], .num ⟨2, .int⟩, .text ['/'], .num ⟨3, .int⟩])
    = [.num ⟨5 / 3, .frac⟩] := by decide +kernel
example : braceParts (printBrace [.num ⟨1, .int⟩, .text [' '], .num ⟨2 / 3, .frac⟩]) = [.num ⟨5 / 3, .frac⟩] := by decide +kernel
/-- the criterion `sepOK` is sufficient, not necessary: the zero denominator is not a fraction -/
example : sepOK [.num ⟨1, .int⟩, .text ['/'], .num ⟨0, .int⟩] = false ∧
    braceParts (printBrace [.num ⟨1, .int⟩, .text ['/'], .num ⟨0, .int⟩]) = [.num ⟨1, .int⟩, .text ['/'], .num ⟨0, .int⟩] := by
  decide +kernel
/-- text is read back only in normal form: adjacent text parts come back merged -/
example : braceParts (printBrace [.text ['a'], .text ['b']]) = [.text ['a', 'b']] := by decide +kernel
/-- without the backslash a digit of the text would be scaled -/
example : braceParts "2%".toList = [.num ⟨2, .int⟩, .text ['%']] ∧
    braceParts (printBrace [.text "2%".toList]) = [.text "2%".toList] := by decide +kernel

/-- **C03 for prose**: scaling a parsed expression multiplies exactly the numbers that `braceParts` found
    (Python's `*`, in order, none added or dropped) and leaves every character where it was -/
theorem brace_scale (k : Num) (src : Str) :
    C03.svsNums (Svs.scale k (braceParts src)) = (C03.svsNums (braceParts src)).map (·.mul k) ∧
    C03.eraseSvs (Svs.scale k (braceParts src)) = C03.eraseSvs (braceParts src) :=
  ⟨C03.svsNums_scale k _, C03.svs_scale_frame k _ (C03.normalise_normal _)⟩

/-- scaling what the author wrote: the numbers of `s` times `k`, the text of `s` -/
theorem brace_scale_written (k : Num) (s : SVS) (hn : C03.SvsNormal s) (hp : Printable s) :
    Svs.scale k (braceParts (printBrace s)) = s.map (Svs.scalePart k) := by
  rw [braceParts_printBrace s ((Svs.normal_iff s).2 hn) hp, Svs.scale_of_normal k s ((Svs.normal_iff s).2 hn)]

example : C03.svsNums (Svs.scale ⟨2, .int⟩ (braceParts "add {1 1/2} cups".toList))
    = [⟨3, .frac⟩] := by decide +kernel

end RG.C13
