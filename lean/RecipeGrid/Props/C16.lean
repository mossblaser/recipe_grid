import RecipeGrid.Model.Links
/-! C16 — local files are never taken from outside the source root: the decision `rewriteDecision` / `embedDecision` of
    `Model/Links.lean`, which takes what `urlsplit`, `Path.resolve()` and `is_file()` returned as arguments (`canon`, `root` and
    `isFile` are free here).  `Props/C16b.lean` is about the same decision with these computed on an abstract file system
    (`decideLinkWith` of `Model/Fs.lean`: the same branches in the same order, `canon` the resolved path, `isFile` what `stat`
    finds).  No theorem identifies the two models: the statements here hold for whatever the resolution returns, those of C16b
    say what it returns.  The numbers C16.1, C16.2 are the claims of DESIGN.md section 5, C16. -/
namespace RG.C16

/-- C16.1 a URL is returned unchanged iff it has a scheme, a network location or an empty path -/
theorem untouched_iff (scheme netloc path : Str) (canon root : List Str) (isFile : Bool) (lookup : Option (Str × Bool)) (fromPath assets : Str) :
    rewriteDecision scheme netloc path canon root isFile lookup fromPath assets = .untouched ↔ (scheme ≠ [] ∨ netloc ≠ [] ∨ path = []) := by
  unfold rewriteDecision
  split
  · next h => simpa [or_assoc] using h
  · next h =>
    -- no later branch answers `untouched`
    refine iff_of_false (fun hr => ?_) (by simpa [or_assoc] using h)
    split at hr
    · cases hr
    · split at hr
      · cases hr
      · split at hr <;> cases hr

/-- C16.2 an asset is produced only for an existing file whose canonical path lies below the canonical root -/
theorem asset_contained (scheme netloc path : Str) (canon root : List Str) (isFile : Bool) (lookup : Option (Str × Bool)) (fromPath assets w h : Str)
    (hr : rewriteDecision scheme netloc path canon root isFile lookup fromPath assets = .asset w h) :
    isPrefixParts root canon = true ∧ isFile = true ∧ w = assets ++ '/' :: joinSlash (canon.drop root.length) := by
  unfold rewriteDecision at hr
  -- only the last branch answers `asset`
  split at hr
  · cases hr
  split at hr
  · cases hr
  split at hr
  · cases hr
  split at hr
  · cases hr
  next h1 h2 =>
  cases hr
  exact ⟨by simpa using h1, by simpa using h2, rfl⟩

/-- C16.2 a link that resolves outside the root and is no page of the site is refused, whatever spelled it -/
theorem escape_refused (scheme netloc path : Str) (canon root : List Str) (isFile : Bool) (fromPath assets : Str)
    (hlocal : scheme = [] ∧ netloc = [] ∧ path ≠ []) (hout : isPrefixParts root canon = false) :
    rewriteDecision scheme netloc path canon root isFile none fromPath assets = .externalFileError := by
  obtain ⟨h1, h2, h3⟩ := hlocal
  simp [rewriteDecision, h1, h2, h3, hout]

/-- a file that does not exist inside the root is refused with the other error -/
theorem missing_refused (scheme netloc path : Str) (canon root : List Str) (fromPath assets : Str)
    (hlocal : scheme = [] ∧ netloc = [] ∧ path ≠ []) (hin : isPrefixParts root canon = true) :
    rewriteDecision scheme netloc path canon root false none fromPath assets = .nonExistentFileError := by
  obtain ⟨h1, h2, h3⟩ := hlocal
  simp [rewriteDecision, h1, h2, h3, hin]

/-- the same containment rule guards the standalone page's embedding -/
theorem embed_contained (scheme netloc path : Str) (canon root : List Str) (isFile : Bool) (w h : Str)
    (hr : embedDecision scheme netloc path canon root isFile = .asset w h) : isPrefixParts root canon = true ∧ isFile = true := by
  unfold embedDecision at hr
  split at hr
  · cases hr
  split at hr
  · cases hr
  split at hr
  · cases hr
  next h1 h2 => exact ⟨by simpa using h1, by simpa using h2⟩

end RG.C16
