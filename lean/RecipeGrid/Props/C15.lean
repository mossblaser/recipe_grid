import RecipeGrid.Lemmas.Site
/-! C15 — which pages exist: the home page first, one category hierarchy per serving count 1..M plus the
    unscaled `categories` hierarchy, one page per scalable recipe per serving count, one page per unscalable recipe.
    (`DirAt`, `InTree` and `Hierarchy` are defined in `Lemmas/Site.lean`.) -/
namespace RG.C15
/-- a recipe stating more servings than M is reported as an error, and only then -/
theorem too_many_servings_iff (root : Dir) (rootName : Str) (M : Nat) :
    (∃ n, sitePages root rootName M = .error (.maxServingsTooLow n)) ↔ M < maxNativeServings root := by
  constructor
  · rintro ⟨n, h⟩
    exact ((sitePages_error ..).mp h).1
  · exact fun h => ⟨_, (sitePages_error ..).mpr ⟨h, rfl⟩⟩

theorem home_first (root : Dir) (rootName : Str) (M : Nat) (ps : List Page) (h : sitePages root rootName M = .ok ps) :
    ps.head? = some ⟨"/index.html".toList, root.title (some rootName),
      [hrefRelative "/index.html".toList cssPath]
        ++ (List.range M).map (fun m => hrefRelative "/index.html".toList (catPath (some (m + 1)) []))
        ++ [hrefRelative "/index.html".toList (catPath none [])]⟩ :=
  sitePages_head h

/-- every directory of the tree has a category page in every hierarchy (`serves1`…`servesM`, `categories`) -/
theorem category_pages (root : Dir) (rootName : Str) (M : Nat) (ps : List Page) (h : sitePages root rootName M = .ok ps)
    (dirs : List Str) (d : Dir) (hd : DirAt root dirs d) (sv : Option Nat) (hsv : Hierarchy M sv) :
    catPath sv dirs ∈ ps.map (·.path) :=
  List.mem_map.mpr ⟨_, (mem_sitePages_iff h _).mpr (.inr ⟨sv, hsv, dirs, d, hd, mem_sitePagesAt.mpr (.inl rfl)⟩), rfl⟩

/-- the root category pages: `/serves<n>/index.html` for every 1 ≤ n ≤ M, and `/categories/index.html` -/
theorem scaled_roots (root : Dir) (rootName : Str) (M : Nat) (ps : List Page) (h : sitePages root rootName M = .ok ps) :
    (∀ n, 1 ≤ n → n ≤ M → catPath (some n) [] ∈ ps.map (·.path)) ∧ catPath none [] ∈ ps.map (·.path) :=
  ⟨fun n h1 h2 => category_pages root rootName M ps h [] root (DirAt.here root) (some n) ⟨h1, h2⟩,
   category_pages root rootName M ps h [] root (DirAt.here root) none trivial⟩

/-- a recipe has a page, with its title, in every hierarchy of its kind -/
theorem recipe_page {root : Dir} {rootName : Str} {M : Nat} {ps : List Page} (h : sitePages root rootName M = .ok ps)
    {dirs : List Str} {r : RecipeFile} (hr : InTree root dirs r) {sv : Option Nat} (hsv : Hierarchy M sv)
    (hkind : r.servings.isSome = sv.isSome) : ∃ p ∈ ps, p.path = recipePath sv dirs r.file ∧ p.title = r.title := by
  obtain ⟨d, hd, hrd⟩ := (inTree_iff ..).mp hr
  obtain ⟨p, hp⟩ := recipePageAt_isSome (M := M) (crumbs := crumbsAt sv dirs) (dirs := dirs) hkind
  exact ⟨p, (mem_sitePages_iff h p).mpr
      (.inr ⟨sv, hsv, dirs, d, hd, mem_sitePagesAt.mpr (.inr ⟨r, hrd, hp⟩)⟩),
    (recipePageAt_some hp).2.1, (recipePageAt_some hp).2.2.1⟩

theorem recipe_path_mem {root : Dir} {rootName : Str} {M : Nat} {ps : List Page} (h : sitePages root rootName M = .ok ps)
    {dirs : List Str} {r : RecipeFile} (hr : InTree root dirs r) {sv : Option Nat} (hsv : Hierarchy M sv)
    (hkind : r.servings.isSome = sv.isSome) : recipePath sv dirs r.file ∈ ps.map (·.path) :=
  let ⟨q, hq, hpath, _⟩ := recipe_page h hr hsv hkind
  List.mem_map.mpr ⟨q, hq, hpath⟩

/-- a scalable recipe has a page (with its title) for every serving count 1..M; its native count is among them -/
theorem recipe_pages_per_count (root : Dir) (rootName : Str) (M : Nat) (ps : List Page) (h : sitePages root rootName M = .ok ps)
    (dirs : List Str) (r : RecipeFile) (hr : InTree root dirs r) (native : Nat) (hs : r.servings = some native) :
    native ≤ M ∧ ∀ n, 1 ≤ n → n ≤ M → ∃ p ∈ ps, p.path = recipePath (some n) dirs r.file ∧ p.title = r.title :=
  ⟨Nat.le_trans (servings_le_max hr native hs) ((sitePages_ok ..).mp h).1,
    fun n h1 h2 => recipe_page h hr (sv := some n) ⟨h1, h2⟩ (by rw [hs]; rfl)⟩

/-- an unscalable recipe has its (single) page in the `categories` hierarchy -/
theorem unscalable_recipe_page (root : Dir) (rootName : Str) (M : Nat) (ps : List Page) (h : sitePages root rootName M = .ok ps)
    (dirs : List Str) (r : RecipeFile) (hr : InTree root dirs r) (hs : r.servings = none) :
    ∃ p ∈ ps, p.path = recipePath none dirs r.file ∧ p.title = r.title :=
  recipe_page h hr (sv := none) trivial (by rw [hs])

/-- … and nothing else: every page is the home page, the category page of a directory of the tree in one of the
    hierarchies, the page of a scalable recipe in a `serves<n>` hierarchy, or the page of an unscalable recipe in
    `categories` (so an unscalable recipe is rendered exactly once, a scalable one never under `categories`) -/
theorem pages_classified (root : Dir) (rootName : Str) (M : Nat) (ps : List Page) (h : sitePages root rootName M = .ok ps) :
    ∀ p ∈ ps, p.path = "/index.html".toList ∨
      ∃ sv dirs, Hierarchy M sv ∧
        ((∃ d, DirAt root dirs d ∧ p.path = catPath sv dirs) ∨
         (∃ r, InTree root dirs r ∧ r.servings.isSome = sv.isSome ∧ p.path = recipePath sv dirs r.file ∧ p.title = r.title)) := by
  intro p hp
  rcases (mem_sitePages_iff h p).mp hp with rfl | ⟨sv, hsv, dirs, d, hd, hp⟩
  · exact .inl rfl
  · refine .inr ⟨sv, dirs, hsv, ?_⟩
    rcases mem_sitePagesAt.mp hp with rfl | ⟨r, hr, hp⟩
    · exact .inl ⟨d, hd, rfl⟩
    · have := recipePageAt_some hp
      exact .inr ⟨r, (inTree_iff ..).mpr ⟨d, hd, hr⟩, this.1, this.2.1, this.2.2.1⟩

mutual
/-- number of pages of one hierarchy below a directory: one category page per directory, plus one page per
    scalable recipe (`scaled = true`, a `serves<n>` hierarchy) or per unscalable recipe (`scaled = false`, `categories`) -/
def hierarchySize (scaled : Bool) : Dir → Nat
  | .mk _ _ recipes subdirs =>
    1 + (recipes.filter fun r => r.servings.isSome == scaled).length + hierarchySizeList scaled subdirs
def hierarchySizeList (scaled : Bool) : List Dir → Nat
  | [] => 0
  | d :: ds => hierarchySize scaled d + hierarchySizeList scaled ds
end

theorem hierarchySizeList_eq_sum (scaled : Bool) (l : List Dir) :
    hierarchySizeList scaled l = (l.map (hierarchySize scaled)).sum := by
  induction l with
  | nil => rfl
  | cons d ds ih => rw [hierarchySizeList, ih]; rfl

/-- the number of pages: the home page, M scaled hierarchies, one unscaled hierarchy, each hierarchy with one category
    page per directory and one page per recipe of its kind (a count; two sibling directories of the same name give two
    pages with one path, and both are counted) -/
theorem page_count (root : Dir) (rootName : Str) (M : Nat) (ps : List Page) (h : sitePages root rootName M = .ok ps) :
    ps.length = 1 + M * hierarchySize true root + hierarchySize false root := by
  have key : ∀ (sv : Option Nat) (d : Dir) (chain : List (Str × Str)) (dirs : List Str) (isRoot : Bool),
      (categoryPages M sv chain dirs isRoot d).1.length = hierarchySize sv.isSome d := by
    intro sv d
    induction d using Dir.ind with
    | h d ih =>
      obtain ⟨n, r, recs, subs⟩ := d
      simp only [Dir.subdirs] at ih
      intro chain dirs isRoot
      rw [length_categoryPages, hierarchySize, hierarchySizeList_eq_sum, Dir.subdirs, Dir.recipes,
        List.map_congr_left (fun s hs => ih s hs _ _ _)]
      omega
  rw [((sitePages_ok ..).mp h).2]
  simp only [List.length_cons, List.length_append, List.length_flatMap, key, Option.isSome_some, Option.isSome_none,
    List.map_const', List.length_range, List.sum_replicate_nat]
  omega

/-- a small tree: a scalable recipe at the root, an unscalable one in a sub-directory -/
def exampleTree : Dir :=
  .mk "book".toList none [⟨"soup.md".toList, "Soup".toList, some 2⟩]
    [.mk "Cakes".toList none [⟨"tiffin.md".toList, "Tiffin".toList, none⟩] []]

example : (sitePages exampleTree "book".toList 2).toOption.map (·.map (·.path)) = some
    ["/index.html".toList,
     "/serves1/index.html".toList, "/serves1/Cakes/index.html".toList, "/serves1/soup.html".toList,
     "/serves2/index.html".toList, "/serves2/Cakes/index.html".toList, "/serves2/soup.html".toList,
     "/categories/index.html".toList, "/categories/Cakes/index.html".toList, "/categories/Cakes/tiffin.html".toList] := by
  lit_chars
  decide +kernel
example : hierarchySize true exampleTree = 3 ∧ hierarchySize false exampleTree = 3 := by decide
example : InTree exampleTree ["Cakes".toList] ⟨"tiffin.md".toList, "Tiffin".toList, none⟩ :=
  InTree.sub (s := .mk "Cakes".toList none [⟨"tiffin.md".toList, "Tiffin".toList, none⟩] []) (List.Mem.head _)
    (InTree.here (List.Mem.head _))
example : ∃ n, sitePages exampleTree "book".toList 1 = .error (.maxServingsTooLow n) :=
  (too_many_servings_iff ..).mpr (by decide)
end RG.C15
