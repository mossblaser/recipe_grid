import RecipeGrid.Props.C10
import RecipeGrid.Lemmas.HtmlText
/-! C10 (continued) — rendered recipe text is inert at the level of HTML tokens: fed to a small HTML tokenizer, the
    output of the renderer has an element structure (`skeleton`) that does not depend on the user's strings, and
    its visible text (`textOf`) is the user's text, character for character.

    The specification (the tokenizer, `skeleton`, `textOf`, the plain-text renderings `plain…`, `collapseWs`) does
    not use the renderer's string functions; it does use the model's unit table (`conversions` calls `altUnits`) and
    the renderer's test for a whole proportion (`isWhole`).  The method: a string is a fragment (`Frag`) denoting a token list;
    fragments compose, and text and skeleton are read off the token list.  Cell bodies are in `Props/C04b.lean`.

    Observations recorded here: (1) `tagBody` re-indents a multi-line body and strips the white space at its end
    with `str.rstrip`, which also removes Unicode white space such as U+00A0 — text ending a multi-line body loses
    it (example at the end; `C04.renderCellBody_text_newline_witness`); (2) a newline inside text that ends up in a
    `tagBody` body changes the layout, so white-space text appears between tags (`C04.renderCellBody_skeleton_
    newline_witness`); (3) with exactly one alternative form a quantity and its alternative would run together
    without white space (`plainQuantityFull`). -/
namespace RG.C10

/-! ## the specification: a small HTML tokenizer -/

inductive Token where
  | open (tag : Str) (attrs : List (Str × Str))
  | close (tag : Str)
  | text (s : Str)
deriving DecidableEq, Repr

/-- decoding of text between tags: the eight references of `unescape` plus `&times;` and `&frasl;` (which the
    renderer emits itself); every other character (including a stray `&`) stays -/
def unescapeX : Str → Str
  | '&' :: 't' :: 'i' :: 'm' :: 'e' :: 's' :: ';' :: rest => '×' :: unescapeX rest
  | '&' :: 'f' :: 'r' :: 'a' :: 's' :: 'l' :: ';' :: rest => '⁄' :: unescapeX rest
  | '&' :: 'a' :: 'm' :: 'p' :: ';' :: rest => '&' :: unescapeX rest
  | '&' :: 'l' :: 't' :: ';' :: rest => '<' :: unescapeX rest
  | '&' :: 'g' :: 't' :: ';' :: rest => '>' :: unescapeX rest
  | '&' :: 'q' :: 'u' :: 'o' :: 't' :: ';' :: rest => '"' :: unescapeX rest
  | '&' :: '#' :: 'x' :: '2' :: '7' :: ';' :: rest => '\'' :: unescapeX rest
  | '&' :: '#' :: '1' :: '0' :: ';' :: rest => '\n' :: unescapeX rest
  | '&' :: '#' :: '1' :: '3' :: ';' :: rest => '\r' :: unescapeX rest
  | '&' :: '#' :: '9' :: ';' :: rest => '\t' :: unescapeX rest
  | c :: rest => c :: unescapeX rest
  | [] => []

/-- tag and attribute names: ASCII letters, digits, '-' -/
def isNameChar (c : Char) : Bool := c.isAlphanum || c == '-'

inductive Mode where
  /-- between tags -/
  | data
  /-- after `<` -/
  | tagOpen
  /-- after `</`, reading the name -/
  | closeName (n : Str)
  /-- after `<`, reading the name -/
  | openName (n : Str)
  /-- after the tag name or an attribute value: a space, `/` or `>` must follow -/
  | afterName (tag : Str) (attrs : List (Str × Str))
  /-- after the space: an attribute name, `/` or `>` must follow -/
  | beforeAttr (tag : Str) (attrs : List (Str × Str))
  /-- reading an attribute name; `=` must follow -/
  | attrName (tag : Str) (attrs : List (Str × Str)) (n : Str)
  /-- after `=`: a quote must follow -/
  | beforeVal (tag : Str) (attrs : List (Str × Str)) (n : Str)
  /-- inside a quoted attribute value, up to the same quote -/
  | attrVal (tag : Str) (attrs : List (Str × Str)) (n : Str) (q : Char) (v : Str)
  /-- after `/`: `>` must follow -/
  | selfClose (tag : Str) (attrs : List (Str × Str))
deriving DecidableEq, Repr

/-- the tokenizer state: tokens emitted so far, the raw text since the last tag, the raw characters of the tag
    being read (from its `<`), and the mode -/
structure St where
  out : List Token
  acc : Str
  raw : Str
  mode : Mode
deriving DecidableEq, Repr

/-- pending raw text becomes one text token, decoded; no token for no text -/
def flushText (acc : Str) : List Token := if acc.isEmpty then [] else [.text (unescapeX acc)]

/-- a complete tag: the pending text, then the tag -/
def St.emit (st : St) (k : Token) : St := ⟨st.out ++ flushText st.acc ++ [k], [], [], .data⟩

def stepData (st : St) (c : Char) : St :=
  if c = '<' then { st with raw := ['<'], mode := .tagOpen } else { st with acc := st.acc ++ [c] }

/-- what looked like a tag is not one: its characters are text after all (as in HTML), and `c` is read as data -/
def St.fail (st : St) (c : Char) : St := stepData ⟨st.out, st.acc ++ st.raw, [], .data⟩ c

def stepAfter (st : St) (tag : Str) (attrs : List (Str × Str)) (c : Char) : St :=
  if c = ' ' then { st with raw := st.raw ++ [c], mode := .beforeAttr tag attrs }
  else if c = '/' then { st with raw := st.raw ++ [c], mode := .selfClose tag attrs }
  else if c = '>' then st.emit (.open tag attrs)
  else st.fail c

def step (st : St) (c : Char) : St :=
  match st.mode with
  | .data => stepData st c
  | .tagOpen =>
    if c = '/' then { st with raw := st.raw ++ [c], mode := .closeName [] }
    else if isNameChar c then { st with raw := st.raw ++ [c], mode := .openName [c] }
    else st.fail c
  | .closeName n =>
    if isNameChar c then { st with raw := st.raw ++ [c], mode := .closeName (n ++ [c]) }
    else if c = '>' ∧ n ≠ [] then st.emit (.close n)
    else st.fail c
  | .openName n =>
    if isNameChar c then { st with raw := st.raw ++ [c], mode := .openName (n ++ [c]) }
    else stepAfter st n [] c
  | .afterName tag attrs => stepAfter st tag attrs c
  | .beforeAttr tag attrs =>
    if isNameChar c then { st with raw := st.raw ++ [c], mode := .attrName tag attrs [c] }
    else if c = '/' then { st with raw := st.raw ++ [c], mode := .selfClose tag attrs }
    else if c = '>' then st.emit (.open tag attrs)
    else st.fail c
  | .attrName tag attrs n =>
    if isNameChar c then { st with raw := st.raw ++ [c], mode := .attrName tag attrs (n ++ [c]) }
    else if c = '=' then { st with raw := st.raw ++ [c], mode := .beforeVal tag attrs n }
    else st.fail c
  | .beforeVal tag attrs n =>
    if c = '"' ∨ c = '\'' then { st with raw := st.raw ++ [c], mode := .attrVal tag attrs n c [] }
    else st.fail c
  | .attrVal tag attrs n q v =>
    if c = q then { st with raw := st.raw ++ [c], mode := .afterName tag (attrs ++ [(n, unescape v)]) }
    else { st with raw := st.raw ++ [c], mode := .attrVal tag attrs n q (v ++ [c]) }
  | .selfClose tag attrs =>
    if c = '>' then st.emit (.open tag attrs) else st.fail c

/-- at the end of the input an unfinished tag is text -/
def St.finish (st : St) : List Token := st.out ++ flushText (st.acc ++ st.raw)

/-- the tokens of an HTML fragment: data up to `<`; `</name>` is a close tag;
    `<name( name="value"| name='value')*( )?(/)?>` is an open tag, attribute values decoded with `unescape`;
    the text between tags is decoded with `unescapeX`; total (one step per character) -/
def tokens (s : Str) : List Token := (s.foldl step ⟨[], [], [], .data⟩).finish

def blankIds (attrs : List (Str × Str)) : List (Str × Str) :=
  attrs.map fun (n, v) => if n = S "id" ∨ n = S "href" then (n, []) else (n, v)
/-- the element structure: every text blanked, the values of `id` and `href` blanked; tags, classes and span
    attributes stay -/
def skeleton (ts : List Token) : List Token :=
  ts.map fun
    | .text _ => .text []
    | .open tag attrs => .open tag (blankIds attrs)
    | .close tag => .close tag

/-- the visible text: the text tokens, concatenated -/
def textOf (ts : List Token) : Str :=
  ts.flatMap fun
    | .text s => s
    | _ => []

example : tokens (S "<b>&amp;\"'") = [.open (S "b") [], .text (S "&\"'")] := by decide +kernel
example : tokens (S "") = [] := by decide +kernel
example : tokens (S "a<b") = [.text (S "a<b")] := by decide +kernel
example : tokens (S "1 < 2 <i>x</i>") = [.text (S "1 < 2 "), .open (S "i") [], .text (S "x"), .close (S "i")] := by
  decide +kernel
example : tokens (S "<a href=\"#x&amp;y\" id='q\"'>t&lt;</a><br/>&times;") =
    [.open (S "a") [(S "href", S "#x&y"), (S "id", S "q\"")], .text (S "t<"), .close (S "a"), .open (S "br") [],
      .text (S "×")] := by decide +kernel
example : skeleton (tokens (S "<a href=\"#x\" class=\"c\">t</a>")) =
    [.open (S "a") [(S "href", []), (S "class", S "c")], .text [], .close (S "a")] := by decide +kernel
/-- an attribute value without closing quote is not a tag -/
example : tokens (S "<a href=\"x>y") = [.text (S "<a href=\"x>y")] := by decide +kernel
/-- the nasty string, escaped: one text token, which reads back as the string -/
example : tokens (htmlEscape (S "<b>&amp;\"'")) = [.text (S "<b>&amp;\"'")] := by decide +kernel
/-- the nasty string, not escaped, would have been markup -/
example : tokens (S "<b>&amp;\"'") ≠ [.text (S "<b>&amp;\"'")] := by decide +kernel

/-! ## the specification: plain text of recipe values -/

/-- a number as plain text: what `format_number` shows, with the fraction slash for '/' -/
def plainNumber (n : Num) : Str := (formatNumber n).map fun c => if c = '/' then '⁄' else c

/-- a scaled-value string as plain text: the text parts verbatim, the numbers as plain text -/
def plainSvs (s : SVS) : Str :=
  s.flatMap fun
    | .text t => t
    | .num n => plainNumber n

/-- two scaled-value strings differing only in the text of their text parts: same length, text parts at the same
    positions (empty ones at the same positions), equal numbers -/
def SameShape : SVS → SVS → Prop
  | [], [] => True
  | .text a :: s₁, .text b :: s₂ => (a = [] ↔ b = []) ∧ SameShape s₁ s₂
  | .num m :: s₁, .num n :: s₂ => m = n ∧ SameShape s₁ s₂
  | _, _ => False

example : plainNumber ⟨mkRat 7 4, .frac⟩ = S "1 3⁄4" := by decide +kernel
example : plainSvs [.text (S "<b> "), .num ⟨mkRat 1 2, .frac⟩, .text (S " & more")] = S "<b> 1⁄2 & more" := by
  decide +kernel

/-- the alternative forms `render_quantity` lists with a quantity whose unit is known -/
def conversions (q : Quantity) : List (Num × Str) :=
  match q.unit with
  | none => []
  | some unit =>
    match altUnits (lowerStr unit) with
    | some (_ :: rest) => rest.map fun (sc, n) => (q.value.mul sc, n)
    | _ => []

/-- a quantity as plain text (without alternative forms) -/
def plainQuantity (q : Quantity) : Str :=
  plainNumber q.value ++ (match q.unit with | none => [] | some u => q.spacing ++ u) ++ q.prep

/-- a proportion as plain text; `*` is shown as the multiplication sign -/
def plainProportion (value : Option Num) (percentage : Bool) (wording : Option Str) (prep : Str) : Str :=
  match value with
  | none => wording.getD (S "remaining") ++ prep
  | some v => plainNumber (if percentage then v.mul ⟨100, .int⟩ else v) ++ prep.map fun c => if c = '*' then '×' else c

/-- the whole (1) is not shown -/
def isWhole (v : Option Num) : Bool := match v with | some n => n.val == 1 | none => false

/-- an amount as plain text, with the space after it; the whole (1) is not shown -/
def plainAmount : Amount → Str
  | .quantity q => plainQuantity q ++ [' ']
  | .proportion v p w s =>
    if isWhole v then [] else plainProportion v p w s ++ [' ']

/-- a quantity written on one line: no alternative forms to list, no newline in its spacing and unit -/
def OneLineQ (q : Quantity) : Prop :=
  conversions q = [] ∧ ∀ u, q.unit = some u → '\n' ∉ q.spacing ∧ '\n' ∉ u

def SameEmpty (a b : Str) : Prop := a = [] ↔ b = []

/-- two quantities differing only in their (non-empty) texts -/
def SameQ (q₁ q₂ : Quantity) : Prop :=
  q₁.value = q₂.value ∧ SameEmpty q₁.prep q₂.prep ∧
    match q₁.unit, q₂.unit with
    | none, none => True
    | some u₁, some u₂ => SameEmpty (q₁.spacing ++ u₁) (q₂.spacing ++ u₂)
    | _, _ => False

/-- two proportions differing only in their (non-empty) texts -/
def SameProp (v₁ : Option Num) (p₁ : Bool) (w₁ : Option Str) (s₁ : Str) (v₂ : Option Num) (p₂ : Bool)
    (w₂ : Option Str) (s₂ : Str) : Prop :=
  match v₁, v₂ with
  | none, none => SameEmpty (w₁.getD (S "remaining") ++ s₁) (w₂.getD (S "remaining") ++ s₂)
  | some a, some b => a = b ∧ p₁ = p₂ ∧ SameEmpty s₁ s₂
  | _, _ => False

def OneLineA : Amount → Prop
  | .quantity q => OneLineQ q ∧ '\n' ∉ q.prep
  | .proportion _ _ w s => (∀ w', w = some w' → '\n' ∉ w') ∧ '\n' ∉ s

/-- two amounts differing only in their (non-empty) texts -/
def SameA : Amount → Amount → Prop
  | .quantity q₁, .quantity q₂ => SameQ q₁ q₂
  | .proportion v₁ p₁ w₁ s₁, .proportion v₂ p₂ w₂ s₂ => SameProp v₁ p₁ w₁ s₁ v₂ p₂ w₂ s₂
  | _, _ => False

/-- one form of a quantity (the number, the spacing, a unit) as plain text -/
def plainConv (q : Quantity) (c : Num × Str) : Str := plainNumber c.1 ++ q.spacing ++ c.2

/-- a quantity as plain text, with the alternative forms the renderer lists after it (hidden until hovered):
    each separated by white space; a single alternative follows directly -/
def plainQuantityFull (q : Quantity) : Str :=
  match q.unit with
  | none => plainQuantity q
  | some u =>
    match conversions q with
    | [] => plainQuantity q
    | [c] => plainConv q (q.value, u) ++ plainConv q c ++ q.prep
    | cs => plainConv q (q.value, u) ++ cs.flatMap (fun c => ' ' :: plainConv q c) ++ ' ' :: q.prep

/-- spacing and unit of the quantity have no line break (in the sense of `str.splitlines`).  Stronger than the `'\n' ∉`
    of `OneLineQ`: a quantity with alternative forms is written over several lines, and `tagBody` re-indents those at
    every line break; one written on one line is not re-indented, so only `'\n'` matters there.  Used by
    `renderQuantity_text_full`. -/
def QOK (q : Quantity) : Prop := ∀ u, q.unit = some u → NoBreak q.spacing ∧ NoBreak u

/-! ## the specification: text modulo white space -/

/-- ASCII white space (the characters HTML collapses) -/
def isAsciiWs (c : Char) : Bool := c == ' ' || c == '\t' || c == '\n' || c == '\r' || c == '\x0c'

/-- the maximal runs of characters other than ASCII white space; `cur` is the current run, reversed -/
def wsWordsAux : Str → Str → List Str
  | cur, [] => if cur.isEmpty then [] else [cur.reverse]
  | cur, c :: rest =>
    if isAsciiWs c then (if cur.isEmpty then wsWordsAux [] rest else cur.reverse :: wsWordsAux [] rest)
    else wsWordsAux (c :: cur) rest
def wsWords (s : Str) : List Str := wsWordsAux [] s

/-- text with every run of ASCII white space collapsed to one space, and none at the ends -/
def collapseWs (s : Str) : Str := (S " ").intercalate (wsWords s)

example : collapseWs (S "\n  1 tsp\n    5 ml\n  \n of  salt ") = S "1 tsp 5 ml of salt" := by decide +kernel

/-! ## proofs: decoding -/

theorem unescapeX_other (c : Char) (h : c ≠ '&') (rest : Str) : unescapeX (c :: rest) = c :: unescapeX rest := by
  rw [unescapeX] <;> (intros; contradiction)

theorem unescapeX_cons_ne_nil (c : Char) (rest : Str) : unescapeX (c :: rest) ≠ [] := by
  unfold unescapeX
  -- every arm of the definition but the last yields a cons; the last is for `[]`
  split <;> first | exact List.cons_ne_nil _ _ | (rename_i h; cases h)

/-- `r` is raw text (no `<`) that decodes to `t`, whatever follows it -/
structure Raw (r t : Str) : Prop where
  nolt : '<' ∉ r
  dec : ∀ rest, unescapeX (r ++ rest) = t ++ unescapeX rest

theorem Raw.nil : Raw [] [] := ⟨by simp, fun _ => rfl⟩

theorem Raw.append {r₁ t₁ r₂ t₂ : Str} (h₁ : Raw r₁ t₁) (h₂ : Raw r₂ t₂) : Raw (r₁ ++ r₂) (t₁ ++ t₂) :=
  ⟨by simp [h₁.nolt, h₂.nolt], fun rest => by rw [List.append_assoc, h₁.dec, h₂.dec, List.append_assoc]⟩

theorem Raw.decoded {r t : Str} (h : Raw r t) : unescapeX r = t := by
  have := h.dec []; simpa [unescapeX] using this

theorem Raw.nil_iff {r t : Str} (h : Raw r t) : r = [] ↔ t = [] := by
  constructor
  · rintro rfl; have := h.decoded; simpa [unescapeX] using this.symm
  · intro ht
    cases r with
    | nil => rfl
    | cons c r => exact absurd (h.decoded.trans ht) (unescapeX_cons_ne_nil c r)

theorem Raw.flatMap {enc : Char → Str} {f : Char → Char} (hlt : ∀ c, '<' ∉ enc c) (h : Decodes unescapeX enc f)
    (s : Str) : Raw (s.flatMap enc) (s.map f) :=
  ⟨fun hm => by obtain ⟨c, -, hc⟩ := List.mem_flatMap.1 hm; exact hlt c hc, h.flatMap_append s⟩

theorem decodesX_escapeChar : Decodes unescapeX escapeChar id :=
  Decodes.escapeChar (by simp [escapeTable, S, unescapeX]) unescapeX_other

theorem lt_not_mem_escapeChar (c : Char) : '<' ∉ escapeChar c := fun hm => (escapeChar_no_markup c _ hm).1 rfl

theorem Raw.escape (s : Str) : Raw (htmlEscape s) s := by
  have := Raw.flatMap lt_not_mem_escapeChar decodesX_escapeChar s
  rwa [List.map_id] at this

/-- C10.1 for the extended decoder -/
theorem unescapeX_escape (s : Str) : unescapeX (htmlEscape s) = s := (Raw.escape s).decoded

theorem Raw.plain (s : Str) (h : ∀ c ∈ s, c ≠ '&' ∧ c ≠ '<') : Raw s s := by
  induction s with
  | nil => exact Raw.nil
  | cons c s ih =>
    have hc := h c (List.mem_cons_self ..)
    exact Raw.append (r₁ := [c]) (t₁ := [c])
      ⟨by simpa using Ne.symm hc.2, fun rest => unescapeX_other c hc.1 rest⟩
      (ih fun d hd => h d (List.mem_cons_of_mem _ hd))

theorem Raw.frasl : Raw (S "&frasl;") ['⁄'] := ⟨by decide +kernel, fun rest => by simp [S, unescapeX]⟩

/-- decoded pending text becomes one text token; no token for no text -/
def flushT (t : Str) : List Token := if t.isEmpty then [] else [.text t]

/-- a fragment is described by a token list in which text tokens may be adjacent or empty; read after pending
    text `acc`, these are the tokens completed … -/
def emitted : Str → List Token → List Token
  | _, [] => []
  | acc, .text t :: ts => emitted (acc ++ t) ts
  | acc, .open tag as :: ts => flushT acc ++ .open tag as :: emitted [] ts
  | acc, .close tag :: ts => flushT acc ++ .close tag :: emitted [] ts
/-- … and this is the text still pending -/
def pend : Str → List Token → Str
  | acc, [] => acc
  | acc, .text t :: ts => pend (acc ++ t) ts
  | _, .open _ _ :: ts => pend [] ts
  | _, .close _ :: ts => pend [] ts
/-- adjacent text tokens merged, empty ones dropped -/
def norm (ts : List Token) : List Token := emitted [] ts ++ flushT (pend [] ts)

theorem emitted_append (acc : Str) (a b : List Token) :
    emitted acc (a ++ b) = emitted acc a ++ emitted (pend acc a) b := by
  induction a generalizing acc with
  | nil => rfl
  | cons k a ih => cases k <;> simp [emitted, pend, ih]

theorem pend_append (acc : Str) (a b : List Token) : pend acc (a ++ b) = pend (pend acc a) b := by
  induction a generalizing acc with
  | nil => rfl
  | cons k a ih => cases k <;> simp [pend, ih]

theorem flushText_eq {r t : Str} (h : Raw r t) : flushText r = flushT t := by
  unfold flushText flushT
  by_cases hr : r = []
  · have := h.nil_iff.1 hr; simp [hr, this]
  · have ht : t ≠ [] := fun e => hr (h.nil_iff.2 e)
    simp [hr, ht, h.decoded]

/-- the tokenizer between tags: `out` emitted, raw text `acc` pending -/
def D (out : List Token) (acc : Str) : St := ⟨out, acc, [], .data⟩
def run (st : St) (s : Str) : St := s.foldl step st

theorem run_append (st : St) (a b : Str) : run st (a ++ b) = run (run st a) b := List.foldl_append ..
theorem run_cons (st : St) (c : Char) (s : Str) : run st (c :: s) = run (step st c) s := rfl
theorem run_nil (st : St) : run st [] = st := rfl

/-- `s` is a fragment denoting `ts`: read in the data state after any pending text, it completes the tokens
    `emitted … ts`, and ends in the data state with `pend … ts` pending -/
def Frag (s : Str) (ts : List Token) : Prop :=
  ∀ out accR accT, Raw accR accT →
    ∃ accR', Raw accR' (pend accT ts) ∧ run (D out accR) s = D (out ++ emitted accT ts) accR'

theorem tokens_of_frag {s : Str} {ts : List Token} (h : Frag s ts) : tokens s = norm ts := by
  obtain ⟨r, hr, e⟩ := h [] [] [] Raw.nil
  have e' : s.foldl step ⟨[], [], [], .data⟩ = D ([] ++ emitted [] ts) r := e
  simp [tokens, e', St.finish, D, norm, flushText_eq hr]

theorem Frag.nil : Frag [] [] := fun out accR accT h => ⟨accR, h, by simp [run_nil, emitted]⟩

theorem Frag.append {a b : Str} {ta tb : List Token} (ha : Frag a ta) (hb : Frag b tb) :
    Frag (a ++ b) (ta ++ tb) := by
  intro out accR accT h
  obtain ⟨r₁, h₁, e₁⟩ := ha out accR accT h
  obtain ⟨r₂, h₂, e₂⟩ := hb (out ++ emitted accT ta) r₁ _ h₁
  exact ⟨r₂, by rwa [pend_append], by rw [run_append, e₁, e₂, emitted_append, List.append_assoc]⟩

/-- a run of characters each of which only extends two strings of the state (`raw` and the name or value being read;
    between tags, the pending text) -/
theorem run_extend (f : Str → Str → St) (cs : Str)
    (h : ∀ r n, ∀ c ∈ cs, step (f r n) c = f (r ++ [c]) (n ++ [c])) (r n : Str) :
    run (f r n) cs = f (r ++ cs) (n ++ cs) := by
  induction cs generalizing r n with
  | nil => simp [run_nil]
  | cons c cs ih =>
    rw [run_cons, h r n c (List.mem_cons_self ..), ih fun r n d hd => h r n d (List.mem_cons_of_mem _ hd)]
    simp

theorem run_data (out : List Token) (acc r : Str) (h : '<' ∉ r) : run (D out acc) r = D out (acc ++ r) :=
  run_extend (fun _ acc => D out acc) r
    (fun _ acc c hc => by simp [step, D, stepData, show c ≠ '<' from fun e => h (e ▸ hc)]) [] acc

theorem Frag.raw {r t : Str} (h : Raw r t) : Frag r [.text t] := by
  intro out accR accT ha
  exact ⟨accR ++ r, ha.append h, by rw [run_data _ _ _ h.nolt]; simp [emitted]⟩

theorem Frag.escape (s : Str) : Frag (htmlEscape s) [.text s] := Frag.raw (Raw.escape s)

section Steps
variable {o : List Token} {a r t n : Str} {as : List (Str × Str)}

/-! the transitions a tag of the renderer goes through, one equation each -/

theorem step_lt : step (D o a) '<' = ⟨o, a, ['<'], .tagOpen⟩ := by
  simp [step, D, stepData]

theorem step_tagOpen_slash : step ⟨o, a, r, .tagOpen⟩ '/' = ⟨o, a, r ++ ['/'], .closeName []⟩ := by
  simp [step]

theorem step_tagOpen_name {c : Char} (h : isNameChar c = true) :
    step ⟨o, a, r, .tagOpen⟩ c = ⟨o, a, r ++ [c], .openName [c]⟩ := by
  have : c ≠ '/' := by rintro rfl; revert h; decide
  simp [step, h, this]

theorem step_openName_other {c : Char} (h : isNameChar c = false) :
    step ⟨o, a, r, .openName n⟩ c = step ⟨o, a, r, .afterName n []⟩ c := by
  simp [step, h, stepAfter, St.emit, St.fail]

theorem step_afterName_sp : step ⟨o, a, r, .afterName t as⟩ ' ' = ⟨o, a, r ++ [' '], .beforeAttr t as⟩ := by
  simp [step, stepAfter]

theorem step_afterName_gt : step ⟨o, a, r, .afterName t as⟩ '>' = D (o ++ flushText a ++ [.open t as]) [] := by
  simp [step, stepAfter, St.emit, D]

theorem step_beforeAttr_name {c : Char} (h : isNameChar c = true) :
    step ⟨o, a, r, .beforeAttr t as⟩ c = ⟨o, a, r ++ [c], .attrName t as [c]⟩ := by
  simp [step, h]

theorem step_attrName_eq : step ⟨o, a, r, .attrName t as n⟩ '=' = ⟨o, a, r ++ ['='], .beforeVal t as n⟩ := by
  simp [step, isNameChar]

theorem step_beforeVal_quote {q : Char} (hq : q = '"' ∨ q = '\'') :
    step ⟨o, a, r, .beforeVal t as n⟩ q = ⟨o, a, r ++ [q], .attrVal t as n q []⟩ := by
  simp [step, hq]

theorem step_attrVal_close {q : Char} {v : Str} :
    step ⟨o, a, r, .attrVal t as n q v⟩ q = ⟨o, a, r ++ [q], .afterName t (as ++ [(n, unescape v)])⟩ := by
  simp [step]

theorem step_closeName_gt (hn : n ≠ []) :
    step ⟨o, a, r, .closeName n⟩ '>' = D (o ++ flushText a ++ [.close n]) [] := by
  simp [step, isNameChar, hn, St.emit, D]

end Steps

theorem exists_cons_of_isName {n : String} (h : IsName n) :
    ∃ c cs, S n = c :: cs ∧ isNameChar c = true ∧ ∀ d ∈ cs, isNameChar d = true := by
  obtain ⟨hne, hall⟩ := h
  cases hs : n.toList with
  | nil => exact absurd hs hne
  | cons c cs =>
    rw [hs] at hall
    exact ⟨c, cs, hs, hall c (List.mem_cons_self ..), fun d hd => hall d (List.mem_cons_of_mem _ hd)⟩

theorem run_openName {o : List Token} {a r n cs : Str} (h : ∀ c ∈ cs, isNameChar c = true) :
    run ⟨o, a, r, .openName n⟩ cs = ⟨o, a, r ++ cs, .openName (n ++ cs)⟩ :=
  run_extend (fun r n => ⟨o, a, r, .openName n⟩) cs (fun r n c hc => by simp [step, h c hc]) r n

theorem run_closeName {o : List Token} {a r n cs : Str} (h : ∀ c ∈ cs, isNameChar c = true) :
    run ⟨o, a, r, .closeName n⟩ cs = ⟨o, a, r ++ cs, .closeName (n ++ cs)⟩ :=
  run_extend (fun r n => ⟨o, a, r, .closeName n⟩) cs (fun r n c hc => by simp [step, h c hc]) r n

theorem run_attrName {o : List Token} {a r t : Str} {as : List (Str × Str)} {n cs : Str}
    (h : ∀ c ∈ cs, isNameChar c = true) :
    run ⟨o, a, r, .attrName t as n⟩ cs = ⟨o, a, r ++ cs, .attrName t as (n ++ cs)⟩ :=
  run_extend (fun r n => ⟨o, a, r, .attrName t as n⟩) cs (fun r n c hc => by simp [step, h c hc]) r n

theorem run_attrVal {o : List Token} {a r t : Str} {as : List (Str × Str)} {n : Str} {q : Char} {v cs : Str}
    (h : q ∉ cs) :
    run ⟨o, a, r, .attrVal t as n q v⟩ cs = ⟨o, a, r ++ cs, .attrVal t as n q (v ++ cs)⟩ :=
  run_extend (fun r v => ⟨o, a, r, .attrVal t as n q v⟩) cs
    (fun r v c hc => by simp [step, show c ≠ q from fun e => h (e ▸ hc)]) r v

theorem run_attr (o : List Token) (a r : Str) (t : Str) (as : List (Str × Str)) (n : String) (v : Str)
    (hn : IsName n) :
    run ⟨o, a, r, .afterName t as⟩ (' ' :: S n ++ '=' :: quoteattr v) =
      ⟨o, a, r ++ (' ' :: S n ++ '=' :: quoteattr v), .afterName t (as ++ [(S n, v)])⟩ := by
  obtain ⟨q, body, hq, he, hqb, -, hdec⟩ := quoteattr_wellformed v
  obtain ⟨c0, cs, hcs, h0, hcs'⟩ := exists_cons_of_isName hn
  rw [he, hcs]
  show run _ (' ' :: c0 :: (cs ++ '=' :: q :: (body ++ [q]))) = _
  rw [run_cons, step_afterName_sp, run_cons, step_beforeAttr_name h0, run_append,
    run_attrName hcs', run_cons, step_attrName_eq, run_cons, step_beforeVal_quote hq, run_append,
    run_attrVal hqb, run_cons, run_nil, step_attrVal_close]
  simp [hdec]

def readAttrs (attrs : List (String × Str)) : List (Str × Str) := attrs.map fun (n, v) => (S n, v)

theorem run_attrs (o : List Token) (a r : Str) (t : Str) (as : List (Str × Str)) (attrs : List (String × Str))
    (h : ∀ x ∈ attrs, IsName x.1) :
    run ⟨o, a, r, .afterName t as⟩ (attrsText attrs) =
      ⟨o, a, r ++ attrsText attrs, .afterName t (as ++ readAttrs attrs)⟩ := by
  induction attrs generalizing r as with
  | nil => simp [attrsText, readAttrs, run_nil]
  | cons x attrs ih =>
    obtain ⟨n, v⟩ := x
    have e : attrsText ((n, v) :: attrs) = (' ' :: S n ++ '=' :: quoteattr v) ++ attrsText attrs := by
      simp [attrsText]
    rw [e, run_append, run_attr _ _ _ _ _ _ _ (h _ (List.mem_cons_self ..)),
      ih _ _ (fun y hy => h y (List.mem_cons_of_mem _ hy))]
    simp [readAttrs]

theorem run_openTag (tag : String) (attrs : List (String × Str)) (ht : IsName tag)
    (ha : ∀ x ∈ attrs, IsName x.1) (out : List Token) (accR : Str) :
    run (D out accR) (openTag tag attrs) = D (out ++ flushText accR ++ [.open (S tag) (readAttrs attrs)]) [] := by
  obtain ⟨c0, cs, hcs, h0, hcs'⟩ := exists_cons_of_isName ht
  have e : openTag tag attrs = '<' :: c0 :: (cs ++ (attrsText attrs ++ ['>'])) := by
    simp [openTag, hcs]
  -- the first character after the name is ' ' or '>'
  have hafter : ∀ r', run ⟨out, accR, r', .openName ([c0] ++ cs)⟩ (attrsText attrs ++ ['>']) =
      run ⟨out, accR, r', .afterName ([c0] ++ cs) []⟩ (attrsText attrs ++ ['>']) := by
    intro r'
    cases attrs with
    | nil => exact congrArg (run · []) (step_openName_other (by decide +kernel))
    | cons x xs =>
      obtain ⟨n, v⟩ := x
      simp only [attrsText, List.flatMap_cons, List.cons_append, run_cons]
      rw [step_openName_other (by decide +kernel)]
  rw [e, run_cons, step_lt, run_cons, step_tagOpen_name h0, run_append, run_openName hcs', hafter,
    run_append, run_attrs _ _ _ _ _ _ ha, run_cons, run_nil, step_afterName_gt]
  simp [hcs]

theorem Frag.openTag (tag : String) (attrs : List (String × Str)) (ht : IsName tag)
    (ha : ∀ x ∈ attrs, IsName x.1) : Frag (RG.openTag tag attrs) [.open (S tag) (readAttrs attrs)] := by
  intro out accR accT hacc
  refine ⟨[], Raw.nil, ?_⟩
  rw [run_openTag tag attrs ht ha, flushText_eq hacc]
  simp [emitted]

theorem run_closeTag (tag : String) (ht : IsName tag) (out : List Token) (accR : Str) :
    run (D out accR) (closeTag tag) = D (out ++ flushText accR ++ [.close (S tag)]) [] := by
  have e : closeTag tag = '<' :: '/' :: (S tag ++ ['>']) := by simp [closeTag]
  rw [e, run_cons, step_lt, run_cons, step_tagOpen_slash, run_append, run_closeName (cs := S tag) ht.2, run_cons,
    run_nil, step_closeName_gt (show [] ++ S tag ≠ [] from ht.1)]
  rfl

theorem Frag.closeTag (tag : String) (ht : IsName tag) : Frag (RG.closeTag tag) [.close (S tag)] := by
  intro out accR accT hacc
  refine ⟨[], Raw.nil, ?_⟩
  rw [run_closeTag tag ht, flushText_eq hacc]
  simp [emitted]

theorem Frag.tagBody {body : Str} {ts : List Token} (tag : String) (attrs : List (String × Str)) (ht : IsName tag)
    (ha : ∀ x ∈ attrs, IsName x.1) (hb : Frag body ts) (hnl : '\n' ∉ body) :
    Frag (RG.tagBody tag attrs body) (.open (S tag) (readAttrs attrs) :: ts ++ [.close (S tag)]) := by
  rw [tagBody_eq _ _ _ hnl]
  exact ((Frag.openTag tag attrs ht ha).append hb).append (Frag.closeTag tag ht)

theorem raw_nl : Raw ['\n'] ['\n'] := Raw.plain _ (by decide +kernel)

@[simp] theorem textOf_nil : textOf [] = [] := rfl
@[simp] theorem textOf_cons_text (t : Str) (ts : List Token) : textOf (.text t :: ts) = t ++ textOf ts := rfl
@[simp] theorem textOf_cons_open (k : Str) (as : List (Str × Str)) (ts : List Token) :
    textOf (.open k as :: ts) = textOf ts := rfl
@[simp] theorem textOf_cons_close (k : Str) (ts : List Token) : textOf (.close k :: ts) = textOf ts := rfl
@[simp] theorem textOf_append (a b : List Token) : textOf (a ++ b) = textOf a ++ textOf b := by simp [textOf]
@[simp] theorem textOf_flushT (t : Str) : textOf (flushT t) = t := by
  unfold flushT; split <;> simp_all

theorem textOf_emitted (acc : Str) (ts : List Token) :
    textOf (emitted acc ts ++ flushT (pend acc ts)) = acc ++ textOf ts := by
  induction ts generalizing acc with
  | nil => simp [emitted, pend]
  | cons k ts ih =>
    cases k with
    | text t => simp only [emitted, pend, ih, textOf_cons_text, List.append_assoc]
    | «open» tag as =>
      have := ih []
      simp only [emitted, pend, List.append_assoc, List.cons_append, textOf_append, textOf_flushT,
        textOf_cons_open, List.nil_append] at this ⊢
      rw [this]
    | close tag =>
      have := ih []
      simp only [emitted, pend, List.append_assoc, List.cons_append, textOf_append, textOf_flushT,
        textOf_cons_close, List.nil_append] at this ⊢
      rw [this]

theorem textOf_norm (ts : List Token) : textOf (norm ts) = textOf ts := by
  have := textOf_emitted [] ts
  simpa [norm] using this

theorem norm_wrap (k : Str) (as : List (Str × Str)) (k' : Str) (ts : List Token) :
    norm (.open k as :: ts ++ [.close k']) = .open k as :: norm ts ++ [.close k'] := by
  simp [norm, emitted, pend, emitted_append, pend_append, flushT]

/-- a mark for "this text is not empty" -/
def xMark (t : Str) : Str := if t = [] then [] else ['x']
/-- what `skeleton ∘ norm` looks at: which texts are empty, tags, attributes other than the values of id/href -/
def shape (ts : List Token) : List Token :=
  ts.map fun
    | .text t => .text (xMark t)
    | .open tag attrs => .open tag (blankIds attrs)
    | .close tag => .close tag

@[simp] theorem skeleton_nil : skeleton [] = [] := rfl
@[simp] theorem skeleton_cons_text (t : Str) (ts : List Token) : skeleton (.text t :: ts) = .text [] :: skeleton ts := rfl
@[simp] theorem skeleton_cons_open (k : Str) (as : List (Str × Str)) (ts : List Token) :
    skeleton (.open k as :: ts) = .open k (blankIds as) :: skeleton ts := rfl
@[simp] theorem skeleton_cons_close (k : Str) (ts : List Token) : skeleton (.close k :: ts) = .close k :: skeleton ts := rfl

@[simp] theorem shape_nil : shape [] = [] := rfl
@[simp] theorem shape_cons_text (t : Str) (ts : List Token) : shape (.text t :: ts) = .text (xMark t) :: shape ts := rfl
@[simp] theorem shape_cons_open (k : Str) (as : List (Str × Str)) (ts : List Token) :
    shape (.open k as :: ts) = .open k (blankIds as) :: shape ts := rfl
@[simp] theorem shape_cons_close (k : Str) (ts : List Token) : shape (.close k :: ts) = .close k :: shape ts := rfl

theorem xMark_eq_iff {a b : Str} : xMark a = xMark b ↔ (a = [] ↔ b = []) := by
  unfold xMark
  by_cases h1 : a = [] <;> by_cases h2 : b = [] <;> simp [h1, h2]

@[simp] theorem shape_append (a b : List Token) : shape (a ++ b) = shape a ++ shape b := by simp [shape]

theorem skeleton_append (a b : List Token) : skeleton (a ++ b) = skeleton a ++ skeleton b := by simp [skeleton]

theorem skeleton_flushT {a b : Str} (h : a = [] ↔ b = []) : skeleton (flushT a) = skeleton (flushT b) := by
  unfold flushT
  by_cases ha : a = []
  · simp [ha, h.1 ha]
  · have hb : b ≠ [] := fun e => ha (h.2 e)
    simp [ha, hb]

theorem xMark_eq_nil {t : Str} : xMark t = [] ↔ t = [] := by
  unfold xMark; split <;> simp_all

theorem blankIds_idem (as : List (Str × Str)) : blankIds (blankIds as) = blankIds as := by
  simp only [blankIds, List.map_map]
  apply List.map_congr_left
  rintro ⟨n, v⟩ _
  by_cases h : n = S "id" ∨ n = S "href" <;> simp [h]

theorem skeleton_emitted (ts : List Token) (a a' : Str) (ha : a = [] ↔ a' = []) :
    skeleton (emitted a ts ++ flushT (pend a ts)) =
      skeleton (emitted a' (shape ts) ++ flushT (pend a' (shape ts))) := by
  induction ts generalizing a a' with
  | nil => simpa [emitted, pend] using skeleton_flushT ha
  | cons k ts ih =>
    cases k with
    | text t =>
      simp only [shape_cons_text, emitted, pend]
      exact ih _ _ (by simp [ha, xMark_eq_nil])
    | «open» tag as =>
      simp only [shape_cons_open, emitted, pend, List.append_assoc, List.cons_append, skeleton_append,
        skeleton_flushT ha, skeleton_cons_open, blankIds_idem, ih [] [] Iff.rfl]
    | close tag =>
      simp only [shape_cons_close, emitted, pend, List.append_assoc, List.cons_append, skeleton_append,
        skeleton_flushT ha, skeleton_cons_close, ih [] [] Iff.rfl]

theorem skeleton_norm {ts₁ ts₂ : List Token} (h : shape ts₁ = shape ts₂) :
    skeleton (norm ts₁) = skeleton (norm ts₂) :=
  (skeleton_emitted ts₁ [] [] Iff.rfl).trans (h ▸ (skeleton_emitted ts₂ [] [] Iff.rfl).symm)

theorem Frag.text {s : Str} {ts : List Token} (h : Frag s ts) : textOf (tokens s) = textOf ts := by
  rw [tokens_of_frag h, textOf_norm]

theorem Frag.skeleton {s₁ s₂ : Str} {ts₁ ts₂ : List Token} (h₁ : Frag s₁ ts₁) (h₂ : Frag s₂ ts₂)
    (h : shape ts₁ = shape ts₂) : skeleton (tokens s₁) = skeleton (tokens s₂) := by
  rw [tokens_of_frag h₁, tokens_of_frag h₂]; exact skeleton_norm h

theorem wsWordsAux_append_ws (cur a : Str) (c : Char) (b : Str) (hc : isAsciiWs c = true) :
    wsWordsAux cur (a ++ c :: b) = wsWordsAux cur a ++ wsWords b := by
  induction a generalizing cur with
  | nil => by_cases h : cur = [] <;> simp [wsWordsAux, wsWords, hc, h]
  | cons x a ih =>
    by_cases hx : isAsciiWs x = true
    · by_cases h : cur = [] <;> simp [wsWordsAux, hx, h, ih]
    · simp [wsWordsAux, hx, ih]

theorem wsWords_append_ws (a : Str) (c : Char) (b : Str) (hc : isAsciiWs c = true) :
    wsWords (a ++ c :: b) = wsWords a ++ wsWords b := wsWordsAux_append_ws [] a c b hc

theorem wsWords_ws_cons (c : Char) (b : Str) (hc : isAsciiWs c = true) : wsWords (c :: b) = wsWords b := by
  simpa [wsWords, wsWordsAux] using wsWords_append_ws [] c b hc

theorem wsWords_nil : wsWords [] = [] := rfl

theorem wsWords_wsAll (w b : Str) (hw : ∀ c ∈ w, isAsciiWs c = true) : wsWords (w ++ b) = wsWords b := by
  induction w with
  | nil => rfl
  | cons c w ih =>
    rw [List.cons_append, wsWords_ws_cons _ _ (hw c (List.mem_cons_self ..)),
      ih fun d hd => hw d (List.mem_cons_of_mem _ hd)]


/-- a line of output together with the tokens it denotes -/
abbrev Line := Str × List Token

structure Line.Valid (l : Line) : Prop where
  frag : Frag l.1 l.2
  nb : NoBreak l.1
  solid : EndsSolid l.1

/-- the lines joined by newlines … -/
def linesStr (ls : List Line) : Str := joinNl (ls.map (·.1))
/-- … and the tokens that denotes -/
def linesToks : List Line → List Token
  | [] => []
  | [l] => l.2
  | l :: ls => l.2 ++ .text ['\n'] :: linesToks ls

theorem linesStr_cons_cons (a b : Line) (ls : List Line) :
    linesStr (a :: b :: ls) = a.1 ++ '\n' :: linesStr (b :: ls) := joinNl_cons_cons ..

theorem linesToks_cons (a : Line) (ls : List Line) :
    linesToks (a :: ls) = a.2 ++ ls.flatMap fun l => .text ['\n'] :: l.2 := by
  induction ls generalizing a with
  | nil => simp [linesToks]
  | cons b ls ih =>
    show a.2 ++ .text ['\n'] :: linesToks (b :: ls) = _
    rw [ih]; simp

theorem linesFrag (ls : List Line) (h : ∀ l ∈ ls, l.Valid) : Frag (linesStr ls) (linesToks ls) := by
  induction ls with
  | nil => exact Frag.nil
  | cons a ls ih =>
    cases ls with
    | nil => simpa [linesStr, joinNl_singleton, linesToks] using (h a (List.mem_cons_self ..)).frag
    | cons b ls =>
      rw [linesStr_cons_cons]
      show Frag _ (a.2 ++ .text ['\n'] :: linesToks (b :: ls))
      have := ih fun l hl => h l (List.mem_cons_of_mem _ hl)
      exact (h a (List.mem_cons_self ..)).frag.append ((Frag.raw raw_nl).append this)

def Line.indent (l : Line) : Line := (' ' :: ' ' :: l.1, .text (S "  ") :: l.2)

theorem raw_indent : Raw (S "  ") (S "  ") := Raw.plain _ (by decide +kernel)

theorem Line.Valid.indent {l : Line} (h : l.Valid) : l.indent.Valid :=
  ⟨(Frag.raw raw_indent).append h.frag, NoBreak.cons (by decide +kernel) (NoBreak.cons (by decide +kernel) h.nb),
    h.solid.prepend [' ', ' ']⟩

/-- the lines `tagBody` writes around a body of two or more lines -/
def wrapLines (tag : String) (attrs : List (String × Str)) (ls : List Line) : List Line :=
  (openTag tag attrs, [.open (S tag) (readAttrs attrs)]) :: ls.map Line.indent ++ [(closeTag tag, [.close (S tag)])]

theorem linesToks_wrapLines (tag : String) (attrs : List (String × Str)) (ls : List Line) :
    linesToks (wrapLines tag attrs ls) =
      .open (S tag) (readAttrs attrs) :: ls.flatMap (fun l => .text ['\n'] :: .text (S "  ") :: l.2) ++
        [.text ['\n'], .close (S tag)] := by
  simp [wrapLines, linesToks_cons, Line.indent, List.flatMap_map]

theorem wrapLines_valid (tag : String) (attrs : List (String × Str)) (ls : List Line) (ht : IsName tag)
    (ha : ∀ x ∈ attrs, IsName x.1 ∧ NoBreak x.2) (h : ∀ l ∈ ls, l.Valid) : ∀ l ∈ wrapLines tag attrs ls, l.Valid := by
  intro l hl
  simp only [wrapLines, List.mem_cons, List.mem_append, List.mem_map, List.not_mem_nil, or_false] at hl
  rcases hl with (rfl | ⟨l', hl', rfl⟩) | rfl
  · exact ⟨Frag.openTag tag attrs ht (fun x hx => (ha x hx).1), noBreak_openTag tag attrs ht ha,
      endsSolid_openTag tag attrs⟩
  · exact (h l' hl').indent
  · exact ⟨Frag.closeTag tag ht, noBreak_closeTag tag ht, endsSolid_closeTag tag⟩

theorem tagBody_lines (tag : String) (attrs : List (String × Str)) (ls : List Line) (h2 : 2 ≤ ls.length)
    (h : ∀ l ∈ ls, l.Valid) : tagBody tag attrs (linesStr ls) = linesStr (wrapLines tag attrs ls) := by
  have hne : ls.map (·.1) ≠ [] := by
    intro e; rw [List.map_eq_nil_iff] at e; subst e; simp at h2
  rw [linesStr, tagBody_joinNl_map _ _ ls (·.1) h2 (fun l hl => (h l hl).nb) (fun l hl => (h l hl).solid)]
  have : (wrapLines tag attrs ls).map (·.1) =
      openTag tag attrs :: ((ls.map (·.1)).map (fun l => ' ' :: ' ' :: l) ++ [closeTag tag]) := by
    simp [wrapLines, Line.indent]
  rw [linesStr, this, joinNl_wrap _ _ _ (by simpa using hne)]
  simp [List.map_map, Function.comp_def]

/-- the fragment `s` (denoting `ts`) written in front of the first line -/
def preFirst (s : Str) (ts : List Token) : List Line → List Line
  | [] => []
  | l :: ls => (s ++ l.1, ts ++ l.2) :: ls

theorem linesStr_preFirst (s : Str) (ts : List Token) (ls : List Line) (h : ls ≠ []) :
    linesStr (preFirst s ts ls) = s ++ linesStr ls := by
  match ls, h with
  | [a], _ => simp [preFirst, linesStr, joinNl_singleton]
  | a :: b :: t, _ => simp [preFirst, linesStr_cons_cons]

theorem preFirst_valid (s : Str) (ts : List Token) (ls : List Line) (hs : Frag s ts) (hb : NoBreak s)
    (h : ∀ l ∈ ls, l.Valid) : ∀ l ∈ preFirst s ts ls, l.Valid := by
  cases ls with
  | nil => simp [preFirst]
  | cons a ls =>
    intro l hl
    simp only [preFirst, List.mem_cons] at hl
    rcases hl with rfl | hl
    · have ha := h a (List.mem_cons_self ..)
      exact ⟨hs.append ha.frag, hb.append ha.nb, ha.solid.prepend s⟩
    · exact h l (List.mem_cons_of_mem _ hl)

/-- the fragment `s` (denoting `ts`) written after the last line -/
def postLast (s : Str) (ts : List Token) : List Line → List Line
  | [] => []
  | [l] => [(l.1 ++ s, l.2 ++ ts)]
  | l :: ls => l :: postLast s ts ls

theorem postLast_concat (s : Str) (ts : List Token) (init : List Line) (l : Line) :
    postLast s ts (init ++ [l]) = init ++ [(l.1 ++ s, l.2 ++ ts)] := by
  induction init with
  | nil => rfl
  | cons a init ih => cases init <;> simp_all [postLast]

theorem joinNl_concat_append (xs : List Str) (a b : Str) : joinNl (xs ++ [a ++ b]) = joinNl (xs ++ [a]) ++ b := by
  cases xs with
  | nil => simp [joinNl_singleton]
  | cons x xs =>
    rw [joinNl_append (x :: xs) [a ++ b] (by simp) (by simp), joinNl_append (x :: xs) [a] (by simp) (by simp),
      joinNl_singleton, joinNl_singleton]
    simp

theorem textOf_linesToks (ls : List Line) : textOf (linesToks ls) = joinNl (ls.map fun l => textOf l.2) := by
  induction ls with
  | nil => rfl
  | cons a ls ih =>
    cases ls with
    | nil => simp [linesToks, joinNl_singleton]
    | cons b ls =>
      show textOf (a.2 ++ .text ['\n'] :: linesToks (b :: ls)) = _
      rw [textOf_append, textOf_cons_text, ih, List.map_cons, List.map_cons, List.map_cons, joinNl_cons_cons]
      rfl

theorem linesStr_postLast (s : Str) (ts : List Token) (ls : List Line) (h : ls ≠ []) :
    linesStr (postLast s ts ls) = linesStr ls ++ s := by
  obtain ⟨init, l, rfl⟩ := exists_concat_of_ne_nil h
  simp [postLast_concat, linesStr, joinNl_concat_append]

theorem textOf_linesToks_postLast (s : Str) (ts : List Token) (ls : List Line) (h : ls ≠ []) :
    textOf (linesToks (postLast s ts ls)) = textOf (linesToks ls) ++ textOf ts := by
  obtain ⟨init, l, rfl⟩ := exists_concat_of_ne_nil h
  simp [postLast_concat, textOf_linesToks, joinNl_concat_append]

theorem postLast_valid (s : Str) (ts : List Token) (ls : List Line) (hs : Frag s ts) (hb : NoBreak s)
    (he : EndsSolid s) (h : ∀ l ∈ ls, l.Valid) : ∀ l ∈ postLast s ts ls, l.Valid := by
  by_cases h0 : ls = []
  · subst h0; simp [postLast]
  · obtain ⟨init, a, rfl⟩ := exists_concat_of_ne_nil h0
    have ha := h a (by simp)
    intro l hl
    rw [postLast_concat, List.mem_append, List.mem_singleton] at hl
    rcases hl with hl | rfl
    · exact h l (List.mem_append_left _ hl)
    · exact ⟨ha.frag.append hs, ha.nb.append hb, he.prepend a.1⟩

/-- the words of the visible text, line by line: a line break separates words, so these are the words of the whole -/
def lineWords (ls : List Line) : List Str := ls.flatMap fun l => wsWords (textOf l.2)

theorem wsWords_linesToks (ls : List Line) : wsWords (textOf (linesToks ls)) = lineWords ls := by
  induction ls with
  | nil => rfl
  | cons a ls ih =>
    cases ls with
    | nil => simp [linesToks, lineWords]
    | cons b t =>
      show wsWords (textOf (a.2 ++ .text ['\n'] :: linesToks (b :: t))) = _
      rw [textOf_append, textOf_cons_text, List.singleton_append, wsWords_append_ws _ _ _ (by decide +kernel), ih]
      simp [lineWords]

theorem wsWords_indent (t : Str) : wsWords (S "  " ++ t) = wsWords t :=
  wsWords_wsAll _ _ (by decide +kernel)

theorem lineWords_wrapLines (tag : String) (attrs : List (String × Str)) (ls : List Line) :
    lineWords (wrapLines tag attrs ls) = lineWords ls := by
  simp [wrapLines, lineWords, List.flatMap_map, Line.indent, wsWords_indent, wsWords_nil]

theorem lineWords_preFirst (s : Str) (ts : List Token) (l : Line) (ls : List Line) :
    lineWords (preFirst s ts (l :: ls)) = wsWords (textOf ts ++ textOf l.2) ++ lineWords ls := by
  simp [preFirst, lineWords]

theorem lineWords_postLast (s : Str) (ts : List Token) (init : List Line) (l : Line) :
    lineWords (postLast s ts (init ++ [l])) = lineWords init ++ wsWords (textOf l.2 ++ textOf ts) := by
  simp [postLast_concat, lineWords]


theorem raw_numChars {s : Str} (h : ∀ c ∈ s, isNumChar c = true) : Raw s s :=
  Raw.plain s fun c hc =>
    ⟨by rintro rfl; exact absurd (h _ hc) (by decide +kernel),
     by rintro rfl; exact absurd (h _ hc) (by decide +kernel)⟩

theorem map_slash_numChars {s : Str} (h : ∀ c ∈ s, isNumChar c = true) :
    (s.map fun c => if c = '/' then '⁄' else c) = s := by
  induction s with
  | nil => rfl
  | cons c s ih =>
    have hc : c ≠ '/' := by rintro rfl; exact absurd (h _ (List.mem_cons_self ..)) (by decide +kernel)
    simp [hc, ih fun d hd => h d (List.mem_cons_of_mem _ hd)]

theorem renderNumber_frag (n : Num) : ∃ ts, Frag (renderNumber n) ts ∧ textOf ts = plainNumber n ∧
    ∀ k as, Token.open k as ∈ ts → k = S "sup" ∨ k = S "sub" := by
  rcases renderNumber_cases n with ⟨e, h⟩ | ⟨i, m, d, ef, hi, hm, hd, e⟩
  · exact ⟨[.text (formatNumber n)], by rw [e]; exact Frag.raw (raw_numChars h),
      by simp [plainNumber, map_slash_numChars h], by simp⟩
  · refine ⟨[.text i] ++ [.open (S "sup") (readAttrs [])] ++ [.text m] ++ [.close (S "sup")] ++ [.text ['⁄']] ++
        [.open (S "sub") (readAttrs [])] ++ [.text d] ++ [.close (S "sub")], ?_, ?_, ?_⟩
    · have e' : renderNumber n = i ++ openTag "sup" [] ++ m ++ closeTag "sup" ++ S "&frasl;" ++ openTag "sub" [] ++ d ++
          closeTag "sub" := by rw [e]; simp [openTag, closeTag, attrsText, S]
      rw [e']
      exact (((((((Frag.raw (raw_numChars hi)).append (Frag.openTag "sup" [] isName_sup (by simp))).append
        (Frag.raw (raw_numChars hm))).append (Frag.closeTag "sup" isName_sup)).append (Frag.raw Raw.frasl)).append
        (Frag.openTag "sub" [] isName_sub (by simp))).append (Frag.raw (raw_numChars hd))).append
        (Frag.closeTag "sub" isName_sub)
    · simp [plainNumber, ef, map_slash_numChars hi, map_slash_numChars hm, map_slash_numChars hd]
    · intro k as hk
      simp only [List.cons_append, List.nil_append, List.mem_cons, Token.open.injEq, reduceCtorEq,
        List.not_mem_nil, or_false, false_or] at hk
      rcases hk with hk | hk
      · exact Or.inl hk.1
      · exact Or.inr hk.1

/-- the tokens a rendered number denotes (some such list; only its text and its tags matter) -/
noncomputable def numToks (n : Num) : List Token := (renderNumber_frag n).choose
theorem numToks_frag (n : Num) : Frag (renderNumber n) (numToks n) := (renderNumber_frag n).choose_spec.1
@[simp] theorem numToks_text (n : Num) : textOf (numToks n) = plainNumber n := (renderNumber_frag n).choose_spec.2.1
theorem numToks_open (n : Num) : ∀ k as, Token.open k as ∈ numToks n → k = S "sup" ∨ k = S "sub" :=
  (renderNumber_frag n).choose_spec.2.2

/-- `<span class=cls>number</span>` -/
noncomputable def numSpan (cls : String) (n : Num) : List Token :=
  .open (S "span") [(S "class", S cls)] :: numToks n ++ [.close (S "span")]

theorem numSpan_frag (cls : String) (n : Num) :
    Frag (tagBody "span" [("class", S cls)] (renderNumber n)) (numSpan cls n) :=
  Frag.tagBody "span" [("class", S cls)] isName_span (by simp [isName_class]) (numToks_frag n)
    (nl_not_mem_renderNumber n)

@[simp] theorem numSpan_text (cls : String) (n : Num) : textOf (numSpan cls n) = plainNumber n := by
  simp [numSpan]

noncomputable def svsToks (s : SVS) : List Token :=
  s.flatMap fun
    | .text t => [.text t]
    | .num n => numSpan "rg-scaled-value" n

theorem svsToks_frag (s : SVS) : Frag (renderSvs s) (svsToks s) := by
  induction s with
  | nil => exact Frag.nil
  | cons p s ih =>
    cases p with
    | text t => exact (Frag.escape t).append ih
    | num n => exact (numSpan_frag "rg-scaled-value" n).append ih

@[simp] theorem svsToks_text (s : SVS) : textOf (svsToks s) = plainSvs s := by
  induction s with
  | nil => rfl
  | cons p s ih => cases p <;> simp_all [svsToks, plainSvs]

theorem svsToks_cons (p : Part) (s : SVS) : svsToks (p :: s) = svsToks [p] ++ svsToks s := by
  simp [svsToks]

theorem svsToks_shape {s₁ s₂ : SVS} (h : SameShape s₁ s₂) : shape (svsToks s₁) = shape (svsToks s₂) := by
  fun_induction SameShape s₁ s₂ with
  | case1 => rfl
  | case2 a s₁ b s₂ ih =>
    rw [svsToks_cons, svsToks_cons _ s₂, shape_append, shape_append, ih h.2]
    simp [svsToks, xMark_eq_iff.2 h.1]
  | case3 m s₁ n s₂ ih => rw [svsToks_cons, svsToks_cons _ s₂, shape_append, shape_append, ih h.2, h.1]
  | case4 => exact h.elim

/-- C10.4 the element structure of a rendered scaled-value string does not depend on its text parts -/
theorem renderSvs_skeleton (s₁ s₂ : SVS) (h : SameShape s₁ s₂) :
    skeleton (tokens (renderSvs s₁)) = skeleton (tokens (renderSvs s₂)) :=
  (svsToks_frag s₁).skeleton (svsToks_frag s₂) (svsToks_shape h)

/-- C10.4 and its visible text is the text parts verbatim and the numbers as `format_number` shows them (with
    '/' shown as the fraction slash); no restriction on the text parts -/
theorem renderSvs_text (s : SVS) : textOf (tokens (renderSvs s)) = plainSvs s :=
  (svsToks_frag s).text.trans (svsToks_text s)

theorem renderQuantity_unitless (q : Quantity) (h : q.unit = none) :
    renderQuantity q =
      tagBody "span" [("class", S "rg-quantity-unitless rg-scaled-value")] (renderNumber q.value) ++ htmlEscape q.prep := by
  simp [renderQuantity, h]

/-- one form of a quantity (number, spacing, unit) as the renderer writes it, and the tokens it denotes -/
def convStr (q : Quantity) (c : Num × Str) : Str := renderNumber c.1 ++ htmlEscape q.spacing ++ htmlEscape c.2
noncomputable def convToks (q : Quantity) (c : Num × Str) : List Token := numToks c.1 ++ [.text (q.spacing ++ c.2)]

theorem convToks_frag (q : Quantity) (c : Num × Str) : Frag (convStr q c) (convToks q c) := by
  unfold convStr convToks
  rw [List.append_assoc]
  exact (numToks_frag _).append (Frag.raw ((Raw.escape _).append (Raw.escape _)))

@[simp] theorem convToks_text (q : Quantity) (c : Num × Str) : textOf (convToks q c) = plainConv q c := by
  simp [convToks, plainConv]

theorem nl_not_mem_convStr (q : Quantity) (c : Num × Str) (hs : '\n' ∉ q.spacing) (hc : '\n' ∉ c.2) :
    '\n' ∉ convStr q c :=
  List.not_mem_append (List.not_mem_append (nl_not_mem_renderNumber c.1) (nl_not_mem_htmlEscape hs))
    (nl_not_mem_htmlEscape hc)

theorem convStr_noBreak (q : Quantity) (c : Num × Str) (hs : NoBreak q.spacing) (hc : NoBreak c.2) :
    NoBreak (convStr q c) :=
  ((noBreak_renderNumber _).append (noBreak_htmlEscape hs)).append (noBreak_htmlEscape hc)

theorem renderQuantity_unit (q : Quantity) (u : Str) (hu : q.unit = some u) :
    renderQuantity q =
      (if conversions q = [] then
        tagBody "span" [("class", S "rg-quantity-without-conversions rg-scaled-value")] (convStr q (q.value, u))
      else tagBody "span" [("class", S "rg-quantity-with-conversions rg-scaled-value"), ("tabindex", S "0")]
        (convStr q (q.value, u) ++ tagBody "ul" [("class", S "rg-quantity-conversions")]
          (joinNl ((conversions q).map fun c => tagBody "li" [] (convStr q c))))) ++ htmlEscape q.prep := by
  simp only [conversions, hu, renderQuantity]
  -- the unit's entry in the table: none, no row, its own row only, further rows
  rcases altUnits (lowerStr u) with _ | _ | ⟨x, _ | ⟨y, rest⟩⟩ <;> simp [convStr, List.map_map, Function.comp_def]

noncomputable def qToks (q : Quantity) : List Token :=
  match q.unit with
  | none => numSpan "rg-quantity-unitless rg-scaled-value" q.value ++ [.text q.prep]
  | some u =>
    .open (S "span") [(S "class", S "rg-quantity-without-conversions rg-scaled-value")] ::
      convToks q (q.value, u) ++ [.close (S "span")] ++ [.text q.prep]

theorem qToks_frag (q : Quantity) (h : OneLineQ q) : Frag (renderQuantity q) (qToks q) := by
  unfold qToks
  cases hu : q.unit with
  | none =>
    rw [renderQuantity_unitless q hu]
    exact (numSpan_frag _ _).append (Frag.escape _)
  | some u =>
    rw [renderQuantity_unit q u hu, if_pos h.1]
    obtain ⟨h1, h2⟩ := h.2 u hu
    exact (Frag.tagBody "span" [("class", _)] isName_span (by simp [isName_class]) (convToks_frag q (q.value, u))
      (nl_not_mem_convStr q (q.value, u) h1 h2)).append (Frag.escape _)

theorem qToks_text (q : Quantity) : textOf (qToks q) = plainQuantity q := by
  unfold qToks plainQuantity
  cases q.unit <;> simp [plainConv]

theorem qToks_shape {q₁ q₂ : Quantity} (h : SameQ q₁ q₂) : shape (qToks q₁) = shape (qToks q₂) := by
  obtain ⟨hv, hp, hu⟩ := h
  have hp' := xMark_eq_iff.2 hp
  unfold qToks
  cases h1 : q₁.unit <;> cases h2 : q₂.unit <;> simp only [h1, h2] at hu
  · simp [numSpan, hv, hp']
  · have hu' := xMark_eq_iff.2 hu
    simp [convToks, hv, hp', hu']

/-- C10.4 the element structure of a quantity written on one line does not depend on its texts (its visible text:
    `renderQuantity_text_full`) -/
theorem renderQuantity_skeleton (q₁ q₂ : Quantity) (h₁ : OneLineQ q₁) (h₂ : OneLineQ q₂) (h : SameQ q₁ q₂) :
    skeleton (tokens (renderQuantity q₁)) = skeleton (tokens (renderQuantity q₂)) :=
  (qToks_frag q₁ h₁).skeleton (qToks_frag q₂ h₂) (qToks_shape h)

/-- `*` written as `&times;`, everything else escaped -/
def timesEnc (c : Char) : Str := if c = '*' then S "&times;" else escapeChar c

theorem star_not_mem_escapeChar {c : Char} (h : c ≠ '*') : '*' ∉ escapeChar c :=
  escapeChar_cases (P := fun c s => c ≠ '*' → '*' ∉ s) (by decide +kernel)
    (fun _ _ _ _ _ _ h hm => h (List.mem_singleton.1 hm).symm) c h

theorem flatMap_times_of_not_mem {s : Str} (h : '*' ∉ s) :
    (s.flatMap fun d => if d == '*' then S "&times;" else [d]) = s := by
  induction s with
  | nil => rfl
  | cons d s ih =>
    have hd : d ≠ '*' := fun e => h (e ▸ List.mem_cons_self ..)
    rw [List.flatMap_cons, ih fun hm => h (List.mem_cons_of_mem _ hm)]
    simp [hd]

theorem times_eq (prep : Str) :
    ((htmlEscape prep).flatMap fun c => if c == '*' then S "&times;" else [c]) = prep.flatMap timesEnc := by
  rw [htmlEscape, List.flatMap_assoc]
  congr 1
  funext c
  unfold timesEnc
  split
  · subst c; decide +kernel
  · exact flatMap_times_of_not_mem (star_not_mem_escapeChar ‹_›)

theorem timesEnc_spec (c : Char) : '<' ∉ timesEnc c ∧
    ∀ rest, unescapeX (timesEnc c ++ rest) = (if c = '*' then '×' else c) :: unescapeX rest := by
  unfold timesEnc
  split
  · exact ⟨by decide +kernel, fun rest => by simp [S, unescapeX]⟩
  · exact ⟨lt_not_mem_escapeChar c, decodesX_escapeChar c⟩

theorem nl_not_mem_times {prep : Str} (h : '\n' ∉ prep) : '\n' ∉ prep.flatMap timesEnc := by
  intro hm
  obtain ⟨c, hc, hm⟩ := List.mem_flatMap.1 hm
  unfold timesEnc at hm
  split at hm
  · exact absurd hm (by decide +kernel)
  · exact nl_not_mem_escapeChar c (fun e => h (e ▸ hc)) hm

def shownProportion (v : Num) (percentage : Bool) : Num := if percentage then v.mul ⟨100, .int⟩ else v

noncomputable def propToks (value : Option Num) (percentage : Bool) (wording : Option Str) (prep : Str) : List Token :=
  match value with
  | none => [.open (S "span") [(S "class", S "rg-proportion-remainder")],
      .text (wording.getD (S "remaining") ++ prep), .close (S "span")]
  | some v => .open (S "span") [(S "class", S "rg-proportion")] ::
      (numToks (shownProportion v percentage) ++ [.text (prep.map fun c => if c = '*' then '×' else c)]) ++
      [.close (S "span")]

theorem nl_not_mem_wording {w : Option Str} (hw : ∀ w', w = some w' → '\n' ∉ w') : '\n' ∉ w.getD (S "remaining") := by
  cases w with
  | none => decide +kernel
  | some w => exact hw w rfl

theorem propToks_frag (value : Option Num) (percentage : Bool) (wording : Option Str) (prep : Str)
    (hw : ∀ w, wording = some w → '\n' ∉ w) (hp : '\n' ∉ prep) :
    Frag (renderProportion value percentage wording prep) (propToks value percentage wording prep) := by
  cases value with
  | none =>
    exact Frag.tagBody "span" [("class", _)] isName_span (by simp [isName_class]) (Frag.escape _)
      (nl_not_mem_htmlEscape (List.not_mem_append (nl_not_mem_wording hw) hp))
  | some v =>
    simp only [renderProportion, propToks]
    rw [times_eq]
    exact Frag.tagBody "span" [("class", _)] isName_span (by simp [isName_class])
      ((numToks_frag _).append (Frag.raw (Raw.flatMap (fun c => (timesEnc_spec c).1) (fun c => (timesEnc_spec c).2) prep)))
      (List.not_mem_append (nl_not_mem_renderNumber _) (nl_not_mem_times hp))

theorem propToks_text (value : Option Num) (percentage : Bool) (wording : Option Str) (prep : Str) :
    textOf (propToks value percentage wording prep) = plainProportion value percentage wording prep := by
  cases value <;> simp [propToks, plainProportion, shownProportion]

theorem propToks_shape {v₁ v₂ : Option Num} {p₁ p₂ : Bool} {w₁ w₂ : Option Str} {s₁ s₂ : Str}
    (h : SameProp v₁ p₁ w₁ s₁ v₂ p₂ w₂ s₂) : shape (propToks v₁ p₁ w₁ s₁) = shape (propToks v₂ p₂ w₂ s₂) := by
  cases v₁ <;> cases v₂ <;> simp only [SameProp] at h
  · simp [propToks, xMark_eq_iff.2 h]
  · obtain ⟨rfl, rfl, hs⟩ := h
    have : xMark (s₁.map fun c => if c = '*' then '×' else c) = xMark (s₂.map fun c => if c = '*' then '×' else c) := by
      apply xMark_eq_iff.2
      unfold SameEmpty at hs
      simpa using hs
    simp [propToks, this]

/-- C10.4 for a proportion: its visible text is the number (or the wording) and the preposition, `*` shown as `×` -/
theorem renderProportion_text (value : Option Num) (percentage : Bool) (wording : Option Str) (prep : Str)
    (hw : ∀ w, wording = some w → '\n' ∉ w) (hp : '\n' ∉ prep) :
    textOf (tokens (renderProportion value percentage wording prep)) = plainProportion value percentage wording prep :=
  (propToks_frag value percentage wording prep hw hp).text.trans (propToks_text ..)

theorem renderProportion_skeleton (v₁ v₂ : Option Num) (p₁ p₂ : Bool) (w₁ w₂ : Option Str) (s₁ s₂ : Str)
    (hw₁ : ∀ w, w₁ = some w → '\n' ∉ w) (hs₁ : '\n' ∉ s₁) (hw₂ : ∀ w, w₂ = some w → '\n' ∉ w) (hs₂ : '\n' ∉ s₂)
    (h : SameProp v₁ p₁ w₁ s₁ v₂ p₂ w₂ s₂) :
    skeleton (tokens (renderProportion v₁ p₁ w₁ s₁)) = skeleton (tokens (renderProportion v₂ p₂ w₂ s₂)) :=
  (propToks_frag v₁ p₁ w₁ s₁ hw₁ hs₁).skeleton (propToks_frag v₂ p₂ w₂ s₂ hw₂ hs₂) (propToks_shape h)

noncomputable def aToks : Amount → List Token
  | .quantity q => qToks q ++ [.text [' ']]
  | .proportion v p w s => if isWhole v then [] else propToks v p w s ++ [.text [' ']]

theorem raw_sp : Raw [' '] [' '] := Raw.plain _ (by decide +kernel)

theorem renderAmount_proportion (v : Option Num) (p : Bool) (w : Option Str) (s : Str) :
    renderAmount (.proportion v p w s) = if isWhole v then [] else renderProportion v p w s ++ [' '] := rfl
theorem plainAmount_proportion (v : Option Num) (p : Bool) (w : Option Str) (s : Str) :
    plainAmount (.proportion v p w s) = if isWhole v then [] else plainProportion v p w s ++ [' '] := rfl

theorem aToks_frag (a : Amount) (h : OneLineA a) : Frag (renderAmount a) (aToks a) := by
  cases a with
  | quantity q => exact (qToks_frag q h.1).append (Frag.raw raw_sp)
  | proportion v p w s =>
    rw [renderAmount_proportion, aToks]
    by_cases hv : isWhole v = true
    · simp only [hv, if_true]; exact Frag.nil
    · simp only [hv]; exact (propToks_frag v p w s h.1 h.2).append (Frag.raw raw_sp)

theorem aToks_text (a : Amount) : textOf (aToks a) = plainAmount a := by
  cases a with
  | quantity q => simp [aToks, plainAmount, qToks_text]
  | proportion v p w s =>
    rw [plainAmount_proportion, aToks]
    by_cases hv : isWhole v = true <;> simp [hv, propToks_text]

theorem aToks_shape {a₁ a₂ : Amount} (h : SameA a₁ a₂) : shape (aToks a₁) = shape (aToks a₂) := by
  cases a₁ <;> cases a₂ <;> simp only [SameA] at h
  · simp [aToks, qToks_shape h]
  · rename_i v₁ p₁ w₁ s₁ v₂ p₂ w₂ s₂
    have hv : isWhole v₁ = isWhole v₂ := by
      cases v₁ <;> cases v₂ <;> simp only [SameProp] at h
      · rfl
      · rw [h.1]
    simp only [aToks, hv]
    split
    · rfl
    · simp [propToks_shape h]

theorem nl_not_mem_renderQuantity (q : Quantity) (h : OneLineQ q) (hp : '\n' ∉ q.prep) : '\n' ∉ renderQuantity q := by
  cases hu : q.unit with
  | none =>
    rw [renderQuantity_unitless q hu]
    exact List.not_mem_append (nl_not_mem_tagBody "span" [("class", _)] _ isName_span (by simp [isName_class])
      (nl_not_mem_renderNumber q.value)) (nl_not_mem_htmlEscape hp)
  | some u =>
    rw [renderQuantity_unit q u hu, if_pos h.1]
    obtain ⟨h1, h2⟩ := h.2 u hu
    exact List.not_mem_append (nl_not_mem_tagBody "span" [("class", _)] _ isName_span (by simp [isName_class])
      (nl_not_mem_convStr q (q.value, u) h1 h2)) (nl_not_mem_htmlEscape hp)

theorem nl_not_mem_renderProportion (v : Option Num) (p : Bool) (w : Option Str) (s : Str)
    (hw : ∀ w', w = some w' → '\n' ∉ w') (hs : '\n' ∉ s) : '\n' ∉ renderProportion v p w s := by
  cases v with
  | none =>
    exact nl_not_mem_tagBody "span" [("class", _)] _ isName_span (by simp [isName_class])
      (nl_not_mem_htmlEscape (List.not_mem_append (nl_not_mem_wording hw) hs))
  | some v =>
    simp only [renderProportion]
    rw [times_eq]
    exact nl_not_mem_tagBody "span" [("class", _)] _ isName_span (by simp [isName_class])
      (List.not_mem_append (nl_not_mem_renderNumber _) (nl_not_mem_times hs))

theorem nl_not_mem_renderAmount (a : Amount) (h : OneLineA a) : '\n' ∉ renderAmount a := by
  cases a with
  | quantity q => exact List.not_mem_append (nl_not_mem_renderQuantity q h.1 h.2) (by decide)
  | proportion v p w s =>
    rw [renderAmount_proportion]
    split
    · exact List.not_mem_nil
    · exact List.not_mem_append (nl_not_mem_renderProportion v p w s h.1 h.2) (by decide)

/-- C10.4 for an amount written on one line -/
theorem renderAmount_text (a : Amount) (h : OneLineA a) : textOf (tokens (renderAmount a)) = plainAmount a :=
  (aToks_frag a h).text.trans (aToks_text a)

theorem renderAmount_skeleton (a₁ a₂ : Amount) (h₁ : OneLineA a₁) (h₂ : OneLineA a₂) (h : SameA a₁ a₂) :
    skeleton (tokens (renderAmount a₁)) = skeleton (tokens (renderAmount a₂)) :=
  (aToks_frag a₁ h₁).skeleton (aToks_frag a₂ h₂) (aToks_shape h)

theorem conversions_noBreak (q : Quantity) : ∀ c ∈ conversions q, NoBreak c.2 := by
  intro c hc
  unfold conversions at hc
  split at hc
  · simp at hc
  · split at hc
    · rename_i x rest ha
      obtain ⟨⟨sc, n⟩, hm, rfl⟩ := List.mem_map.1 hc
      exact altUnits_names ha (sc, n) (List.mem_cons_of_mem _ hm)
    · simp at hc

/-- an element around a one-line body, as one line -/
noncomputable def tagLine (tag : String) (attrs : List (String × Str)) (l : Line) : Line :=
  (tagBody tag attrs l.1, .open (S tag) (readAttrs attrs) :: l.2 ++ [.close (S tag)])

theorem tagLine_valid (tag : String) (attrs : List (String × Str)) (l : Line) (ht : IsName tag)
    (ha : ∀ x ∈ attrs, IsName x.1 ∧ NoBreak x.2) (hf : Frag l.1 l.2) (hb : NoBreak l.1) : (tagLine tag attrs l).Valid := by
  refine ⟨Frag.tagBody tag attrs ht (fun x hx => (ha x hx).1) hf hb.nl, noBreak_tagBody tag attrs _ ht ha hb, ?_⟩
  show EndsSolid (tagBody tag attrs l.1)
  rw [tagBody_eq _ _ _ hb.nl]
  exact (endsSolid_closeTag tag).prepend _

@[simp] theorem tagLine_text (tag : String) (attrs : List (String × Str)) (l : Line) :
    textOf (tagLine tag attrs l).2 = textOf l.2 := by simp [tagLine]

/-- `tagBody` around lines, as lines again -/
noncomputable def tagLines (tag : String) (attrs : List (String × Str)) (ls : List Line) : List Line :=
  if 2 ≤ ls.length then wrapLines tag attrs ls else [tagLine tag attrs (linesStr ls, linesToks ls)]

theorem tagLines_of_two {tag : String} {attrs : List (String × Str)} {ls : List Line} (h : 2 ≤ ls.length) :
    tagLines tag attrs ls = wrapLines tag attrs ls := if_pos h

theorem tagLines_of_lt_two {tag : String} {attrs : List (String × Str)} {ls : List Line} (h : ¬ 2 ≤ ls.length) :
    tagLines tag attrs ls = [tagLine tag attrs (linesStr ls, linesToks ls)] := if_neg h

theorem linesStr_noBreak_single (ls : List Line) (h : ∀ l ∈ ls, l.Valid) (h1 : ¬ 2 ≤ ls.length) : NoBreak (linesStr ls) := by
  match ls, h1 with
  | [], _ => simp [linesStr, joinNl, NoBreak]
  | [a], _ => simpa [linesStr, joinNl_singleton] using (h a (List.mem_cons_self ..)).nb
  | _ :: _ :: _, h1 => simp at h1

theorem tagLines_str (tag : String) (attrs : List (String × Str)) (ls : List Line) (h : ∀ l ∈ ls, l.Valid) :
    tagBody tag attrs (linesStr ls) = linesStr (tagLines tag attrs ls) := by
  by_cases h2 : 2 ≤ ls.length
  · rw [tagLines_of_two h2]; exact tagBody_lines tag attrs ls h2 h
  · rw [tagLines_of_lt_two h2]; simp [linesStr, joinNl_singleton, tagLine]

theorem tagLines_valid (tag : String) (attrs : List (String × Str)) (ls : List Line) (ht : IsName tag)
    (ha : ∀ x ∈ attrs, IsName x.1 ∧ NoBreak x.2) (h : ∀ l ∈ ls, l.Valid) : ∀ l ∈ tagLines tag attrs ls, l.Valid := by
  by_cases h2 : 2 ≤ ls.length
  · rw [tagLines_of_two h2]; exact wrapLines_valid tag attrs ls ht ha h
  · rw [tagLines_of_lt_two h2]
    intro l hl
    rw [List.mem_singleton.1 hl]
    exact tagLine_valid tag attrs _ ht ha (linesFrag ls h) (linesStr_noBreak_single ls h h2)

theorem lineWords_tagLines (tag : String) (attrs : List (String × Str)) (ls : List Line) :
    lineWords (tagLines tag attrs ls) = lineWords ls := by
  by_cases h2 : 2 ≤ ls.length
  · rw [tagLines_of_two h2]; exact lineWords_wrapLines tag attrs ls
  · rw [tagLines_of_lt_two h2]; simp [lineWords, wsWords_linesToks]

theorem tagLines_ne_nil (tag : String) (attrs : List (String × Str)) (ls : List Line) : tagLines tag attrs ls ≠ [] := by
  by_cases h2 : 2 ≤ ls.length
  · rw [tagLines_of_two h2]; simp [wrapLines]
  · rw [tagLines_of_lt_two h2]; simp

theorem wsWords_wrap_post (tag : String) (attrs : List (String × Str)) (ls : List Line) (t : Str) :
    wsWords (textOf (linesToks (wrapLines tag attrs ls)) ++ t) = lineWords ls ++ wsWords t := by
  have hne : wrapLines tag attrs ls ≠ [] := by simp [wrapLines]
  have e : textOf (linesToks (wrapLines tag attrs ls)) ++ t =
      textOf (linesToks (postLast [] [.text t] (wrapLines tag attrs ls))) := by
    rw [textOf_linesToks_postLast _ _ _ hne]; simp
  have w : wrapLines tag attrs ls =
      ((openTag tag attrs, [.open (S tag) (readAttrs attrs)]) :: ls.map Line.indent) ++ [(closeTag tag, [.close (S tag)])] := rfl
  rw [e, wsWords_linesToks, w, lineWords_postLast, ← lineWords_wrapLines tag attrs ls]
  simp [wrapLines, lineWords, wsWords_nil]

/-- the alternative forms of a quantity, each an `<li>` on a line -/
noncomputable def liLines (q : Quantity) (cs : List (Num × Str)) : List Line :=
  cs.map fun c => tagLine "li" [] (convStr q c, convToks q c)

noncomputable def qLines (q : Quantity) (u : Str) : List Line :=
  tagLines "span" [("class", S "rg-quantity-with-conversions rg-scaled-value"), ("tabindex", S "0")]
    (preFirst (convStr q (q.value, u)) (convToks q (q.value, u))
      (tagLines "ul" [("class", S "rg-quantity-conversions")] (liLines q (conversions q))))


theorem liLines_valid (q : Quantity) (cs : List (Num × Str)) (hs : NoBreak q.spacing) (hcs : ∀ c ∈ cs, NoBreak c.2) :
    ∀ l ∈ liLines q cs, l.Valid := by
  intro l hl
  obtain ⟨c, hc, rfl⟩ := List.mem_map.1 hl
  exact tagLine_valid "li" [] _ isName_li (by simp) (convToks_frag q c) (convStr_noBreak q c hs (hcs c hc))

theorem qSpanAttrs_ok : ∀ x ∈ [("class", S "rg-quantity-with-conversions rg-scaled-value"), ("tabindex", S "0")],
    IsName x.1 ∧ NoBreak x.2 := by
  rw [S_lit rfl, S_lit rfl]; decide +kernel

theorem qUlAttrs_ok : ∀ x ∈ [("class", S "rg-quantity-conversions")], IsName x.1 ∧ NoBreak x.2 := by
  rw [S_lit rfl]; decide +kernel

theorem qLines_valid (q : Quantity) (u : Str) (hs : NoBreak q.spacing) (hu : NoBreak u) : ∀ l ∈ qLines q u, l.Valid :=
  tagLines_valid _ _ _ isName_span qSpanAttrs_ok <|
    preFirst_valid _ _ _ (convToks_frag _ _) (convStr_noBreak q _ hs hu) <|
      tagLines_valid _ _ _ isName_ul qUlAttrs_ok (liLines_valid q _ hs (conversions_noBreak q))

theorem renderQuantity_lines (q : Quantity) (u : Str) (hu : q.unit = some u) (hc : conversions q ≠ [])
    (hs : NoBreak q.spacing) (hub : NoBreak u) :
    renderQuantity q = linesStr (qLines q u) ++ htmlEscape q.prep := by
  rw [renderQuantity_unit q u hu, if_neg hc]
  have e1 : joinNl ((conversions q).map fun c => tagBody "li" [] (convStr q c)) = linesStr (liLines q (conversions q)) := by
    simp [linesStr, liLines, tagLine, List.map_map, Function.comp_def]
  have hli := liLines_valid q _ hs (conversions_noBreak q)
  rw [e1, tagLines_str _ _ _ hli, ← linesStr_preFirst _ (convToks q (q.value, u)) _ (tagLines_ne_nil _ _ _),
    tagLines_str]
  · rfl
  · exact preFirst_valid _ _ _ (convToks_frag _ _) (convStr_noBreak q _ hs hub)
      (tagLines_valid _ _ _ isName_ul qUlAttrs_ok hli)

theorem isAsciiWs_sp : isAsciiWs ' ' = true := by decide +kernel

theorem wsWords_spaced (A : Str) (cs : List (Num × Str)) (f : Num × Str → Str) (P : Str) :
    wsWords (A ++ cs.flatMap (fun c => ' ' :: f c) ++ ' ' :: P) =
      wsWords A ++ cs.flatMap (fun c => wsWords (f c)) ++ wsWords P := by
  induction cs generalizing A with
  | nil => simpa using wsWords_append_ws A ' ' P isAsciiWs_sp
  | cons c cs ih =>
    have : A ++ (c :: cs).flatMap (fun c => ' ' :: f c) ++ ' ' :: P =
        A ++ ' ' :: (f c ++ cs.flatMap (fun c => ' ' :: f c) ++ ' ' :: P) := by simp
    rw [this, wsWords_append_ws _ _ _ isAsciiWs_sp, ih]
    simp

theorem lineWords_liLines (q : Quantity) (cs : List (Num × Str)) :
    lineWords (liLines q cs) = cs.flatMap fun c => wsWords (plainConv q c) := by
  induction cs with
  | nil => rfl
  | cons c cs ih =>
    simp only [liLines, lineWords, List.map_cons, List.flatMap_cons] at ih ⊢
    rw [ih]; simp

theorem lineWords_preFirst_wrapLines (s : Str) (ts : List Token) (tag : String) (attrs : List (String × Str))
    (ls : List Line) : lineWords (preFirst s ts (wrapLines tag attrs ls)) = wsWords (textOf ts) ++ lineWords ls := by
  rw [← lineWords_wrapLines tag attrs ls]
  simp [wrapLines, preFirst, lineWords, wsWords_nil]

/-- up to white space, the text of the lines of a quantity with alternative forms, followed by the preposition, is
    `plainQuantityFull`: the re-indentation only adds white space where the specification has a space -/
theorem qLines_words (q : Quantity) (u : Str) (hu : q.unit = some u) (hc : conversions q ≠ []) :
    wsWords (textOf (linesToks (qLines q u)) ++ q.prep) = wsWords (plainQuantityFull q) := by
  unfold plainQuantityFull qLines
  simp only [hu]
  match hcs : conversions q, hc with
  | [c], _ =>
    simp [tagLines, liLines, preFirst, linesToks, linesStr, joinNl_singleton]
  | c₁ :: c₂ :: cs, _ =>
    rw [tagLines_of_two (ls := liLines q _) (by simp [liLines]), tagLines_of_two (by simp +arith [wrapLines, preFirst]),
      wsWords_wrap_post, lineWords_preFirst_wrapLines, convToks_text, lineWords_liLines, wsWords_spaced]

theorem QOK.oneLine {q : Quantity} (h : QOK q) (hc : conversions q = []) : OneLineQ q :=
  ⟨hc, fun u hu => ⟨(h u hu).1.nl, (h u hu).2.nl⟩⟩

theorem plainQuantityFull_of_nil {q : Quantity} (hc : conversions q = []) : plainQuantityFull q = plainQuantity q := by
  unfold plainQuantityFull
  cases q.unit <;> simp [hc]

theorem exists_unit_of_conversions {q : Quantity} (hc : conversions q ≠ []) : ∃ u, q.unit = some u := by
  cases hu : q.unit with
  | none => simp [conversions, hu] at hc
  | some u => exact ⟨u, rfl⟩

theorem quantity_frag_words (q : Quantity) (h : QOK q) :
    ∃ ts, Frag (renderQuantity q) ts ∧ wsWords (textOf ts) = wsWords (plainQuantityFull q) := by
  by_cases hc : conversions q = []
  · exact ⟨qToks q, qToks_frag q (h.oneLine hc), by rw [qToks_text, plainQuantityFull_of_nil hc]⟩
  · obtain ⟨u, hu⟩ := exists_unit_of_conversions hc
    obtain ⟨hs, hub⟩ := h u hu
    refine ⟨linesToks (qLines q u) ++ [.text q.prep], ?_, by simpa using qLines_words q u hu hc⟩
    rw [renderQuantity_lines q u hu hc hs hub]
    exact (linesFrag _ (qLines_valid q u hs hub)).append (Frag.escape _)

/-- C10.4 for any quantity (spacing and unit without line break): its visible text is, up to white space, the
    quantity followed by the alternative forms the renderer lists with it -/
theorem renderQuantity_text_full (q : Quantity) (h : QOK q) :
    collapseWs (textOf (tokens (renderQuantity q))) = collapseWs (plainQuantityFull q) := by
  obtain ⟨ts, hf, hw⟩ := quantity_frag_words q h
  unfold collapseWs; rw [hf.text, hw]

def St.pre (p : List Token) (st : St) : St := { st with out := p ++ st.out }

theorem emit_pre (p : List Token) (st : St) (k : Token) : (st.pre p).emit k = (st.emit k).pre p := by
  simp only [St.emit, St.pre, List.append_assoc]

theorem stepData_pre (p : List Token) (st : St) (c : Char) : stepData (st.pre p) c = (stepData st c).pre p := by
  unfold stepData; split <;> rfl

theorem fail_pre (p : List Token) (st : St) (c : Char) : (st.pre p).fail c = (st.fail c).pre p :=
  stepData_pre p ⟨st.out, st.acc ++ st.raw, [], .data⟩ c

theorem stepAfter_pre (p : List Token) (st : St) (t : Str) (as : List (Str × Str)) (c : Char) :
    stepAfter (st.pre p) t as c = (stepAfter st t as c).pre p := by
  simp only [stepAfter, apply_ite (St.pre p), ← emit_pre, ← fail_pre]; rfl

/-- a step never looks at the tokens already emitted: in every mode it is a tree of `if`s on the character whose
    leaves update `raw` and `mode`, emit, or fail, and each of these commutes with `St.pre p` -/
theorem step_pre (p : List Token) (st : St) (c : Char) : step (st.pre p) c = (step st c).pre p := by
  obtain ⟨o, a, r, m⟩ := st
  show step ⟨p ++ o, a, r, m⟩ c = _
  cases m <;>
    simp only [step, apply_ite (St.pre p), ← emit_pre, ← fail_pre, ← stepAfter_pre, ← stepData_pre] <;> rfl

theorem run_pre (p : List Token) (st : St) (s : Str) : run (st.pre p) s = (run st s).pre p := by
  induction s generalizing st with
  | nil => rfl
  | cons c s ih => rw [run_cons, run_cons, step_pre, ih]

/-- the body of a tag as `tagBody` writes it: as it is, or re-indented when it has several lines -/
def bodyWritten (body : Str) : Str := if '\n' ∈ body then reindent body else body

/-- a token-balanced fragment: read from between tags, the tokenizer is between tags again at its end -/
def Balanced (s : Str) : Prop := ∃ out acc, s.foldl step ⟨[], [], [], .data⟩ = ⟨out, acc, [], .data⟩

theorem Frag.balanced {s : Str} {ts : List Token} (h : Frag s ts) : Balanced s := by
  obtain ⟨r, -, e⟩ := h [] [] [] Raw.nil
  exact ⟨_, r, e⟩

theorem tagBody_written (tag : String) (attrs : List (String × Str)) (body : Str) :
    tagBody tag attrs body = openTag tag attrs ++ bodyWritten body ++ closeTag tag :=
  tagBody_eq_if tag attrs body

/-- the tokens of any tag written by `tagBody` around a balanced body: the open tag with exactly the given
    attributes, each value read back as given; the tokens of the body; the close tag -/
theorem tagBody_tokens (tag : String) (attrs : List (String × Str)) (body : Str) (ht : IsName tag)
    (ha : ∀ x ∈ attrs, IsName x.1) (hbody : Balanced (bodyWritten body)) :
    tokens (tagBody tag attrs body) =
      .open (S tag) (attrs.map fun (n, v) => (S n, v)) :: tokens (bodyWritten body) ++ [.close (S tag)] := by
  obtain ⟨out, acc, e⟩ := hbody
  have e1 : run (D [] []) (bodyWritten body) = D out acc := e
  have e2 : run (D [.open (S tag) (readAttrs attrs)] []) (bodyWritten body) =
      D ([.open (S tag) (readAttrs attrs)] ++ out) acc := by
    have := run_pre [.open (S tag) (readAttrs attrs)] (D [] []) (bodyWritten body)
    rw [e1] at this
    simpa [St.pre, D] using this
  have e3 : tokens (bodyWritten body) = out ++ flushText acc := by
    simp [tokens, e, St.finish]
  have e0 : tokens (tagBody tag attrs body) = (run (D [] []) (tagBody tag attrs body)).finish := rfl
  rw [e0, tagBody_written, run_append, run_append, run_openTag tag attrs ht ha]
  have : ([] : List Token) ++ flushText [] ++ [Token.open (S tag) (readAttrs attrs)] =
      [.open (S tag) (readAttrs attrs)] := by simp [flushText]
  rw [this, e2, run_closeTag tag ht, e3]
  simp [St.finish, D, flushText, readAttrs]

/-- C10.2 at the level of tokens: every attribute value the renderer derives from user text (id, href) is a
    single well-formed attribute — the tag has exactly that one attribute, and its value reads back as `v` -/
theorem tagBody_attr_roundtrip (tag name : String) (v body : Str) (ht : IsName tag) (hn : IsName name)
    (hbody : Balanced (bodyWritten body)) :
    tokens (tagBody tag [(name, v)] body) =
      .open (S tag) [(S name, v)] :: tokens (bodyWritten body) ++ [.close (S tag)] := by
  simpa using tagBody_tokens tag [(name, v)] body ht (by simpa using hn) hbody

example : tokens (tagBody "a" [("href", S "#x\"<'&\n")] (S "t")) =
    [.open (S "a") [(S "href", S "#x\"<'&\n")], .text (S "t"), .close (S "a")] := by decide +kernel

/-- a scaled-value string with markup in its text parts: the tokens are the text, the number's elements, the text -/
example : tokens (renderSvs [.text (S "<b>&amp;\"'"), .num ⟨mkRat 7 4, .frac⟩, .text (S "</span>")]) =
    [.text (S "<b>&amp;\"'"), .open (S "span") [(S "class", S "rg-scaled-value")], .text (S "1 "),
      .open (S "sup") [], .text (S "3"), .close (S "sup"), .text (S "⁄"), .open (S "sub") [], .text (S "4"),
      .close (S "sub"), .close (S "span"), .text (S "</span>")] := by decide +kernel
example : skeleton (tokens (renderSvs [.text (S "<b>&amp;\"'"), .num ⟨mkRat 7 4, .frac⟩, .text (S "</span>")])) =
    skeleton (tokens (renderSvs [.text (S "x"), .num ⟨mkRat 7 4, .frac⟩, .text (S "y")])) :=
  renderSvs_skeleton _ _ (by simp [SameShape, S])
example : textOf (tokens (renderSvs [.text (S "<b>&amp;\"'"), .num ⟨mkRat 7 4, .frac⟩, .text (S "</span>")])) =
    S "<b>&amp;\"'1 3⁄4</span>" :=
  (renderSvs_text _).trans (by decide +kernel)
/-- a proportion whose preposition has markup and a `*` -/
example : textOf (tokens (renderProportion (some ⟨mkRat 1 2, .frac⟩) false none (S " *<i>"))) = S "1⁄2 ×<i>" := by
  decide +kernel
/-- `tagBody` strips trailing white space (Unicode white space included) of a multi-line body: the no-break space
    at the end is lost (the character after `y` in the literal is U+00A0, not a space).  This is why the theorems
    about multi-line bodies ask for a solid end. -/
example : textOf (tokens (tagBody "a" [] (S "x\ny "))) = S "\n  x\n  y\n" := by decide +kernel

end RG.C10
