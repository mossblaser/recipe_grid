import RecipeGrid.Lemmas.Shift
import RecipeGrid.Props.C19
/-! C13.2 — the padding that the Markdown front end puts in front of each recipe block (`k` newlines, so that line
    numbers in error messages are document line numbers) is irrelevant to the result: compiling the padded sources
    gives the recipe, or the error, that compiling the block texts gives; only the offset reported with a
    `NameRedefinedError` / `ProportionGivenForIngredientError` moves, by the length of the padding of its block. -/
namespace RG.C13

open RG.C19 (pad)

theorem parseAll_pad : ∀ (srcs : List Str) (ks : List Nat) (i : Nat), ks.length = srcs.length →
    parseAll i (List.zipWith pad ks srcs) =
      (match parseAll i srcs with
       | .ok asts => .ok (shiftBlocks ks asts)
       | .error e => .error e)
  | [], ks, i, _ => by rw [List.zipWith_nil_right, parseAll_nil]; simp [shiftBlocks]
  | s :: ss, [], i, h => by simp at h
  | s :: ss, k :: ks, i, h => by
    rw [List.zipWith_cons_cons, parseAll_cons, parseAll_cons, pad, parse_pad]
    cases parse s with
    | ok stmts =>
      simp only []
      rw [parseAll_pad ss ks (i + 1) (by simpa using h)]
      cases parseAll (i + 1) ss with
      | ok rest => rfl
      | error e => rfl
    | syntaxError => rfl
    | zeroDivision => rfl

/-- what `compile` does after elaboration: the inlining pass and the validity check; it reports no position -/
def finish (r : List Block × CState) : CompileResult :=
  match foldAll r.2.outputs.length 0 r.1 r.2.outputs with
  | .error why => .internal why
  | .ok (blocks, _) => if checkBlocks [] blocks then .ok blocks else .internal "ReferenceToInvalidSubRecipeError"

theorem compile_eq_finish (srcs : List Str) :
    compile srcs = (match elabBlocks srcs with
      | .error e => e
      | .ok r => finish r) := by
  unfold compile
  cases elabBlocks srcs with
  | error e => rfl
  | ok r => obtain ⟨bs, st⟩ := r; rfl

theorem shiftResult_finish (ks : List Nat) (r : List Block × CState) : shiftResult ks (finish r) = finish r := by
  unfold finish
  cases foldAll r.2.outputs.length 0 r.1 r.2.outputs with
  | error why => rfl
  | ok q =>
    obtain ⟨blocks, outs⟩ := q
    simp only []
    split <;> rfl

theorem elabBlocks_pad (ks : List Nat) (srcs : List Str) (h : ks.length = srcs.length) :
    elabBlocks (List.zipWith pad ks srcs) =
      (match elabBlocks srcs with
       | .ok r => .ok r
       | .error e => .error (shiftResult ks e)) := by
  unfold elabBlocks
  rw [parseAll_pad srcs ks 0 h]
  cases hp : parseAll 0 srcs with
  | error e =>
    obtain ⟨b, hb, _⟩ := parseAll_error_syntax srcs 0 e hp
    subst hb; rfl
  | ok asts =>
    obtain ⟨hlen, hk⟩ := parseAll_ok srcs 0 asts hp
    have hne : ∀ b ∈ asts, ∀ s ∈ b, AStmt.OutputsNE s := by
      intro b hb
      obtain ⟨j, hj, rfl⟩ := List.mem_iff_getElem.mp hb
      have hjs : j < srcs.length := by omega
      obtain ⟨a, ha, hpa⟩ := hk j _ (List.getElem?_eq_getElem hjs)
      rw [List.getElem?_eq_getElem hj] at ha
      cases ha
      exact parse_outputs_ne _ _ hpa
    have := compileBlocks_shift ks asts 0 {} hne (by omega)
    rw [List.drop_zero] at this
    exact this

/-- **C13.2** compiling the padded sources equals compiling the block texts, up to the offsets of the located
    errors: the same recipe, the same syntax error, or the same located error `ks[b]` characters further on -/
theorem compile_pad (ks : List Nat) (srcs : List Str) (h : ks.length = srcs.length) :
    compile (List.zipWith pad ks srcs) = shiftResult ks (compile srcs) := by
  rw [compile_eq_finish, compile_eq_finish, elabBlocks_pad ks srcs h]
  cases elabBlocks srcs with
  | error e => rfl
  | ok r => exact (shiftResult_finish ks r).symm

/-- in particular the recipe (or the failure to parse) does not depend on the padding -/
theorem compile_pad_ok (ks : List Nat) (srcs : List Str) (h : ks.length = srcs.length) (bs : List Block) :
    compile (List.zipWith pad ks srcs) = .ok bs ↔ compile srcs = .ok bs := by
  rw [compile_pad ks srcs h]
  cases compile srcs <;> simp [shiftResult]

theorem compile_pad_syntaxError (ks : List Nat) (srcs : List Str) (h : ks.length = srcs.length) (b : Nat) :
    compile (List.zipWith pad ks srcs) = .syntaxError b ↔ compile srcs = .syntaxError b := by
  rw [compile_pad ks srcs h]
  cases compile srcs <;> simp [shiftResult]

/-- non-vacuity: a recipe, a redefinition in the second block (padded by 5), a proportion error (padded by 2), and
    a syntax error; the result for the block texts is evaluated, that for the padded sources follows by `compile_pad` -/
example : compile (List.zipWith pad [3, 5] ["x".toList, "a = f(x)\n a = g(y)".toList]) = .redefined 1 (10 + 5) ∧
    compile ["x".toList, "a = f(x)\n a = g(y)".toList] = .redefined 1 10 := by
  refine (and_iff_right_of_imp fun h => ?_).mpr (by decide +kernel)
  rw [compile_pad _ _ rfl, h]; rfl
example : compile (List.zipWith pad [2] ["f(1/2 of x)".toList]) = .proportion 0 (2 + 2) ∧
    compile ["f(1/2 of x)".toList] = .proportion 0 2 := by
  refine (and_iff_right_of_imp fun h => ?_).mpr (by decide +kernel)
  rw [compile_pad _ _ rfl, h]; rfl
example : compile (List.zipWith pad [4] ["f(".toList]) = .syntaxError 0 := by decide +kernel
example : compile (List.zipWith pad [1, 7] ["sauce = mix(1 egg, oil)".toList, "fry(1/2 of the sauce, 2 eggs)".toList]) =
      compile ["sauce = mix(1 egg, oil)".toList, "fry(1/2 of the sauce, 2 eggs)".toList] ∧
    (match compile ["sauce = mix(1 egg, oil)".toList, "fry(1/2 of the sauce, 2 eggs)".toList] with
     | .ok _ => true
     | _ => false) = true := by
  refine (and_iff_right_of_imp fun h => ?_).mpr (by decide +kernel)
  rw [compile_pad _ _ rfl]
  generalize compile _ = r at h ⊢
  cases r with
  | ok bs => rfl
  | _ => cases h

end RG.C13
