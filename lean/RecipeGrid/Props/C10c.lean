import RecipeGrid.Model.Templates
import RecipeGrid.Lemmas.StrLit
import RecipeGrid.Lemmas.Decode
/-! C10 for the site templates: "Jinja autoescape for titles, breadcrumbs and hrefs".  The list of printed expressions is regenerated from
    the templates on every run; the first theorem is decided on that list, so a template that starts to print a user string through
    `|safe`, `|striptags` or any other filter, or an environment without auto-escaping, fails the build. -/
namespace RG.C10

/-- every `{{ … }}` of every HTML template prints either one of the three HTML bodies, marked `safe`, or a value that is auto-escaped and
    not filtered in any way; and auto-escaping is on -/
theorem templates_escape_user_text :
    Gen.templateAutoescape = true ∧ Gen.templateOutputs.all templateOutputOk = true := by decide +kernel

/-- the user-controlled values are among the printed ones (the statement above is not vacuous): titles, site name, list labels, hrefs -/
theorem templates_print_titles :
    ("website_base.html", "title", []) ∈ Gen.templateOutputs ∧ ("base.html", "title", []) ∈ Gen.templateOutputs ∧
    ("website_base.html", "label", []) ∈ Gen.templateOutputs ∧ ("categories.html", "recipe", []) ∈ Gen.templateOutputs ∧
    ("categories.html", "category", []) ∈ Gen.templateOutputs ∧ ("website_base.html", "href", []) ∈ Gen.templateOutputs := by
  decide +kernel

/-- decoding of what `markupsafe.escape` writes, independent of the encoder -/
def jinjaUnescape : Str → Str
  | '&' :: 'a' :: 'm' :: 'p' :: ';' :: rest => '&' :: jinjaUnescape rest
  | '&' :: 'l' :: 't' :: ';' :: rest => '<' :: jinjaUnescape rest
  | '&' :: 'g' :: 't' :: ';' :: rest => '>' :: jinjaUnescape rest
  | '&' :: '#' :: '3' :: '4' :: ';' :: rest => '"' :: jinjaUnescape rest
  | '&' :: '#' :: '3' :: '9' :: ';' :: rest => '\'' :: jinjaUnescape rest
  | c :: rest => c :: jinjaUnescape rest
  | [] => []

theorem jinjaUnescape_other (c : Char) (h : c ≠ '&') (rest : Str) :
    jinjaUnescape (c :: rest) = c :: jinjaUnescape rest := by
  rw [jinjaUnescape] <;> (intros; contradiction)

/-- the characters `markupsafe.escape` replaces, with their references -/
def jinjaTable : List (Char × Str) :=
  [('&', "&amp;".toList), ('<', "&lt;".toList), ('>', "&gt;".toList), ('"', "&#34;".toList), ('\'', "&#39;".toList)]

theorem jinjaEscapeChar_cases {P : Char → Str → Prop} (tbl : ∀ x ∈ jinjaTable, P x.1 x.2)
    (other : ∀ c, c ≠ '&' → c ≠ '<' → c ≠ '>' → c ≠ '"' → c ≠ '\'' → P c [c]) (c : Char) :
    P c (jinjaEscapeChar c) := by
  unfold jinjaEscapeChar
  split
  · exact tbl _ (.head _)
  · exact tbl _ (.tail _ (.head _))
  · exact tbl _ (.tail _ (.tail _ (.head _)))
  · exact tbl _ (.tail _ (.tail _ (.tail _ (.head _))))
  · exact tbl _ (.tail _ (.tail _ (.tail _ (.tail _ (.head _)))))
  · rename_i h1 h2 h3 h4 h5
    exact other c (h1 ·) (h2 ·) (h3 ·) (h4 ·) (h5 ·)

/-- an auto-escaped value decodes back to the author's text, character for character -/
theorem jinjaUnescape_escape (s : Str) : jinjaUnescape (jinjaEscape s) = s :=
  have h : Decodes jinjaUnescape jinjaEscapeChar id :=
    jinjaEscapeChar_cases (P := fun c e => ∀ rest, jinjaUnescape (e ++ rest) = c :: jinjaUnescape rest)
      (by simp [jinjaTable, jinjaUnescape]) fun c h1 _ _ _ _ => jinjaUnescape_other c h1
  (h.flatMap rfl s).trans (List.map_id s)

/-- an auto-escaped value contains none of `<`, `>`, `"`, `'`: it cannot open a tag or close an attribute value -/
theorem jinjaEscape_no_markup (s : Str) : ∀ c ∈ jinjaEscape s, c ≠ '<' ∧ c ≠ '>' ∧ c ≠ '"' ∧ c ≠ '\'' := by
  intro c hc
  obtain ⟨d, _, hd⟩ := List.mem_flatMap.1 hc
  exact jinjaEscapeChar_cases (P := fun _ e => ∀ c ∈ e, c ≠ '<' ∧ c ≠ '>' ∧ c ≠ '"' ∧ c ≠ '\'') (by decide +kernel)
    (fun d _ h2 h3 h4 h5 c hc => by rw [List.mem_singleton.1 hc]; exact ⟨h2, h3, h4, h5⟩) d c hd

example : jinjaEscape "<script>alert('x') & \"y\"</script>".toList
    = "&lt;script&gt;alert(&#39;x&#39;) &amp; &#34;y&#34;&lt;/script&gt;".toList := by
  rw [toList_lit rfl, toList_lit rfl]; decide +kernel
example : jinjaUnescape (jinjaEscape "R&amp;D <b>".toList) = "R&amp;D <b>".toList := by decide +kernel

end RG.C10
