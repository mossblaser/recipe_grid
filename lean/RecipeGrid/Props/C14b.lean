import RecipeGrid.Lemmas.Site
import RecipeGrid.Props.C14
import RecipeGrid.Props.C15
/-! C14b — navigation: following generated links as a browser does (decode the percent-encoding, resolve the
    reference against the page's own path, RFC 3986 §5.2), every page of the generated site is reachable from the
    home page, and nothing but pages of the site (and the stylesheet) is reachable. -/
namespace RG
inductive Star {α : Type} (R : α → α → Prop) (a : α) : α → Prop
  | refl : Star R a a
  | tail {b c : α} : Star R a b → R b c → Star R a c

theorem Star.single {α : Type} {R : α → α → Prop} {a b : α} (h : R a b) : Star R a b := Star.tail Star.refl h
end RG

namespace RG.C14

/-- following the link `l` (as written in page `p`) leads to the path `t`: the in-page anchor `#` stays on the page;
    any other link is percent-decoded to a reference, which is resolved against the page's own path -/
def follows (p : Page) (l : Str) (t : Str) : Prop :=
  (l = ['#'] ∧ t = p.path) ∨ (l ≠ ['#'] ∧ ∃ ref, unquoteBytes l = utf8Bytes ref ∧ resolveRef p.path ref = t)

def linksToPath (p : Page) (t : Str) : Prop := ∃ l ∈ p.links, follows p l t

def linksTo (site : List Page) (p q : Page) : Prop := p ∈ site ∧ q ∈ site ∧ linksToPath p q.path

/-- reachable from the home page (the first page of the site) by following generated links -/
inductive Reachable (site : List Page) : Page → Prop
  | home {p : Page} : site.head? = some p → Reachable site p
  | step {p q : Page} : Reachable site p → linksTo site p q → Reachable site q

/-- the same on paths, without presupposing that the target is a page: what a crawler starting at the home page finds -/
inductive ReachablePath (site : List Page) : Str → Prop
  | home {p : Page} : site.head? = some p → ReachablePath site p.path
  | step {p : Page} {t : Str} : p ∈ site → ReachablePath site p.path → linksToPath p t → ReachablePath site t

theorem Reachable.toPath {site : List Page} {q : Page} (h : Reachable site q) : ReachablePath site q.path := by
  induction h with
  | home h0 => exact ReachablePath.home h0
  | step _ hl ih => exact ReachablePath.step hl.1 ih hl.2.2

theorem hrefRelative_ne_anchor (frm to : Str) : hrefRelative frm to ≠ ['#'] := by
  intro h
  have := quote_safe_chars (relativePath frm to) '#' (by unfold hrefRelative at h; rw [h]; simp)
  revert this; decide

theorem slashes_fileLike {p : Str} (hf : FileLike p) : slashes p = (segsOf p).length ∧ 0 < (segsOf p).length := by
  obtain ⟨fs, rfl, hf1, hf2⟩ := hf
  have hs : ∀ s ∈ fs, '/' ∉ s := fun s hs => (hf2 s hs).2.2.2
  rw [slashes_abs fs hf1 hs, segsOf_abs fs hf1 hs]
  exact ⟨rfl, List.length_pos_iff.mpr hf1⟩

section
variable {root : Dir} {rootName : Str} {M : Nat} {ps : List Page} (h : sitePages root rootName M = .ok ps)
include h

theorem linksTo_of_not_prefix (hn : NamesOK root) {p q : Page} {t : Str} (hp : p ∈ ps) (hq : q ∈ ps) (hpath : q.path = t)
    (hne : NotAbove q.path p.path) (hl : hrefRelative p.path t ∈ p.links) : linksTo ps p q := by
  subst hpath
  exact ⟨hp, hq, _, hl, .inr ⟨hrefRelative_ne_anchor _ _, generated_link_resolves h hn p q hp hq hne⟩⟩

theorem linksTo_of_mem (hn : NamesOK root) (hh : NoHtmlDirs root) {p q : Page} {t : Str} (hp : p ∈ ps) (hq : q ∈ ps)
    (hpath : q.path = t) : hrefRelative p.path t ∈ p.links → linksTo ps p q :=
  linksTo_of_not_prefix h hn hp hq hpath (page_not_prefix h hn hh p q hp hq)

/-- a page is never (segment-wise) a directory above a page that lies at least as deep; unlike `page_not_prefix` this
    needs no assumption about directory names ending in `.html` -/
theorem page_not_prefix_down (hn : NamesOK root) (p q : Page) (hp : p ∈ ps) (hq : q ∈ ps)
    (hdeep : slashes p.path ≤ slashes q.path) : NotAbove q.path p.path := by
  obtain ⟨hpl, hp0⟩ := slashes_fileLike (paths_are_files root rootName M ps h hn p hp)
  obtain ⟨hql, _⟩ := slashes_fileLike (paths_are_files root rootName M ps h hn q hq)
  intro hpre
  have hl := hpre.length_le
  rw [List.length_dropLast] at hl
  omega

theorem linksTo_of_mem_down (hn : NamesOK root) {p q : Page} {t : Str} (hp : p ∈ ps) (hq : q ∈ ps) (hpath : q.path = t)
    (hdeep : slashes p.path ≤ slashes t) : hrefRelative p.path t ∈ p.links → linksTo ps p q :=
  linksTo_of_not_prefix h hn hp hq hpath (page_not_prefix_down h hn p q hp hq (hpath ▸ hdeep))

theorem home_shallowest (hn : NamesOK root) (q : Page) (hq : q ∈ ps) :
    slashes "/index.html".toList ≤ slashes q.path := by
  have := slashes_fileLike (paths_are_files root rootName M ps h hn q hq)
  have := slashes_home
  omega

theorem homePage_mem :
    homePage root rootName M ∈ ps := (mem_sitePages_iff h _).mpr (.inl rfl)

/-- the home page links to the root category page of every hierarchy: `/serves<n>/index.html` for 1 ≤ n ≤ M and
    `/categories/index.html` (which exist: `C15.scaled_roots`) -/
theorem home_links_roots (hn : NamesOK root) (sv : Option Nat) (hsv : C15.Hierarchy M sv)
    (q : Page) (hq : q ∈ ps) (hpath : q.path = catPath sv []) : linksTo ps (homePage root rootName M) q := by
  exact linksTo_of_mem_down h hn (homePage_mem h) hq hpath (hpath ▸ home_shallowest h hn q hq)
    ((mem_homePage_links ..).mpr (.inr ⟨sv, hsv, rfl⟩))

end

/-- the category page of a directory links to the category pages of its sub-directories and to the pages its recipes have
    in the same hierarchy; these links lead downwards, so `NamesOK` suffices -/
theorem catPage_links_down {root : Dir} {rootName : Str} {M : Nat} {ps : List Page} (h : sitePages root rootName M = .ok ps)
    (hn : NamesOK root) {dirs : List Str} {d : Dir} (hd : C15.DirAt root dirs d) {sv : Option Nat} (hsv : C15.Hierarchy M sv) :
    siteCatPage sv dirs d ∈ ps ∧
    (∀ s ∈ d.subdirs, ∀ q ∈ ps, q.path = catPath sv (dirs ++ [s.name]) → linksTo ps (siteCatPage sv dirs d) q) ∧
    (∀ r ∈ d.recipes, r.servings.isSome = sv.isSome → ∀ q ∈ ps, q.path = recipePath sv dirs r.file →
      linksTo ps (siteCatPage sv dirs d) q) := by
  have hp : siteCatPage sv dirs d ∈ ps :=
    (mem_sitePages_iff h _).mpr (.inr ⟨sv, hsv, dirs, d, hd, mem_sitePagesAt.mpr (.inl rfl)⟩)
  refine ⟨hp, fun s hs q hq hpath => ?_, fun r hr hsame q hq hpath => ?_⟩
  · exact linksTo_of_mem_down h hn hp hq hpath (slashes_catPath_le_sub sv _ _)
      (mem_catPageOf_links.mpr ⟨_, rfl, .inr (.inr (.inl ⟨s, hs, rfl⟩))⟩)
  · exact linksTo_of_mem_down h hn hp hq hpath (slashes_catPath_le_recipe sv _ _)
      (mem_catPageOf_links.mpr ⟨_, rfl, .inr (.inr (.inr ⟨r, hr, (recipeListTarget_same dirs hsame).symm⟩))⟩)

/-- for every directory `d` of the tree (at `dirs`) and every hierarchy `sv`, the site has a category page at
    `/<root>/<dirs>/index.html` which links to
    * the category page of each sub-directory of `d` in the same hierarchy,
    * the page of each recipe of `d` that has a page in this hierarchy (and more generally each recipe's list target),
    * (breadcrumbs) the category page of every ancestor directory in the same hierarchy, and the home page.
    The downward links need `NamesOK` only; the upward and sideways ones also need `NoHtmlDirs` (a directory called
    `index.html` makes the breadcrumb to its parent the empty reference, which resolves to the page itself).
    "Has a category page" rather than "every page at that path": the model allows sibling directories of equal name,
    whose category pages share a path. -/
theorem category_links_children (root : Dir) (rootName : Str) (M : Nat) (ps : List Page)
    (h : sitePages root rootName M = .ok ps) (hn : NamesOK root)
    (dirs : List Str) (d : Dir) (hd : C15.DirAt root dirs d) (sv : Option Nat) (hsv : C15.Hierarchy M sv) :
    ∃ p ∈ ps, p.path = catPath sv dirs ∧
      (∀ s ∈ d.subdirs, ∀ q ∈ ps, q.path = catPath sv (dirs ++ [s.name]) → linksTo ps p q) ∧
      (∀ r ∈ d.recipes, r.servings.isSome = sv.isSome → ∀ q ∈ ps, q.path = recipePath sv dirs r.file → linksTo ps p q) ∧
      (NoHtmlDirs root →
        (∀ r ∈ d.recipes, ∀ q ∈ ps, q.path = recipeListTarget sv dirs r → linksTo ps p q) ∧
        (∀ pre, pre <+: dirs → ∀ q ∈ ps, q.path = catPath sv pre → linksTo ps p q) ∧
        (∀ q ∈ ps, q.path = "/index.html".toList → linksTo ps p q)) := by
  obtain ⟨hp, hsub, hrec⟩ := catPage_links_down h hn hd hsv
  have hlink : ∀ t, _ → hrefRelative (catPath sv dirs) t ∈ (siteCatPage sv dirs d).links :=
    fun t ht => mem_catPageOf_links.mpr ⟨t, rfl, ht⟩
  refine ⟨_, hp, rfl, hsub, hrec, fun hh =>
    ⟨fun r hr q hq hpath => ?_, fun pre hp' q hq hpath => ?_, fun q hq hpath => ?_⟩⟩
  · exact linksTo_of_mem h hn hh hp hq hpath (hlink _ (.inr (.inr (.inr ⟨r, hr, rfl⟩))))
  · exact linksTo_of_mem h hn hh hp hq hpath (hlink _ (.inl (mem_crumbsAt.mpr (.inr ⟨pre, hp', rfl⟩))))
  · exact linksTo_of_mem h hn hh hp hq hpath (hlink _ (.inl (mem_crumbsAt.mpr (.inl rfl))))

/-- C14b: every page of the site is reachable from the home page by following generated links
    (home page → root category page of the page's hierarchy → sub-category pages → recipe page).
    Only downward links are used, so `NamesOK` suffices: neither `NoHtmlDirs` nor `ServingsPositive` (which
    `every_link_resolves` needs for the upward and serving-menu links) is required. No hierarchy is left unlinked:
    the home page links to all of `/serves1/ … /servesM/` and `/categories/`, whether or not they hold recipes. -/
theorem every_page_reachable (root : Dir) (rootName : Str) (M : Nat) (ps : List Page)
    (h : sitePages root rootName M = .ok ps) (hn : NamesOK root) :
    ∀ q ∈ ps, Reachable ps q := by
  intro q hq
  have hhome : Reachable ps (homePage root rootName M) := Reachable.home (sitePages_head h)
  rcases (mem_sitePages_iff h q).mp hq with rfl | ⟨sv, hsv, dirs, d, hd, hqd⟩
  · exact hhome
  · -- category pages: down from the root, each from the category page of its parent directory
    have hcat : Reachable ps (siteCatPage sv dirs d) := by
      refine hd.snoc_ind (P := fun dirs d => Reachable ps (siteCatPage sv dirs d))
        (hhome.step (home_links_roots h hn sv hsv _ (catPage_links_down h hn (.here root) hsv).1 rfl)) ?_
      intro dirs d s hd hs ih
      exact ih.step ((catPage_links_down h hn hd hsv).2.1 s hs _ (catPage_links_down h hn (hd.snoc hs) hsv).1 rfl)
    rcases mem_sitePagesAt.mp hqd with rfl | ⟨r, hr, hqr⟩
    · exact hcat
    · -- a recipe page: from the category page of its directory
      obtain ⟨hkind, hpath, _⟩ := recipePageAt_some hqr
      exact hcat.step ((catPage_links_down h hn hd hsv).2.2 r hr hkind q hq hpath)

theorem reachable_are_pages (site : List Page) (q : Page) (h : Reachable site q) : q ∈ site := by
  cases h with
  | home h0 => exact List.mem_of_mem_head? h0
  | step _ hl => exact hl.2.1

/-- a crawler that starts at the home page and follows every generated link finds only pages of the site and the
    stylesheet: no generated link leads anywhere else -/
theorem reachable_paths_are_pages {root : Dir} {rootName : Str} {M : Nat} {ps : List Page}
    (h : sitePages root rootName M = .ok ps) (hn : NamesOK root) (hh : NoHtmlDirs root) (hpos : ServingsPositive root) :
    ∀ t, ReachablePath ps t → t ∈ ps.map (·.path) ∨ t = cssPath := by
  intro t ht
  induction ht with
  | home h0 => exact .inl (List.mem_map.mpr ⟨_, List.mem_of_mem_head? h0, rfl⟩)
  | @step p t hp _ hl _ =>
    obtain ⟨l, hl, hf⟩ := hl
    rcases hf with ⟨_, rfl⟩ | ⟨hne, ref, hdec, hres⟩
    · exact .inl (List.mem_map.mpr ⟨p, hp, rfl⟩)
    · rcases every_link_resolves root rootName M ps h hn hh hpos p hp l hl with h0 | ⟨t', ht', ref', hdec', hres'⟩
      · exact absurd h0 hne
      · have : ref = ref' := utf8Bytes_injective _ _ (by rw [← hdec, ← hdec'])
        subst this
        rw [← hres, hres']
        exact ht'

/-- the reachable paths are exactly the page paths and the stylesheet -/
theorem reachable_iff_page (root : Dir) (rootName : Str) (M : Nat) (ps : List Page)
    (h : sitePages root rootName M = .ok ps) (hn : NamesOK root) (hh : NoHtmlDirs root) (hpos : ServingsPositive root) (t : Str) :
    ReachablePath ps t ↔ t ∈ ps.map (·.path) ∨ t = cssPath := by
  constructor
  · exact reachable_paths_are_pages h hn hh hpos t
  · rintro (ht | rfl)
    · obtain ⟨q, hq, rfl⟩ := List.mem_map.mp ht
      exact (every_page_reachable root rootName M ps h hn q hq).toPath
    · have hhome := homePage_mem h
      refine ReachablePath.step hhome (ReachablePath.home (sitePages_head h)) ?_
      exact ⟨hrefRelative (homePage root rootName M).path cssPath, (mem_homePage_links ..).mpr (.inl rfl),
        .inr ⟨hrefRelative_ne_anchor _ _, link_resolves _ cssPath (paths_are_files root rootName M ps h hn _ hhome)
          cssPath_fileLike (css_not_above h hn _ hhome)⟩⟩

/-- a two-level tree: `Cakes/Sponge cakes/` holds a scalable recipe and an unscalable one (names with a space and a
    non-ASCII letter, so the links are percent-encoded) -/
def walkTree : Dir :=
  .mk "book".toList none []
    [.mk "Cakes".toList none []
      [.mk "Sponge cakes".toList none
        [⟨"victoria.md".toList, "Victoria sponge".toList, some 2⟩, ⟨"crème.md".toList, "Crème".toList, none⟩] []]]

def walkSite : List Page := match sitePages walkTree "book".toList 2 with | .ok ps => ps | .error _ => []

theorem walkSite_ok : sitePages walkTree "book".toList 2 = .ok walkSite := sitePages_of_le _ _ _ (by decide)

def stepCheck (site : List Page) (i j : Nat) : Bool :=
  i < site.length && j < site.length &&
  (site.getD i default).links.any fun l =>
    l != ['#'] && unquoteBytes l == utf8Bytes (relativePath (site.getD i default).path (site.getD j default).path)
      && resolveRef (site.getD i default).path (relativePath (site.getD i default).path (site.getD j default).path)
          == (site.getD j default).path

theorem getD_mem (site : List Page) (i : Nat) (h : i < site.length) : site.getD i default ∈ site := by
  have : site.getD i default = site[i] := by simp [List.getD, List.getElem?_eq_getElem h]
  rw [this]
  exact List.getElem_mem h

theorem head?_eq_getD (site : List Page) (h : 0 < site.length) : site.head? = some (site.getD 0 default) := by
  cases site with
  | nil => simp at h
  | cons a t => rfl

theorem stepCheck_sound (site : List Page) (i j : Nat) (h : stepCheck site i j = true) :
    linksTo site (site.getD i default) (site.getD j default) := by
  simp only [stepCheck, Bool.and_eq_true, decide_eq_true_eq, List.any_eq_true, bne_iff_ne, beq_iff_eq] at h
  obtain ⟨⟨hi, hj⟩, l, hl, ⟨hne, hdec⟩, hres⟩ := h
  exact ⟨getD_mem site i hi, getD_mem site j hj, l, hl, .inr ⟨hne, _, hdec, hres⟩⟩

theorem walkSite_paths : walkSite.map (·.path) =
    ["/index.html".toList,
     "/serves1/index.html".toList, "/serves1/Cakes/index.html".toList, "/serves1/Cakes/Sponge cakes/index.html".toList,
     "/serves1/Cakes/Sponge cakes/victoria.html".toList,
     "/serves2/index.html".toList, "/serves2/Cakes/index.html".toList, "/serves2/Cakes/Sponge cakes/index.html".toList,
     "/serves2/Cakes/Sponge cakes/victoria.html".toList,
     "/categories/index.html".toList, "/categories/Cakes/index.html".toList, "/categories/Cakes/Sponge cakes/index.html".toList,
     "/categories/Cakes/Sponge cakes/crème.html".toList] := by
  lit_chars
  decide +kernel

/-- home → `/serves2/` → `/serves2/Cakes/` → `/serves2/Cakes/Sponge cakes/` → the recipe page, and likewise down the
    `categories` hierarchy to the unscalable recipe; the links as written are percent-encoded -/
theorem walk_steps :
    (stepCheck walkSite 0 5 = true ∧ stepCheck walkSite 5 6 = true ∧ stepCheck walkSite 6 7 = true ∧ stepCheck walkSite 7 8 = true) ∧
    (stepCheck walkSite 0 9 = true ∧ stepCheck walkSite 9 10 = true ∧ stepCheck walkSite 10 11 = true ∧ stepCheck walkSite 11 12 = true) ∧
    "Sponge%20cakes/index.html".toList ∈ (walkSite.getD 6 default).links ∧
    "cr%C3%A8me.html".toList ∈ (walkSite.getD 11 default).links ∧
    (walkSite.getD 8 default).path = "/serves2/Cakes/Sponge cakes/victoria.html".toList := by
  lit_chars
  decide +kernel

theorem walk_reaches : ∃ q ∈ walkSite, q.path = "/serves2/Cakes/Sponge cakes/victoria.html".toList ∧ Reachable walkSite q := by
  obtain ⟨⟨s1, s2, s3, s4⟩, _, _, _, h8⟩ := walk_steps
  have l1 := stepCheck_sound _ _ _ s1
  have l4 := stepCheck_sound _ _ _ s4
  have h0 : Reachable walkSite (walkSite.getD 0 default) :=
    Reachable.home (head?_eq_getD _ (List.length_pos_of_mem l1.1))
  exact ⟨_, l4.2.1, h8, (((h0.step l1).step (stepCheck_sound _ _ _ s2)).step (stepCheck_sound _ _ _ s3)).step l4⟩

theorem walkTree_namesOK : NamesOK walkTree :=
  treeOK_namesOK _ _ (treeOK_of_check (fun _ => []) walkTree (by decide +kernel))

example : ∀ q ∈ walkSite, Reachable walkSite q :=
  every_page_reachable walkTree "book".toList 2 walkSite walkSite_ok walkTree_namesOK

/-- executable check that no generated link of any page of the site leads to the path `t` (for links whose
    percent-decoding is the link itself, i.e. plain ASCII links) -/
def noLinkCheck (site : List Page) (t : Str) : Bool :=
  site.all fun p => p.links.all fun l =>
    if l == ['#'] then p.path != t else unquoteBytes l == utf8Bytes l && resolveRef p.path l != t

theorem noLinkCheck_sound (site : List Page) (t : Str) (h : noLinkCheck site t = true) : ∀ p ∈ site, ¬ linksToPath p t := by
  rintro p hp ⟨l, hl, hf⟩
  have hc := (List.all_eq_true.mp ((List.all_eq_true.mp h) p hp)) l hl
  rcases hf with ⟨rfl, rfl⟩ | ⟨hne, ref, hdec, hres⟩
  · simp at hc
  · have hne' : (l == ['#']) = false := by simpa using hne
    rw [hne'] at hc
    simp only [Bool.false_eq_true, if_false, Bool.and_eq_true, beq_iff_eq, bne_iff_ne] at hc
    have : ref = l := utf8Bytes_injective _ _ (by rw [← hdec, hc.1])
    subst this
    exact hc.2 hres

/-- a directory named `..` (which no file system allows, and `NamesOK` excludes) gets a category page whose path is not
    in normal form; every link to it resolves elsewhere, so the page is not reachable -/
def dotTree : Dir := .mk "r".toList none [] [.mk "..".toList none [] []]
def dotSite : List Page := match sitePages dotTree "r".toList 1 with | .ok ps => ps | .error _ => []

theorem namesOK_needed : sitePages dotTree "r".toList 1 = .ok dotSite ∧ ∃ q ∈ dotSite, ¬ Reachable dotSite q := by
  -- page number 2, at `/serves1/../index.html`, is not the first page and no link of the site leads to its path
  have ev : 2 < dotSite.length ∧ (dotSite.getD 0 default).path ≠ (dotSite.getD 2 default).path ∧
      noLinkCheck dotSite (dotSite.getD 2 default).path = true := by decide +kernel
  refine ⟨sitePages_of_le _ _ _ (by decide), _, getD_mem _ _ ev.1, fun hr => ?_⟩
  cases hr with
  | home h0 =>
    rw [head?_eq_getD _ (Nat.lt_trans (by decide) ev.1)] at h0
    exact ev.2.1 (congrArg Page.path (Option.some.inj h0))
  | step _ hl => exact noLinkCheck_sound dotSite _ ev.2.2 _ hl.1 hl.2.2

/-- the statement without any hypothesis on names … -/
def every_page_reachable_Full : Prop :=
  ∀ (root : Dir) (rootName : Str) (M : Nat) (ps : List Page), sitePages root rootName M = .ok ps → ∀ q ∈ ps, Reachable ps q

/-- … is false in the model (only for trees no file system can hold; not a defect of the generator) -/
theorem every_page_reachable_Full_false : ¬ every_page_reachable_Full := by
  intro hfull
  obtain ⟨hok, q, hq, hnr⟩ := namesOK_needed
  exact hnr (hfull _ _ _ _ hok q hq)

end RG.C14
