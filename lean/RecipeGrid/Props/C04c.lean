import RecipeGrid.Props.C04
import RecipeGrid.Props.C04b
import RecipeGrid.Props.C02c
import RecipeGrid.Lemmas.HtmlText
/-! C04 (continued) — end to end: the grid a browser forms from the emitted rows, with the classes on each cell, is
    exactly the visible abstract table (`vcells_of_html`), hence the drawing of the recipe can be read back from the HTML
    rows alone (`html_readback`).  What the HTML says about a cell is the attribute list of its `<td>` as the
    tokenizer of `Props/C10b.lean` reads it; a browser takes from it the spans and the classes, and the style sheet
    makes kind and borders of the classes.  The same from the rendered text (`html_string_readback`), under the
    hypothesis `PageOK` that cell bodies are one-line texts or output lists of such; the unconditional statement is
    `html_string_level_Full`, not proved. -/
namespace RG.C04
open RG.C02 (vis Drawing drawing readback multiOnlyAtRoot)

/-- the attributes of an element, as the tokenizer reads them -/
abbrev Attrs := List (Str × Str)

/-- the value of the attribute `n` (the first, as in HTML) -/
def attr? (n : String) (as : Attrs) : Option Str := (as.find? fun a => a.1 = S n).map (·.2)

/-- a span attribute: its decimal value, 1 when absent -/
def spanOf (n : String) (as : Attrs) : Nat := ((attr? n as).map digitsVal).getD 1

def spansOf (as : Attrs) : Nat × Nat := (spanOf "rowspan" as, spanOf "colspan" as)

/-- the classes: the `class` attribute split at ASCII white space -/
def classesOf (as : Attrs) : List Str := C10.wsWords ((attr? "class" as).getD [])

def kindOfClass (c : Str) : Option CellKind :=
  [CellKind.ingredient, .reference, .step, .header, .outputs].find? fun k => S k.cls = c

def sideName : C02.Side → String
  | .left => "left" | .right => "right" | .top => "top" | .bottom => "bottom"

def borderClassStr (s : C02.Side) (b : Border) : Str := S ("rg-border-" ++ sideName s ++ "-" ++ b.cls)

/-- the border of side `s` under the style sheet: sub-recipe or none when the class is present, else normal -/
def sideBorder (s : C02.Side) (cls : List Str) : Border :=
  if borderClassStr s .subRecipe ∈ cls then .subRecipe
  else if borderClassStr s .none ∈ cls then .none else .normal

/-- kind and borders (left, right, top, bottom) from the classes of a cell; `none` without a kind class -/
def cellSpecOfClasses (cls : List Str) : Option (CellKind × Border × Border × Border × Border) :=
  (cls.findSome? kindOfClass).map fun k =>
    (k, sideBorder .left cls, sideBorder .right cls, sideBorder .top cls, sideBorder .bottom cls)

def allSome {α : Type} : List (Option α) → Option (List α)
  | [] => some []
  | none :: _ => none
  | some a :: rest => (allSome rest).map (a :: ·)

/-- the grid a browser forms: the table-forming algorithm on the spans; per cell (row, col, rows, cols), in
    source order -/
def gridOfRows (rows : List (List Attrs)) : List (Nat × Nat × Nat × Nat) := place (rows.map (·.map spansOf))

/-- what a browser takes from a `<td>`: its spans and its classes -/
def tdSpec (as : Attrs) : (Nat × Nat) × List Str := (spansOf as, classesOf as)

def vcellAt (p : Nat × Nat × Nat × Nat) (cls : List Str) : Option VCell :=
  (cellSpecOfClasses cls).map fun x =>
    ⟨p.1, p.2.1, p.2.2.1, p.2.2.2, x.1, x.2.1, x.2.2.1, x.2.2.2.1, x.2.2.2.2⟩

/-- the visible cells of a `<table>` given by the attribute lists of its `<td>`s, row by row: every cell at the
    position the table-forming algorithm gives it, with the kind and borders its classes give it; `none` if some
    cell has no kind class -/
def vcellsOfRows (rows : List (List Attrs)) : Option (List VCell) :=
  allSome (((gridOfRows rows).zip (rows.flatten.map classesOf)).map fun x => vcellAt x.1 x.2)

/-- the attribute lists the renderer writes (`renderTable`: one `<tr>` per row of `emitRows`, one `<td>` with
    `cellAttrs` per cell) -/
def htmlRows (T : Tbl) : List (List Attrs) := (emitRows T).map (·.map fun c => C10.readAttrs (cellAttrs c))

theorem allSome_map_some {α β : Type} (f : α → Option β) (g : α → β) (l : List α) (h : ∀ a ∈ l, f a = some (g a)) :
    allSome (l.map f) = some (l.map g) := by
  induction l with
  | nil => rfl
  | cons a l ih =>
    simp only [List.map_cons, h a (List.mem_cons_self ..), allSome, ih fun b hb => h b (List.mem_cons_of_mem _ hb),
      Option.map_some]

private theorem attr_class (c : PCell) :
    attr? "class" (C10.readAttrs (cellAttrs c)) = some (S (" ".intercalate (cellClasses c))) := rfl

theorem spansOf_cellAttrs (c : PCell) : spansOf (C10.readAttrs (cellAttrs c)) = (c.rows, c.cols) := by
  have e : (S "class" = S "rowspan") = False ∧ (S "colspan" = S "rowspan") = False ∧
      (S "class" = S "colspan") = False ∧ (S "rowspan" = S "colspan") = False := by decide
  by_cases h1 : c.cols = 1 <;> by_cases h2 : c.rows = 1 <;>
    simp [spansOf, spanOf, attr?, C10.readAttrs, cellAttrs, h1, h2, e, digitsVal_natDigits]

private theorem wsWordsAux_word (w : Str) (hw : ∀ c ∈ w, C10.isAsciiWs c = false) :
    ∀ cur : Str, cur ≠ [] ∨ w ≠ [] → C10.wsWordsAux cur w = [cur.reverse ++ w] := by
  induction w with
  | nil =>
    intro cur h
    have : cur ≠ [] := by rcases h with h | h; exact h; exact absurd rfl h
    cases cur with
    | nil => exact absurd rfl this
    | cons a as => simp [C10.wsWordsAux]
  | cons c w ih =>
    intro cur _
    have hc : C10.isAsciiWs c = false := hw c (List.mem_cons_self ..)
    rw [C10.wsWordsAux]
    simp only [hc, Bool.false_eq_true, if_false]
    rw [ih (fun x hx => hw x (List.mem_cons_of_mem _ hx)) (c :: cur) (Or.inl (by simp))]
    simp

def IsWord (w : Str) : Prop := w ≠ [] ∧ ∀ c ∈ w, C10.isAsciiWs c = false

instance (w : Str) : Decidable (IsWord w) := by unfold IsWord; infer_instance

theorem wsWords_word (w : Str) (h : IsWord w) : C10.wsWords w = [w] := by
  have := wsWordsAux_word w h.2 [] (Or.inr h.1)
  simpa [C10.wsWords] using this

theorem wsWords_intercalate : ∀ ws : List Str, (∀ w ∈ ws, IsWord w) → C10.wsWords ((S " ").intercalate ws) = ws
  | [], _ => by simp [List.intercalate, C10.wsWords_nil]
  | [w], h => by
    have : (S " ").intercalate [w] = w := by simp [List.intercalate]
    rw [this]; exact wsWords_word w (h w (List.mem_cons_self ..))
  | w :: w' :: ws, h => by
    have e : (S " ").intercalate (w :: w' :: ws) = w ++ ' ' :: (S " ").intercalate (w' :: ws) := by
      rw [List.intercalate_cons_cons, List.append_assoc]; rfl
    rw [e, C10.wsWords_append_ws _ _ _ C10.isAsciiWs_sp, wsWords_word w (h w (List.mem_cons_self ..)),
      wsWords_intercalate (w' :: ws) fun x hx => h x (List.mem_cons_of_mem _ hx)]
    rfl

private theorem borderClassStr_eq (s : C02.Side) (b : Border) :
    borderClassStr s b = S "rg-border-" ++ (S (sideName s) ++ (S "-" ++ S b.cls)) := by
  simp only [borderClassStr, S_append, List.append_assoc]

theorem cellClasses_map_S (c : PCell) :
    (cellClasses c).map S = S c.kind.cls ::
      [(C02.Side.left, c.bl), (.right, c.br), (.top, c.bt), (.bottom, c.bb)].filterMap fun p =>
        if p.2 = .normal then none else some (borderClassStr p.1 p.2) := by
  rw [map_S_cellClasses, cellClassStrs]
  simp only [List.filterMap_cons, List.filterMap_nil, borderClassStr_eq, sideName, List.append_assoc]

theorem cellClasses_forall {P : Str → Prop} (hk : ∀ k : CellKind, P (S k.cls))
    (hb : ∀ s b, b ≠ .normal → P (borderClassStr s b)) (c : PCell) : ∀ w ∈ (cellClasses c).map S, P w := by
  rw [cellClasses_map_S]
  intro w hw
  simp only [List.mem_cons, List.mem_filterMap] at hw
  rcases hw with rfl | ⟨p, _, hp⟩
  · exact hk _
  · split at hp
    · cases hp
    · cases hp; exact hb _ _ ‹_›

private def borderClasses : List (C02.Side × Border) :=
  [(.left, .none), (.left, .subRecipe), (.right, .none), (.right, .subRecipe),
   (.top, .none), (.top, .subRecipe), (.bottom, .none), (.bottom, .subRecipe)]

/-- decoding of a border class, used only to tell the classes apart -/
private def borderOfClass (c : Str) : Option (C02.Side × Border) :=
  borderClasses.find? fun p => borderClassStr p.1 p.2 = c

/-- the class names are a fixed table, looked through once: each is a word without a line break, `borderOfClass`
    decodes the border classes and knows no kind class, `kindOfClass` decodes the kind classes -/
private theorem classes_table :
    (∀ p ∈ borderClasses, IsWord (borderClassStr p.1 p.2) ∧ NoBreak (borderClassStr p.1 p.2) ∧
      borderOfClass (borderClassStr p.1 p.2) = some p) ∧
    ∀ k ∈ [CellKind.ingredient, .reference, .step, .header, .outputs],
      IsWord (S k.cls) ∧ NoBreak (S k.cls) ∧ borderOfClass (S k.cls) = none ∧ kindOfClass (S k.cls) = some k := by
  simp only [borderOfClass, borderClassStr_eq]
  decide +kernel

private theorem border_class (s : C02.Side) (b : Border) (hb : b ≠ .normal) :
    IsWord (borderClassStr s b) ∧ NoBreak (borderClassStr s b) ∧ borderOfClass (borderClassStr s b) = some (s, b) :=
  classes_table.1 (s, b) (by cases s <;> cases b <;> revert hb <;> decide)

private theorem kind_class (k : CellKind) :
    IsWord (S k.cls) ∧ NoBreak (S k.cls) ∧ borderOfClass (S k.cls) = none ∧ kindOfClass (S k.cls) = some k :=
  classes_table.2 k (by cases k <;> decide)

theorem classesOf_cellAttrs (c : PCell) : classesOf (C10.readAttrs (cellAttrs c)) = (cellClasses c).map S := by
  simp only [classesOf, attr_class, Option.getD_some, S, String.toList_intercalate]
  exact wsWords_intercalate _ (cellClasses_forall (fun k => (kind_class k).1) (fun s b hb => (border_class s b hb).1) c)

private theorem borderClassStr_mem (c : PCell) (s : C02.Side) (b : Border) (hb : b ≠ .normal) :
    borderClassStr s b ∈ (cellClasses c).map S ↔
      (s, b) ∈ [(C02.Side.left, c.bl), (.right, c.br), (.top, c.bt), (.bottom, c.bb)] := by
  rw [cellClasses_map_S, List.mem_cons, List.mem_filterMap]
  constructor
  · rintro (h | ⟨p, hp, hq⟩)
    · have := (kind_class c.kind).2.2.1
      rw [← h, (border_class s b hb).2.2] at this
      cases this
    · split at hq
      · cases hq
      · rename_i hn
        simp only [Option.some.injEq] at hq
        have := (border_class p.1 p.2 hn).2.2
        rw [hq, (border_class s b hb).2.2] at this
        simp only [Option.some.injEq] at this
        rw [this]; exact hp
  · intro h
    exact Or.inr ⟨(s, b), h, by simp [hb]⟩

private theorem sideBorder_cellClasses (c : PCell) (s : C02.Side) :
    sideBorder s ((cellClasses c).map S) = C02.border c s := by
  unfold sideBorder
  simp only [borderClassStr_mem c s .subRecipe (by decide), borderClassStr_mem c s .none (by decide)]
  cases s <;> simp only [List.mem_cons, Prod.mk.injEq, List.not_mem_nil, or_false, C02.border]
  · cases c.bl <;> simp
  · cases c.br <;> simp
  · cases c.bt <;> simp
  · cases c.bb <;> simp

/-- **the classes of a cell say its kind and its four borders** (`cell_classes` read backwards) -/
theorem cellSpec_cellClasses (c : PCell) :
    cellSpecOfClasses ((cellClasses c).map S) = some (c.kind, c.bl, c.br, c.bt, c.bb) := by
  unfold cellSpecOfClasses
  simp only [sideBorder_cellClasses, C02.border]
  rw [cellClasses_map_S, List.findSome?_cons, (kind_class c.kind).2.2.2]
  rfl

theorem vcellAt_cellClasses (c : PCell) :
    vcellAt (c.row, c.col, c.rows, c.cols) ((cellClasses c).map S) = some c.vis := by
  simp only [vcellAt, cellSpec_cellClasses, Option.map_some, PCell.vis]

theorem htmlRows_tdSpec (T : Tbl) :
    (htmlRows T).map (·.map tdSpec) = (emitRows T).map (·.map fun c => ((c.rows, c.cols), (cellClasses c).map S)) := by
  simp [htmlRows, tdSpec, List.map_map, Function.comp_def, spansOf_cellAttrs, classesOf_cellAttrs]

theorem htmlRows_spans (T : Tbl) :
    (htmlRows T).map (·.map spansOf) = (emitRows T).map (·.map fun c => (c.rows, c.cols)) := by
  simp [htmlRows, List.map_map, Function.comp_def, spansOf_cellAttrs]

theorem htmlRows_classes (T : Tbl) :
    (htmlRows T).flatten.map classesOf = (emitRows T).flatten.map fun c => (cellClasses c).map S := by
  simp [htmlRows, List.map_flatten, List.map_map, Function.comp_def, classesOf_cellAttrs]

/-- the rows with the class attribute put together from character lists (`cellAttrsFast`, `Lemmas/Html.lean`), which
    the kernel evaluates much faster than `String` concatenations -/
theorem htmlRows_fast (T : Tbl) : htmlRows T = (emitRows T).map (·.map fun c => C10.readAttrs (cellAttrsFast c)) := by
  simp only [htmlRows, cellAttrs_eq]

/-- **C04.1 on the attributes as written**: the grid a browser forms from the emitted rows puts every cell at its
    own position with its own extent -/
theorem gridOfRows_html (T : Tbl) (h : C02.Tiles T) :
    gridOfRows (htmlRows T) = (rasterSort T.cells).map fun c => (c.row, c.col, c.rows, c.cols) := by
  rw [gridOfRows, htmlRows_spans, place_emit T h, flatten_emitRows h]

/-- **the grid a browser forms, with the classes on each cell, is exactly the visible abstract table** -/
theorem vcells_of_html (T : Tbl) (h : C02.Tiles T) : vcellsOfRows (htmlRows T) = some (vis T) := by
  unfold vcellsOfRows
  rw [gridOfRows_html T h, htmlRows_classes, flatten_emitRows h, List.zip_map', List.map_map]
  exact allSome_map_some _ PCell.vis _ fun c _ => vcellAt_cellClasses c

theorem html_grid_is_table (t : Tree) (h : C02.wf t = true) :
    vcellsOfRows (htmlRows (layout t)) = some (vis (layout t)) :=
  vcells_of_html _ (C02.layout_tiles t h)

theorem compile_html_grid_is_table (srcs : List Str) (bs : List Block) (h : compile srcs = .ok bs) :
    ∀ b ∈ bs, ∀ t ∈ b, vcellsOfRows (htmlRows (layout t)) = some (vis (layout t)) :=
  C02.compile_ind (fun t hw _ => html_grid_is_table t hw) h

def readbackRows (rows : List (List Attrs)) : Option Drawing := (vcellsOfRows rows).bind readback

/-- **the drawing of the recipe can be read back from the emitted HTML rows alone** -/
theorem html_readback (t : Tree) (hw : C02.wf t = true) (hm : multiOnlyAtRoot t) :
    readbackRows (htmlRows (layout t)) = some (drawing t) := by
  rw [readbackRows, html_grid_is_table t hw, Option.bind_some, C02.readback_layout t hw hm]

theorem html_readback_perm (t : Tree) (hw : C02.wf t = true) (hm : multiOnlyAtRoot t) (cells cells' : List VCell)
    (h : vcellsOfRows (htmlRows (layout t)) = some cells) (hp : cells'.Perm cells) :
    readback cells' = some (drawing t) := by
  rw [html_grid_is_table t hw] at h
  cases h
  exact C02.readback_cells t hw hm cells' (hp.trans ((rasterSort_perm _).map _))

theorem compile_html_readback (srcs : List Str) (bs : List Block) (h : compile srcs = .ok bs) :
    ∀ b ∈ bs, ∀ t ∈ b, readbackRows (htmlRows (layout t)) = some (drawing t) :=
  C02.compile_ind html_readback h

theorem vcellsOfRows_congr (rows₁ rows₂ : List (List Attrs))
    (h : rows₁.map (·.map tdSpec) = rows₂.map (·.map tdSpec)) : vcellsOfRows rows₁ = vcellsOfRows rows₂ := by
  have h1 : rows₁.map (·.map spansOf) = rows₂.map (·.map spansOf) := by
    have := congrArg (fun l => l.map (·.map Prod.fst)) h
    simpa [List.map_map, Function.comp_def, tdSpec] using this
  have h2 : rows₁.flatten.map classesOf = rows₂.flatten.map classesOf := by
    have := congrArg (fun l => (l.map (·.map Prod.snd)).flatten) h
    simpa [List.map_map, List.map_flatten, Function.comp_def, tdSpec] using this
  unfold vcellsOfRows gridOfRows
  rw [h1, h2]

/-- **two trees whose emitted rows carry the same spans and classes have the same drawing** -/
theorem html_rows_determine_drawing (t₁ t₂ : Tree) (h₁ : C02.wf t₁ = true) (h₂ : C02.wf t₂ = true)
    (m₁ : multiOnlyAtRoot t₁) (m₂ : multiOnlyAtRoot t₂)
    (h : (htmlRows (layout t₁)).map (·.map tdSpec) = (htmlRows (layout t₂)).map (·.map tdSpec)) :
    drawing t₁ = drawing t₂ := by
  have e := vcellsOfRows_congr _ _ h
  rw [html_grid_is_table t₁ h₁, html_grid_is_table t₂ h₂] at e
  exact C02.table_determines_drawing t₁ t₂ h₁ h₂ m₁ m₂ (Option.some.inj e)

theorem emitted_rows_determine_drawing (t₁ t₂ : Tree) (h₁ : C02.wf t₁ = true) (h₂ : C02.wf t₂ = true)
    (m₁ : multiOnlyAtRoot t₁) (m₂ : multiOnlyAtRoot t₂)
    (h : (emitRows (layout t₁)).map (·.map fun c => (c.rows, c.cols, cellClasses c)) =
         (emitRows (layout t₂)).map (·.map fun c => (c.rows, c.cols, cellClasses c))) :
    drawing t₁ = drawing t₂ := by
  apply html_rows_determine_drawing t₁ t₂ h₁ h₂ m₁ m₂
  rw [htmlRows_tdSpec, htmlRows_tdSpec]
  have := congrArg (fun l : List (List (Nat × Nat × List String)) =>
    l.map (·.map fun x => ((x.1, x.2.1), x.2.2.map S))) h
  simpa [List.map_map, Function.comp_def] using this

theorem drawing_determines_html_rows (t₁ t₂ : Tree) (h₁ : C02.wf t₁ = true) (h₂ : C02.wf t₂ = true)
    (m₁ : multiOnlyAtRoot t₁) (m₂ : multiOnlyAtRoot t₂) (h : drawing t₁ = drawing t₂) :
    vcellsOfRows (htmlRows (layout t₁)) = vcellsOfRows (htmlRows (layout t₂)) := by
  rw [html_grid_is_table t₁ h₁, html_grid_is_table t₂ h₂, C02.drawing_determines_table t₁ t₂ h₁ h₂ m₁ m₂ h]

section StringLevel
open RG.C10

/-- the body of an element as lines the line machinery of `Props/C10b.lean` understands: at most one line that is a
    fragment without a line break, or two or more valid lines (`Line.Valid`: a fragment, no line break, ends in a
    non-space) -/
structure BodyLines (body : Str) (ls : List Line) : Prop where
  str : body = linesStr ls
  ok : (ls.length < 2 ∧ Frag (linesStr ls) (linesToks ls) ∧ NoBreak (linesStr ls)) ∨
       (2 ≤ ls.length ∧ ∀ l ∈ ls, l.Valid)

theorem BodyLines.of_valid (ls : List Line) (h : ∀ l ∈ ls, l.Valid) : BodyLines (linesStr ls) ls := by
  refine ⟨rfl, ?_⟩
  by_cases h2 : 2 ≤ ls.length
  · exact Or.inr ⟨h2, h⟩
  · exact Or.inl ⟨by omega, linesFrag ls h, linesStr_noBreak_single ls h h2⟩

theorem BodyLines.single {body : Str} {ts : List Token} (hf : Frag body ts) (hb : NoBreak body) :
    BodyLines body [(body, ts)] :=
  ⟨by simp [linesStr, joinNl_singleton], Or.inl ⟨by simp, by simpa [linesStr, joinNl_singleton, linesToks] using hf,
    by simpa [linesStr, joinNl_singleton] using hb⟩⟩

theorem BodyLines.tag {body : Str} {ls : List Line} (h : BodyLines body ls) (tag : String) (attrs : List (String × Str))
    (ht : IsName tag) (ha : ∀ x ∈ attrs, IsName x.1 ∧ NoBreak x.2) :
    tagBody tag attrs body = linesStr (tagLines tag attrs ls) ∧ ∀ l ∈ tagLines tag attrs ls, l.Valid := by
  rw [h.str]
  rcases h.ok with ⟨h1, hf, hb⟩ | ⟨h2, hv⟩
  · rw [tagLines_of_lt_two (by omega)]
    refine ⟨by simp [linesStr, joinNl_singleton, tagLine], fun l hl => ?_⟩
    rw [List.mem_singleton.1 hl]
    exact tagLine_valid tag attrs _ ht ha hf hb
  · rw [tagLines_of_two h2]
    exact ⟨tagBody_lines tag attrs ls h2 hv, wrapLines_valid tag attrs ls ht ha hv⟩

theorem linesStr_append (a b : List Line) (ha : a ≠ []) (hb : b ≠ []) :
    linesStr (a ++ b) = linesStr a ++ '\n' :: linesStr b := by
  simp only [linesStr, List.map_append]
  exact joinNl_append _ _ (by simpa using ha) (by simpa using hb)

theorem joinNl_linesStr (xs : List (List Line)) (h : ∀ x ∈ xs, x ≠ []) :
    joinNl (xs.map linesStr) = linesStr xs.flatten := by
  induction xs with
  | nil => rfl
  | cons x xs ih =>
    have hx : x ≠ [] := h x (List.mem_cons_self ..)
    have ih' := ih fun y hy => h y (List.mem_cons_of_mem _ hy)
    cases xs with
    | nil => simp [joinNl_singleton]
    | cons y ys =>
      have hy : y ≠ [] := h y (List.mem_cons_of_mem _ (List.mem_cons_self ..))
      have hne : (y :: ys).flatten ≠ [] := by
        cases y with
        | nil => exact absurd rfl hy
        | cons l y' => simp
      rw [List.map_cons, List.map_cons, joinNl_cons_cons, ← List.map_cons, ih']
      have e : (x :: y :: ys).flatten = x ++ (y :: ys).flatten := List.flatten_cons
      rw [e, linesStr_append x _ hx hne]

def tagsOf (ts : List Token) : List Token := ts.filter fun | .text _ => false | _ => true

@[simp] theorem tagsOf_nil : tagsOf [] = [] := rfl
@[simp] theorem tagsOf_text (t : Str) (ts : List Token) : tagsOf (.text t :: ts) = tagsOf ts := rfl
@[simp] theorem tagsOf_open (k : Str) (as : List (Str × Str)) (ts : List Token) :
    tagsOf (.open k as :: ts) = .open k as :: tagsOf ts := rfl
@[simp] theorem tagsOf_close (k : Str) (ts : List Token) : tagsOf (.close k :: ts) = .close k :: tagsOf ts := rfl
@[simp] theorem tagsOf_append (a b : List Token) : tagsOf (a ++ b) = tagsOf a ++ tagsOf b := by simp [tagsOf]

theorem tagsOf_flushT (t : Str) : tagsOf (flushT t) = [] := by unfold flushT; split <;> rfl

theorem tagsOf_emitted (acc : Str) (ts : List Token) : tagsOf (emitted acc ts) = tagsOf ts := by
  induction ts generalizing acc with
  | nil => rfl
  | cons k ts ih => cases k <;> simp [emitted, ih, tagsOf_flushT]

theorem tagsOf_norm (ts : List Token) : tagsOf (norm ts) = tagsOf ts := by
  simp [norm, tagsOf_emitted, tagsOf_flushT]

theorem tagsOf_linesToks (ls : List Line) : tagsOf (linesToks ls) = ls.flatMap fun l => tagsOf l.2 := by
  induction ls with
  | nil => rfl
  | cons a ls ih =>
    cases ls with
    | nil => simp [linesToks]
    | cons b ls => simp only [linesToks, tagsOf_append, tagsOf_text, List.flatMap_cons] at ih ⊢; rw [ih]

theorem tagsOf_tagLines (tag : String) (attrs : List (String × Str)) (ls : List Line) :
    tagsOf (linesToks (tagLines tag attrs ls)) =
      .open (S tag) (readAttrs attrs) :: tagsOf (linesToks ls) ++ [.close (S tag)] := by
  by_cases h2 : 2 ≤ ls.length
  · rw [tagLines_of_two h2]; simp [tagsOf_linesToks, wrapLines, Line.indent, List.flatMap_map]
  · rw [tagLines_of_lt_two h2]; simp [linesToks, tagLine]

private theorem intercalate_noBreak : ∀ ws : List Str, (∀ w ∈ ws, NoBreak w) → NoBreak ((S " ").intercalate ws)
  | [], _ => by simp [List.intercalate, NoBreak]
  | [w], h => by
    have : (S " ").intercalate [w] = w := by simp [List.intercalate]
    rw [this]; exact h w (List.mem_cons_self ..)
  | w :: w' :: ws, h => by
    rw [List.intercalate_cons_cons]
    exact ((h w (List.mem_cons_self ..)).append (by decide)).append
      (intercalate_noBreak (w' :: ws) fun x hx => h x (List.mem_cons_of_mem _ hx))

theorem cellClasses_noBreak (c : PCell) : NoBreak (S (" ".intercalate (cellClasses c))) := by
  simp only [S, String.toList_intercalate]
  exact intercalate_noBreak _
    (cellClasses_forall (fun k => (kind_class k).2.1) (fun s b hb => (border_class s b hb).2.1) c)

theorem cellAttrs_ok (c : PCell) : ∀ x ∈ cellAttrs c, IsName x.1 ∧ NoBreak x.2 := by
  intro x hx
  simp only [cellAttrs, List.mem_append, List.mem_singleton] at hx
  rcases hx with (rfl | hx) | hx
  · exact ⟨(by decide : IsName "class"), cellClasses_noBreak c⟩
  · split at hx
    · simp only [List.mem_singleton] at hx; subst hx
      exact ⟨(by decide : IsName "colspan"), noBreak_numChars (natDigits_numChars _)⟩
    · cases hx
  · split at hx
    · simp only [List.mem_singleton] at hx; subst hx
      exact ⟨(by decide : IsName "rowspan"), noBreak_numChars (natDigits_numChars _)⟩
    · cases hx

/-- the lines `renderTable` writes for a cell whose body is the lines `bl`, for a row and for the whole table (`tagLines`:
    a tag around several lines goes on lines of its own, the body indented) -/
noncomputable def tdLines (c : PCell) (bl : List Line) : List Line := tagLines "td" (cellAttrs c) bl
noncomputable def trLines (bl : PCell → List Line) (row : List PCell) : List Line :=
  tagLines "tr" [] (row.flatMap fun c => tdLines c (bl c))
noncomputable def tableLines (attrs : List (String × Str)) (bl : PCell → List Line) (rows : List (List PCell)) :
    List Line :=
  tagLines "table" attrs (rows.flatMap (trLines bl))

theorem joinNl_map_lines {α : Type} (xs : List α) (f : α → Str) (g : α → List Line) (hg : ∀ x ∈ xs, g x ≠ [])
    (h : ∀ x ∈ xs, f x = linesStr (g x)) : joinNl (xs.map f) = linesStr (xs.flatMap g) := by
  have e : xs.map f = (xs.map g).map linesStr := by
    rw [List.map_map]; exact List.map_congr_left h
  rw [e, joinNl_linesStr _ (by intro y hy; obtain ⟨x, hx, rfl⟩ := List.mem_map.1 hy; exact hg x hx), List.flatMap_def]

theorem element_lines {α : Type} (tag : String) (attrs : List (String × Str)) (ht : IsName tag)
    (ha : ∀ x ∈ attrs, IsName x.1 ∧ NoBreak x.2) (xs : List α) (f : α → Str) (g : α → List Line)
    (hne : ∀ x ∈ xs, g x ≠ []) (h : ∀ x ∈ xs, f x = linesStr (g x) ∧ ∀ l ∈ g x, l.Valid) :
    tagBody tag attrs (joinNl (xs.map f)) = linesStr (tagLines tag attrs (xs.flatMap g)) ∧
      ∀ l ∈ tagLines tag attrs (xs.flatMap g), l.Valid := by
  rw [joinNl_map_lines xs f g hne fun x hx => (h x hx).1]
  exact (BodyLines.of_valid _ (List.forall_mem_flatMap.2 fun x hx => (h x hx).2)).tag tag attrs ht ha

theorem tr_lines (body : PCell → Str) (bl : PCell → List Line) (row : List PCell)
    (hb : ∀ c ∈ row, BodyLines (body c) (bl c)) :
    tagBody "tr" [] (joinNl (row.map fun c => tagBody "td" (cellAttrs c) (body c))) = linesStr (trLines bl row) ∧
      ∀ l ∈ trLines bl row, l.Valid :=
  element_lines "tr" [] (by decide) (by simp) row _ _ (fun c _ => tagLines_ne_nil _ _ _) fun c hc =>
    (hb c hc).tag "td" (cellAttrs c) (by decide) (cellAttrs_ok c)

theorem tagsOf_linesToks_flatMap {α : Type} (xs : List α) (g : α → List Line) :
    tagsOf (linesToks (xs.flatMap g)) = xs.flatMap fun x => tagsOf (linesToks (g x)) := by
  simp only [tagsOf_linesToks, List.flatMap_assoc]

/-- the tags of a table given as lines: `<table>`, per row `<tr>`, per cell `<td>` with the attributes of the cell
    around the tags of its body -/
def tableTags (attrs : List (String × Str)) (bt : PCell → List Token) (rows : List (List PCell)) : List Token :=
  .open (S "table") (readAttrs attrs) ::
    (rows.flatMap (fun row => .open (S "tr") [] ::
      (row.flatMap (fun c => .open (S "td") (readAttrs (cellAttrs c)) :: (bt c ++ [.close (S "td")])) ++
      [.close (S "tr")])) ++ [.close (S "table")])

theorem tagsOf_tableLines (attrs : List (String × Str)) (bl : PCell → List Line) (rows : List (List PCell)) :
    tagsOf (linesToks (tableLines attrs bl rows)) = tableTags attrs (fun c => tagsOf (linesToks (bl c))) rows := by
  simp only [tableLines, trLines, tdLines, tableTags, tagsOf_tagLines, tagsOf_linesToks_flatMap, readAttrs, List.map_nil,
    List.cons_append]

/-- the attributes of the `<table>` tag: the class, and the id if the tree is a sub recipe with one output -/
def tableAttrs (id : Option Str) : List (String × Str) := ("class", S "rg-table") :: id.toList.map fun i => ("id", i)

theorem tableAttrs_ok (id : Option Str) (hid : ∀ i, id = some i → NoBreak i) :
    ∀ x ∈ tableAttrs id, IsName x.1 ∧ NoBreak x.2 := by
  intro x hx
  simp only [tableAttrs, List.mem_cons, List.mem_map, Option.mem_toList] at hx
  rcases hx with rfl | ⟨i, hi, rfl⟩
  · exact ⟨(by decide : IsName "class"), by decide⟩
  · exact ⟨(by decide : IsName "id"), hid i hi⟩

/-- **the text of a rendered table is the lines `tableLines`**, which are valid lines — provided every cell body
    is given as lines (`BodyLines`) and the id has no line break -/
theorem renderTable_lines (pre : Str) (tree : Tree) (T : Tbl) (id : Option Str) (bl : PCell → List Line)
    (hid : ∀ i, id = some i → NoBreak i)
    (hb : ∀ c ∈ (emitRows T).flatten, BodyLines (renderCellBody pre (nodeAt tree c.path)) (bl c)) :
    renderTable pre tree T id = linesStr (tableLines (tableAttrs id) bl (emitRows T)) ∧
      ∀ l ∈ tableLines (tableAttrs id) bl (emitRows T), l.Valid := by
  rw [renderTable_eq]
  exact element_lines "table" (tableAttrs id) (by decide) (tableAttrs_ok id hid) (emitRows T) _ _
    (fun _ _ => tagLines_ne_nil _ _ _) fun row hr => tr_lines _ bl row fun c hc => hb c (List.mem_flatten.2 ⟨row, hr, hc⟩)

/-- **the tags of a rendered table**: `<table>`, per emitted row a `<tr>`, per cell a `<td>` whose attributes are
    `cellAttrs` of the cell (as the tokenizer reads them), around the tags of the cell's body -/
theorem renderTable_tags (pre : Str) (tree : Tree) (T : Tbl) (id : Option Str) (bl : PCell → List Line)
    (hid : ∀ i, id = some i → NoBreak i)
    (hb : ∀ c ∈ (emitRows T).flatten, BodyLines (renderCellBody pre (nodeAt tree c.path)) (bl c)) :
    tagsOf (tokens (renderTable pre tree T id)) =
      tableTags (tableAttrs id) (fun c => tagsOf (linesToks (bl c))) (emitRows T) := by
  obtain ⟨e, hv⟩ := renderTable_lines pre tree T id bl hid hb
  rw [e, tokens_of_frag (linesFrag _ hv), tagsOf_norm, tagsOf_tableLines]

/-- scan the tokens from the right: the `<td>`s met before the next `<tr>` to the left, and the rows completed -/
def scanRows : List Token → List Attrs × List (List Attrs)
  | [] => ([], [])
  | .open tag as :: ts =>
    if tag = S "tr" then ([], (scanRows ts).1 :: (scanRows ts).2)
    else if tag = S "td" then (as :: (scanRows ts).1, (scanRows ts).2)
    else scanRows ts
  | _ :: ts => scanRows ts

def rowsOfTokens (ts : List Token) : List (List Attrs) := (scanRows ts).2

theorem scanRows_open_td (as : Attrs) (ts : List Token) :
    scanRows (.open (S "td") as :: ts) = (as :: (scanRows ts).1, (scanRows ts).2) := by
  have e : (S "td" = S "tr") = False := by decide
  simp only [scanRows, e, if_false, if_true]

theorem scanRows_open_tr (as : Attrs) (ts : List Token) :
    scanRows (.open (S "tr") as :: ts) = ([], (scanRows ts).1 :: (scanRows ts).2) := by
  simp only [scanRows, if_true]

theorem scanRows_close (k : Str) (ts : List Token) : scanRows (.close k :: ts) = scanRows ts := rfl

theorem scanRows_open_other {tag : Str} (as : Attrs) (ts : List Token) (h1 : tag ≠ S "tr") (h2 : tag ≠ S "td") :
    scanRows (.open tag as :: ts) = scanRows ts := by
  simp only [scanRows, h1, h2, if_false]

theorem scanRows_tagsOf (ts : List Token) : scanRows (tagsOf ts) = scanRows ts := by
  induction ts with
  | nil => rfl
  | cons k ts ih => cases k <;> simp [scanRows, ih]

/-- no `<tr>` or `<td>` among the tokens: a cell body cannot be mistaken for a row or a cell -/
def NoCellTags (ts : List Token) : Prop := ∀ tag as, Token.open tag as ∈ ts → tag ≠ S "tr" ∧ tag ≠ S "td"

theorem NoCellTags.tagsOf {ts : List Token} (h : NoCellTags ts) : NoCellTags (tagsOf ts) :=
  fun tag as hm => h tag as (List.mem_filter.1 hm).1

theorem scanRows_append_noCellTags (a b : List Token) (h : NoCellTags a) : scanRows (a ++ b) = scanRows b := by
  induction a with
  | nil => rfl
  | cons k a ih =>
    have ih' := ih fun tag as hm => h tag as (List.mem_cons_of_mem _ hm)
    cases k with
    | «open» tag as =>
      have := h tag as (List.mem_cons_self ..)
      rw [List.cons_append, scanRows_open_other _ _ this.1 this.2]; exact ih'
    | close tag => exact ih'
    | text t => exact ih'

private theorem scanRows_cells (bt : PCell → List Token) (row : List PCell) (rest : List Token)
    (h : ∀ c ∈ row, NoCellTags (bt c)) :
    scanRows (row.flatMap (fun c => .open (S "td") (readAttrs (cellAttrs c)) :: (bt c ++ [.close (S "td")])) ++ rest) =
      (row.map (fun c => readAttrs (cellAttrs c)) ++ (scanRows rest).1, (scanRows rest).2) := by
  induction row with
  | nil => rfl
  | cons c row ih =>
    have ih' := ih fun x hx => h x (List.mem_cons_of_mem _ hx)
    simp only [List.flatMap_cons, List.append_assoc, List.cons_append, List.nil_append]
    rw [scanRows_open_td, scanRows_append_noCellTags _ _ (h c (List.mem_cons_self ..)), scanRows_close, ih']
    rfl

private theorem scanRows_rows (bt : PCell → List Token) (rows : List (List PCell)) (rest : List Token)
    (h : ∀ c ∈ rows.flatten, NoCellTags (bt c)) (hr : (scanRows rest).1 = []) :
    scanRows (rows.flatMap (fun row => .open (S "tr") [] ::
      (row.flatMap (fun c => .open (S "td") (readAttrs (cellAttrs c)) :: (bt c ++ [.close (S "td")])) ++
      [.close (S "tr")])) ++ rest) =
      ([], rows.map (·.map fun c => readAttrs (cellAttrs c)) ++ (scanRows rest).2) := by
  induction rows with
  | nil => rw [List.flatMap_nil, List.nil_append, List.map_nil, List.nil_append, ← hr]
  | cons row rows ih =>
    have ih' := ih fun c hc => h c (by simp only [List.flatten_cons, List.mem_append]; exact Or.inr hc)
    have hrow : ∀ c ∈ row, NoCellTags (bt c) :=
      fun c hc => h c (by simp only [List.flatten_cons, List.mem_append]; exact Or.inl hc)
    simp only [List.flatMap_cons, List.append_assoc, List.cons_append, List.nil_append]
    rw [scanRows_open_tr, scanRows_cells bt row _ hrow, scanRows_close, ih']
    simp

theorem rowsOfTokens_tableTags (attrs : List (String × Str)) (bt : PCell → List Token) (rows : List (List PCell))
    (h : ∀ c ∈ rows.flatten, NoCellTags (bt c)) :
    rowsOfTokens (tableTags attrs bt rows) = rows.map (·.map fun c => readAttrs (cellAttrs c)) := by
  rw [rowsOfTokens, tableTags, scanRows_open_other _ _ (by decide) (by decide), scanRows_rows bt rows _ h rfl]
  exact List.append_nil _

/-- **the string level**: the rows read off the tokens of the rendered table are `htmlRows`: for each cell an
    `.open "td"` token whose attributes are those used in `vcells_of_html` — provided the bodies are given as lines
    without `<tr>` or `<td>` of their own -/
theorem rowsOfTokens_renderTable (pre : Str) (tree : Tree) (T : Tbl) (id : Option Str) (bl : PCell → List Line)
    (hid : ∀ i, id = some i → NoBreak i)
    (hb : ∀ c ∈ (emitRows T).flatten, BodyLines (renderCellBody pre (nodeAt tree c.path)) (bl c) ∧
      NoCellTags (linesToks (bl c))) :
    rowsOfTokens (tokens (renderTable pre tree T id)) = htmlRows T := by
  have h := renderTable_tags pre tree T id bl hid fun c hc => (hb c hc).1
  rw [rowsOfTokens, ← scanRows_tagsOf, h]
  exact rowsOfTokens_tableTags _ _ _ fun c hc => (hb c hc).2.tagsOf

/-- the tags `renderCellBody` writes -/
def bodyTagNames : List Str := [S "span", S "sup", S "sub", S "a", S "ul", S "li"]

def BodyTagsOnly (ts : List Token) : Prop := ∀ tag as, Token.open tag as ∈ ts → tag ∈ bodyTagNames

theorem BodyTagsOnly.noCellTags {ts : List Token} (h : BodyTagsOnly ts) : NoCellTags ts := by
  intro tag as hm
  have := h tag as hm
  constructor
  · rintro rfl
    revert this
    decide
  · rintro rfl
    revert this
    decide

@[simp] theorem bodyTagsOnly_nil : BodyTagsOnly [] := by simp [BodyTagsOnly]
@[simp] theorem bodyTagsOnly_append (a b : List Token) : BodyTagsOnly (a ++ b) ↔ BodyTagsOnly a ∧ BodyTagsOnly b := by
  simp [BodyTagsOnly, or_imp, forall_and]
@[simp] theorem bodyTagsOnly_text (t : Str) (ts : List Token) : BodyTagsOnly (.text t :: ts) ↔ BodyTagsOnly ts := by
  simp [BodyTagsOnly]
@[simp] theorem bodyTagsOnly_close (k : Str) (ts : List Token) : BodyTagsOnly (.close k :: ts) ↔ BodyTagsOnly ts := by
  simp [BodyTagsOnly]
@[simp] theorem bodyTagsOnly_open (k : Str) (as : List (Str × Str)) (ts : List Token) :
    BodyTagsOnly (.open k as :: ts) ↔ k ∈ bodyTagNames ∧ BodyTagsOnly ts := by
  simp [BodyTagsOnly, or_imp, forall_and]

theorem bodyTagsOnly_flatMap {α : Type} (xs : List α) (f : α → List Token) (h : ∀ x ∈ xs, BodyTagsOnly (f x)) :
    BodyTagsOnly (xs.flatMap f) := by
  intro tag as hm
  obtain ⟨x, hx, hm⟩ := List.mem_flatMap.1 hm
  exact h x hx tag as hm

private theorem mem_span : S "span" ∈ bodyTagNames := by decide
private theorem mem_a : S "a" ∈ bodyTagNames := by decide
private theorem mem_ul : S "ul" ∈ bodyTagNames := by decide
private theorem mem_li : S "li" ∈ bodyTagNames := by decide

theorem numToks_tags (n : Num) : BodyTagsOnly (numToks n) := by
  intro tag as hm
  rcases numToks_open n tag as hm with rfl | rfl
  · decide
  · decide

theorem numSpan_tags (cls : String) (n : Num) : BodyTagsOnly (numSpan cls n) := by
  simp [numSpan, mem_span, numToks_tags]

theorem svsToks_tags (s : SVS) : BodyTagsOnly (svsToks s) := by
  unfold svsToks
  apply bodyTagsOnly_flatMap
  intro p _
  cases p with
  | text t => simp
  | num n => exact numSpan_tags _ n

theorem qToks_tags (q : Quantity) : BodyTagsOnly (qToks q) := by
  unfold qToks
  split
  · simp [numSpan_tags]
  · simp [convToks, mem_span, numToks_tags]

theorem propToks_tags (v : Option Num) (p : Bool) (w : Option Str) (s : Str) : BodyTagsOnly (propToks v p w s) := by
  unfold propToks
  split
  · simp [mem_span]
  · simp [mem_span, numToks_tags]

theorem aToks_tags (a : Amount) : BodyTagsOnly (aToks a) := by
  cases a with
  | quantity q => simp [aToks, qToks_tags]
  | proportion v p w s =>
    simp only [aToks]
    split
    · simp
    · simp [propToks_tags]

theorem liToks_tags (pre : Str) (n : SVS) : BodyTagsOnly (liToks pre n) := by
  simp [liToks, mem_li, svsToks_tags]

theorem cellToks_tags (pre : Str) (t : Tree) : BodyTagsOnly (cellToks pre t) := by
  cases t with
  | ingredient d q => cases q <;> simp [cellToks, qToks_tags, svsToks_tags]
  | step d i => exact svsToks_tags d
  | reference sub idx a => simp [cellToks, mem_a, aToks_tags, svsToks_tags]
  | sub b names sh =>
    simp only [cellToks]
    split
    · exact svsToks_tags _
    · split
      · simp [mem_ul]
      · simp only [bodyTagsOnly_open, bodyTagsOnly_append, bodyTagsOnly_text, bodyTagsOnly_close, bodyTagsOnly_nil,
          and_true, mem_ul, true_and]
        apply bodyTagsOnly_flatMap
        intro n _
        simp [liToks_tags]

/-- the cell's output list goes over several lines -/
def multiLine : Tree → Bool
  | .sub _ names _ => decide (2 ≤ names.length)
  | _ => false

/-- the body of the cell of node `n` can be read line by line: `CellOK` (`Props/C04b.lean`), and a one-line body has
    no line break (in the sense of `str.splitlines`) at all — the table re-indents it -/
def CellLineOK (pre : Str) (n : Tree) : Prop :=
  CellOK pre n ∧ (multiLine n = false → NoBreak (renderCellBody pre n))

theorem cell_bodyLines (pre : Str) (n : Tree) (h : CellLineOK pre n) :
    BodyLines (renderCellBody pre n) (cellLines pre n) := by
  obtain ⟨hok, hnb⟩ := h
  cases n with
  | ingredient d q => exact BodyLines.single (cellToks_frag pre _ hok) (hnb rfl)
  | step d i => exact BodyLines.single (cellToks_frag pre _ hok) (hnb rfl)
  | reference s i a => exact BodyLines.single (cellToks_frag pre _ hok) (hnb rfl)
  | sub b names sh =>
    by_cases h2 : 2 ≤ names.length
    · obtain ⟨hp, hn⟩ := hok.resolve_left (by omega)
      obtain ⟨e, hv⟩ := outputList_lines pre b names sh h2 hp hn
      rw [e]
      exact BodyLines.of_valid _ hv
    · simp only [cellLines, if_neg h2]
      exact BodyLines.single (cellToks_frag pre _ hok) (hnb (by simpa [multiLine] using h2))

theorem cellLines_noCellTags (pre : Str) (n : Tree) : NoCellTags (linesToks (cellLines pre n)) := by
  rw [linesToks_cellLines]
  exact (cellToks_tags pre n).noCellTags

/-- every cell of the rendered tree has a body that can be read line by line, and the id prefix has no line break -/
def PageOK (pre : Str) (t : Tree) : Prop :=
  NoBreak pre ∧ ∀ c ∈ (layout t).cells, CellLineOK pre (nodeAt t c.path)

/-- **the string level**: tokenize the text `renderRecipeTree` writes; the attribute lists of the `<td>` tokens,
    grouped by `<tr>`, are exactly `htmlRows (layout t)` — the `class`, `rowspan` and `colspan` attributes used in
    `vcells_of_html` -/
theorem html_string_level (pre : Str) (t : Tree) (hw : C02.wf t = true) (h : PageOK pre t) :
    rowsOfTokens (tokens (renderRecipeTree pre t)) = htmlRows (layout t) := by
  obtain ⟨hp, hc⟩ := h
  have hc' : ∀ c ∈ (emitRows (layout t)).flatten, CellLineOK pre (nodeAt t c.path) :=
    fun c hm => hc c ((emitRows_perm _ (C02.layout_tiles t hw)).mem_iff.1 hm)
  rw [renderRecipeTree_eq]
  refine rowsOfTokens_renderTable pre t (layout t) (rootId pre t) (fun c => cellLines pre (nodeAt t c.path)) ?_
    fun c hm => ⟨cell_bodyLines pre _ (hc' c hm), cellLines_noCellTags pre _⟩
  intro i hi
  cases t with
  | sub b ns sh =>
    match ns, hi with
    | [n], hi => simp only [rootId, Option.some.injEq] at hi; rw [← hi]; exact anchorId_noBreak pre n hp
  | ingredient d q => cases hi
  | step d i' => cases hi
  | reference s' i' a => cases hi

/-- **from the text to the table**: the grid a browser forms from the tokens of the rendered text, with the classes
    on each `<td>`, is the visible abstract table -/
theorem html_string_grid_is_table (pre : Str) (t : Tree) (hw : C02.wf t = true) (h : PageOK pre t) :
    vcellsOfRows (rowsOfTokens (tokens (renderRecipeTree pre t))) = some (vis (layout t)) := by
  rw [html_string_level pre t hw h, html_grid_is_table t hw]

/-- **from the text to the drawing**: the drawing of the recipe is read back from the rendered text alone -/
theorem html_string_readback (pre : Str) (t : Tree) (hw : C02.wf t = true) (hm : multiOnlyAtRoot t)
    (h : PageOK pre t) :
    readbackRows (rowsOfTokens (tokens (renderRecipeTree pre t))) = some (drawing t) := by
  rw [html_string_level pre t hw h, html_readback t hw hm]

/-- for what `compile` returns only the texts have to be one-line (`PageOK`) -/
theorem compile_html_string_readback (srcs : List Str) (bs : List Block) (h : compile srcs = .ok bs) (pre : Str) :
    ∀ b ∈ bs, ∀ t ∈ b, PageOK pre t →
      readbackRows (rowsOfTokens (tokens (renderRecipeTree pre t))) = some (drawing t) :=
  C02.compile_ind (html_string_readback pre) h

/-- Neither proved nor refuted: the unconditional statement (every tree, every prefix, texts with line breaks or not).
    `html_string_level` proves it under `PageOK`; without it `tagBody` re-indents text inside the cells, which
    changes white space in texts but — as far as the renderer's escaping goes — no tag. -/
def html_string_level_Full : Prop :=
  ∀ (pre : Str) (t : Tree), C02.wf t = true → rowsOfTokens (tokens (renderRecipeTree pre t)) = htmlRows (layout t)

theorem cellLineOK_step (pre : Str) (d : SVS) (i : List Tree) (h : NoBreakSvs d) : CellLineOK pre (.step d i) :=
  ⟨trivial, fun _ => noBreak_renderSvs h⟩

theorem cellLineOK_ingredient (pre : Str) (d : SVS) (h : NoBreakSvs d) : CellLineOK pre (.ingredient d none) :=
  ⟨fun q' hq => (by cases hq), fun _ => by simpa [renderCellBody] using noBreak_renderSvs h⟩

theorem cellLineOK_header (pre : Str) (b : Tree) (n : SVS) (sh : Bool) (h : NoBreakSvs n) :
    CellLineOK pre (.sub b [n] sh) :=
  ⟨Or.inl rfl, fun _ => by simpa [renderCellBody] using noBreak_renderSvs h⟩

theorem cellLineOK_outputs (pre : Str) (b : Tree) (names : List SVS) (sh : Bool) (h2 : 2 ≤ names.length)
    (hp : NoBreak pre) (hn : ∀ n ∈ names, NoBreakSvs n) : CellLineOK pre (.sub b names sh) :=
  ⟨Or.inr ⟨hp, hn⟩, fun hm => by simp [multiLine, h2] at hm⟩

theorem cellLineOK_reference_whole (pre : Str) (sub : Tree) (idx : Nat) (hp : NoBreak pre)
    (h : NoBreakSvs (refName sub idx)) : CellLineOK pre (.reference sub idx .whole) := by
  have ha : OneLineA Amount.whole := ⟨fun w hw => (by cases hw), by simp⟩
  refine ⟨⟨ha, fun t ht => (h t ht).nl⟩, fun _ => ?_⟩
  have e : renderCellBody pre (.reference sub idx .whole) =
      tagBody "a" [("href", '#' :: anchorId pre (refName sub idx))] (renderSvs (refName sub idx)) := by
    simp [renderCellBody, refName, renderAmount, Amount.whole]
  rw [e]
  refine noBreak_tagBody "a" _ _ isName_a ?_ (noBreak_renderSvs h)
  intro x hx
  simp only [List.mem_singleton] at hx
  subst hx
  exact ⟨isName_href, NoBreak.cons (by decide) (anchorId_noBreak pre _ hp)⟩

end StringLevel

/-- the classes are read as a set: order and repetition do not matter, unknown classes are ignored -/
example : cellSpecOfClasses [S "x", S "rg-border-bottom-none", S "rg-step", S "rg-border-left-sub-recipe", S "rg-step"] =
    some (.step, .subRecipe, .normal, .normal, .none) := by
  simp only [cellSpecOfClasses, sideBorder, borderClassStr_eq]
  decide +kernel
example : cellSpecOfClasses [S "rg-border-bottom-none"] = none := by decide +kernel
/-- one `<td>` as the tokenizer reads it -/
example : tdSpec [(S "class", S "rg-step  rg-border-right-sub-recipe"), (S "rowspan", S "12")] =
    ((12, 1), [S "rg-step", S "rg-border-right-sub-recipe"]) := by decide +kernel
example : vcellsOfRows [[[(S "class", S "rg-ingredient")], [(S "class", S "rg-step rg-border-top-none"), (S "rowspan", S "2")]],
      [[(S "class", S "rg-reference")]]] =
    some [⟨0, 0, 1, 1, .ingredient, .normal, .normal, .normal, .normal⟩,
          ⟨0, 1, 2, 1, .step, .normal, .normal, .none, .normal⟩,
          ⟨1, 0, 1, 1, .reference, .normal, .normal, .normal, .normal⟩] := by
  simp only [vcellsOfRows, vcellAt, cellSpecOfClasses, sideBorder, borderClassStr_eq]
  decide +kernel
/-- a `<td>` without a kind class is not a cell of a recipe table -/
example : vcellsOfRows [[[(S "class", S "rg-border-top-none")]]] = none := by decide +kernel

example : vcellsOfRows (htmlRows (layout C02.exTree)) = some (vis (layout C02.exTree)) :=
  html_grid_is_table _ (by decide)
example : readbackRows (htmlRows (layout C02.exTree2)) =
    some (.multi (.outlined (.step [.leaf .ingredient, .titled (.leaf .ingredient)]))) :=
  html_readback C02.exTree2 (by decide) (by decide)
example := html_readback C02.exTree2 (by decide) (by decide)

/-- what the examples below and those on `compile` at the end of the file say of `C02.exSource`, evaluated together -/
private theorem exSource_evaluated :
    ((match compile C02.exSource with
      | .ok bs => bs.flatten.all fun t =>
          decide (gridOfRows (htmlRows (layout t)) =
            (rasterSort (layout t).cells).map fun c => (c.row, c.col, c.rows, c.cols)) &&
          decide (vcellsOfRows (htmlRows (layout t)) = some (vis (layout t))) &&
          decide (readbackRows (htmlRows (layout t)) = some (drawing t))
      | _ => false) = true ∧
     (match compile C02.exSource with
      | .ok bs => bs.flatten.map fun t => gridOfRows (htmlRows (layout t))
      | _ => []) =
      [[(0, 0, 1, 4), (1, 0, 1, 3), (1, 3, 4, 1), (2, 0, 1, 2), (2, 2, 2, 1), (3, 0, 1, 1), (3, 1, 1, 1), (4, 0, 1, 3)],
       [(0, 0, 1, 1), (0, 1, 1, 1)]]) ∧
    ((match compile C02.exSource with
      | .ok bs => bs.flatten.map fun t => readbackRows (htmlRows (layout t))
      | _ => []) =
      [some (.titled (.step [.titled (.step [.titled (.step [.leaf .ingredient])]), .leaf .ingredient])),
       some (.outlined (.step [.leaf .reference]))] ∧
     (match compile C02.exSource with
      | .ok bs => bs.flatten.all fun t =>
          decide (rowsOfTokens (C10.tokens (renderRecipeTree (S "recipe-") t)) = htmlRows (layout t)) &&
          decide (readbackRows (rowsOfTokens (C10.tokens (renderRecipeTree (S "recipe-") t))) = some (drawing t))
      | _ => false) = true) ∧
    (match compile C02.exSource with
     | .ok bs => bs.map List.length == [1, 1] && bs.flatten.all (fun t => C02.wf t && singleRoot t)
     | _ => false) = true := by
  simp only [renderRecipeTree_fast, htmlRows_fast]
  decide +kernel

/-- the same for a text with two outputs and a quantity -/
private theorem yolk_evaluated :
    ((match compile ["YOLK, WHITE = SPLIT(EGG)\nMIX(YOLK, 2 tbsp SUGAR)".toList] with
     | .ok bs => bs.flatten.map fun t => readbackRows (htmlRows (layout t))
     | _ => []) =
     [some (.multi (.outlined (.step [.leaf .ingredient]))),
      some (.outlined (.step [.leaf .reference, .leaf .ingredient]))] ∧
    (match compile ["YOLK, WHITE = SPLIT(EGG)\nMIX(YOLK, 2 tbsp SUGAR)".toList] with
     | .ok bs => bs.flatten.all fun t =>
         decide (rowsOfTokens (C10.tokens (renderRecipeTree (S "recipe-") t)) = htmlRows (layout t)) &&
         decide (readbackRows (rowsOfTokens (C10.tokens (renderRecipeTree (S "recipe-") t))) = some (drawing t))
     | _ => false) = true) ∧
    (match compile ["YOLK, WHITE = SPLIT(EGG)\nMIX(YOLK, 2 tbsp SUGAR)".toList] with
     | .ok [[.sub _ ns _, t]] => ns.length == 2 && C02.wf t && singleRoot t
     | _ => false) = true := by
  simp only [renderRecipeTree_fast, htmlRows_fast]
  decide +kernel

/-- **from a source text to the read-back**, evaluated by the kernel on `C02.exSource`
    (`A := MIX(FIG)`, `B := HEAT(A)`, `C = SERVE(B, RYE)`; `EAT(C)`): compile, lay out, emit the rows, form the grid,
    decode the classes, read the drawing back -/
example : (match compile C02.exSource with
    | .ok bs => bs.flatten.all fun t =>
        decide (gridOfRows (htmlRows (layout t)) =
          (rasterSort (layout t).cells).map fun c => (c.row, c.col, c.rows, c.cols)) &&
        decide (vcellsOfRows (htmlRows (layout t)) = some (vis (layout t))) &&
        decide (readbackRows (htmlRows (layout t)) = some (drawing t))
    | _ => false) = true := exSource_evaluated.1.1

/-- the grids a browser forms for the two tables -/
example : (match compile C02.exSource with
    | .ok bs => bs.flatten.map fun t => gridOfRows (htmlRows (layout t))
    | _ => []) =
    [[(0, 0, 1, 4), (1, 0, 1, 3), (1, 3, 4, 1), (2, 0, 1, 2), (2, 2, 2, 1), (3, 0, 1, 1), (3, 1, 1, 1), (4, 0, 1, 3)],
     [(0, 0, 1, 1), (0, 1, 1, 1)]] := exSource_evaluated.1.2

/-- and the drawings read back from them: three nested titled boxes; a step on a reference -/
example : (match compile C02.exSource with
    | .ok bs => bs.flatten.map fun t => readbackRows (htmlRows (layout t))
    | _ => []) =
    [some (.titled (.step [.titled (.step [.titled (.step [.leaf .ingredient])]), .leaf .ingredient])),
     some (.outlined (.step [.leaf .reference]))] := exSource_evaluated.2.1.1

/-- a statement with two outputs: the outputs column is read back as `multi` -/
example : (match compile ["YOLK, WHITE = SPLIT(EGG)\nMIX(YOLK, 2 tbsp SUGAR)".toList] with
    | .ok bs => bs.flatten.map fun t => readbackRows (htmlRows (layout t))
    | _ => []) =
    [some (.multi (.outlined (.step [.leaf .ingredient]))),
     some (.outlined (.step [.leaf .reference, .leaf .ingredient]))] := yolk_evaluated.1.1

/-- the theorems apply to what `compile` returns (non-vacuity of `compile_html_readback`) -/
example : ∃ bs, compile C02.exSource = .ok bs ∧ bs ≠ [] ∧
    ∀ b ∈ bs, ∀ t ∈ b, readbackRows (htmlRows (layout t)) = some (drawing t) := by
  have hg := exSource_evaluated.1.2
  cases h : compile C02.exSource with
  | ok bs =>
    refine ⟨bs, rfl, ?_, compile_html_readback _ bs h⟩
    rintro rfl
    rw [h] at hg; cases hg
  | _ => rw [h] at hg; cases hg

/-- the hypothesis of `vcells_of_html` matters: from a table with a gap the browser forms another grid -/
example : let T : Tbl := ⟨1, 2, [{ row := 0, col := 1, rows := 1, cols := 1, path := [], kind := .step }]⟩
    vcellsOfRows (htmlRows T) ≠ some (vis T) := by decide +kernel

section StringExamples
open RG.C10

private def tx (s : String) : SVS := [.text s.toList]
/-- `mix(egg, dough: rye)`: a step on an ingredient and a titled sub recipe -/
private def exText : Tree :=
  .step (tx "mix") [.ingredient (tx "egg") none, .sub (.ingredient (tx "rye") none) [tx "dough"] true]

private theorem noBreakSvs_tx {s : String} (h : NoBreak s.toList) : NoBreakSvs (tx s) := by
  intro t ht
  simp [tx] at ht
  subst ht
  exact h

private theorem exText_pageOK : PageOK (S "recipe-") exText := by
  refine ⟨by decide, ?_⟩
  intro c hc
  have hp : c.path ∈ (layout exText).cells.map (·.path) := List.mem_map.2 ⟨c, hc, rfl⟩
  have e : (layout exText).cells.map (·.path) = [[0], [1], [1, 0], []] := by decide
  rw [e] at hp
  simp only [List.mem_cons, List.not_mem_nil, or_false] at hp
  rcases hp with hp | hp | hp | hp <;> rw [hp]
  · exact cellLineOK_ingredient _ _ (noBreakSvs_tx (by decide))
  · exact cellLineOK_header _ _ _ _ (noBreakSvs_tx (by decide))
  · exact cellLineOK_ingredient _ _ (noBreakSvs_tx (by decide))
  · exact cellLineOK_step _ _ _ (noBreakSvs_tx (by decide))

example : readbackRows (rowsOfTokens (tokens (renderRecipeTree (S "recipe-") exText))) = some (drawing exText) :=
  html_string_readback _ _ (by decide) (by decide) exText_pageOK

/-- evaluated: the `<td>` tokens of the rendered text, row by row -/
example : rowsOfTokens (tokens (renderRecipeTree (S "recipe-") exText)) =
    [[[(S "class", S "rg-ingredient rg-border-left-sub-recipe rg-border-top-sub-recipe")],
      [(S "class", S "rg-step rg-border-right-sub-recipe rg-border-top-sub-recipe rg-border-bottom-sub-recipe"),
       (S "rowspan", S "3")]],
     [[(S "class", S "rg-sub-recipe-header rg-border-left-sub-recipe rg-border-right-sub-recipe rg-border-top-sub-recipe")]],
     [[(S "class", S "rg-ingredient rg-border-left-sub-recipe rg-border-right-sub-recipe rg-border-bottom-sub-recipe")]]] := by
  -- every literal as its character list first (`S_lit`)
  rw [renderRecipeTree_fast]
  S_chars
  decide +kernel

/-- **from a source text to the read-back through the rendered string**, evaluated by the kernel on `C02.exSource`:
    compile, lay out, render to text, tokenize, take the `<td>`s row by row, form the grid, decode the classes, read
    the drawing back -/
example : (match compile C02.exSource with
    | .ok bs => bs.flatten.all fun t =>
        decide (rowsOfTokens (tokens (renderRecipeTree (S "recipe-") t)) = htmlRows (layout t)) &&
        decide (readbackRows (rowsOfTokens (tokens (renderRecipeTree (S "recipe-") t))) = some (drawing t))
    | _ => false) = true := exSource_evaluated.2.1.2

/-- also with an output list over several lines in a cell (two outputs) and a quantity -/
example : (match compile ["YOLK, WHITE = SPLIT(EGG)\nMIX(YOLK, 2 tbsp SUGAR)".toList] with
    | .ok bs => bs.flatten.all fun t =>
        decide (rowsOfTokens (tokens (renderRecipeTree (S "recipe-") t)) = htmlRows (layout t)) &&
        decide (readbackRows (rowsOfTokens (tokens (renderRecipeTree (S "recipe-") t))) = some (drawing t))
    | _ => false) = true := yolk_evaluated.1.2

/-- user text cannot make a cell: markup in a description is escaped -/
example : rowsOfTokens (tokens (renderRecipeTree [] (.ingredient (tx "</td><td class=\"rg-step\">") none))) =
    htmlRows (layout (.ingredient [] none)) := by
  rw [renderRecipeTree_fast, htmlRows_fast]
  decide +kernel

end StringExamples

end RG.C04

namespace RG.C02
/-! The examples of `Props/C02c.lean` on `exSource` and on the text with two outputs stand here, in C02's namespace,
    because they share the evaluation of these texts with the C04 examples above (`exSource_evaluated`,
    `yolk_evaluated`). -/
/-- evaluated: `compile` accepts `exSource` and every tree is well-formed with multi-output sub recipes only at the
    root -/
example : (match compile exSource with
    | .ok bs => bs.map List.length == [1, 1] && bs.flatten.all (fun t => wf t && singleRoot t)
    | _ => false) = true := C04.exSource_evaluated.2.2

/-- a statement with two outputs: the multi-output sub recipe is the root -/
example : (match compile ["YOLK, WHITE = SPLIT(EGG)\nMIX(YOLK, 2 tbsp SUGAR)".toList] with
    | .ok [[.sub _ ns _, t]] => ns.length == 2 && wf t && singleRoot t
    | _ => false) = true := C04.yolk_evaluated.2

end RG.C02
