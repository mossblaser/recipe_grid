import RecipeGrid.Lemmas.Anchors
import RecipeGrid.Props.C09
import RecipeGrid.Props.C08b
import RecipeGrid.Props.C04b
/-! C09 (continued) — on a rendered page every sub-recipe link lands on exactly the definition it refers to, and
    anchor ids are unique exactly when the sanitised output names are.

    The statements are about the emitted ids and hrefs: `idsOf ts pre` are the ids the renderer emits for the root
    trees `ts` of one recipe under the id prefix `pre`, `hrefsOf ts pre` the hrefs of its reference cells
    (`Lemmas/Anchors.lean`).  The first section ties them to the text `renderRecipeTree` writes; read back through
    the tokenizer of `Props/C10b.lean`, a reference cell and a list item carry exactly these attributes
    (`reference_cell_tokens`, `list_item_tokens`), whole pages on the examples.

    Findings (evaluated, and reproduced on the Python code): output names 'a b' and 'a-b' get the same id, so both
    tables carry `id="recipe-a-b"` and both links are `#recipe-a-b`; `sauce {1}` and `sauce 2` have distinct ids at
    scale 1 and the same id at scale 2 — uniqueness of ids is not stable under scaling, though link and definition
    always change together. -/
namespace RG.C09

/-- the prefix the page renderer uses (`idPrefix`, `Model/Markdown.lean`) is the `recipePrefix` in which `Props/C09.lean`
    states the property, so what is proved there holds of the pages -/
theorem idPrefix_eq (i : Nat) : idPrefix i = recipePrefix i := by
  by_cases h : i ≤ 1
  · have : ¬ i > 1 := by omega
    simp [idPrefix, recipePrefix, h, this]
  · have : i > 1 := by omega
    simp [idPrefix, recipePrefix, h, this]

theorem idPrefix_disjoint (i j : Nat) (hi : 1 ≤ i) (hj : 1 ≤ j) (s t : Str) (h : idPrefix i ++ s = idPrefix j ++ t) :
    i = j := by
  rw [idPrefix_eq, idPrefix_eq] at h
  exact prefix_disjoint_pos i j hi hj s t h

/-! ## 0. what the renderer writes -/
/-- the text of a rendered root tree: a `<table>` whose `id` attribute is `rootId` (none for a tree that is not a
    single-output sub recipe), with one `<td>` per emitted cell holding the body of the node the cell shows -/
theorem rendered_table (pre : Str) (t : Tree) :
    renderRecipeTree pre t =
      tagBody "table" (("class", S "rg-table") :: (rootId pre t).toList.map fun i => ("id", i))
        (joinNl ((emitRows (layout t)).map fun row => tagBody "tr" []
          (joinNl (row.map fun c => tagBody "td" (cellAttrs c) (renderCellBody pre (nodeAt t c.path)))))) := by
  rw [renderRecipeTree_eq, renderTable_eq]

/-- the cell bodies, in the order they are written, are those of `writtenNodes` -/
theorem rendered_cells (pre : Str) (t : Tree) :
    (emitRows (layout t)).flatten.map (fun c => renderCellBody pre (nodeAt t c.path)) =
      (writtenNodes t).map (renderCellBody pre) := by
  simp [writtenNodes, List.map_map, Function.comp_def]

/-- which, for a well-formed tree, are the nodes `cellNodes` (each once): so the ids and hrefs written are
    `idsOfTree` / `hrefsOfTree` up to the order of the cells -/
theorem written_perm (pre : Str) (t : Tree) (h : C02.wf t = true) :
    (writtenNodes t).Perm (cellNodes t) ∧ (writtenIds pre t).Perm (idsOfTree pre t) ∧
      (writtenHrefs pre t).Perm (hrefsOfTree pre t) :=
  ⟨writtenNodes_perm t h, writtenIds_perm pre t h, writtenHrefs_perm pre t h⟩

/-- with multi-output sub recipes only at the root (what the constructors ensure), `idsOfTree` lists the ids in the
    very order of the page -/
theorem written_ids_in_order (pre : Str) (t : Tree) (h : C02.wf t = true) (hm : t.multiAtRootOnly = true) :
    writtenIds pre t = idsOfTree pre t ∧ idsOfTree pre t = (subNames t).map (anchorId pre) :=
  ⟨writtenIds_eq pre t h hm, idsOfTree_of_multiAtRootOnly pre t hm⟩

/-- a reference cell is one `<a>` whose `href` is the element of `cellHrefs`; it has no id -/
theorem cell_body_reference (pre : Str) (sub : Tree) (idx : Nat) (a : Amount) :
    ∃ h, cellHrefs pre (.reference sub idx a) = [h] ∧ cellIds pre (.reference sub idx a) = [] ∧
      renderCellBody pre (.reference sub idx a) =
        tagBody "a" [("href", h)] (renderAmount a ++ renderSvs ((subNames sub)[idx]?.getD [])) :=
  ⟨_, rfl, rfl, rfl⟩

/-- an output list is a `<ul>` of one `<li>` per output name, in order, whose `id`s are `cellIds`; it has no href -/
theorem cell_body_outputs (pre : Str) (b : Tree) (ns : List SVS) (sh : Bool) (h : ns.length ≠ 1) :
    cellIds pre (.sub b ns sh) = ns.map (anchorId pre) ∧ cellHrefs pre (.sub b ns sh) = [] ∧
      renderCellBody pre (.sub b ns sh) =
        tagBody "ul" [("class", S "rg-sub-recipe-output-list")]
          (joinNl (ns.map fun n => tagBody "li" [("id", anchorId pre n)] (renderSvs n))) :=
  ⟨by simp [cellIds, h], rfl, by simp only [renderCellBody, h, if_false]⟩

/-- the other cells (ingredient, step, header of a single-output sub recipe) consist of quantity and scaled-value
    strings only; `cellIds` and `cellHrefs` are empty for them -/
theorem cell_body_plain (pre : Str) :
    (∀ d q, renderCellBody pre (.ingredient d q) =
        (match q with | some q => renderQuantity q ++ [' '] | none => []) ++ renderSvs d ∧
      cellIds pre (.ingredient d q) = [] ∧ cellHrefs pre (.ingredient d q) = []) ∧
    (∀ d i, renderCellBody pre (.step d i) = renderSvs d ∧
      cellIds pre (.step d i) = [] ∧ cellHrefs pre (.step d i) = []) ∧
    (∀ b n sh, renderCellBody pre (.sub b [n] sh) = renderSvs n ∧
      cellIds pre (.sub b [n] sh) = [] ∧ cellHrefs pre (.sub b [n] sh) = []) :=
  ⟨fun _ _ => ⟨rfl, rfl, rfl⟩, fun _ _ => ⟨rfl, rfl, rfl⟩, fun _ _ _ => ⟨rfl, rfl, rfl⟩⟩

/-- a page: `renderRecipesAux` replaces the placeholder of block number `j` by the rendering of its (scaled) root
    trees under the prefix of the block's recipe number (`blockIndices`) -/
theorem rendered_page (k : Num) (rs : List (Str × Bool × Block)) (html : Str) :
    renderRecipesAux k 0 rs html =
      ((rs.map (·.1)).zip (blockIndices 0 rs)).foldl (fun h x => replaceAll x.1
        (tagBody "div" [("class", "rg-recipe-block".toList)]
          (joinNl ((Tree.scaleList k x.2.2).map (renderRecipeTree (idPrefix x.2.1))))) h) html :=
  renderRecipesAux_eq k rs 0 html

/-! ## 1. the href is the id of the definition -/
/-- the id emitted for output number `idx` of the root sub recipe `root` -/
def defId (pre : Str) (root : Tree) (idx : Nat) : Option Str := ((subNames root)[idx]?).map (anchorId pre)

/-- for a single-output sub recipe it is the id of the `<table>` -/
theorem defId_single (pre : Str) (b : Tree) (n : SVS) (sh : Bool) :
    defId pre (.sub b [n] sh) 0 = rootId pre (.sub b [n] sh) := rfl

/-- for a multi-output sub recipe it is the id of `<li>` number `idx` of the output list, which is a cell of the
    tree's own table -/
theorem defId_multi (pre : Str) (b : Tree) (ns : List SVS) (sh : Bool) (idx : Nat) (h : ns.length ≠ 1) :
    Tree.sub b ns sh ∈ cellNodes (.sub b ns sh) ∧ rootId pre (.sub b ns sh) = none ∧
      defId pre (.sub b ns sh) idx = (cellIds pre (.sub b ns sh))[idx]? := by
  refine ⟨by simp [cellNodes, h], ?_, by simp [defId, subNames, cellIds, h]⟩
  simpa [rootName_of_length h] using rootId_eq pre (.sub b ns sh)

theorem defId_mem (pre : Str) (root : Tree) (idx : Nat) (i : Str) (h : defId pre root idx = some i) :
    i ∈ idsOfTree pre root := by
  simp only [defId, Option.map_eq_some_iff] at h
  obtain ⟨n, hn, rfl⟩ := h
  rw [idsOfTree_eq]
  exact List.mem_map_of_mem (subNames_sub_idNames root n (List.mem_of_getElem? hn))

theorem idsOfTree_getElem? (pre : Str) (root : Tree) (idx : Nat) (h : root.multiAtRootOnly = true) :
    (idsOfTree pre root)[idx]? = defId pre root idx := by
  rw [idsOfTree_of_multiAtRootOnly pre root h, List.getElem?_map]; rfl

theorem cellHrefs_of_defId {pre : Str} {sub : Tree} {idx : Nat} {i : Str} (a : Amount) (h : defId pre sub idx = some i) :
    cellHrefs pre (.reference sub idx a) = ['#' :: i] := by
  simp only [defId, Option.map_eq_some_iff] at h
  obtain ⟨n, hn, rfl⟩ := h
  simp [cellHrefs, hn]

/-- **1.** in a structurally valid recipe (`ValidS`: `C08.compile_validS`) every reference cell holds an earlier root
    tree `sub` of the same recipe (the embedded copy IS that root), and its href is `#` followed by the id emitted
    for output `idx` of that root, under the same prefix; that id is among the ids of the recipe -/
theorem href_is_id_of_definition (pre : Str) (bs : List Block) (hv : C03.ValidS [] bs)
    (hr : ∀ t ∈ bs.flatten, RefsInRange t) (p : Nat) (T : Tree) (hp : bs.flatten[p]? = some T)
    (sub : Tree) (idx : Nat) (a : Amount) (hc : Tree.reference sub idx a ∈ cellNodes T) :
    ∃ k i, k < p ∧ bs.flatten[k]? = some sub ∧ sub.isSub = true ∧ defId pre sub idx = some i ∧
      cellHrefs pre (.reference sub idx a) = ['#' :: i] ∧ i ∈ idsOfTree pre sub ∧ i ∈ idsOf bs.flatten pre := by
  obtain ⟨k, hk, hks, hsub⟩ := ref_cell_resolves bs hv p T hp sub idx a hc
  have hlt := hr T (List.mem_of_getElem? hp) sub idx a hc
  have hd : defId pre sub idx = some (anchorId pre (subNames sub)[idx]) := by
    simp [defId, List.getElem?_eq_getElem hlt]
  exact ⟨k, _, hk, hks, hsub, hd, cellHrefs_of_defId a hd, defId_mem pre sub idx _ hd,
    List.mem_flatMap.2 ⟨sub, List.mem_of_getElem? hks, defId_mem pre sub idx _ hd⟩⟩

theorem mem_hrefsOf {ts : List Tree} {pre h : Str} (hh : h ∈ hrefsOf ts pre) :
    ∃ T ∈ ts, ∃ s i a, Tree.reference s i a ∈ cellNodes T ∧ cellHrefs pre (.reference s i a) = [h] := by
  simp only [hrefsOf, hrefsOfTree, List.mem_flatMap] at hh
  obtain ⟨T, hT, n, hn, hh⟩ := hh
  cases n with
  | reference s i a =>
    simp only [cellHrefs, List.mem_singleton] at hh
    exact ⟨T, hT, s, i, a, hn, by simp [cellHrefs, hh]⟩
  | _ => simp [cellHrefs] at hh

theorem hrefs_resolve (pre : Str) (bs : List Block) (hv : C03.ValidS [] bs) (hr : ∀ t ∈ bs.flatten, RefsInRange t) :
    ∀ h ∈ hrefsOf bs.flatten pre, ∃ i ∈ idsOf bs.flatten pre, h = '#' :: i := by
  intro h hh
  obtain ⟨T, hT, s, i, a, hc, he⟩ := mem_hrefsOf hh
  obtain ⟨p, hp⟩ := List.getElem?_of_mem hT
  obtain ⟨k, j, _, _, _, _, hj, _, hm⟩ := href_is_id_of_definition pre bs hv hr p T hp s i a hc
  rw [hj] at he
  exact ⟨j, hm, by simpa using he.symm⟩

/-! ## 2. when ids are unique -/
/-- **2.** (general form) the ids of one recipe are pairwise distinct iff the sanitised names that get an id are -/
theorem ids_unique_iff_general (pre : Str) (ts : List Tree) :
    (idsOf ts pre).Nodup ↔ ((ts.flatMap idNames).map sanitise).Nodup := by
  rw [idsOf_eq]; exact nodup_anchorIds_iff pre _

/-- **2.** within one recipe the emitted ids are pairwise distinct iff the sanitised output names — all outputs of all
    root sub recipes — are pairwise distinct (multi-output sub recipes only at roots, as the constructors ensure) -/
theorem ids_unique_iff (pre : Str) (ts : List Tree) (hm : ∀ t ∈ ts, t.multiAtRootOnly = true) :
    (idsOf ts pre).Nodup ↔ ((ts.flatMap subNames).map sanitise).Nodup := by
  rw [ids_unique_iff_general, idNames_flat_of_multiAtRootOnly ts hm]

/-- across the recipes of one page ids never coincide (`prefix_disjoint`) -/
theorem ids_disjoint_across_recipes (ibs : List (Nat × Block)) (hpos : ∀ x ∈ ibs, 1 ≤ x.1)
    (x y : Nat × Block) (hx : x ∈ ibs) (hy : y ∈ ibs) (s : Str) (h1 : s ∈ idsOf x.2 (idPrefix x.1))
    (h2 : s ∈ idsOf y.2 (idPrefix y.1)) : x.1 = y.1 := by
  obtain ⟨t1, e1⟩ := mem_idsOf_prefix h1
  obtain ⟨t2, e2⟩ := mem_idsOf_prefix h2
  exact idPrefix_disjoint x.1 y.1 (hpos x hx) (hpos y hy) t1 t2 (e1.symm.trans e2)

/-- **2.** for a whole page: all ids are pairwise distinct iff within every recipe the sanitised names that get an id
    are pairwise distinct -/
theorem page_ids_unique_iff (ibs : List (Nat × Block)) (hpos : ∀ x ∈ ibs, 1 ≤ x.1) :
    (pageIds ibs).Nodup ↔ ∀ i, (((recipeTrees ibs i).flatMap idNames).map sanitise).Nodup := by
  rw [← pageIdsTagged_snd, nodup_groups]
  · exact forall_congr' fun i => by rw [pageIdsTagged_filter, ids_unique_iff_general]
  · intro a ha b hb e
    obtain ⟨⟨ba, hba⟩, ta, hta⟩ := mem_pageIdsTagged ha
    obtain ⟨⟨bb, hbb⟩, tb, htb⟩ := mem_pageIdsTagged hb
    rw [hta, htb] at e
    exact idPrefix_disjoint a.1 b.1 (hpos _ hba) (hpos _ hbb) ta tb e

/-- with Python's invariant: iff within every recipe the sanitised output names are pairwise distinct -/
theorem page_ids_unique_iff' (ibs : List (Nat × Block)) (hpos : ∀ x ∈ ibs, 1 ≤ x.1)
    (hm : ∀ x ∈ ibs, ∀ t ∈ x.2, t.multiAtRootOnly = true) :
    (pageIds ibs).Nodup ↔ ∀ i, (((recipeTrees ibs i).flatMap subNames).map sanitise).Nodup := by
  rw [page_ids_unique_iff ibs hpos]
  have : ∀ i, (recipeTrees ibs i).flatMap idNames = (recipeTrees ibs i).flatMap subNames := by
    intro i
    apply idNames_flat_of_multiAtRootOnly
    intro t ht
    simp only [recipeTrees, List.mem_flatMap, List.mem_filter] at ht
    obtain ⟨x, ⟨hx, _⟩, htx⟩ := ht
    exact hm x hx t htx
  simp only [this]

/-! ## 3. the link lands on the definition -/
/-- **3.** if the sanitised output names of a recipe are pairwise distinct then for every reference cell exactly one
    element of the recipe carries the target id: position `idx` among the ids of the root tree `sub` the reference
    holds (which is an earlier root of the recipe) — the `<table>` of a single-output sub recipe, `<li>` number
    `idx` of the output list of a multi-output one -/
theorem link_lands_on_definition (pre : Str) (bs : List Block) (hv : C03.ValidS [] bs)
    (hr : ∀ t ∈ bs.flatten, RefsInRange t) (hm : ∀ t ∈ bs.flatten, t.multiAtRootOnly = true)
    (hu : ((bs.flatten.flatMap subNames).map sanitise).Nodup)
    (p : Nat) (T : Tree) (hp : bs.flatten[p]? = some T)
    (sub : Tree) (idx : Nat) (a : Amount) (hc : Tree.reference sub idx a ∈ cellNodes T) :
    ∃ k i, k < p ∧ bs.flatten[k]? = some sub ∧ cellHrefs pre (.reference sub idx a) = ['#' :: i] ∧
      defId pre sub idx = some i ∧
      (idsOf bs.flatten pre)[(idsOf (bs.flatten.take k) pre).length + idx]? = some i ∧
      (∀ q, (idsOf bs.flatten pre)[q]? = some i → q = (idsOf (bs.flatten.take k) pre).length + idx) ∧
      ((∃ b n sh, sub = .sub b [n] sh ∧ idx = 0 ∧ rootId pre sub = some i) ∨
       (∃ b ns sh, sub = .sub b ns sh ∧ ns.length ≠ 1 ∧ rootId pre sub = none ∧
          sub ∈ cellNodes sub ∧ (cellIds pre sub)[idx]? = some i)) := by
  obtain ⟨k, i, hk, hks, hsub, hd, hh, _, _⟩ := href_is_id_of_definition pre bs hv hr p T hp sub idx a hc
  have hmk := hm sub (List.mem_of_getElem? hks)
  have hpos : (idsOf bs.flatten pre)[(idsOf (bs.flatten.take k) pre).length + idx]? = some i :=
    getElem?_flatMap_offset (idsOfTree pre) bs.flatten k sub hks idx i (by rw [idsOfTree_getElem? pre sub idx hmk, hd])
  refine ⟨k, i, hk, hks, hh, hd, hpos, fun q hq => ?_, ?_⟩
  · exact nodup_getElem?_inj ((ids_unique_iff pre bs.flatten hm).2 hu) hq hpos
  · cases sub with
    | sub b ns sh =>
      by_cases h1 : ns.length = 1
      · left
        obtain ⟨n, rfl⟩ := List.length_eq_one_iff.1 h1
        have h0 : idx = 0 := by
          simp only [defId, subNames, Option.map_eq_some_iff] at hd
          obtain ⟨m, hm', _⟩ := hd
          have := (List.getElem?_eq_some_iff.1 hm').1
          simpa using this
        subst h0
        exact ⟨b, n, sh, rfl, rfl, by rw [← defId_single, hd]⟩
      · right
        obtain ⟨h2, h3, h4⟩ := defId_multi pre b ns sh idx h1
        exact ⟨b, ns, sh, rfl, h1, h3, h2, by rw [← h4, hd]⟩
    | _ => simp [Tree.isSub] at hsub

/-- on the whole page no other recipe carries the target id either -/
theorem link_target_only_in_own_recipe (ibs : List (Nat × Block)) (hpos : ∀ x ∈ ibs, 1 ≤ x.1) (i : Nat) (hi : 1 ≤ i)
    (name : SVS) (x : Nat × Block) (hx : x ∈ ibs) (h : anchorId (idPrefix i) name ∈ idsOf x.2 (idPrefix x.1)) :
    x.1 = i := by
  obtain ⟨t, e⟩ := mem_idsOf_prefix h
  exact (idPrefix_disjoint i x.1 hi (hpos x hx) _ t e).symm

/-- **3.** a link has a second target iff another output of the recipe (another position among the names that get an
    id) sanitises to the same string — the recorded finding: 'a b' and 'a-b' -/
theorem link_ambiguous_iff (pre : Str) (ts : List Tree) (q : Nat) (n : SVS) :
    (∃ q', q' ≠ q ∧ (idsOf ts pre)[q']? = some (anchorId pre n)) ↔
      (∃ q' n', q' ≠ q ∧ (ts.flatMap idNames)[q']? = some n' ∧ sanitise n' = sanitise n) := by
  simp only [idsOf_eq, List.getElem?_map, Option.map_eq_some_iff, anchorId_eq_iff]
  exact ⟨fun ⟨q', hne, n', h⟩ => ⟨q', n', hne, h⟩, fun ⟨q', n', hne, h⟩ => ⟨q', hne, n', h⟩⟩

/-- when no output name occurs twice: iff a *different* output name of the recipe sanitises equally -/
theorem link_ambiguous_iff_names (pre : Str) (ts : List Tree) (hn : (ts.flatMap idNames).Nodup) (q : Nat) (n : SVS)
    (hq : (ts.flatMap idNames)[q]? = some n) :
    (∃ q', q' ≠ q ∧ (idsOf ts pre)[q']? = some (anchorId pre n)) ↔
      (∃ n' ∈ ts.flatMap idNames, n' ≠ n ∧ sanitise n' = sanitise n) := by
  rw [link_ambiguous_iff]
  constructor
  · rintro ⟨q', n', hne, hn', e⟩
    refine ⟨n', List.mem_of_getElem? hn', ?_, e⟩
    rintro rfl
    exact hne (nodup_getElem?_inj hn hn' hq)
  · rintro ⟨n', hm, hne, e⟩
    obtain ⟨q', hq'⟩ := List.getElem?_of_mem hm
    refine ⟨q', n', ?_, hq', e⟩
    rintro rfl
    rw [hq] at hq'
    exact hne (Option.some.inj hq').symm

/-- some link target of the recipe is ambiguous iff two outputs sanitise equally -/
theorem ids_collide_iff (pre : Str) (ts : List Tree) :
    ¬ (idsOf ts pre).Nodup ↔
      ∃ (q q' : Nat) (n n' : SVS), q ≠ q' ∧ (ts.flatMap idNames)[q]? = some n ∧ (ts.flatMap idNames)[q']? = some n' ∧
        sanitise n = sanitise n' := by
  rw [ids_unique_iff_general, not_nodup_iff]
  simp only [List.getElem?_map, Option.map_eq_some_iff]
  constructor
  · rintro ⟨i, j, s, hne, ⟨n, hn, e1⟩, n', hn', e2⟩
    exact ⟨i, j, n, n', hne, hn, hn', e1.trans e2.symm⟩
  · rintro ⟨i, j, n, n', hne, hn, hn', e⟩
    exact ⟨i, j, sanitise n, hne, ⟨n, hn, rfl⟩, n', hn', e.symm⟩

/-! ## 4. scaling -/
theorem scale_ids (k : Num) (pre : Str) (ts : List Tree) :
    idsOf (Tree.scaleList k ts) pre = ((ts.flatMap idNames).map (Svs.scale k)).map (anchorId pre) := by
  have : (fun t => idNames (Tree.scale k t)) = fun t => (idNames t).map (Svs.scale k) := funext (idNames_scale k)
  rw [idsOf_eq, Tree.scaleList_eq_map, List.flatMap_map, this]
  simp only [List.map_flatMap]

/-- **4.** on the page scaled by `k` the reference cell and its definition change consistently: the scaled reference
    holds the scaled root, which is the root at the same earlier position of the scaled recipe; its href is `#` + the
    id of the scaled output name, which is the id emitted for output `idx` of the scaled definition -/
theorem scale_ids_consistent (k : Num) (pre : Str) (bs : List Block) (hv : C03.ValidS [] bs)
    (hr : ∀ t ∈ bs.flatten, RefsInRange t) (p : Nat) (T : Tree) (hp : bs.flatten[p]? = some T)
    (sub : Tree) (idx : Nat) (a : Amount) (hc : Tree.reference sub idx a ∈ cellNodes T) :
    ∃ q name, q < p ∧ bs.flatten[q]? = some sub ∧ (subNames sub)[idx]? = some name ∧
      (scaleBlocks k bs).flatten[p]? = some (T.scale k) ∧
      Tree.reference (sub.scale k) idx (a.scale k) ∈ cellNodes (T.scale k) ∧
      (scaleBlocks k bs).flatten[q]? = some (sub.scale k) ∧
      cellHrefs pre (.reference (sub.scale k) idx (a.scale k)) = ['#' :: anchorId pre (Svs.scale k name)] ∧
      defId pre (sub.scale k) idx = some (anchorId pre (Svs.scale k name)) ∧
      anchorId pre (Svs.scale k name) ∈ idsOf (scaleBlocks k bs).flatten pre := by
  obtain ⟨q, hq, hqs, _⟩ := ref_cell_resolves bs hv p T hp sub idx a hc
  have hlt := hr T (List.mem_of_getElem? hp) sub idx a hc
  have hn : (subNames sub)[idx]? = some (subNames sub)[idx] := List.getElem?_eq_getElem hlt
  have hd : defId pre (sub.scale k) idx = some (anchorId pre (Svs.scale k (subNames sub)[idx])) := by
    simp [defId, subNames_scale, hn]
  have hqs' : (scaleBlocks k bs).flatten[q]? = some (sub.scale k) := by
    rw [scaleBlocks_flatten_map, List.getElem?_map, hqs]; rfl
  refine ⟨q, _, hq, hqs, hn, ?_, ?_, hqs', cellHrefs_of_defId _ hd, hd, ?_⟩
  · rw [scaleBlocks_flatten_map, List.getElem?_map, hp]; rfl
  · rw [cellNodes_scale]
    exact List.mem_map.2 ⟨_, hc, rfl⟩
  · exact List.mem_flatMap.2 ⟨_, List.mem_of_getElem? hqs', defId_mem pre _ idx _ hd⟩

/-- hence every statement of 1. holds on the scaled page as it stands -/
theorem scale_href_is_id_of_definition (k : Num) (pre : Str) (bs : List Block) (hv : C03.ValidS [] bs)
    (hr : ∀ t ∈ bs.flatten, RefsInRange t) (p : Nat) (T : Tree) (hp : (scaleBlocks k bs).flatten[p]? = some T)
    (sub : Tree) (idx : Nat) (a : Amount) (hc : Tree.reference sub idx a ∈ cellNodes T) :
    ∃ q i, q < p ∧ (scaleBlocks k bs).flatten[q]? = some sub ∧ sub.isSub = true ∧ defId pre sub idx = some i ∧
      cellHrefs pre (.reference sub idx a) = ['#' :: i] ∧ i ∈ idsOfTree pre sub ∧
      i ∈ idsOf (scaleBlocks k bs).flatten pre := by
  exact href_is_id_of_definition pre _ (C03.scale_valid k bs hv) (RefsInRange.scaleBlocks hr k) p T hp sub idx a hc

/-- everything `compile` returns satisfies the hypotheses of 1.–4. -/
theorem compile_link_hypotheses (srcs : List Str) (bs : List Block) (h : compile srcs = .ok bs) :
    C03.ValidS [] bs ∧ (∀ t ∈ bs.flatten, RefsInRange t) ∧ (∀ t ∈ bs.flatten, t.multiAtRootOnly = true) := by
  obtain ⟨asts, bs0, st, outs', _, hc, _, hf⟩ := compile_ok_phases h
  have hw := foldAll_wfAll asts bs0 st hc _ bs outs' hf
  exact ⟨C08.compile_validS srcs bs h, fun t ht => refsInRange_of_wfB t (hw t ht),
    fun t ht => multiAtRootOnly_of_wfB t (hw t ht)⟩

/-- for a compiled recipe: every link is `#` + the id of the definition it refers to, at any scale; and if the
    sanitised output names are pairwise distinct, that id occurs exactly once -/
theorem compile_links_land (srcs : List Str) (bs : List Block) (h : compile srcs = .ok bs) (k : Num) (pre : Str) :
    (∀ hr ∈ hrefsOf (scaleBlocks k bs).flatten pre, ∃ i ∈ idsOf (scaleBlocks k bs).flatten pre, hr = '#' :: i) ∧
    ((idsOf (scaleBlocks k bs).flatten pre).Nodup ↔
      (((bs.flatten.flatMap subNames).map (Svs.scale k)).map sanitise).Nodup) := by
  obtain ⟨hv, hr, hm⟩ := compile_link_hypotheses srcs bs h
  constructor
  · exact hrefs_resolve pre _ (C03.scale_valid k bs hv) (RefsInRange.scaleBlocks hr k)
  · rw [scaleBlocks_flatten_map, ← Tree.scaleList_eq_map, scale_ids, nodup_anchorIds_iff,
      idNames_flat_of_multiAtRootOnly _ hm]

section Tokens
open RG.C10

/-- read by the HTML tokenizer of `Props/C10b.lean`, a reference cell (one-line amount and name: `C04.CellOK`) is an
    `<a>` element with exactly one attribute, `href`, whose value reads back as `#` + the id — whatever characters
    the prefix holds -/
theorem reference_cell_tokens (pre : Str) (sub : Tree) (idx : Nat) (a : Amount)
    (h : C04.CellOK pre (.reference sub idx a)) :
    ∃ body, tokens (renderCellBody pre (.reference sub idx a)) =
      .open (S "a") [(S "href", '#' :: anchorId pre ((subNames sub)[idx]?.getD []))] :: body ++ [.close (S "a")] := by
  have hnl : '\n' ∉ renderAmount a ++ renderSvs ((subNames sub)[idx]?.getD []) := C04.nl_not_mem_reference h
  have hb : Balanced (bodyWritten (renderAmount a ++ renderSvs ((subNames sub)[idx]?.getD []))) := by
    rw [bodyWritten, if_neg hnl]
    exact ((aToks_frag a h.1).append (svsToks_frag _)).balanced
  exact ⟨_, tagBody_attr_roundtrip "a" "href" _ _ isName_a isName_href hb⟩

/-- and an item of an output list (name without newline) is an `<li>` element with exactly one attribute, `id`,
    whose value reads back as the id -/
theorem list_item_tokens (pre : Str) (n : SVS) (h : ∀ t, Part.text t ∈ n → '\n' ∉ t) :
    ∃ body, tokens (tagBody "li" [("id", anchorId pre n)] (renderSvs n)) =
      .open (S "li") [(S "id", anchorId pre n)] :: body ++ [.close (S "li")] := by
  have hb : Balanced (bodyWritten (renderSvs n)) := by
    rw [bodyWritten, if_neg (C04.nl_not_mem_renderSvs h)]
    exact (svsToks_frag n).balanced
  exact ⟨_, tagBody_attr_roundtrip "li" "id" _ _ isName_li isName_id hb⟩
end Tokens

section Examples
open RG.C10

def idAttrs (ts : List Token) : List Str :=
  ts.flatMap fun t => match t with
    | .open _ attrs => (attrs.filter (·.1 == S "id")).map (·.2)
    | _ => []
def hrefAttrs (ts : List Token) : List Str :=
  ts.flatMap fun t => match t with
    | .open _ attrs => (attrs.filter (·.1 == S "href")).map (·.2)
    | _ => []

private def tx (s : String) : SVS := [.text s.toList]

/-- block 0: `yolk, white = split(egg)` — a sub recipe with two outputs; block 1: `mix(yolk, white)` referencing both -/
def exSplit : Tree := .sub (.step (tx "split") [.ingredient (tx "egg") none]) [tx "yolk", tx "white"] false
def exMix : Tree := .step (tx "mix") [.reference exSplit 0 .whole, .reference exSplit 1 .whole]
def exRecipe : List Block := [[exSplit], [exMix]]

theorem exRecipe_valid : C03.ValidS [] exRecipe := by
  simp [C03.ValidS, C03.ValidBlockS, exRecipe, exSplit, exMix, Tree.refTargets, Tree.refTargetsList, Tree.isSub]
theorem forall_exRecipe {P : Tree → Prop} (h1 : P exSplit) (h2 : P exMix) : ∀ t ∈ exRecipe.flatten, P t := by
  intro t ht
  simp only [exRecipe, List.flatten_cons, List.flatten_nil, List.cons_append, List.nil_append, List.mem_cons,
    List.not_mem_nil, or_false] at ht
  rcases ht with rfl | rfl
  · exact h1
  · exact h2

theorem exRecipe_wfB : ∀ t ∈ exRecipe.flatten, t.wfB = true := forall_exRecipe (by decide) (by decide)
theorem exRecipe_wf : ∀ t ∈ exRecipe.flatten, C02.wf t = true := forall_exRecipe (by decide) (by decide)

/-- the ids and hrefs of the example, structurally and in the order of the page -/
example : idsOf exRecipe.flatten (S "recipe-") = [S "recipe-yolk", S "recipe-white"] ∧
    hrefsOf exRecipe.flatten (S "recipe-") = [S "#recipe-yolk", S "#recipe-white"] ∧
    writtenIds (S "recipe-") exSplit = [S "recipe-yolk", S "recipe-white"] ∧
    writtenHrefs (S "recipe-") exMix = [S "#recipe-yolk", S "#recipe-white"] := by decide +kernel

theorem exMix_page : renderRecipeTree (S "recipe-") exMix =
    S ("<table class=\"rg-table\">\n  <tr>\n    <td class=\"rg-reference rg-border-left-sub-recipe " ++
       "rg-border-top-sub-recipe\"><a href=\"#recipe-yolk\">yolk</a></td>\n    <td class=\"rg-step " ++
       "rg-border-right-sub-recipe rg-border-top-sub-recipe rg-border-bottom-sub-recipe\" rowspan=\"2\">mix</td>\n" ++
       "  </tr>\n  <tr><td class=\"rg-reference rg-border-left-sub-recipe rg-border-bottom-sub-recipe\">" ++
       "<a href=\"#recipe-white\">white</a></td></tr>\n</table>") := by
  rw [renderRecipeTree_fast, S_append, S_append, S_append, S_append]
  S_chars
  decide +kernel

example : renderRecipeTree (S "recipe-") exMix =
    S ("<table class=\"rg-table\">\n  <tr>\n    <td class=\"rg-reference rg-border-left-sub-recipe " ++
       "rg-border-top-sub-recipe\"><a href=\"#recipe-yolk\">yolk</a></td>\n    <td class=\"rg-step " ++
       "rg-border-right-sub-recipe rg-border-top-sub-recipe rg-border-bottom-sub-recipe\" rowspan=\"2\">mix</td>\n" ++
       "  </tr>\n  <tr><td class=\"rg-reference rg-border-left-sub-recipe rg-border-bottom-sub-recipe\">" ++
       "<a href=\"#recipe-white\">white</a></td></tr>\n</table>") := exMix_page

/-- the same read off the rendered text by the HTML tokenizer -/
example : idAttrs (tokens (renderRecipeTree (S "recipe-") exSplit)) = writtenIds (S "recipe-") exSplit ∧
    hrefAttrs (tokens (renderRecipeTree (S "recipe-") exSplit)) = writtenHrefs (S "recipe-") exSplit ∧
    idAttrs (tokens (renderRecipeTree (S "recipe-") exMix)) = writtenIds (S "recipe-") exMix ∧
    hrefAttrs (tokens (renderRecipeTree (S "recipe-") exMix)) = writtenHrefs (S "recipe-") exMix := by
  rw [exMix_page, renderRecipeTree_fast, S_append, S_append, S_append, S_append]
  S_chars
  decide +kernel

theorem exRecipe_unique : ((exRecipe.flatten.flatMap subNames).map sanitise).Nodup := by decide +kernel

/-- the hypotheses of the theorems are satisfiable: the link to output 1 (`white`) lands on `<li>` number 1 of the
    definition in block 0, and nowhere else -/
example := link_lands_on_definition (S "recipe-") exRecipe exRecipe_valid
  (fun t ht => refsInRange_of_wfB t (exRecipe_wfB t ht)) (fun t ht => multiAtRootOnly_of_wfB t (exRecipe_wfB t ht))
  exRecipe_unique 1 exMix rfl exSplit 1 .whole (by simp [exMix, cellNodes, cellNodesList])
example := scale_ids_consistent ⟨3, .int⟩ (S "recipe-") exRecipe exRecipe_valid
  (fun t ht => refsInRange_of_wfB t (exRecipe_wfB t ht)) 1 exMix rfl exSplit 0 .whole
  (by simp [exMix, cellNodes, cellNodesList])
example := written_perm (S "recipe-") exMix (exRecipe_wf exMix (by simp [exRecipe]))
example := written_ids_in_order (S "recipe-") exSplit (exRecipe_wf exSplit (by simp [exRecipe]))
  (multiAtRootOnly_of_wfB _ (exRecipe_wfB exSplit (by simp [exRecipe])))

/-- the three source texts of this file, compiled in one evaluation (lower-casing a character is slow for the
    kernel, and is done once per character and declaration) -/
theorem sources_ids_hrefs :
    ((match compile ["yolk, white = split(egg)".toList, "mix(yolk, white)".toList] with
    | .ok bs => idsOf bs.flatten (S "recipe-") == [S "recipe-yolk", S "recipe-white"] &&
        hrefsOf bs.flatten (S "recipe-") == [S "#recipe-yolk", S "#recipe-white"]
    | _ => false) = true) ∧
    ((match compile ["a b = mix(x)\na-b = mix(y)".toList, "serve(a b, a-b)".toList] with
    | .ok bs => idsOf bs.flatten (S "recipe-") == [S "recipe-a-b", S "recipe-a-b"] &&
        hrefsOf bs.flatten (S "recipe-") == [S "#recipe-a-b", S "#recipe-a-b"]
    | _ => false) = true) ∧
    ((match compile ["sauce {1} = mix(x)\nsauce 2 = mix(y)".toList, "serve(sauce {1}, sauce 2)".toList] with
    | .ok bs =>
      idsOf bs.flatten (S "recipe-") == [S "recipe-sauce-1", S "recipe-sauce-2"] &&
      hrefsOf bs.flatten (S "recipe-") == [S "#recipe-sauce-1", S "#recipe-sauce-2"] &&
      idsOf (scaleBlocks ⟨2, .int⟩ bs).flatten (S "recipe-") == [S "recipe-sauce-2", S "recipe-sauce-2"] &&
      hrefsOf (scaleBlocks ⟨2, .int⟩ bs).flatten (S "recipe-") == [S "#recipe-sauce-2", S "#recipe-sauce-2"]
    | _ => false) = true) := by
  decide +kernel

/-- the same recipe from source text, through `compile` -/
example : (match compile ["yolk, white = split(egg)".toList, "mix(yolk, white)".toList] with
    | .ok bs => idsOf bs.flatten (S "recipe-") == [S "recipe-yolk", S "recipe-white"] &&
        hrefsOf bs.flatten (S "recipe-") == [S "#recipe-yolk", S "#recipe-white"]
    | _ => false) = true := sources_ids_hrefs.1

def colA : Tree := .sub (.step (tx "mix") [.ingredient (tx "x") none]) [tx "a b"] false
def colB : Tree := .sub (.step (tx "mix") [.ingredient (tx "y") none]) [tx "a-b"] false
def colUse : Tree := .step (tx "serve") [.reference colA 0 .whole, .reference colB 0 .whole]
def colRecipe : List Block := [[colA, colB], [colUse]]

theorem colRecipe_valid : C03.ValidS [] colRecipe := by
  simp [C03.ValidS, C03.ValidBlockS, colRecipe, colA, colB, colUse, Tree.refTargets, Tree.refTargetsList, Tree.isSub]

/-- **finding (C09.3, on a whole recipe)**: two different output names, one id: both tables carry
    `id="recipe-a-b"`, both links are `#recipe-a-b` — the link to `a-b` has two targets (and a browser takes the
    first, the table of `a b`) -/
theorem collision_link_ambiguous :
    idsOf colRecipe.flatten (S "recipe-") = [S "recipe-a-b", S "recipe-a-b"] ∧
    hrefsOf colRecipe.flatten (S "recipe-") = [S "#recipe-a-b", S "#recipe-a-b"] ∧
    colRecipe.flatten.flatMap subNames = [tx "a b", tx "a-b"] ∧
    ¬ (idsOf colRecipe.flatten (S "recipe-")).Nodup ∧
    idAttrs (tokens (renderRecipeTree (S "recipe-") colA)) = [S "recipe-a-b"] ∧
    idAttrs (tokens (renderRecipeTree (S "recipe-") colB)) = [S "recipe-a-b"] := by
  rw [renderRecipeTree_fast, renderRecipeTree_fast]; decide +kernel

/-- in the words of `link_ambiguous_iff`: position 1 (`a-b`) has the second target at position 0 -/
example : ∃ q', q' ≠ 1 ∧ (idsOf colRecipe.flatten (S "recipe-"))[q']? = some (anchorId (S "recipe-") (tx "a-b")) :=
  (link_ambiguous_iff (S "recipe-") colRecipe.flatten 1 (tx "a-b")).2
    ⟨0, tx "a b", by decide +kernel, by decide +kernel, by decide +kernel⟩

/-- the compiler accepts such a recipe: from source text -/
theorem collision_from_source :
    (match compile ["a b = mix(x)\na-b = mix(y)".toList, "serve(a b, a-b)".toList] with
    | .ok bs => idsOf bs.flatten (S "recipe-") == [S "recipe-a-b", S "recipe-a-b"] &&
        hrefsOf bs.flatten (S "recipe-") == [S "#recipe-a-b", S "#recipe-a-b"]
    | _ => false) = true := sources_ids_hrefs.2.1

/-- **observation**: output names holding a scaled number change with the scale, consistently at the link and at the
    definition (`scale_ids_consistent`), but distinct ids can become equal: `sauce {1}` and `sauce 2` have the ids
    `recipe-sauce-1`, `recipe-sauce-2`; scaled by 2 both are `recipe-sauce-2` -/
theorem scale_breaks_uniqueness :
    (match compile ["sauce {1} = mix(x)\nsauce 2 = mix(y)".toList, "serve(sauce {1}, sauce 2)".toList] with
    | .ok bs =>
      idsOf bs.flatten (S "recipe-") == [S "recipe-sauce-1", S "recipe-sauce-2"] &&
      hrefsOf bs.flatten (S "recipe-") == [S "#recipe-sauce-1", S "#recipe-sauce-2"] &&
      idsOf (scaleBlocks ⟨2, .int⟩ bs).flatten (S "recipe-") == [S "recipe-sauce-2", S "recipe-sauce-2"] &&
      hrefsOf (scaleBlocks ⟨2, .int⟩ bs).flatten (S "recipe-") == [S "#recipe-sauce-2", S "#recipe-sauce-2"]
    | _ => false) = true := sources_ids_hrefs.2.2

/-- a page with two recipes: the second recipe's ids carry the prefix `recipe2-`; the same output name in both
    recipes gives different ids -/
example : pageIds (blockIndices 0 [([], true, [exSplit]), ([], false, [exMix]), ([], true, [exSplit])]) =
    [S "recipe-yolk", S "recipe-white", S "recipe2-yolk", S "recipe2-white"] := by decide +kernel
example := blockIndices_pos [] [exSplit] [([], false, [exMix]), ([], true, [exSplit])]
end Examples

end RG.C09
