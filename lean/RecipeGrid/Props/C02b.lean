import RecipeGrid.Props.C02
import RecipeGrid.Lemmas.Readback
/-! C02.6 — read-back: the recipe tree can be read back from the grid alone, up to the normal form `drawing`, which
    keeps every arity and order and forgets exactly what is invisible (an untitled single-output wrapper only adds an
    outline; outlining twice, outlining a titled box or outlining the root changes nothing).  What the grid shows of a
    cell is its position and extent, its kind and its four borders (`VCell`) and, in the `…L` theorems, a label.
    Trees are assumed well-formed (`wf`) and to satisfy Python's invariant `multiOnlyAtRoot`. -/
namespace RG.C02

/-- the visible table: the cells in raster order, each without its path -/
def vis (T : Tbl) : List VCell := (rasterSort T.cells).map PCell.vis

/-- what can be seen of a recipe tree -/
inductive Drawing where
  | leaf (k : CellKind)
  | step (inputs : List Drawing)
  | titled (d : Drawing)
  | outlined (d : Drawing)
  | multi (d : Drawing)
deriving Repr

mutual
/-- Boolean equality of drawings (the type is nested, so `DecidableEq` is not derived) -/
def Drawing.beq : Drawing → Drawing → Bool
  | .leaf a, .leaf b => decide (a = b)
  | .step as, .step bs => Drawing.beqList as bs
  | .titled a, .titled b => Drawing.beq a b
  | .outlined a, .outlined b => Drawing.beq a b
  | .multi a, .multi b => Drawing.beq a b
  | _, _ => false
def Drawing.beqList : List Drawing → List Drawing → Bool
  | [], [] => true
  | a :: as, b :: bs => Drawing.beq a b && Drawing.beqList as bs
  | _, _ => false
end

mutual
theorem Drawing.beq_iff : ∀ a b : Drawing, Drawing.beq a b = true ↔ a = b
  | .leaf k, b => by cases b <;> simp [Drawing.beq]
  | .step as, b => by cases b <;> simp [Drawing.beq, Drawing.beqList_iff as]
  | .titled a, b => by cases b <;> simp [Drawing.beq, Drawing.beq_iff a]
  | .outlined a, b => by cases b <;> simp [Drawing.beq, Drawing.beq_iff a]
  | .multi a, b => by cases b <;> simp [Drawing.beq, Drawing.beq_iff a]
theorem Drawing.beqList_iff : ∀ as bs : List Drawing, Drawing.beqList as bs = true ↔ as = bs
  | [], bs => by cases bs <;> simp [Drawing.beqList]
  | a :: as, bs => by cases bs <;> simp [Drawing.beqList, Drawing.beq_iff a, Drawing.beqList_iff as]
end

instance : DecidableEq Drawing := fun a b => decidable_of_iff _ (Drawing.beq_iff a b)

/-- draw an outline around a region, unless it already has one -/
def outline : Drawing → Drawing
  | .outlined d => .outlined d
  | .titled d => .titled d
  | d => .outlined d

mutual
/-- the drawing of a subtree that is not the root -/
def drawingIn : Tree → Drawing
  | .ingredient .. => .leaf .ingredient
  | .reference .. => .leaf .reference
  | .step _ inputs => .step (drawingIns inputs)
  | .sub body names showNames =>
    if names.length = 1 then (if showNames then .titled (drawingIn body) else outline (drawingIn body))
    else .multi (outline (drawingIn body))
def drawingIns : List Tree → List Drawing
  | [] => []
  | t :: ts => drawingIn t :: drawingIns ts
end

/-- the normal form of a recipe tree: the root is always outlined -/
def drawing : Tree → Drawing
  | .sub body names showNames => drawingIn (.sub body names showNames)
  | t => outline (drawingIn t)

private theorem wfList_eq : ∀ ts : List Tree, wfList ts = RG.wfList ts := wfList_eq_RG

/-- `o` = the region has its own outline -/
def wrap (o : Bool) (d : Drawing) : Drawing := if o then .outlined d else d

mutual
/-- the drawing of a normal form (`NF` is the internal representation used in `Lemmas/Readback.lean`) -/
def toD : NF → Drawing
  | .leaf o r => wrap o (.leaf (lk r))
  | .step o ins => wrap o (.step (toDs ins))
  | .titled e => .titled (toD e)
def toDs : List NF → List Drawing
  | [] => []
  | n :: ns => toD n :: toDs ns
end

/-- the drawing of a whole table: `x.1` = there is an outputs column -/
def toDRoot (x : Bool × NF) : Drawing := if x.1 then .multi (toD x.2) else toD x.2

private theorem toD_mark (n : NF) : toD n.mark = outline (toD n) := by
  cases n with
  | leaf o r => cases o <;> simp [NF.mark, toD, wrap, outline]
  | step o ins => cases o <;> simp [NF.mark, toD, wrap, outline]
  | titled e => simp [NF.mark, toD, outline]

mutual
private theorem drawingIn_eq : ∀ t : Tree, single t = true → drawingIn t = toD (nf t)
  | .ingredient .., _ => by simp [drawingIn, nf, toD, wrap, lk]
  | .reference .., _ => by simp [drawingIn, nf, toD, wrap, lk]
  | .step _ ins, h => by
    simp only [single] at h
    simp only [drawingIn, nf, toD, wrap, drawingIns_eq ins h, Bool.false_eq_true, if_false]
  | .sub b ns sh, h => by
    rw [single_sub] at h
    cases sh <;> simp [drawingIn, nf, toD, toD_mark, h.1, drawingIn_eq b h.2]
private theorem drawingIns_eq : ∀ ts : List Tree, singles ts = true → drawingIns ts = toDs (nfs ts)
  | [], _ => rfl
  | t :: ts, h => by
    rw [singles_cons] at h
    simp only [drawingIns, nfs, toDs, drawingIn_eq t h.1, drawingIns_eq ts h.2]
end

private theorem drawing_eq (t : Tree) (h : singleRoot t = true) : drawing t = toDRoot (nfRoot t) := by
  cases t with
  | sub b ns sh =>
    simp only [singleRoot] at h
    by_cases h1 : ns.length = 1
    · have hs : single (.sub b ns sh) = true := by simp [single, h1, h]
      simp [drawing, nfRoot, toDRoot, h1, drawingIn_eq _ hs]
    · simp [drawing, drawingIn, nfRoot, toDRoot, h1, toD_mark, drawingIn_eq _ h]
  | _ => simp [drawing, nfRoot, toDRoot, toD_mark, drawingIn_eq _ h]

mutual
/-- a normal form with the given drawing: an outline is `NF.mark` (`multi` stands at the root only, see `ofDRoot`) -/
private def ofD : Drawing → NF
  | .leaf k => .leaf false (k == .reference)
  | .step ds => .step false (ofDs ds)
  | .titled d => .titled (ofD d)
  | .outlined d => (ofD d).mark
  | .multi d => ofD d
private def ofDs : List Drawing → List NF
  | [] => []
  | d :: ds => ofD d :: ofDs ds
end

mutual
private theorem ofD_toD : ∀ n : NF, ofD (toD n) = n
  | .leaf o r => by cases o <;> cases r <;> rfl
  | .step o ins => by cases o <;> simp [toD, wrap, ofD, NF.mark, ofDs_toDs ins]
  | .titled e => by simp [toD, ofD, ofD_toD e]
private theorem ofDs_toDs : ∀ ns : List NF, ofDs (toDs ns) = ns
  | [] => rfl
  | n :: ns => by simp [toDs, ofDs, ofD_toD n, ofDs_toDs ns]
end

private theorem toDs_inj : ∀ ns1 ns2 : List NF, toDs ns1 = toDs ns2 → ns1 = ns2 :=
  fun ns1 ns2 h => by rw [← ofDs_toDs ns1, h, ofDs_toDs]

private def ofDRoot : Drawing → Bool × NF
  | .multi d => (true, ofD d)
  | d => (false, ofD d)

private theorem ofDRoot_toDRoot (x : Bool × NF) : ofDRoot (toDRoot x) = x := by
  obtain ⟨m, n⟩ := x
  cases m
  · -- `toD n` is not a `multi`
    have : ofDRoot (toD n) = (false, ofD (toD n)) := by
      cases n with
      | leaf o r => cases o <;> rfl
      | step o ins => cases o <;> rfl
      | titled e => rfl
    simp [toDRoot, this, ofD_toD]
  · simp [toDRoot, ofDRoot, ofD_toD]

private theorem nfRoot_of_drawing {t₁ t₂ : Tree} (s₁ : singleRoot t₁ = true) (s₂ : singleRoot t₂ = true)
    (h : drawing t₁ = drawing t₂) : nfRoot t₁ = nfRoot t₂ := by
  rw [← ofDRoot_toDRoot (nfRoot t₁), ← drawing_eq t₁ s₁, h, drawing_eq t₂ s₂, ofDRoot_toDRoot]

/-- the drawing determines the visible table: trees with the same drawing are laid out as the same grid -/
theorem drawing_determines_table (t₁ t₂ : Tree) (h₁ : wf t₁ = true) (h₂ : wf t₂ = true)
    (m₁ : multiOnlyAtRoot t₁) (m₂ : multiOnlyAtRoot t₂) (h : drawing t₁ = drawing t₂) :
    vis (layout t₁) = vis (layout t₂) := by
  have s₁ := singleRoot_of_at t₁ m₁
  have s₂ := singleRoot_of_at t₂ m₂
  have e := nfRoot_of_drawing s₁ s₂ h
  simp only [vis, map_vis_rasterSort, layout_vis t₁ (wf_RG h₁) s₁, layout_vis t₂ (wf_RG h₂) s₂, e]

/-- an explicit read-back: in each region the cell in the top row that reaches the right edge says what the region
    is (a leaf, a title above a body, or a step whose inputs are stacked to its left); an own outline shows on the
    top and right borders of that cell; an outputs cell, if any, is the right-most column (`rbRoot`, `rbNF`,
    `rbStack` in `Lemmas/Readback.lean`) -/
def readback (S : List VCell) : Option Drawing := (rbRoot S).map toDRoot

theorem readback_cells (t : Tree) (hw : wf t = true) (hm : multiOnlyAtRoot t) (S : List VCell)
    (hS : S.Perm ((layout t).cells.map PCell.vis)) : readback S = some (drawing t) := by
  have hs := singleRoot_of_at t hm
  rw [readback, rbRoot_layout t (wf_RG hw) hs S (fun x => hS.mem_iff) (by rw [hS.length_eq, List.length_map]),
    drawing_eq t hs]
  rfl

/-- C02.6, constructively: `readback` recovers the drawing from the visible table -/
theorem readback_layout (t : Tree) (hw : wf t = true) (hm : multiOnlyAtRoot t) :
    readback (vis (layout t)) = some (drawing t) :=
  readback_cells t hw hm _ ((insertionSort_perm _ _).map _)

/-- a read-back function exists: the drawing is a function of the visible table alone -/
theorem readback_exists : ∃ readback : List VCell → Option Drawing,
    ∀ t, wf t = true → multiOnlyAtRoot t → readback (vis (layout t)) = some (drawing t) :=
  ⟨readback, readback_layout⟩

/-- C02.6 read-back: the visible table determines the drawing — two trees that draw the same grid have the same
    drawing -/
theorem table_determines_drawing (t₁ t₂ : Tree) (h₁ : wf t₁ = true) (h₂ : wf t₂ = true)
    (m₁ : multiOnlyAtRoot t₁) (m₂ : multiOnlyAtRoot t₂) (h : vis (layout t₁) = vis (layout t₂)) :
    drawing t₁ = drawing t₂ :=
  Option.some.inj ((readback_layout t₁ h₁ m₁).symm.trans (h ▸ readback_layout t₂ h₂ m₂))

theorem table_eq_iff_drawing_eq (t₁ t₂ : Tree) (h₁ : wf t₁ = true) (h₂ : wf t₂ = true)
    (m₁ : multiOnlyAtRoot t₁) (m₂ : multiOnlyAtRoot t₂) :
    vis (layout t₁) = vis (layout t₂) ↔ drawing t₁ = drawing t₂ :=
  ⟨table_determines_drawing t₁ t₂ h₁ h₂ m₁ m₂, drawing_determines_table t₁ t₂ h₁ h₂ m₁ m₂⟩

section Labels
variable {L : Type}

/-- the label shown in a cell: any function `f` of the node that the cell draws (its description, its output
    names, …) -/
def label (f : Tree → L) (t : Tree) (x : PCell) : Option L := (t.at? x.path).map f

def visL (f : Tree → L) (t : Tree) : List (VCell × Option L) :=
  (rasterSort (layout t).cells).map fun x => (x.vis, label f t x)

/-- the labels of the drawn nodes, in the order of `drawn` (inputs before their step, a title before its body);
    together with `drawing t` this is the labelled drawing -/
def labels (f : Tree → L) (t : Tree) : List (Option L) := (drawn [] t).map fun pk => (t.at? pk.1).map f

private theorem cells_labels (f : Tree → L) (t : Tree) : (layout t).cells.map (label f t) = labels f t := by
  unfold labels
  rw [← layout_nodes_once, List.map_map]
  rfl

private def le2 (p q : VCell × Option L) : Bool := !vrasterLt q.1 p.1

private theorem visL_eq (f : Tree → L) (t : Tree) (hw : RG.wf t = true) (hs : singleRoot t = true) :
    visL f t = insertionSort le2 ((rootCells (nfRoot t).1 (nfRoot t).2).zip (labels f t)) := by
  unfold visL rasterSort
  rw [map_insertionSort (fun x : PCell => (x.vis, label f t x)) (fun a b : PCell => !rasterLt b a) le2
    (fun _ _ => rfl), ← layout_vis t hw hs, ← cells_labels, List.zip_map']

private theorem visL_fst (f : Tree → L) (t : Tree) : (visL f t).map Prod.fst = vis (layout t) := by
  simp [visL, vis, List.map_map, Function.comp_def]

/-- with labels: the drawing and the labels of the drawn nodes determine the labelled table -/
theorem drawing_determines_tableL (f : Tree → L) (t₁ t₂ : Tree) (h₁ : wf t₁ = true) (h₂ : wf t₂ = true)
    (m₁ : multiOnlyAtRoot t₁) (m₂ : multiOnlyAtRoot t₂) (h : drawing t₁ = drawing t₂)
    (hl : labels f t₁ = labels f t₂) : visL f t₁ = visL f t₂ := by
  have s₁ := singleRoot_of_at t₁ m₁
  have s₂ := singleRoot_of_at t₂ m₂
  have e := nfRoot_of_drawing s₁ s₂ h
  rw [visL_eq f t₁ (wf_RG h₁) s₁, visL_eq f t₂ (wf_RG h₂) s₂, e, hl]

/-- C02.6 with labels: the labelled table determines the drawing and the label of every drawn node -/
theorem table_determines_drawingL (f : Tree → L) (t₁ t₂ : Tree) (h₁ : wf t₁ = true) (h₂ : wf t₂ = true)
    (m₁ : multiOnlyAtRoot t₁) (m₂ : multiOnlyAtRoot t₂) (h : visL f t₁ = visL f t₂) :
    drawing t₁ = drawing t₂ ∧ labels f t₁ = labels f t₂ := by
  have s₁ := singleRoot_of_at t₁ m₁
  have s₂ := singleRoot_of_at t₂ m₂
  have w₁ := wf_RG h₁
  have w₂ := wf_RG h₂
  have hv : vis (layout t₁) = vis (layout t₂) := by rw [← visL_fst f, ← visL_fst f, h]
  have hd := table_determines_drawing t₁ t₂ h₁ h₂ m₁ m₂ hv
  refine ⟨hd, ?_⟩
  have e := nfRoot_of_drawing s₁ s₂ hd
  rw [visL_eq f t₁ w₁ s₁, visL_eq f t₂ w₂ s₂, e] at h
  have hn : (rootCells (nfRoot t₂).1 (nfRoot t₂).2).Nodup := by
    rw [← layout_vis t₂ w₂ s₂]
    exact (layoutAt_good t₂ [] true w₂).vis_nodup
  have len : ∀ t, RG.wf t = true → singleRoot t = true →
      (labels f t).length = (rootCells (nfRoot t).1 (nfRoot t).2).length := by
    intro t hw hs
    rw [← layout_vis t hw hs, ← cells_labels, List.length_map, List.length_map]
  apply zip_right_inj _ _ _ hn (by rw [len t₁ w₁ s₁, e]) (len t₂ w₂ s₂)
  intro p hp
  have := ((insertionSort_perm le2 _).mem_iff (a := p)).2 hp
  rw [h] at this
  exact ((insertionSort_perm le2 _).mem_iff (a := p)).1 this

end Labels

theorem multiOnlyAtRoot_iff (t : Tree) : multiOnlyAtRoot t ↔ singleRoot t = true :=
  ⟨singleRoot_of_at t, at_of_singleRoot t⟩
instance (t : Tree) : Decidable (multiOnlyAtRoot t) := decidable_of_iff _ (multiOnlyAtRoot_iff t).symm
example : multiOnlyAtRoot exTree2 := by decide

private def i : Tree := .ingredient [] none
private def r : Tree := .reference (.sub i [[]] true) 0 .whole
/-- an untitled single-output wrapper -/
private def w (t : Tree) : Tree := .sub t [[]] false
/-- a titled sub recipe -/
private def ti (t : Tree) : Tree := .sub t [[]] true
/-- a root with two outputs -/
private def two (t : Tree) : Tree := .sub t [[], []] false
private def st (ts : List Tree) : Tree := .step [] ts

/-! pairs of trees that are *identified*: same drawing, same grid -/
-- an untitled wrapper around an untitled wrapper
example : drawing (w (w i)) = drawing (w i) := by decide
example : vis (layout (w (w i))) = vis (layout (w i)) := by decide +kernel
-- the root is outlined anyway
example : drawing (w i) = drawing i := by decide
example : vis (layout (w i)) = vis (layout i) := by decide +kernel
-- an untitled wrapper around a titled sub recipe
example : drawing (st [w (ti i), i]) = drawing (st [ti i, i]) := by decide
example : vis (layout (st [w (ti i), i])) = vis (layout (st [ti i, i])) := by decide +kernel
-- the body of a root with several outputs is outlined anyway
example : drawing (two (w (st [i, r]))) = drawing (two (st [i, r])) := by decide
example : vis (layout (two (w (st [i, r])))) = vis (layout (two (st [i, r]))) := by decide +kernel

/-! pairs of trees that are *distinguished*: different drawings, different grids -/
-- an untitled wrapper directly under a step whose only input it is, at the root: not identified with the bare input
example : drawing (st [w i]) ≠ drawing (st [i]) := by decide
example : vis (layout (st [w i])) ≠ vis (layout (st [i])) := by decide +kernel
-- `titled (outlined d)` against `titled d`: the inner outline shows on the top edge of the body
example : drawing (ti (w i)) = .titled (.outlined (.leaf .ingredient)) := by decide
example : drawing (ti i) = .titled (.leaf .ingredient) := by decide
example : drawing (ti (w i)) ≠ drawing (ti i) := by decide
example : vis (layout (ti (w i))) ≠ vis (layout (ti i)) := by decide +kernel
-- an outlined step input shows on its right edge
example : drawing (st [w (st [i, i]), i]) ≠ drawing (st [st [i, i], i]) := by decide
example : vis (layout (st [w (st [i, i]), i])) ≠ vis (layout (st [st [i, i], i])) := by decide +kernel
-- the order and the kinds of the inputs show
example : drawing (st [i, r]) ≠ drawing (st [r, i]) := by decide
example : vis (layout (st [i, r])) ≠ vis (layout (st [r, i])) := by decide +kernel
-- nesting shows: a step of a step against a step with two inputs
example : drawing (st [st [i], i]) ≠ drawing (st [i, i]) := by decide
-- the outputs column shows
example : drawing (two i) = .multi (.outlined (.leaf .ingredient)) := by decide
example : drawing (two i) ≠ drawing i := by decide

/-! labels: a different description shows (here the label is just the number of parts of the description) -/
private def desc : Tree → Nat
  | .ingredient d _ => d.length
  | .step d _ => d.length
  | _ => 0
private def i' : Tree := .ingredient [.text ['a']] none
example : vis (layout (st [i', i])) = vis (layout (st [i, i'])) := by decide +kernel
example : visL desc (st [i', i]) ≠ visL desc (st [i, i']) := by decide
example : labels desc (st [i', i]) = [some 1, some 0, some 0] := by decide
example : labels desc (st [w (w i'), i]) = labels desc (st [w i', i]) := by decide
example : visL desc (st [w (w i'), i]) = visL desc (st [w i', i]) :=
  drawing_determines_tableL desc _ _ (by decide) (by decide) (by decide) (by decide) (by decide) (by decide)

example : readback (vis (layout exTree)) = some (drawing exTree) := by decide
example : readback (vis (layout exTree2)) =
    some (.multi (.outlined (.step [.leaf .ingredient, .titled (.leaf .ingredient)]))) := by decide
example : readback (vis (layout (st [w (st [i, r]), ti (w i)]))) =
    some (.outlined (.step [.outlined (.step [.leaf .ingredient, .leaf .reference]),
      .titled (.outlined (.leaf .ingredient))])) := by decide
example : readback ((layout exTree).cells.map PCell.vis).reverse = some (drawing exTree) := by decide
example : readback [] = none := by decide
example := readback_layout exTree2 (by decide) (by decide)

example : vis (layout (st [w (w (ti i)), r])) = vis (layout (st [ti i, r])) :=
  drawing_determines_table _ _ (by decide) (by decide) (by decide) (by decide) (by decide)
example : drawing (two (w (st [i, r]))) = drawing (two (st [i, r])) :=
  table_determines_drawing _ _ (by decide) (by decide) (by decide) (by decide) (by decide +kernel)
example : vis (layout exTree2) ≠ vis (layout exTree) := fun h =>
  absurd (table_determines_drawing exTree2 exTree (by decide) (by decide) (by decide) (by decide) h) (by decide)
example : vis (layout exTree) =
    [⟨0, 0, 1, 1, .ingredient, .subRecipe, .normal, .subRecipe, .normal⟩,
     ⟨0, 1, 3, 1, .step, .normal, .subRecipe, .subRecipe, .subRecipe⟩,
     ⟨1, 0, 1, 1, .header, .subRecipe, .subRecipe, .subRecipe, .normal⟩,
     ⟨2, 0, 1, 1, .ingredient, .subRecipe, .subRecipe, .normal, .subRecipe⟩] := by decide
example : drawing exTree = .outlined (.step [.leaf .ingredient, .titled (.leaf .ingredient)]) := by decide

end RG.C02
