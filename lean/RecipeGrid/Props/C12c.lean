import RecipeGrid.Props.C12b
/-! C12c — the comparison made between exact-factor units is the comparison of the physical amounts. -/
namespace RG.C12
/-- The hypothesis `hsc` is what `exact_factors_are_reference_ratios` (C12b) gives for an exact factor `sc` of the table, with
    `ra`, `rb` the reference values of the two units; the left side is the quantity `equal_amount_decided_by_factor` bounds. -/
theorem exact_comparison_is_physical (x y : Rat) {sc ra rb : Rat} (hra : ra ≠ 0) (hsc : sc = rb / ra) :
    relDiff x (y * sc) = relDiff (x * ra) (y * rb) := by
  rw [← relDiff_mul_right x (y * sc) hra, hsc]
  have : y * (rb / ra) * ra = y * rb := by
    rw [Rat.div_def, Rat.mul_assoc, Rat.mul_assoc, Rat.inv_mul_cancel _ hra, Rat.mul_one]
  rw [this]
end RG.C12
