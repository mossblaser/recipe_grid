import RecipeGrid.Model.Text
import RecipeGrid.Lemmas.Text
/-! C19.1 — padding a block's text with `k` newlines shifts line numbers by `k` and changes nothing else. -/
namespace RG.C19

/-- the Markdown front end prepends `k` newlines to a block's text so that line numbers match the document -/
def pad (k : Nat) (s : Str) : Str := List.replicate k '\n' ++ s

/-- sample text for the non-vacuity checks: `"ab\r\ncd\nef"` -/
def sample : Str := ['a', 'b', '\r', '\n', 'c', 'd', '\n', 'e', 'f']

theorem splitLinesKeep_pad (k : Nat) (s : Str) :
    splitLinesKeep (pad k s) = List.replicate k ['\n'] ++ splitLinesKeep s := by
  rw [pad, splitLinesKeep_append _ _ (complete_replicate_nl k s), splitLinesKeep_replicate_nl]

example : splitLinesKeep (pad 2 sample) =
    [['\n'], ['\n'], ['a', 'b', '\r', '\n'], ['c', 'd', '\n'], ['e', 'f']] := by decide +kernel

/-- C19.1 for any offset (inside, at the end, or beyond) of a non-empty text -/
theorem pad_line_of_ne_nil (k : Nat) (s : Str) (o : Nat) (hs : s ≠ []) :
    offsetToLineCol (pad k s) (k + o) = ((offsetToLineCol s o).1 + k, (offsetToLineCol s o).2) := by
  simpa [pad, splitLinesKeep_replicate_nl] using offsetToLineCol_append _ s o (complete_replicate_nl k s) hs

/-- C19.1 the line of a token moves down by exactly k, its column is unchanged -/
theorem pad_line (k : Nat) (s : Str) (o : Nat) (h : o < s.length) :
    offsetToLineCol (pad k s) (k + o) = ((offsetToLineCol s o).1 + k, (offsetToLineCol s o).2) :=
  pad_line_of_ne_nil k s o (by intro e; subst e; simp at h)

example : offsetToLineCol sample 5 = (2, 2) ∧ offsetToLineCol (pad 3 sample) (3 + 5) = (5, 2) := by
  decide +kernel

/-- also for the position just past the end of a non-empty text -/
theorem pad_line_end (k : Nat) (s : Str) (hs : s ≠ []) :
    offsetToLineCol (pad k s) (k + s.length) =
      ((offsetToLineCol s s.length).1 + k, (offsetToLineCol s s.length).2) :=
  pad_line_of_ne_nil k s s.length hs

example : offsetToLineCol sample sample.length = (3, 3) ∧
    offsetToLineCol (pad 3 sample) (3 + sample.length) = (6, 3) := by decide +kernel

/-- the hypothesis `s ≠ []` is needed: for the empty text the end position is reported on the last padding
    line, not one line below it -/
example : offsetToLineCol (pad 2 []) (2 + 0) = (2, 2) ∧ offsetToLineCol [] 0 = (1, 1) := by decide +kernel

/-- and the quoted line is the same text -/
theorem pad_extract (k : Nat) (s : Str) (l : Nat) (hl : 1 ≤ l) (hs : s ≠ []) :
    extractLine (pad k s) (l + k) = extractLine s l := by
  simpa [pad, splitLinesKeep_replicate_nl] using extractLine_append _ s l (complete_replicate_nl k s) hs hl

example : extractLine (pad 3 sample) (2 + 3) = some ['c', 'd'] ∧ extractLine sample 2 = some ['c', 'd'] := by
  decide +kernel

/-- both hypotheses are needed: for the empty text the padded text has no line `l + k`, and line `0` (Python's
    index `-1`, the last line) of the padded text `k` is a padding line -/
example : extractLine (pad 2 []) (1 + 2) = none ∧ extractLine [] 1 = some [] ∧
    extractLine (pad 2 sample) (0 + 2) = some [] ∧ extractLine sample 0 = some ['e', 'f'] := by
  decide +kernel

end RG.C19
