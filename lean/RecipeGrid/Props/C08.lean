import RecipeGrid.Lemmas.Recipe
/-! C08.4: the constructors refuse exactly the invalid recipe structures, and following references
    terminates. (C08.2, validity is preserved by scaling, is `RG.C03.scale_valid`.)
    The lemmas about `checkBlocks` are in `Lemmas/Recipe.lean`. -/
namespace RG.C08

theorem mkStep_ok_iff (d : SVS) (inputs : List Tree) :
    mkStep d inputs = .ok (.step d inputs) ↔ ∀ t ∈ inputs, t.numOutputs ≤ 1 := by
  unfold mkStep
  split
  · rename_i h
    simp only [List.all_eq_true, Tree.canBeChild_iff] at h
    simpa using h
  · rename_i h
    simp only [List.all_eq_true, Tree.canBeChild_iff] at h
    simpa using h

theorem mkStep_total (d : SVS) (inputs : List Tree) :
    mkStep d inputs = .ok (.step d inputs) ∨ mkStep d inputs = .error .multiOutputNonRoot := by
  unfold mkStep; split <;> simp

/-- a step refuses exactly when some input is a sub recipe with more than one output -/
theorem mkStep_refuses_iff (d : SVS) (inputs : List Tree) :
    mkStep d inputs = .error .multiOutputNonRoot ↔ ∃ t ∈ inputs, 1 < t.numOutputs := by
  constructor
  · intro h
    apply Decidable.byContradiction
    intro hne
    have hok := (mkStep_ok_iff d inputs).2 fun t ht => Nat.le_of_not_lt fun hlt => hne ⟨t, ht, hlt⟩
    rw [hok] at h
    cases h
  · rintro ⟨t, ht, hlt⟩
    rcases mkStep_total d inputs with hok | herr
    · exact absurd ((mkStep_ok_iff d inputs).1 hok t ht) (Nat.not_le.2 hlt)
    · exact herr

example : mkStep [.text "mix".toList, .num ⟨2, .int⟩]
    [.sub (.ingredient [] none) [[.text ['a']], [.text ['b']]] false] = .error .multiOutputNonRoot := rfl
example : ∃ t, mkStep [.text "mix".toList, .num ⟨2, .int⟩]
    [.ingredient [.text "flour".toList] (some ⟨⟨3 / 2, .frac⟩, some "kg".toList, " ".toList, []⟩)] = .ok t :=
  ⟨_, rfl⟩

theorem mkSub_refuses_iff (body : Tree) (names : List SVS) (showNames : Bool) :
    (mkSub body names showNames = .error .multiOutputNonRoot ↔ 1 < body.numOutputs) ∧
    (mkSub body names showNames = .error .zeroOutput ↔ body.numOutputs ≤ 1 ∧ names = []) ∧
    (mkSub body names showNames = .ok (.sub body names showNames) ↔ body.numOutputs ≤ 1 ∧ names ≠ []) := by
  unfold mkSub
  cases hc : body.canBeChild with
  | false =>
    have : ¬ body.numOutputs ≤ 1 := fun h => by simp [(Tree.canBeChild_iff body).2 h] at hc
    simp [this, Nat.lt_of_not_le this]
  | true =>
    have : body.numOutputs ≤ 1 := (Tree.canBeChild_iff body).1 hc
    cases names with
    | nil => simp [this, Nat.not_lt.2 this]
    | cons n ns => simp [this, Nat.not_lt.2 this]

example : mkSub (.ingredient [] none) [] true = .error .zeroOutput := rfl
example : mkSub (.sub (.ingredient [] none) [[], []] true) [[]] true = .error .multiOutputNonRoot := rfl

theorem mkReference_refuses_iff (sub : Tree) (idx : Nat) (a : Amount) :
    mkReference sub idx a = .error .outputIndex ↔ sub.numOutputs ≤ idx := by
  unfold mkReference
  split <;> simp_all

theorem mkReference_ok_iff (sub : Tree) (idx : Nat) (a : Amount) :
    mkReference sub idx a = .ok (.reference sub idx a) ↔ idx < sub.numOutputs := by
  unfold mkReference
  split <;> simp_all [Nat.not_lt]

example : mkReference (.sub (.ingredient [] none) [[.text ['a']]] false) 1
    (.quantity ⟨⟨200, .int⟩, some ['g'], [], []⟩) = .error .outputIndex := rfl
example : ∃ t, mkReference (.sub (.ingredient [] none) [[.text ['a']]] false) 0
    (.quantity ⟨⟨200, .int⟩, some ['g'], [], []⟩) = .ok t := ⟨_, rfl⟩

/-- `RefTarget t s`: walking `t` (into step inputs, sub recipe bodies and the embedded copies held by
    references) meets a reference whose target is `s` -/
inductive RefTarget : Tree → Tree → Prop
  | here {s : Tree} {i : Nat} {a : Amount} : RefTarget (.reference s i a) s
  | inRef {s s' : Tree} {i : Nat} {a : Amount} : RefTarget s s' → RefTarget (.reference s i a) s'
  | inStep {t s : Tree} {d : SVS} {inputs : List Tree} : t ∈ inputs → RefTarget t s → RefTarget (.step d inputs) s
  | inSub {b s : Tree} {ns : List SVS} {sh : Bool} : RefTarget b s → RefTarget (.sub b ns sh) s

def treeAt (bs : List Block) (bi ti : Nat) : Option Tree := bs[bi]?.bind (·[ti]?)

def Before (bj tj bi ti : Nat) : Prop := bj < bi ∨ (bj = bi ∧ tj < ti)

/-- every reference target met while walking each tree is `==` to a sub recipe root at an earlier position -/
def RefsResolve (bs : List Block) : Prop :=
  ∀ (bi ti : Nat) (t s : Tree), treeAt bs bi ti = some t → RefTarget t s →
    ∃ (bj tj : Nat) (r : Tree), Before bj tj bi ti ∧ treeAt bs bj tj = some r ∧ r.isSub = true ∧ Tree.beq s r = true

mutual
theorem refTarget_of_mem : ∀ (t s : Tree), s ∈ Tree.refTargets t → RefTarget t s
  | .ingredient .., _, h => by simp [Tree.refTargets] at h
  | .step d i, s, h => by
    simp only [Tree.refTargets] at h
    obtain ⟨t, ht, hs⟩ := refTarget_of_mem_list i s h
    exact .inStep ht hs
  | .reference s' n a, s, h => by
    simp only [Tree.refTargets, List.mem_cons] at h
    rcases h with rfl | h
    · exact .here
    · exact .inRef (refTarget_of_mem s' s h)
  | .sub b ns sh, s, h => by
    simp only [Tree.refTargets] at h
    exact .inSub (refTarget_of_mem b s h)
theorem refTarget_of_mem_list : ∀ (ts : List Tree) (s : Tree), s ∈ Tree.refTargetsList ts →
    ∃ t ∈ ts, RefTarget t s
  | [], _, h => by simp [Tree.refTargetsList] at h
  | t :: ts, s, h => by
    simp only [Tree.refTargetsList, List.mem_append] at h
    rcases h with h | h
    · exact ⟨t, List.mem_cons_self, refTarget_of_mem t s h⟩
    · obtain ⟨t', ht', hs⟩ := refTarget_of_mem_list ts s h
      exact ⟨t', List.mem_cons_of_mem _ ht', hs⟩
end

/-- the model's walk (`iter_children`) meets exactly the specified targets -/
theorem mem_refTargets_iff (t s : Tree) : s ∈ Tree.refTargets t ↔ RefTarget t s := by
  refine ⟨refTarget_of_mem t s, ?_⟩
  intro h
  induction h with
  | here => simp [Tree.refTargets]
  | inRef _ ih => simp [Tree.refTargets, ih]
  | inStep ht _ ih => simpa [Tree.refTargets] using Tree.mem_refTargetsList ht ih
  | inSub _ ih => simpa [Tree.refTargets] using ih

/-- the sub recipe roots that the constructor's check has collected at a position are those at earlier positions -/
theorem mem_rootsBefore_iff {bs : List Block} {bi ti : Nat} {b : Block} (hb : bs[bi]? = some b) (r : Tree) :
    r ∈ (bs.take bi).flatten.filter Tree.isSub ++ (b.take ti).filter Tree.isSub ↔
      ∃ bj tj, Before bj tj bi ti ∧ treeAt bs bj tj = some r ∧ r.isSub = true := by
  simp only [List.mem_append, List.mem_filter, List.mem_flatten, List.mem_take_iff_getElem?, treeAt, Before]
  constructor
  · rintro (⟨⟨b', ⟨bj, hlt, hbj⟩, hr⟩, hsub⟩ | ⟨⟨tj, hlt, htj⟩, hsub⟩)
    · obtain ⟨tj, htj⟩ := List.mem_iff_getElem?.1 hr
      exact ⟨bj, tj, Or.inl hlt, by rw [hbj]; exact htj, hsub⟩
    · exact ⟨bi, tj, Or.inr ⟨rfl, hlt⟩, by rw [hb]; exact htj, hsub⟩
  · rintro ⟨bj, tj, hlt | ⟨rfl, hlt⟩, hr, hsub⟩
    · obtain ⟨b', hbj, htj⟩ := Option.bind_eq_some_iff.1 hr
      exact Or.inl ⟨⟨b', ⟨bj, hlt, hbj⟩, List.mem_of_getElem? htj⟩, hsub⟩
    · rw [hb] at hr
      exact Or.inr ⟨⟨tj, hlt, hr⟩, hsub⟩

theorem checkBlocks_iff_refsResolve (bs : List Block) : checkBlocks [] bs = true ↔ RefsResolve bs := by
  simp only [checkBlocks_iff, checkBlock_iff, List.nil_append]
  constructor
  · intro hh bi ti t s ht hs
    obtain ⟨b, hb, hti⟩ := Option.bind_eq_some_iff.1 ht
    obtain ⟨r, hr, hbeq⟩ := hh bi b hb ti t hti s ((mem_refTargets_iff t s).2 hs)
    obtain ⟨bj, tj, hlt, hrj, hsub⟩ := (mem_rootsBefore_iff hb r).1 hr
    exact ⟨bj, tj, r, hlt, hrj, hsub, hbeq⟩
  · intro hh bi b hb ti t hti s hs
    obtain ⟨bj, tj, r, hlt, hrj, hsub, hbeq⟩ :=
      hh bi ti t s (by rw [treeAt, hb]; exact hti) ((mem_refTargets_iff t s).1 hs)
    exact ⟨r, (mem_rootsBefore_iff hb r).2 ⟨bj, tj, hlt, hrj, hsub⟩, hbeq⟩

theorem mkRecipes_ok_iff (bs : List Block) : mkRecipes bs = .ok bs ↔ RefsResolve bs := by
  rw [← checkBlocks_iff_refsResolve, mkRecipes]
  cases checkBlocks [] bs <;> simp

/-- C08.4 the recipe list is refused exactly when some reference does not resolve -/
theorem mkRecipes_refuses_iff (bs : List Block) :
    mkRecipes bs = .error .referenceToInvalid ↔ ¬ RefsResolve bs := by
  rw [← mkRecipes_ok_iff]
  unfold mkRecipes
  split <;> simp

def exSub : Tree := .sub (.ingredient [.text "sauce".toList] none) [[.text "sauce".toList]] false
def exRef : Tree := .reference exSub 0 (.quantity ⟨⟨200, .int⟩, some ['g'], [], []⟩)
/-- defined first, then referenced: accepted -/
example : mkRecipes [[exSub], [.step [.text "add ".toList, .num ⟨2, .int⟩] [exRef]]] =
    .ok [[exSub], [.step [.text "add ".toList, .num ⟨2, .int⟩] [exRef]]] := by
  have : checkBlocks [] [[exSub], [.step [.text "add ".toList, .num ⟨2, .int⟩] [exRef]]] = true := by
    decide +kernel
  unfold mkRecipes
  rw [if_pos this]
/-- referenced before its definition: refused -/
theorem ex_refused : mkRecipes [[exRef], [exSub]] = .error .referenceToInvalid := by
  have : checkBlocks [] [[exRef], [exSub]] = false := by decide +kernel
  simp [mkRecipes, this]
example : ¬ RefsResolve [[exRef], [exSub]] := (mkRecipes_refuses_iff _).1 ex_refused
example : RefsResolve [[exSub, exRef]] := (checkBlocks_iff_refsResolve _).1 (by decide +kernel)

mutual
/-- nesting depth of embedded copies -/
def refDepth : Tree → Nat
  | .ingredient .. => 0
  | .step _ i => refDepthList i
  | .reference s _ _ => refDepth s + 1
  | .sub b _ _ => refDepth b
def refDepthList : List Tree → Nat
  | [] => 0
  | t :: ts => max (refDepth t) (refDepthList ts)
end

/-- following references terminates: depth of embedded copies is a structural measure -/
theorem refDepth_embedded_lt (s : Tree) (i : Nat) (a : Amount) : refDepth s < refDepth (.reference s i a) := by
  simp [refDepth]

theorem refDepth_le_list {t : Tree} : ∀ {ts : List Tree}, t ∈ ts → refDepth t ≤ refDepthList ts
  | _ :: ts, h => by
    simp only [refDepthList]
    cases h with
    | head => exact Nat.le_max_left _ _
    | tail _ h => exact Nat.le_trans (refDepth_le_list h) (Nat.le_max_right _ _)

theorem refDepth_target_lt (t s : Tree) (h : RefTarget t s) : refDepth s < refDepth t := by
  induction h with
  | here => simp [refDepth]
  | inRef _ ih =>
    simp only [refDepth]
    omega
  | inStep ht _ ih =>
    simp only [refDepth]
    exact Nat.lt_of_lt_of_le ih (refDepth_le_list ht)
  | inSub _ ih => simpa [refDepth] using ih

example : refDepth (.step [] [exRef]) = 1 := by decide +kernel

end RG.C08
