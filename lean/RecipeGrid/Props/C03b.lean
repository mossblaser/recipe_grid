import RecipeGrid.Lemmas.Stable
import RecipeGrid.Props.C08b
/-! C03 (continued), scaling and the compiler: scaling a structurally valid recipe keeps the DAG; multiplying the numbers of
    a description by an exact non-zero `k` and compiling gives the compiled recipe scaled by `k` (same trees, kinds and
    errors) provided the binary64 test `Quantity.has_equal_value_to` of `can_be_inlined` answers alike before and after –
    without that proviso it is false (`compile_scale_commute_Full_false`).  The simulation is in `Lemmas/Scale.lean`; that
    both results pass the `Recipe` check is `C08.foldAll_valid`.  (That the shares of quantity references scale is in
    `Props/C03f.lean`: this file and `Lemmas/Fold.lean` cannot be imported next to `Model/Lint.lean`, both declare
    `Tree.topRefs`.) -/
namespace RG.C03

/-- `compile` from the parsed blocks on: elaboration, the in-lining pass, the `Recipe` validity check -/
def compileAsts (asts : List (List AStmt)) : CompileResult :=
  match compileBlocks 0 {} asts with
  | .error e => e
  | .ok (blocks, st) =>
    match foldAll st.outputs.length 0 blocks st.outputs with
    | .error why => .internal why
    | .ok (blocks, _) =>
      if checkBlocks [] blocks then .ok blocks else .internal "ReferenceToInvalidSubRecipeError"

theorem compile_eq_compileAsts (srcs : List Str) :
    compile srcs = match parseAll 0 srcs with
      | .error e => e
      | .ok asts => compileAsts asts := by
  unfold compile elabBlocks
  cases parseAll 0 srcs with
  | error e => rfl
  | ok asts =>
    show (match compileBlocks 0 {} asts with
      | .error e => e
      | .ok (blocks, st) => _) = compileAsts asts
    unfold compileAsts
    cases compileBlocks 0 {} asts with
    | error e => rfl
    | ok p => rfl

def mapOk (f : List Block → List Block) : CompileResult → CompileResult
  | .ok bs => .ok (f bs)
  | r => r

def outputNames : Tree → List SVS
  | .sub _ ns _ => ns
  | _ => []

/-- **reference nodes stay consistent with their targets**: a structurally valid recipe (every embedded copy IS an
    earlier sub recipe root; what `compile` returns, `C08.compile_validS`) stays so under any factor, the copy embedded
    in a scaled reference being the scaled sub recipe (`Tree.scale` of a reference scales the copy), and Python's
    `Recipe` constructor check accepts the scaled blocks -/
theorem scale_preserves_valid (k : Num) (rs : List Block) (h : ValidS [] rs) :
    ValidS [] (scaleBlocks k rs) ∧ checkBlocks [] (scaleBlocks k rs) = true ∧
    mkRecipes (scaleBlocks k rs) = .ok (scaleBlocks k rs) :=
  ⟨scale_valid k rs h, validS_check _ (scale_valid k rs h), scale_mkRecipes_ok k rs h⟩

theorem scale_preserves_targets (k : Num) (t : Tree) :
    Tree.refTargets (Tree.scale k t) = (Tree.refTargets t).map (Tree.scale k) := Tree.refTargets_scale k t

/-- same tree shapes, texts, units, output indices and **proportions**: after erasing the scalable numbers (exactly:
    numbers of strings, of ingredient quantities, of quantity references – a `Proportion` has none) nothing differs -/
theorem scale_preserves_shape (k : Num) (rs : List Block) (h : ∀ b ∈ rs, TreeNormalList b) :
    (scaleBlocks k rs).map eraseList = rs.map eraseList := by
  simp only [scaleBlocks, List.map_map]
  apply List.map_congr_left
  intro b hb
  exact scale_frame_list k b (h b hb)

/-- a proportion (value, percentage flag, remainder wording, preposition) is left as it is -/
theorem scale_preserves_proportion (k : Num) (s : Tree) (i : Nat) (v : Option Num) (pc : Bool) (w : Option Str)
    (p : Str) : Tree.scale k (.reference s i (.proportion v pc w p)) = .reference (Tree.scale k s) i (.proportion v pc w p) :=
  rfl

/-- **same output names**: a root keeps the number of its outputs and whether it is a sub recipe; its names are the
    scaled names, which differ from the old ones only in their numbers; and (exact `k ≠ 0`, exact names) two names are
    the same name for the compiler's table (`normalise_output_name`, `==`) after scaling iff they were before -/
theorem scale_preserves_names (k : Num) (t : Tree) :
    outputNames (Tree.scale k t) = (outputNames t).map (Svs.scale k) ∧
    (Tree.scale k t).numOutputs = t.numOutputs ∧ (Tree.scale k t).isSub = t.isSub ∧
    (TreeNormal t → (outputNames (Tree.scale k t)).map eraseSvs = (outputNames t).map eraseSvs) ∧
    (k.kind ≠ .flt → k.val ≠ 0 → ∀ n m : SVS, SvsGood n → SvsGood m →
      (normaliseName (Svs.scale k n) == normaliseName (Svs.scale k m)) = (normaliseName n == normaliseName m)) := by
  refine ⟨by cases t <;> simp [outputNames, Tree.scale], Tree.numOutputs_scale k t, Tree.isSub_scale k t, ?_, ?_⟩
  · intro hn
    cases t with
    | sub b ns sh =>
      simp only [TreeNormal] at hn
      simp only [outputNames, Tree.scale, List.map_map]
      apply List.map_congr_left
      intro n hnm
      exact svs_scale_frame k n (hn.2 n hnm)
    | _ => simp [outputNames, Tree.scale]
  · intro hk hk0 n m hn hm
    rw [normaliseName_scale k n hn.1, normaliseName_scale k m hm.1]
    exact Svs.beq_scale hk hk0 (svsGood_normaliseName hn) (svsGood_normaliseName hm)

/-- the simulation, for any pool `P` of quantities: a set that holds every quantity written in the description (no closure
    property is asked of it) and on which the in-lining test is stable, `HevStable k P`; `compile_scale_commute` takes
    `P = (· ∈ astQuantities asts)` -/
theorem compile_scale_commute_pool {k : Num} (hk : k.kind ≠ .flt) (hk0 : k.val ≠ 0) {P : Quantity → Prop}
    (asts : List (List AStmt)) (hok : AstOk P asts) (hstab : HevStable k P) :
    compileAsts (scaleAst k asts) = mapOk (scaleBlocks k) (compileAsts asts) := by
  unfold compileAsts
  have h := compileBlocks_scale hk hk0 asts 0 {} (P := P) (by intro o ho; cases ho) hok
  rw [show scaleSt k {} = {} from rfl] at h
  rcases h.cases with ⟨e, hx, hy⟩ | ⟨⟨_, _⟩, ⟨bs, st⟩, hx, hy, rfl, rfl, hb, hst⟩
  · rw [hx, hy]
    cases e with
    | ok bs => exact absurd hy ((C01.elab_no_other_error asts).2.2.2 bs)
    | _ => rfl
  · rw [hx, hy]
    simp only []
    have hl : (scaleSt k st).outputs.length = st.outputs.length := by simp [scaleSt]
    have hv := C08.foldAll_valid _ _ _ hx
    rw [hl, show (scaleSt k st).outputs = st.outputs.map (scaleOut k) from rfl] at hv ⊢
    rcases (foldAll_scale hk hk0 hstab st.outputs.length 0 bs st.outputs hb hst).cases with
      ⟨w, hfx, hfy⟩ | ⟨⟨_, o2'⟩, ⟨b2, o2⟩, hfx, hfy, rfl, _, _, _⟩
    · rw [hfx, hfy]
      rfl
    · -- both results pass the `Recipe` check, as every result of the in-lining pass does
      rw [hfx, hfy]
      simp only [C08.foldAll_valid _ _ _ hy _ _ hfy, hv _ _ hfx]
      rfl

/-- **C03b.2 scaling commutes with compiling.**  `k` an exact (`int`/`Fraction`) non-zero factor, a description whose
    scalable numbers are exact: compiling the description with every quantity literal and every `{…}` number multiplied
    by `k` gives the compiled recipe scaled by `k` – equal as trees, number kinds included (both sides compute the same
    `Num.mul v k`), so a fortiori equal for Python's `==` – and gives the same error (same block, same source offset)
    when the description is rejected; provided the in-lining tests answer alike (`InlineTestsStable`). -/
theorem compile_scale_commute {k : Num} (hk : k.kind ≠ .flt) (hk0 : k.val ≠ 0) (asts : List (List AStmt))
    (hex : AstExact asts) (hstab : InlineTestsStable k asts) :
    compileAsts (scaleAst k asts) = mapOk (scaleBlocks k) (compileAsts asts) :=
  compile_scale_commute_pool hk hk0 asts (astOk_of_exact hex) (fun q iq hq hiq => hstab q hq.2 iq hiq.2)

theorem compile_scale_ok_iff {k : Num} (hk : k.kind ≠ .flt) (hk0 : k.val ≠ 0) (asts : List (List AStmt))
    (hex : AstExact asts) (hstab : InlineTestsStable k asts) :
    (∃ bs, compileAsts (scaleAst k asts) = .ok bs) ↔ ∃ bs, compileAsts asts = .ok bs := by
  rw [compile_scale_commute hk hk0 asts hex hstab]
  cases compileAsts asts <;> simp [mapOk]

/-- `ProportionGivenForIngredientError` / `NameRedefinedError` are raised for the scaled description exactly when they
    are for the original, at the same place -/
theorem compile_scale_error {k : Num} (hk : k.kind ≠ .flt) (hk0 : k.val ≠ 0) (asts : List (List AStmt))
    (hex : AstExact asts) (hstab : InlineTestsStable k asts) (b off : Nat) :
    (compileAsts (scaleAst k asts) = .proportion b off ↔ compileAsts asts = .proportion b off) ∧
    (compileAsts (scaleAst k asts) = .redefined b off ↔ compileAsts asts = .redefined b off) := by
  rw [compile_scale_commute hk hk0 asts hex hstab]
  cases compileAsts asts <;> simp [mapOk]

/-- the elaboration (everything before the in-lining pass, where all the documented errors come from) commutes with
    scaling without any proviso: same error, or the scaled trees and the scaled table of named outputs -/
theorem elab_scale_commute {k : Num} (hk : k.kind ≠ .flt) (hk0 : k.val ≠ 0) (asts : List (List AStmt))
    (hex : AstExact asts) :
    compileBlocks 0 {} (scaleAst k asts) =
      match compileBlocks 0 {} asts with
      | .error e => .error e
      | .ok (bs, st) => .ok (scaleBlocks k bs, scaleSt k st) := by
  have h := compileBlocks_scale hk hk0 asts 0 {} (P := (· ∈ astQuantities asts)) (by intro o ho; cases ho)
    (astOk_of_exact hex)
  rw [show scaleSt k {} = {} from rfl] at h
  rcases h.cases with ⟨e, hx, hy⟩ | ⟨⟨_, _⟩, ⟨bs, st⟩, hx, hy, rfl, rfl, _, _⟩
  · rw [hx, hy]
  · rw [hx, hy]

/-- the proviso holds when the only pairs `can_be_inlined` may compare are written with the same number and no unit
    (for two names of one unit see `C12.equal_amount_aliases`): such a pair compares equal before and after -/
theorem inlineTest_of_same_value {k : Num} (hk : k.kind ≠ .flt) {q iq : Quantity}
    (hq : q.value.kind ≠ .flt) (hiq : iq.value.kind ≠ .flt) (hv : q.value.val = iq.value.val)
    (hu : q.unit = none ∧ iq.unit = none) :
    (q.scale k).hasEqualValueTo (iq.scale k) = q.hasEqualValueTo iq := by
  obtain ⟨h1, h2⟩ := hasEqualValueTo_scale_of_eq hk hq hiq hv (sc := ⟨1, .int⟩)
    (by simp [Quantity.hevFactor, hu.1, hu.2]) (by simp) rfl
  rw [h1, h2]

/-- the statement without the proviso -/
def compile_scale_commute_Full : Prop :=
  ∀ (k : Num) (asts : List (List AStmt)), k.kind ≠ .flt → k.val ≠ 0 → AstExact asts →
    compileAsts (scaleAst k asts) = mapOk (scaleBlocks k) (compileAsts asts)

def rootCounts : CompileResult → Option (List Nat)
  | .ok bs => some (bs.map List.length)
  | _ => none

/-- `flour` is defined with 1 − 9007199.45·2⁻⁵³ (as a fraction) and used once as `1 flour`: in binary64 the two are
    within 1e-9 relatively, so the definition is in-lined.  Times 3/2 they are 6755400·2⁻⁵² apart, just outside. -/
def cexText : Str := "180143984914675851/180143985094819840 flour\nfry(1 flour)".toList

def cexAsts : List (List AStmt) := match parseAll 0 [cexText] with | .ok a => a | .error _ => []

/-- what is evaluated of the counterexample (`exact` … `unstable`) and of the two short descriptions of the examples at the end
    of the file (`rejectedAlike`, `zeroCollides`) -/
structure CexFacts : Prop where
  exact : astExactB cexAsts = true
  rootsPlain : rootCounts (compileAsts cexAsts) = some [1]
  rootsScaled : rootCounts (compileAsts (scaleAst ⟨3 / 2, .frac⟩ cexAsts)) = some [2]
  unstable : inlineTestsStableB ⟨3 / 2, .frac⟩ cexAsts = false
  rejectedAlike : (match parseAll 0 ["fry(1/2 of the sauce, 2 eggs)".toList] with
    | .ok asts =>
      (match compileAsts asts, compileAsts (scaleAst ⟨3 / 2, .frac⟩ asts) with
       | .proportion b o, .proportion b' o' => b == b' && o == o'
       | _, _ => false)
    | .error _ => false) = true
  zeroCollides : (match parseAll 0 ["{1} egg mix = whisk(egg)\n{2} egg mix = beat(eggs)".toList] with
    | .ok asts =>
      astExactB asts && inlineTestsStableB ⟨0, .int⟩ asts &&
      (match compileAsts asts, compileAsts (scaleAst ⟨0, .int⟩ asts) with
       | .ok bs, .redefined b o => bs.map List.length == [2] && b == 0 && o == 26
       | _, _ => false)
    | .error _ => false) = true

instance : Decidable CexFacts :=
  decidable_of_iff (_ ∧ _ ∧ _ ∧ _ ∧ _ ∧ _)
    ⟨fun h => ⟨h.1, h.2.1, h.2.2.1, h.2.2.2.1, h.2.2.2.2.1, h.2.2.2.2.2⟩,
     fun h => ⟨h.exact, h.rootsPlain, h.rootsScaled, h.unstable, h.rejectedAlike, h.zeroCollides⟩⟩

/-- evaluated together: lower-casing letters is the slow part of compiling a short text, and the three descriptions share
    theirs -/
theorem cex_facts : CexFacts := by decide +kernel

/-- **finding**: scaling does not commute with compiling in general.  Compiling the description above gives one tree
    (`fry(flour)`, the definition in-lined); compiling it with its numbers multiplied by 3/2 gives two (the definition
    and `fry(3/2 flour)` with a reference), because `has_equal_value_to` is evaluated on different doubles.  The
    Python code does the same (checked with `recipe_grid.compiler.compile`). -/
theorem compile_scale_commute_Full_false : ¬ compile_scale_commute_Full := by
  intro h
  have h1 := h ⟨3 / 2, .frac⟩ cexAsts (by decide) (by decide +kernel) (astExact_of_B cex_facts.exact)
  have h2 := congrArg rootCounts h1
  rw [cex_facts.rootsScaled] at h2
  have h3 : rootCounts (mapOk (scaleBlocks ⟨3 / 2, .frac⟩) (compileAsts cexAsts)) = rootCounts (compileAsts cexAsts) := by
    cases compileAsts cexAsts <;> simp only [mapOk, rootCounts, scaleBlocks, List.map_map, Option.some.injEq]
    apply List.map_congr_left
    intro a _
    simp [Tree.scaleList_eq_map]
  rw [h3, cex_facts.rootsPlain] at h2
  cases h2

theorem inferQuantity_scale' (k : Num) (s : Tree) :
    inferQuantity (Tree.scale k s) = (inferQuantity s).map (Quantity.scale k) := inferQuantity_scale k s

/-- `flour` (defined by quantity, used once with the same quantity: in-lined), `sauce` referenced twice, by quantity
    and by remainder; `{…}` numbers in an ingredient and in a step name -/
def exText : Str :=
  "500g flour\nsauce = simmer(400g tomatoes, 2 onions cut in {4})\nbake for {3} people(250g of sauce, sift(500g flour))\npizza(remaining sauce, 1 pizza base)".toList

def exAsts : List (List AStmt) := match parseAll 0 [exText] with | .ok a => a | .error _ => []

/-- what multiplying by 3/2 in the text gives: the same ASTs up to the source offsets (not compared here: the trees are) -/
def exTextScaled : Str :=
  "750g flour\nsauce = simmer(600g tomatoes, 3 onions cut in {6})\nbake for {9/2} people(375g of sauce, sift(750g flour))\npizza(remaining sauce, 3/2 pizza base)".toList

def blocksBeq (a b : List Block) : Bool := Tree.beqList a.flatten b.flatten && a.map List.length == b.map List.length

-- `exAsts` is evaluated in `C03d.lean` (`exAsts_evaluated`), together with its off-edge check.

/-- a rejected description stays rejected at the same place: `1/2 of the sauce` with no `sauce` defined -/
example : (match parseAll 0 ["fry(1/2 of the sauce, 2 eggs)".toList] with
    | .ok asts =>
      (match compileAsts asts, compileAsts (scaleAst ⟨3 / 2, .frac⟩ asts) with
       | .proportion b o, .proportion b' o' => b == b' && o == o'
       | _, _ => false)
    | .error _ => false) = true := cex_facts.rejectedAlike

/-- why `k ≠ 0`: numbers inside names tell names apart; times 0 the two names below collide, and the scaled
    description is rejected (`NameRedefinedError` at offset 26) while the original compiles to two roots -/
example : (match parseAll 0 ["{1} egg mix = whisk(egg)\n{2} egg mix = beat(eggs)".toList] with
    | .ok asts =>
      astExactB asts && inlineTestsStableB ⟨0, .int⟩ asts &&
      (match compileAsts asts, compileAsts (scaleAst ⟨0, .int⟩ asts) with
       | .ok bs, .redefined b o => bs.map List.length == [2] && b == 0 && o == 26
       | _, _ => false)
    | .error _ => false) = true := cex_facts.zeroCollides

end RG.C03
