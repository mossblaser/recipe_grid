import RecipeGrid.Lemmas.ServingSplit
/-! C18 — title and serving count are read from the heading as documented.
    The vocabulary of the specification (`SpaceRun`, `CiWord`, `PhraseText`, `CaseVariantOf`)
    is defined, with comments, in `Lemmas/Markdown.lean`; the statements about the matcher and the search are read off their
    characterisation by `ServingSplit` (`Lemmas/ServingSplit.lean`). -/
namespace RG.C18

/-- only a first, level-1 heading without markup or placeholder can give a title -/
theorem not_first_no_title (level : Nat) (text : Str) (phs : List Str) : headingInfo false level text phs = .none := by
  simp [headingInfo]
theorem lower_level_no_title (first : Bool) (level : Nat) (text : Str) (phs : List Str) (h : level ≠ 1) :
    headingInfo first level text phs = .none := by
  simp [headingInfo, h]
theorem markup_no_title (first : Bool) (level : Nat) (text : Str) (phs : List Str) (h : '<' ∈ text) :
    headingInfo first level text phs = .none := by
  simp [headingInfo, h]

/-- C18.1 (table side) every serving phrase the documentation lists is one the title pattern accepts.
    Both tables are regenerated from /repo on every run, so dropping a documented form from the pattern breaks this proof. -/
theorem documented_phrases_accepted : ∀ p ∈ Gen.documentedPhrases, p ∈ Gen.servingPhrases := by decide +kernel

/-- every accepted phrase is a non-empty sequence of non-empty lower-case ASCII words -/
theorem phrases_wellformed : ∀ p ∈ Gen.servingPhrases, p ≠ [] ∧ ∀ w ∈ p, w ≠ "" ∧ w.toList.all (fun c => 'a' ≤ c ∧ c ≤ 'z') = true := by
  decide +kernel

/-- C18's statements are self-contained: this definition spells out, with the vocabulary of `Lemmas/Markdown.lean` only, what
    `Lemmas/ServingSplit.lean` calls a `ServingSplit s [] …` (a split with nothing in front); `matchServingsAt_isSome_iff` below
    ties the two.

    C18.2, the documented shape of a serving suffix: spaces, a phrase (the words of an accepted phrase, any letter case,
    separated by spaces), spaces, digits, optional spaces, end -/
def IsServingSuffix (s : Str) : Prop :=
  ∃ sp ph sp2 ds sp3, s = sp ++ ph ++ sp2 ++ ds ++ sp3 ∧
    sp ≠ [] ∧ (∀ c ∈ sp, isReSpace c = true) ∧
    (∃ p ∈ Gen.servingPhrases, PhraseText p ph) ∧
    sp2 ≠ [] ∧ (∀ c ∈ sp2, isReSpace c = true) ∧
    ds ≠ [] ∧ (∀ c ∈ ds, isDigit c = true) ∧ (∀ c ∈ sp3, isReSpace c = true)

/-- a match of the pattern at the very start of `s`, with its three groups: exactly the documented shape
    (the decomposition of `IsServingSuffix` with the groups named) -/
theorem matchServingsAt_iff (s sp prep ds : Str) :
    matchServingsAt s = some (sp, prep, ds) ↔
      ∃ p ∈ Gen.servingPhrases, ∃ ph sp2 tail, s = sp ++ prep ++ ds ++ tail ∧ prep = ph ++ sp2 ∧
        SpaceRun sp ∧ PhraseText p ph ∧ SpaceRun sp2 ∧ ds ≠ [] ∧ (∀ c ∈ ds, isDigit c = true) ∧
        (∀ c ∈ tail, isReSpace c = true) := by
  constructor
  · intro h
    obtain ⟨ph, sp2, tail, rfl, hs⟩ := split_of_matchServingsAt h
    obtain ⟨p, hp, hph⟩ := hs.phrase_ok
    exact ⟨p, hp, ph, sp2, tail, by simpa using hs.text_eq, rfl, hs.ws₁_run, hph, hs.ws₂_run, hs.digits_ne, hs.digits_ok,
      hs.ws₃_run⟩
  · rintro ⟨p, hp, ph, sp2, tail, hs, rfl, hsp, hph, hsp2, hne, hdig, htail⟩
    exact matchServingsAt_of_split ⟨by simpa using hs, hsp, ⟨p, hp, hph⟩, hsp2, hne, hdig, htail⟩

theorem matchServingsAt_isSome_iff (s : Str) : (matchServingsAt s).isSome = true ↔ IsServingSuffix s := by
  constructor
  · intro h
    obtain ⟨⟨sp, prep, ds⟩, hm⟩ := Option.isSome_iff_exists.mp h
    obtain ⟨ph, sp2, tail, rfl, hs⟩ := split_of_matchServingsAt hm
    exact ⟨sp, ph, sp2, ds, tail, by simpa using hs.text_eq, hs.ws₁_run.1, hs.ws₁_run.2, hs.phrase_ok, hs.ws₂_run.1,
      hs.ws₂_run.2, hs.digits_ne, hs.digits_ok, hs.ws₃_run⟩
  · rintro ⟨sp, ph, sp2, ds, tail, hs, h1, h2, hph, h3, h4, hne, hdig, htail⟩
    rw [matchServingsAt_of_split ⟨by simpa using hs, ⟨h1, h2⟩, hph, ⟨h3, h4⟩, hne, hdig, htail⟩]
    rfl

/-- soundness: whatever `searchServings` returns is a decomposition of the text whose remainder is a serving suffix -/
theorem searchServings_sound (text before space prep ds : Str)
    (h : searchServings text = some (before, space, prep, ds)) :
    ∃ tail, text = before ++ space ++ prep ++ ds ++ tail ∧ (∀ c ∈ tail, isReSpace c = true) ∧
      space ≠ [] ∧ (∀ c ∈ space, isReSpace c = true) ∧ ds ≠ [] ∧ (∀ c ∈ ds, isDigit c = true) ∧
      ∃ p ∈ Gen.servingPhrases, ∃ ph sp2, prep = ph ++ sp2 ∧ PhraseText p ph ∧ SpaceRun sp2 := by
  obtain ⟨ph, sp2, tail, rfl, hs, _⟩ := (searchServings_eq_some_iff _ _ _ _ _).mp h
  obtain ⟨p, hp, hph⟩ := hs.phrase_ok
  exact ⟨tail, by simpa [List.append_assoc] using hs.text_eq, hs.ws₃_run, hs.ws₁_run.1, hs.ws₁_run.2, hs.digits_ne,
    hs.digits_ok, p, hp, ph, sp2, rfl, hph, hs.ws₂_run⟩

theorem searchServings_sound_suffix (text before space prep ds : Str)
    (h : searchServings text = some (before, space, prep, ds)) :
    ∃ suffix, text = before ++ suffix ∧ IsServingSuffix suffix := by
  obtain ⟨tail, ht, htail, h1, h2, h3, h4, p, hp, ph, sp2, rfl, hph, hsp2⟩ := searchServings_sound _ _ _ _ _ h
  exact ⟨space ++ ph ++ sp2 ++ ds ++ tail, by simp [ht],
    space, ph, sp2, ds, tail, rfl, h1, h2, ⟨p, hp, hph⟩, hsp2.1, hsp2.2, h3, h4, htail⟩

/-- what `searchServings` returns is the LEFTMOST match: it starts at offset `before.length`, and at no earlier offset does
    the pattern match (no earlier remainder of the text is a serving suffix) -/
theorem searchServings_leftmost (text before space prep ds : Str)
    (h : searchServings text = some (before, space, prep, ds)) :
    before = text.take before.length ∧
    matchServingsAt (text.drop before.length) = some (space, prep, ds) ∧
    ∀ k, k < before.length → matchServingsAt (text.drop k) = none ∧ ¬ IsServingSuffix (text.drop k) := by
  obtain ⟨n, hb, hm, hlt⟩ := searchServingsAux_eq_some_iff.mp h
  simp only [List.reverse_nil, List.nil_append] at hb
  have hlen : before.length = n := by
    obtain ⟨_, _, _, _, _, e⟩ := split_of_match_at hm
    rw [hb, e]
  rw [hlen]
  refine ⟨hb, hm, fun k hk => ⟨hlt k hk, ?_⟩⟩
  rw [← matchServingsAt_isSome_iff, hlt k hk]
  simp

/-- no serving count is found exactly when no remainder of the text is a serving suffix -/
theorem searchServings_none_iff_no_suffix (text : Str) :
    searchServings text = none ↔ ∀ k, ¬ IsServingSuffix (text.drop k) := by
  rw [searchServings, searchServingsAux_eq_none]
  constructor
  · intro h k
    rw [← matchServingsAt_isSome_iff, h k]
    simp
  · intro h k
    have := h k
    rw [← matchServingsAt_isSome_iff] at this
    simpa using this

/-- completeness: a text that ends in a serving suffix, with no serving suffix starting earlier, is split there -/
theorem searchServings_complete (before sp ph sp2 ds tail : Str) (p : List String) (hp : p ∈ Gen.servingPhrases)
    (hsp : SpaceRun sp) (hph : PhraseText p ph) (hsp2 : SpaceRun sp2) (hne : ds ≠ [])
    (hdig : ∀ c ∈ ds, isDigit c = true) (htail : ∀ c ∈ tail, isReSpace c = true)
    (hfirst : ∀ k, k < before.length → matchServingsAt ((before ++ sp ++ ph ++ sp2 ++ ds ++ tail).drop k) = none) :
    searchServings (before ++ sp ++ ph ++ sp2 ++ ds ++ tail) = some (before, sp, ph ++ sp2, ds) := by
  exact (searchServings_eq_some_iff _ _ _ _ _).mpr
    ⟨ph, sp2, tail, rfl, ⟨rfl, hsp, ⟨p, hp, hph⟩, hsp2, hne, hdig, htail⟩, (leftmost_iff_no_match _ _).mpr hfirst⟩

/-- C18.1 completeness for the documented forms: a title `T` (with no earlier match inside it) followed by spaces,
    a documented phrase in ANY letter case, spaces and a number `n` is split into `T` and `n` -/
theorem documented_forms_recognised (T sp1 sp2 : Str) (ph : List String) (phText : Str) (n : Nat)
    (hph : ph ∈ Gen.documentedPhrases) (hcase : CaseVariantOf ph phText)
    (hsp1 : SpaceRun sp1) (hsp2 : SpaceRun sp2)
    (hT : ∀ k, k < T.length → matchServingsAt ((T ++ sp1 ++ phText ++ sp2 ++ natDigits n).drop k) = none) :
    searchServings (T ++ sp1 ++ phText ++ sp2 ++ natDigits n) = some (T, sp1, phText ++ sp2, natDigits n) := by
  have hp := documented_phrases_accepted ph hph
  have := searchServings_complete T sp1 phText sp2 (natDigits n) [] ph hp hsp1
    (CaseVariantOf.phraseText (servingPhrases_wf ph hp).2 hcase) hsp2 (natDigits_ne_nil n) (natDigits_all_digit n)
    (by simp) (by simpa using hT)
  simpa using this

/-- the side condition of `documented_forms_recognised` holds when the title contains no space at all -/
theorem documented_forms_recognised_word (T sp1 sp2 : Str) (ph : List String) (phText : Str) (n : Nat)
    (hph : ph ∈ Gen.documentedPhrases) (hcase : CaseVariantOf ph phText)
    (hsp1 : SpaceRun sp1) (hsp2 : SpaceRun sp2) (hT : ∀ c ∈ T, isReSpace c = false) :
    searchServings (T ++ sp1 ++ phText ++ sp2 ++ natDigits n) = some (T, sp1, phText ++ sp2, natDigits n) := by
  apply documented_forms_recognised T sp1 sp2 ph phText n hph hcase hsp1 hsp2
  intro k hk
  have hd : (T ++ sp1 ++ phText ++ sp2 ++ natDigits n).drop k = T[k] :: (T.drop (k + 1) ++ sp1 ++ phText ++ sp2 ++ natDigits n) := by
    simp only [List.append_assoc]
    rw [List.drop_append_of_le_length (by omega), List.drop_eq_getElem_cons hk]
    rfl
  rw [hd]
  simp [matchServingsAt, spaces1, hT T[k] (by simp)]

/-- end to end: such a first level-1 heading (no markup, containing none of the placeholders issued so far) is a
    scalable title with serving count `n`; the title is everything before the phrase -/
theorem heading_documented_form (T sp1 sp2 : Str) (ph : List String) (phText : Str) (n : Nat) (phs : List Str)
    (hph : ph ∈ Gen.documentedPhrases) (hcase : CaseVariantOf ph phText)
    (hsp1 : SpaceRun sp1) (hsp2 : SpaceRun sp2)
    (hT : ∀ k, k < T.length → matchServingsAt ((T ++ sp1 ++ phText ++ sp2 ++ natDigits n).drop k) = none)
    (hlt : '<' ∉ T ++ sp1 ++ phText ++ sp2 ++ natDigits n)
    (hphs : ∀ q ∈ phs, isInfixOfStr q (T ++ sp1 ++ phText ++ sp2 ++ natDigits n) = false) :
    headingInfo true 1 (T ++ sp1 ++ phText ++ sp2 ++ natDigits n) phs =
      .scalable (unescapeEntities (stripStr (T ++ sp1))) n (T ++ sp1) (phText ++ sp2) := by
  rw [headingInfo_plain ⟨hlt, hphs⟩, documented_forms_recognised T sp1 sp2 ph phText n hph hcase hsp1 hsp2 hT]
  simp only [natOfDigitChars_eq_digitsVal, digitsVal_natDigits]

example : searchServings "Stew  to serve 4".toList = some ("Stew".toList, "  ".toList, "to serve ".toList, "4".toList) := by
  decide +kernel
example : searchServings "Food to TO  sErVeS 12 ".toList = some ("Food to".toList, " ".toList, "TO  sErVeS ".toList, "12".toList) := by
  decide +kernel
example : searchServings "Stew to serve four".toList = none := by decide +kernel
example : headingInfo true 1 "Bread FOR 12".toList [] = .scalable "Bread".toList 12 "Bread ".toList "FOR ".toList := by
  decide +kernel
-- the side condition on `T` is needed: a trailing "to" belongs to the leftmost match, not to the title
example : searchServings "Food to serves 4".toList = some ("Food".toList, " ".toList, "to serves ".toList, "4".toList) := by
  decide +kernel
example : CaseVariantOf ["to", "serve"] "To  SERVE".toList :=
  ⟨"To".toList, "  ".toList, "SERVE".toList, rfl, by decide +kernel, by decide +kernel, by show CaseVariantWord _ _; decide +kernel⟩
example : IsServingSuffix " for 2".toList :=
  ⟨" ".toList, "for".toList, " ".toList, "2".toList, [], by decide +kernel, by decide +kernel, by decide +kernel,
    ⟨["for"], by decide +kernel, by show CiWord _ _; decide +kernel⟩, by decide +kernel, by decide +kernel, by decide +kernel, by decide +kernel, by decide +kernel⟩

end RG.C18
