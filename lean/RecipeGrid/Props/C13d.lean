import RecipeGrid.Props.C13
import RecipeGrid.Props.C19d
/-! C13, from the document text: the grouping of a document's code blocks into independent recipes, with the blocks
    computed by the scanner models (`scanBlocks`; with containers `scanBlocks2`: top level, block quotes, list items) instead
    of observed from marko. -/
namespace RG.C13

/-- the kinds of the code blocks of a document, in order — what `render_fenced_code` / `render_code_block` see -/
def docKinds (doc : Str) : List CodeBlockKind := (scanBlocks doc).map (·.kind)

theorem blocks_group (bs : List MdBlock) (i : Nat) :
    (∃ g ∈ groupBlocks (bs.map (·.kind)), g.head? = some i) ↔
      ∃ n, (recipeIndices (bs.map (·.kind)))[n]? = some i ∧
        (n = 0 ∨ ∃ b, bs[i]? = some b ∧ b.kind = .fenced "new-recipe".toList) := by
  rw [group_head_iff]
  refine exists_congr fun n => and_congr_right fun _ => or_congr_right ?_
  rw [List.getElem?_map]
  cases bs[i]? with
  | none => simp
  | some b =>
    cases hk : b.kind with
    | indented => simp [hk, CodeBlockKind.startsNew]
    | fenced l => simp [hk, CodeBlockKind.startsNew]

theorem blocks_group_members (bs : List MdBlock) (g : List Nat) (hg : g ∈ groupBlocks (bs.map (·.kind))) (i : Nat)
    (hi : i ∈ g) : ∃ b, bs[i]? = some b ∧ b.kind.isRecipe = true := by
  have hmem : i ∈ recipeIndices (bs.map (·.kind)) := by
    rw [← group_flatten]; exact List.mem_flatten.2 ⟨g, hg, hi⟩
  simp only [recipeIndices, List.mem_map, List.mem_filter] at hmem
  obtain ⟨⟨k, i'⟩, ⟨hz, hr⟩, rfl⟩ := hmem
  have hk : (bs.map (·.kind))[i']? = some k := by simpa using List.mem_zipIdx_iff_getElem?.mp hz
  rw [List.getElem?_map] at hk
  cases hb : bs[i']? with
  | none => rw [hb] at hk; cases hk
  | some b =>
    rw [hb] at hk
    exact ⟨b, rfl, by rw [← Option.some.inj hk] at hr; exact hr⟩

/-- block `i` of the document heads an independent recipe iff it is the document's first recipe block
    or a fenced block whose language is exactly `new-recipe` (`group_head_iff`, wired to the scanner) -/
theorem scan_group (doc : Str) (i : Nat) :
    (∃ g ∈ groupBlocks (docKinds doc), g.head? = some i) ↔
      ∃ n, (recipeIndices (docKinds doc))[n]? = some i ∧
        (n = 0 ∨ ∃ b, (scanBlocks doc)[i]? = some b ∧ b.kind = .fenced "new-recipe".toList) :=
  blocks_group (scanBlocks doc) i

/-- … and that language is read off the document: the first word of the info string of the fence line at `pos` -/
theorem scan_group_new (doc : Str) (b : MdBlock) (hb : b ∈ scanBlocks doc) :
    b.kind.startsNew = true ↔
      ∃ line tail f, (normaliseCrLf doc).drop b.pos = line ++ tail ∧ fenceOpen? line = some f ∧
        b.kind = .fenced f.lang ∧ stripBackslash (firstWord f.info) = "new-recipe".toList := by
  constructor
  · intro h
    cases hk : b.kind with
    | indented => rw [hk] at h; cases h
    | fenced l =>
      rw [hk] at h
      simp only [CodeBlockKind.startsNew, beq_iff_eq] at h
      obtain ⟨line, tail, h1, _, hf, _⟩ := C19.scan_opening doc b hb
      obtain ⟨f, h3, h4⟩ := hf l hk
      exact ⟨line, tail, f, h1, h3, by rw [h4], by rw [← h]; exact h4.symm⟩
  · rintro ⟨line, tail, f, _, _, hk, hl⟩
    rw [hk]
    simp only [CodeBlockKind.startsNew, FenceInfo.lang, hl, beq_self_eq_true]

/-- the members of a group are indices of recipe blocks of the document (indented, or fenced `recipe` / `new-recipe`) -/
theorem scan_group_members (doc : Str) (g : List Nat) (hg : g ∈ groupBlocks (docKinds doc)) (i : Nat) (hi : i ∈ g) :
    ∃ b, (scanBlocks doc)[i]? = some b ∧ b.kind.isRecipe = true :=
  blocks_group_members (scanBlocks doc) g hg i hi

/-- the blocks of one independent recipe: what `render_document` compiles together -/
def groupOf (doc : Str) (g : List Nat) : List MdBlock := g.filterMap fun i => (scanBlocks doc)[i]?

theorem groupOf_mem (bs : List MdBlock) (g : List Nat) : ∀ b ∈ g.filterMap (fun i => bs[i]?), b ∈ bs := by
  intro b hb
  obtain ⟨i, _, hi⟩ := List.mem_filterMap.1 hb
  exact List.mem_of_getElem? hi

example : (groupOf C19.exDoc [0, 1]).map (·.startLine) = [7, 12] ∧ (groupOf C19.exDoc [2]).map (·.pos) = [127] := by
  unfold groupOf; rw [C19.exDoc_evaluated.2.1]; decide

/-- the example document of `Props/C19d.lean`: three blocks, two independent recipes — the first fence and the indented
    block, then the `~~~~new-recipe` fence -/
example : groupBlocks (docKinds C19.exDoc) = [[0, 1], [2]] := by
  unfold docKinds; rw [C19.exDoc_evaluated.2.1]; decide

/-- languages that do not start a new recipe: `RECIPE`, `recipe`; one that does although it is written with an escape -/
example :
    groupBlocks (docKinds "```RECIPE\nx\n```\n```recipe\ny\n```\n~~~new\\-recipe\nz\n~~~\n    w\n".toList) = [[1], [2, 3]] := by
  lit_chars
  decide +kernel

def docKinds2 (doc : Str) : List CodeBlockKind := (scanBlocks2 doc).map (·.kind)

/-- on the container-free sub-language **D** both scanners see the same kinds -/
theorem docKinds2_conservative (doc : Str) (hD : inDoc doc = true) : docKinds2 doc = docKinds doc := by
  rw [docKinds2, (C19.scan2_conservative doc hD).2]; rfl

/-- block `i` of the document — wherever it sits — heads an independent recipe iff it is the document's
    first recipe block or a fenced block whose language is exactly `new-recipe` -/
theorem scan2_group (doc : Str) (i : Nat) :
    (∃ g ∈ groupBlocks (docKinds2 doc), g.head? = some i) ↔
      ∃ n, (recipeIndices (docKinds2 doc))[n]? = some i ∧
        (n = 0 ∨ ∃ b, (scanBlocks2 doc)[i]? = some b ∧ b.kind = .fenced "new-recipe".toList) :=
  blocks_group (scanBlocks2 doc) i

/-- … and that language is read off the document: the first word of the info string of the fence behind the container
    prefix (`line.take q`) of the line at `pos` -/
theorem scan2_group_new (doc : Str) (b : MdBlock) (hb : b ∈ scanBlocks2 doc) :
    b.kind.startsNew = true ↔
      ∃ line tail q f, (normaliseCrLf doc).drop b.pos = line ++ tail ∧ fenceOpen? (line.drop q) = some f ∧
        b.kind = .fenced f.lang ∧ stripBackslash (firstWord f.info) = "new-recipe".toList := by
  constructor
  · intro h
    cases hk : b.kind with
    | indented => rw [hk] at h; cases h
    | fenced l =>
      rw [hk] at h
      simp only [CodeBlockKind.startsNew, beq_iff_eq] at h
      obtain ⟨t, _, tail, h1, _, hf, _⟩ := (Tags.doc2 doc).opening hb
      obtain ⟨f, h3, h4⟩ := hf l hk
      exact ⟨t.text, tail, t.pfx, f, h1, h3, by rw [h4], by rw [← h]; exact h4.symm⟩
  · rintro ⟨line, tail, q, f, _, _, hk, hl⟩
    rw [hk]
    simp only [CodeBlockKind.startsNew, FenceInfo.lang, hl, beq_self_eq_true]

theorem scan2_group_members (doc : Str) (g : List Nat) (hg : g ∈ groupBlocks (docKinds2 doc)) (i : Nat) (hi : i ∈ g) :
    ∃ b, (scanBlocks2 doc)[i]? = some b ∧ b.kind.isRecipe = true :=
  blocks_group_members (scanBlocks2 doc) g hg i hi

def groupOf2 (doc : Str) (g : List Nat) : List MdBlock := g.filterMap fun i => (scanBlocks2 doc)[i]?

end RG.C13
