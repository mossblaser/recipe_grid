import RecipeGrid.Props.C13b
import RecipeGrid.Props.C07b
import RecipeGrid.Lemmas.MdLines
/-! C19.2 — an error in an embedded recipe is reported at its Markdown line.

    The Markdown front end compiles each recipe block with `k` newlines in front of its text, `k` being the number of
    document lines before the block's first code line (`Model/Markdown.paddedSource`).  Here:

    * the parser is position independent (`rule_shift`, `parse_pad`; rule by rule in `Lemmas/BuiltSh.lean`,
      carried over to the plain parser in `Lemmas/Shift.lean`): the padding moves every recorded offset by `k` and
      changes nothing else;
    * hence (`C13.compile_pad`) the compiler reports the same error `k` characters further on, and with C19.1
      (`pad_line_of_ne_nil`, `pad_extract`) that is `k` lines further down, at the same column, quoting the same text
      (`padded_error_line`, `markdown_error_line`). -/
namespace RG.C19

theorem paddedSource_pad (doc : Str) (pos : Nat) (fenced : Bool) (src : Str) :
    paddedSource doc pos fenced src = pad (mdPadding doc pos fenced) (crToLf src) := rfl

/-- for any rule `p` of the grammar (instances: `Parser.Sh.stmt`, `Parser.Sh.string`,
    `Parser.Sh.number`, … in `Lemmas/Shift.lean`): on `pre ++ s` from position `i + pre.length` the rule does what it
    does on `s` from `i`, with its value's offsets and its final position moved by `pre.length`.  (`Sh` asks that the
    padding contains no word character: the bare combinator `wordBoundary` looks one character back, see the example
    below; the terminals of the grammar do not.) -/
theorem rule_shift {α α' : Type} {g : α → α'} {p' : Parser.P α'} {p : Parser.P α} {pre : Str}
    (h : Parser.Sh pre g p' p) (hpre : ∀ c ∈ pre, isReWord c = false) (s : Str) (i : Nat) (z : Bool) :
    p' (pre ++ s).toArray ⟨i + pre.length, z⟩ =
      (p s.toArray ⟨i, z⟩).map (fun r => (g r.1, ⟨r.2.pos + pre.length, r.2.zero⟩)) :=
  h hpre s ⟨i, z⟩

/-- e.g. a statement in the middle of a padded text -/
theorem stmt_shift (pre s : Str) (hpre : ∀ c ∈ pre, isReWord c = false) (i : Nat) (z : Bool) :
    Parser.stmt (pre ++ s).toArray ⟨i + pre.length, z⟩ =
      (Parser.stmt s.toArray ⟨i, z⟩).map (fun r => (shiftStmt pre.length r.1, ⟨r.2.pos + pre.length, r.2.zero⟩)) :=
  rule_shift Parser.Sh.stmt hpre s i z

/-- what the hypothesis on the padding is for: after the padding `"a"` the text `"of"` no longer starts at a word
    boundary … (`\b` before "of" fails; no terminal of the grammar starts with `\b`) -/
example : Parser.wordBoundary ("a".toList ++ "of".toList).toArray ⟨0 + 1, false⟩ = none ∧
    Parser.wordBoundary "of".toList.toArray ⟨0, false⟩ = some ((), ⟨0, false⟩) := by decide +kernel

/-- **shift invariance of `parse`**: `k` newlines in front move every offset by `k` and change nothing else
    (the leading `sp?` of `recipe` swallows the padding) -/
theorem parse_pad (k : Nat) (s : Str) :
    parse (pad k s) =
      (match parse s with
       | .ok stmts => .ok (stmts.map (shiftStmt k))
       | r => r) :=
  _root_.RG.parse_pad k s

mutual
/-- structural equality of expressions, for the examples (`AExpr` has no derived `DecidableEq`) -/
def sameExpr : AExpr → AExpr → Bool
  | .step n1 i1, .step n2 i2 => n1 == n2 && sameExprs i1 i2
  | .ref n1 a1, .ref n2 a2 => n1 == n2 && a1 == a2
  | _, _ => false
def sameExprs : List AExpr → List AExpr → Bool
  | [], [] => true
  | e1 :: es1, e2 :: es2 => sameExpr e1 e2 && sameExprs es1 es2
  | _, _ => false
end

mutual
theorem eq_of_sameExpr : ∀ e1 e2 : AExpr, sameExpr e1 e2 = true → e1 = e2
  | .step n1 i1, .step n2 i2, h => by
    simp only [sameExpr, Bool.and_eq_true, beq_iff_eq] at h
    rw [h.1, eq_of_sameExprs i1 i2 h.2]
  | .ref n1 a1, .ref n2 a2, h => by
    simp only [sameExpr, Bool.and_eq_true, beq_iff_eq] at h
    rw [h.1, h.2]
  | .step _ _, .ref _ _, h => by simp [sameExpr] at h
  | .ref _ _, .step _ _, h => by simp [sameExpr] at h
theorem eq_of_sameExprs : ∀ l1 l2 : List AExpr, sameExprs l1 l2 = true → l1 = l2
  | [], [], _ => rfl
  | e1 :: es1, e2 :: es2, h => by
    simp only [sameExprs, Bool.and_eq_true] at h
    rw [eq_of_sameExpr e1 e2 h.1, eq_of_sameExprs es1 es2 h.2]
  | [], _ :: _, h => by simp [sameExprs] at h
  | _ :: _, [], h => by simp [sameExprs] at h
end

def sameStmts : List AStmt → List AStmt → Bool
  | [], [] => true
  | s1 :: r1, s2 :: r2 => sameExpr s1.expr s2.expr && s1.outputs == s2.outputs && s1.named == s2.named && sameStmts r1 r2
  | _, _ => false

theorem eq_of_sameStmts : ∀ l1 l2 : List AStmt, sameStmts l1 l2 = true → l1 = l2
  | [], [], _ => rfl
  | ⟨e1, o1, n1⟩ :: r1, ⟨e2, o2, n2⟩ :: r2, h => by
    simp only [sameStmts, Bool.and_eq_true, beq_iff_eq] at h
    obtain ⟨⟨⟨he, ho⟩, hn⟩, hr⟩ := h
    rw [eq_of_sameExpr e1 e2 he, ho, hn, eq_of_sameStmts r1 r2 hr]
  | [], _ :: _, h => by simp [sameStmts] at h
  | _ :: _, [], h => by simp [sameStmts] at h

def sameParse : ParseResult → ParseResult → Bool
  | .ok l1, .ok l2 => sameStmts l1 l2
  | .syntaxError, .syntaxError => true
  | .zeroDivision, .zeroDivision => true
  | _, _ => false

theorem eq_of_sameParse (r1 r2 : ParseResult) (h : sameParse r1 r2 = true) : r1 = r2 := by
  cases r1 with
  | ok s1 =>
    cases r2 with
    | ok s2 => rw [eq_of_sameStmts s1 s2 h]
    | _ => exact Bool.noConfusion h
  | syntaxError =>
    cases r2 with
    | syntaxError => rfl
    | _ => exact Bool.noConfusion h
  | zeroDivision =>
    cases r2 with
    | zeroDivision => rfl
    | _ => exact Bool.noConfusion h

theorem two_statements_evaluated :
    (sameParse (parse ("\n\n" ++ "x = 1 egg\nx = 2 eggs").toList)
      (shiftParse 2 (parse "x = 1 egg\nx = 2 eggs".toList)) = true ∧
    (match parse "x = 1 egg\nx = 2 eggs".toList with
      | .ok [_, s2] => s2.outputs
      | _ => none) = some [[.sub 10 ['x']]] ∧
    (match parse ("\n\n" ++ "x = 1 egg\nx = 2 eggs").toList with
      | .ok [_, s2] => s2.outputs
      | _ => none) = some [[.sub 12 ['x']]]) ∧
    compile ["x = 1 egg\nx = 2 eggs".toList] = .redefined 0 10 ∧
    offsetToLineCol "x = 1 egg\nx = 2 eggs".toList 10 = (2, 1) ∧
    extractLine "x = 1 egg\nx = 2 eggs".toList 2 = some "x = 2 eggs".toList := by decide +kernel

/-- a recipe of two statements, padded by two lines: the AST of the padded text is that of the text with the offsets
    moved by 2 — checked by evaluation, independently of `parse_pad`; the name `x` of the second statement is
    recorded at offset 10, resp. 12 -/
example : parse ("\n\n" ++ "x = 1 egg\nx = 2 eggs").toList = shiftParse 2 (parse "x = 1 egg\nx = 2 eggs".toList) :=
  eq_of_sameParse _ _ two_statements_evaluated.1.1
example : (match parse "x = 1 egg\nx = 2 eggs".toList with
      | .ok [_, s2] => s2.outputs
      | _ => none) = some [[.sub 10 ['x']]] ∧
    (match parse ("\n\n" ++ "x = 1 egg\nx = 2 eggs").toList with
      | .ok [_, s2] => s2.outputs
      | _ => none) = some [[.sub 12 ['x']]] := two_statements_evaluated.1.2
/-- padding by three line breaks (`parse_pad_space`), with nested steps, quantities with units, proportions, interpolated numbers, quoted
    strings -/
example : parse (pad 3 "sauce := mix({2 tbsp} oil, 1 1/2 cups of 'plain flour', chop(3 eggs))\nfry(1/2 of the sauce, {a {4} b}), season\n".toList) =
    shiftParse 3 (parse "sauce := mix({2 tbsp} oil, 1 1/2 cups of 'plain flour', chop(3 eggs))\nfry(1/2 of the sauce, {a {4} b}), season\n".toList) :=
  parse_pad_space (List.replicate 3 '\n') _ (by decide)
/-- a text that does not parse does not parse when padded (`x = 2`: a quantity needs an ingredient) -/
example : sameParse (parse ("\n\n" ++ "x = 1 egg\nx = 2").toList) .syntaxError = true ∧
    sameParse (parse "x = 1 egg\nx = 2".toList) .syntaxError = true := by
  refine (and_iff_right_of_imp fun h => ?_).mpr (by decide +kernel)
  rw [String.toList_append, parse_pad_space _ _ (by decide), eq_of_sameParse _ _ h]
  rfl

theorem parse_nil_not_ok (stmts : List AStmt) : parse [] ≠ .ok stmts := by
  have h : sameParse (parse []) .syntaxError = true := by decide +kernel
  rw [eq_of_sameParse _ _ h]
  intro e; cases e

/-- **C19.2** if compiling the block texts `srcs` reports a located error in block `b` at offset `off` — that is at
    line `l`, column `c` of `srcs[b]` — then compiling the sources padded by `ks` reports the same kind of error in
    the same block, `ks[b]` lines further down (`l + ks[b]`), at the same column `c`, quoting the same text. -/
theorem padded_error_line (ks : List Nat) (srcs : List Str) (h : ks.length = srcs.length) (b off : Nat)
    (hc : compile srcs = .redefined b off ∨ compile srcs = .proportion b off) :
    ∃ s k, srcs[b]? = some s ∧ ks[b]? = some k ∧ (List.zipWith pad ks srcs)[b]? = some (pad k s) ∧
      (compile srcs = .redefined b off → compile (List.zipWith pad ks srcs) = .redefined b (off + k)) ∧
      (compile srcs = .proportion b off → compile (List.zipWith pad ks srcs) = .proportion b (off + k)) ∧
      offsetToLineCol (pad k s) (off + k) = ((offsetToLineCol s off).1 + k, (offsetToLineCol s off).2) ∧
      extractLine (pad k s) ((offsetToLineCol s off).1 + k) = extractLine s (offsetToLineCol s off).1 := by
  obtain ⟨s, stmts, hs, hp, _⟩ := (C07.compile_error_provenance srcs).2 b off hc
  have hb : b < srcs.length := (List.getElem?_eq_some_iff.mp hs).1
  have hbk : b < ks.length := by omega
  have hne : s ≠ [] := by
    intro e; subst e; exact parse_nil_not_ok stmts hp
  have hk : ks.getD b 0 = ks[b] := by simp [List.getD, hbk]
  have hsb : s = srcs[b] := by
    rw [List.getElem?_eq_getElem hb] at hs; cases hs; rfl
  refine ⟨s, ks[b], hs, List.getElem?_eq_getElem hbk, ?_, ?_, ?_, ?_, ?_⟩
  · rw [List.getElem?_eq_getElem (by simp; omega), List.getElem_zipWith, hsb]
  · intro e; rw [C13.compile_pad ks srcs h, e]; simp only [shiftResult, hk]
  · intro e; rw [C13.compile_pad ks srcs h, e]; simp only [shiftResult, hk]
  · rw [Nat.add_comm off]; exact pad_line_of_ne_nil _ s off hne
  · exact pad_extract _ s _ (C07.offset_located s off).1 hne

/-- the same, read off `CompileResult.toSexp`-style: line, column and quoted
    line of the error for the padded sources, from those for the block texts -/
theorem padded_error_report (ks : List Nat) (srcs : List Str) (h : ks.length = srcs.length) (b off : Nat)
    (hc : compile srcs = .redefined b off ∨ compile srcs = .proportion b off) :
    ∃ off', (compile (List.zipWith pad ks srcs) = .redefined b off' ∨
             compile (List.zipWith pad ks srcs) = .proportion b off') ∧
      let src := srcs[b]?.getD []
      let psrc := (List.zipWith pad ks srcs)[b]?.getD []
      let k := ks[b]?.getD 0
      (offsetToLineCol psrc off').1 = (offsetToLineCol src off).1 + k ∧
      (offsetToLineCol psrc off').2 = (offsetToLineCol src off).2 ∧
      extractLine psrc (offsetToLineCol psrc off').1 = extractLine src (offsetToLineCol src off).1 := by
  obtain ⟨s, k, hs, hk, hps, h1, h2, h3, h4⟩ := padded_error_line ks srcs h b off hc
  refine ⟨off + k, ?_, ?_⟩
  · rcases hc with e | e
    · exact Or.inl (h1 e)
    · exact Or.inr (h2 e)
  · simp only [hs, hk, hps, Option.getD_some, h3, h4, and_self]

/-- the result for a Markdown document is the result for its block texts (C13.2) … -/
theorem markdown_compile (md : Str) (blocks : List (Nat × Bool × Str)) :
    compile (mdSources md blocks) =
      shiftResult (blocks.map fun x => mdPadding md x.1 x.2.1) (compile (blocks.map fun x => crToLf x.2.2)) := by
  rw [← C13.compile_pad _ _ (by simp), List.zipWith_map, List.zipWith_self]
  rfl

/-- … and **C19.2**: a located error at line `l`, column `c` of the text of block `b` is reported at line
    `l + mdPadding …` — under the hypothesis H_marko of DESIGN.md (`pos` lies on the block's first code line, resp. on
    its opening fence line) that is the document line of the offending token — at the same column, quoting the same text. -/
theorem markdown_error_line (md : Str) (blocks : List (Nat × Bool × Str)) (b off : Nat)
    (hc : compile (blocks.map fun x => crToLf x.2.2) = .redefined b off ∨
          compile (blocks.map fun x => crToLf x.2.2) = .proportion b off) :
    ∃ pos fenced src, blocks[b]? = some (pos, fenced, src) ∧
      (mdSources md blocks)[b]? = some (paddedSource md pos fenced src) ∧
      (compile (blocks.map fun x => crToLf x.2.2) = .redefined b off →
        compile (mdSources md blocks) = .redefined b (off + mdPadding md pos fenced)) ∧
      (compile (blocks.map fun x => crToLf x.2.2) = .proportion b off →
        compile (mdSources md blocks) = .proportion b (off + mdPadding md pos fenced)) ∧
      offsetToLineCol (paddedSource md pos fenced src) (off + mdPadding md pos fenced) =
        ((offsetToLineCol (crToLf src) off).1 + mdPadding md pos fenced, (offsetToLineCol (crToLf src) off).2) ∧
      extractLine (paddedSource md pos fenced src) ((offsetToLineCol (crToLf src) off).1 + mdPadding md pos fenced) =
        extractLine (crToLf src) (offsetToLineCol (crToLf src) off).1 := by
  obtain ⟨s, k, hs, hk, hps, h1, h2, h3, h4⟩ :=
    padded_error_line (blocks.map fun x => mdPadding md x.1 x.2.1) (blocks.map fun x => crToLf x.2.2) (by simp) b off hc
  rw [List.getElem?_map] at hs hk
  cases hb : blocks[b]? with
  | none => rw [hb] at hs; cases hs
  | some x =>
    obtain ⟨pos, fenced, src⟩ := x
    rw [hb] at hs hk
    simp only [Option.map_some, Option.some.injEq] at hs hk
    subst hs hk
    rw [List.zipWith_map, List.zipWith_self] at hps h1 h2
    exact ⟨pos, fenced, src, rfl, hps, h1, h2, h3, h4⟩

/-- non-vacuity: the redefinition in line 2 of a block that starts on document line 6 (a fenced block whose fence is
    on line 5, so padded by 5) is reported on line 7, column 1, quoting `x = 2 eggs`; the block text is evaluated
    (`two_statements_evaluated`), the padded source follows it by `C13.compile_pad`, `pad_line_of_ne_nil` and
    `pad_extract` -/
example :
    compile ["x = 1 egg\nx = 2 eggs".toList] = .redefined 0 10 ∧
    offsetToLineCol "x = 1 egg\nx = 2 eggs".toList 10 = (2, 1) ∧
    compile [pad 5 "x = 1 egg\nx = 2 eggs".toList] = .redefined 0 (10 + 5) ∧
    offsetToLineCol (pad 5 "x = 1 egg\nx = 2 eggs".toList) (10 + 5) = (2 + 5, 1) ∧
    extractLine (pad 5 "x = 1 egg\nx = 2 eggs".toList) (2 + 5) = some "x = 2 eggs".toList := by
  have h := two_statements_evaluated.2
  have hne : "x = 1 egg\nx = 2 eggs".toList ≠ [] := by decide
  refine ⟨h.1, h.2.1, (C13.compile_pad [5] [_] rfl).trans (by rw [h.1]; rfl),
    (pad_line_of_ne_nil 5 _ 10 hne).trans (by rw [h.2.1]), (pad_extract 5 _ 2 (by decide) hne).trans h.2.2⟩

/-- the same through `paddedSource`: a fenced block whose opening fence is on line 3 of the document -/
example :
    let md := "Title\n\n```recipe\nx = 1 egg\nx = 2 eggs\n```\n".toList
    mdPadding md 7 true = 3 ∧
    compile (mdSources md [(7, true, "x = 1 egg\nx = 2 eggs\n".toList)]) = .redefined 0 (10 + 3) ∧
    offsetToLineCol (paddedSource md 7 true "x = 1 egg\nx = 2 eggs\n".toList) (10 + 3) = (5, 1) ∧
    extractLine md 5 = some "x = 2 eggs".toList := by decide +kernel

end RG.C19
