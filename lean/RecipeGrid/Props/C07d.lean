import RecipeGrid.Props.C19f
/-! C07.4 — `compile_markdown`, end to end: for every document of the sub-language **D2** the outcome is a result or one
    of the three documented, located exceptions — never `ZeroDivisionError`, an internal error of the compiler, or an
    `IndexError` from `extract_line` (`MdOutcome.undocumented`).  From `compile_documented_outcomes` (`Props/C07b.lean`),
    `compile_syntax_error_located` (`Props/C07c.lean`) and `extractLine_total` (`Props/C07.lean`), through the loop of
    `render_document` (`Model/MdCompile.lean`, `C19.mdCompile_cases`).

    Outside the model (assumed not to raise): marko's parsing and the rendering of everything that is not a recipe block
    — it is done before the first recipe is compiled. -/
namespace RG.C07

/-- C07, end to end: for every document of **D2** `compile_markdown` returns (with
    `n` independent recipes) or raises one of the three documented, located exceptions — a `peggie.ParseError`, a
    `NameRedefinedError` or a `ProportionGivenForIngredientError`, each with a line, a column and a quoted line — and
    never anything else -/
theorem mdCompile_documented_outcomes (doc : Str) (hD : inDoc2 doc = true) :
    (∃ n, mdCompile doc = .ok n) ∨ (∃ l c q, mdCompile doc = .syntaxError l c q) ∨
    (∃ l c q, mdCompile doc = .redefined l c q) ∨ (∃ l c q, mdCompile doc = .proportion l c q) := by
  rcases C19.mdCompile_cases doc with ⟨hD', _⟩ | ⟨_, _, h⟩ | ⟨_, ⟨_, _, _, h⟩, _⟩
  · rw [hD] at hD'; cases hD'
  · exact Or.inl ⟨_, h⟩
  · right
    cases hm : mdCompile doc with
    | syntaxError l c q => exact Or.inl ⟨l, c, q, rfl⟩
    | redefined l c q => exact Or.inr (Or.inl ⟨l, c, q, rfl⟩)
    | proportion l c q => exact Or.inr (Or.inr ⟨l, c, q, rfl⟩)
    | _ => rw [hm] at h; cases h

/-- in particular no undocumented exception, for any document (outside **D2** the model answers `outside`) -/
theorem mdCompile_never_undocumented (doc : Str) (why : String) : mdCompile doc ≠ .undocumented why := by
  cases hD : inDoc2 doc with
  | false => rw [(C19.mdCompile_outside_iff doc).2 hD]; intro h; cases h
  | true =>
    intro h
    rcases mdCompile_documented_outcomes doc hD with ⟨_, h'⟩ | ⟨_, _, _, h'⟩ | ⟨_, _, _, h'⟩ | ⟨_, _, _, h'⟩ <;>
      rw [h'] at h <;> cases h

/-- … and a located exception is located in the document (`C19.mdCompile_error_line`): its line is a line of the
    document, or the line just below the last one -/
theorem mdCompile_error_in_document (doc : Str) (L c : Nat) (q : Str)
    (h : mdCompile doc = .syntaxError L c q ∨ mdCompile doc = .redefined L c q ∨ mdCompile doc = .proportion L c q) :
    1 ≤ L ∧ L ≤ (C19.docLines doc).length + 1 ∧ 1 ≤ c := by
  have hloc : C19.located (mdCompile doc) = some (L, c, q) := by
    rcases h with h | h | h <;> rw [h] <;> rfl
  obtain ⟨h1, h2, _⟩ := C19.mdCompile_error_line_bounds doc L c q hloc
  exact ⟨h1, h2, (C19.mdCompile_error_line doc L c q hloc).1⟩

/-- non-vacuity: a document of **D2** for each of the four outcomes (CRLF, blocks inside block quotes) -/
example : inDoc2 C19.exRedefined = true ∧ inDoc2 C19.exProportion = true ∧ inDoc2 C19.exSyntax = true ∧
    mdCompile C19.exRedefined = .redefined 9 3 "  b = 3 g z".toList ∧
    mdCompile C19.exProportion = .proportion 9 12 "  c = f(b, 1/3 of d)".toList ∧
    mdCompile C19.exSyntax = .syntaxError 9 11 "  c = f(b))".toList ∧
    mdCompile "# Stew for 2\r\n\r\n- Sauce:\r\n\r\n      a = 1 g x\r\n\r\n```recipe\r\nfry(1/2 of a, remaining a)\r\n```\r\n".toList = .ok 1 :=
  ⟨C19.exFaults_evaluated.1.1.1, C19.exFaults_evaluated.2.1.1, C19.exFaults_evaluated.2.2.1, C19.exFaults_evaluated.1.1.2,
    C19.exFaults_evaluated.2.1.2, C19.exFaults_evaluated.2.2.2, by
    lit_chars
    decide +kernel⟩

end RG.C07
