import RecipeGrid.Props.C02b
import RecipeGrid.Lemmas.EndToEnd
/-! C02 (continued) — the hypotheses of `Props/C02.lean` and `Props/C02b.lean` (`wf`, `multiOnlyAtRoot`) hold of every
    tree `compile` returns (`compile_wf`), so the layout theorems hold for everything the compiler can produce with no
    hypothesis left. -/
namespace RG.C02

private theorem wfList_eq' : ∀ ts : List Tree, wfList ts = RG.wfList ts := wfList_eq_RG

/-- the grammar: the `step` rule has a mandatory first argument and the left-to-right shorthand builds one-input
    steps, so every step of every parsed statement has at least one input -/
theorem parse_steps_have_inputs (src : Str) (stmts : List AStmt) (h : parse src = .ok stmts) :
    ∀ s ∈ stmts, s.expr.stepsNonempty = true :=
  parse_stepsNonempty src stmts h

/-- **every tree `compile` returns is well-formed** (every step has at least one input) **and has multi-output
    sub recipes only at the root** -/
theorem compile_wf (srcs : List Str) (bs : List Block) (h : compile srcs = .ok bs) :
    ∀ b ∈ bs, ∀ t ∈ b, wf t = true ∧ multiOnlyAtRoot t := by
  intro b hb t ht
  exact ⟨by rw [wf_eq]; exact compile_ok_wf srcs bs h b hb t ht,
    (multiOnlyAtRoot_iff t).2 (compile_ok_singleRoot srcs bs h b hb t ht)⟩

theorem compile_ind {P : Tree → Prop} (hP : ∀ t, wf t = true → multiOnlyAtRoot t → P t) {srcs : List Str}
    {bs : List Block} (h : compile srcs = .ok bs) : ∀ b ∈ bs, ∀ t ∈ b, P t :=
  fun b hb t ht => hP t (compile_wf srcs bs h b hb t ht).1 (compile_wf srcs bs h b hb t ht).2

/-- **C02.1 for everything the compiler can produce**: the table of every compiled tree tiles its rectangle -/
theorem compile_layout_tiles (srcs : List Str) (bs : List Block) (h : compile srcs = .ok bs) :
    ∀ b ∈ bs, ∀ t ∈ b, Tiles (layout t) :=
  compile_ind (fun t hw _ => layout_tiles t hw) h

theorem compile_layout_nonempty (srcs : List Str) (bs : List Block) (h : compile srcs = .ok bs) :
    ∀ b ∈ bs, ∀ t ∈ b, 0 < (layout t).h ∧ 0 < (layout t).w :=
  compile_ind (fun t hw _ => layout_nonempty t hw) h

/-- C02.4 for compiled trees: the cells of every subtree tile a rectangle inside the table -/
theorem compile_region_tiles (srcs : List Str) (bs : List Block) (h : compile srcs = .ok bs) :
    ∀ b ∈ bs, ∀ t ∈ b, ∀ (q : List Nat) (n : Tree), t.at? q = some n →
      TilesBox (cellsUnder (layout t) q) (region (layout t) q) ∧
      (region (layout t) q).bottom ≤ (layout t).h ∧ (region (layout t) q).right ≤ (layout t).w :=
  compile_ind (fun t hw _ => region_tiles t hw) h

/-- C02.5 for compiled trees: the borders by cases, with no hypothesis left -/
theorem compile_layout_borders_cases (srcs : List Str) (bs : List Block) (h : compile srcs = .ok bs) :
    ∀ b ∈ bs, ∀ t ∈ b, ∀ x ∈ (layout t).cells, ∀ s,
      (border x s = .none ↔ (x.kind = .outputs ∧ s ≠ .left)) ∧
      (border x s = .subRecipe ↔ (¬ (x.kind = .outputs ∧ s ≠ .left) ∧ onOutline t x s)) ∧
      (border x s = .normal ↔ (¬ (x.kind = .outputs ∧ s ≠ .left) ∧ ¬ onOutline t x s)) :=
  compile_ind layout_borders_cases h

/-- C02.6 for compiled trees: the drawing can be read back from the visible table -/
theorem compile_readback (srcs : List Str) (bs : List Block) (h : compile srcs = .ok bs) :
    ∀ b ∈ bs, ∀ t ∈ b, readback (vis (layout t)) = some (drawing t) :=
  compile_ind readback_layout h

/-- the hypotheses matter for hand-built trees: a step without inputs is not well-formed and its table has no cell
    to the left of the step … -/
example : wf (.step [] []) = false := by decide
example : (layout (.step [] [])).h = 0 := by decide
/-- … and a multi-output sub recipe below a step breaks Python's invariant (the constructors refuse it) -/
example : ¬ multiOnlyAtRoot (.step [] [.sub (.ingredient [] none) [[], []] false]) := by decide

/-- a concrete description: two nested definitions are folded into the third, the second block refers to it
    (evaluated in `Props/C04c.lean`, together with what is said there about its tables) -/
def exSource : List Str := ["A := MIX(FIG)\nB := HEAT(A)\nC = SERVE(B, RYE)".toList, "EAT(C)".toList]

/-- the parser on the left-to-right shorthand and a trailing comma -/
example : (match parse "(FLOUR, SIFT, FOLD)\nMIX(A, B,)".toList with
    | .ok ss => ss.all (·.expr.stepsNonempty)
    | _ => false) = true := by decide +kernel
/-- `MIX()` is a syntax error: a step needs an argument -/
example : (match parse "MIX()".toList with | .syntaxError => true | _ => false) = true := by decide +kernel

end RG.C02
