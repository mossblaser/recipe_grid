import RecipeGrid.Props.C19e
/-! C19, for the container-free scanner — from the document text to the lines the compiler sees.

    `Props/C19b.lean` (`markdown_error_line`) takes `pos` and the captured `source` of every code block as
    observed from marko.  Here they are computed by a model of marko's block scanner (`Model/MdBlocks.lean`:
    `scanBlocks`, compared exactly with marko by the correspondence check of C19, `harness/mdblocks_corr.py`), and for every document of the sub-language **D**
    (`inDoc`) every line of the text handed to the compiler is shown to be the document line with the same number,
    less the block's indentation.  The statements about the lines are those of `Props/C19e.lean` (the sub-language
    **D2 ⊇ D**) read on a document in which no line carries a container prefix. -/
namespace RG.C19

/-- on a document of **D** the container-aware tagger records no prefix: what is removed from a line is spaces only -/
theorem KRel.of_inDoc {doc : Str} (hD : inDoc doc = true) {n : Nat} {s d : Str}
    (h : PRel (BPrefix (CP (tagDoc2 doc)) n) s d) : KRel n s d := by
  obtain ⟨_, rfl, a, p, rfl, ha, hp⟩ := h
  have ha0 : a = [] := ha.2 (by
    rw [tagDoc2_of_inDoc doc hD]
    intro x hx
    obtain ⟨y, _, rfl⟩ := List.mem_map.1 hx
    rfl)
  subst ha0
  exact KRel.of_prel ⟨_, rfl, p, hp, by simp⟩

/-- **the padding is the number of document lines before the block's first content line**: the newlines
    `get_line_number_corrected_source` puts in front (`mdPadding`) are `startLine - 1`, where `startLine` is counted by
    the scanner itself, line by line -/
theorem scan_padding (doc : Str) (hD : inDoc doc = true) (b : MdBlock) (hb : b ∈ scanBlocks doc) :
    mdPadding doc b.pos b.kind.isFenced + 1 = b.startLine := by
  rw [← scanBlocks2_of_inDoc doc hD] at hb
  exact scan2_padding doc (inDoc2_of_inDoc doc hD) b hb

/-- the indentation `FencedCode.parse` / `CodeBlock.parse` may remove from the lines of a block: the number of spaces in
    front of its opening fence (read off the document at `pos`), resp. 4 -/
def blockIndent (doc : Str) (b : MdBlock) : Nat :=
  if b.kind.isFenced then leadSpaces ((normaliseCrLf doc).drop b.pos) else 4

theorem blockIndent_of_opening (doc : Str) (b : MdBlock) (line tail : Str) (f : FenceInfo)
    (hd : (normaliseCrLf doc).drop b.pos = line ++ tail) (hf : fenceOpen? line = some f) (hk : b.kind.isFenced = true) :
    blockIndent doc b = f.indent := by
  obtain ⟨h1, _, h2⟩ := fenceOpen?_indent _ _ hf
  rw [blockIndent, hk, if_pos rfl, hd, leadSpaces_append _ _ h2, ← h1]

/-- a block of the container-free scanner starts at a line without container prefix -/
theorem scan_opening (doc : Str) (b : MdBlock) (hb : b ∈ scanBlocks doc) :
    ∃ line tail, (normaliseCrLf doc).drop b.pos = line ++ tail ∧ line ∈ mdLines (normaliseCrLf doc) ∧
      (∀ lang, b.kind = .fenced lang → ∃ f, fenceOpen? line = some f ∧ lang = f.lang) ∧
      (b.kind = .indented → 4 ≤ leadSpaces line) := by
  rw [scanBlocks_eq] at hb
  obtain ⟨t, ht, tail, hd, _, hf, hc⟩ := (Tags.doc doc).opening hb
  obtain ⟨x, _, rfl⟩ := List.mem_map.1 ht
  exact ⟨x.text, tail, hd, by rw [← (Tags.doc doc).text]; exact List.mem_map_of_mem ht, hf, hc⟩

theorem blockIndent_le (doc : Str) (b : MdBlock) (hb : b ∈ scanBlocks doc) :
    blockIndent doc b ≤ (if b.kind.isFenced then 3 else 4) := by
  obtain ⟨line, tail, hd, _, hf, _⟩ := scan_opening doc b hb
  cases hk : b.kind with
  | indented => simp [blockIndent, hk, CodeBlockKind.isFenced]
  | fenced lang =>
    obtain ⟨f, hf, _⟩ := hf lang hk
    rw [blockIndent_of_opening doc b line tail f hd hf (by rw [hk]; rfl)]
    simpa [CodeBlockKind.isFenced] using (fenceOpen?_indent _ _ hf).2.1

/-- for every document of **D** and every code block `b` the scanner finds in it, every
    line of the text the compiler is given for `b` (`paddedSource`, as `get_line_number_corrected_source` builds it) from
    line `b.startLine` on is the document's own line of the same number with at most `blockIndent doc b` leading spaces
    removed (`blockIndent_le`: at most 3 for a fenced, 4 for an indented block).  So a token at line `l`, column `c` of
    what the compiler sees sits on line `l` of the document, at column `c + p`.  The exception is the one of
    `scan2_block_lines`. -/
theorem scan_block_lines (doc : Str) (hD : inDoc doc = true) (b : MdBlock) (hb : b ∈ scanBlocks doc) (j : Nat) (s : Str)
    (hs : extractLine (paddedSource doc b.pos b.kind.isFenced b.source) (b.startLine + j) = some s) :
    (∃ d p, extractLine (crToLf (normaliseCrLf doc)) (b.startLine + j) = some d ∧
        p ≤ blockIndent doc b ∧ (∀ c ∈ d.take p, c = ' ') ∧ s = d.drop p) ∨
      (b.kind.isFenced = false ∧ s = [] ∧
        b.startLine + j = (splitLines (paddedSource doc b.pos b.kind.isFenced b.source)).length ∧
        extractLine (crToLf (normaliseCrLf doc)) (b.startLine + j) = none) := by
  have hD2 := inDoc2_of_inDoc doc hD
  rw [← scanBlocks2_of_inDoc doc hD] at hb
  obtain ⟨pre, t, rest, hts, h⟩ := assemble2_origin hb
  rcases h with ⟨f, hf, rfl⟩ | ⟨hc, rfl⟩
  · obtain ⟨d, hd, h⟩ := fenced2_extract doc hD2 pre t rest hts f hf j s hs
    obtain ⟨p, hp, hsp, hsd⟩ := KRel.of_inDoc hD h
    refine Or.inl ⟨d, p, hd, ?_, hsp, hsd⟩
    -- the opening line carries no container prefix: it is a line of the container-free tagger
    have hT : Tags doc (pre ++ t :: rest) := hts ▸ Tags.doc2 doc
    obtain ⟨x, _, rfl⟩ := List.mem_map.1 (show t ∈ (tagDoc doc).map TLine.lift by
      rw [← tagDoc2_of_inDoc doc hD, hts]; simp)
    have hsound := hT.sound x.lift (by simp)
    rw [TLine.lift_inner] at hsound
    rw [blockIndent_of_opening doc _ x.text _ f hT.drop_start (hsound.fenceOpen hf) rfl]
    exact hp
  · rcases code2_extract doc hD2 pre t rest hts hc j s hs with ⟨d, hd, h⟩ | ⟨h1, h2, h3⟩
    · obtain ⟨p, hp, hsp, hsd⟩ := KRel.of_inDoc hD h
      exact Or.inl ⟨d, p, hd, hp, hsp, hsd⟩
    · exact Or.inr ⟨rfl, h1, h2, extractLine_past _ _ (tagDoc2_ne_nil doc pre t rest hts) h3⟩

/-- every block starts inside the (CRLF-normalised) document -/
theorem scanBlocks_pos_lt (doc : Str) (b : MdBlock) (hb : b ∈ scanBlocks doc) :
    b.pos < (normaliseCrLf doc).length :=
  (Tags.doc doc).pos_lt (scanBlocks_eq doc ▸ hb)

/-- the blocks are listed in document order: positions strictly increase (and first-content-line numbers do not
    decrease) -/
theorem scanBlocks_ordered (doc : Str) :
    (scanBlocks doc).Pairwise fun b1 b2 => b1.pos < b2.pos ∧ b1.startLine ≤ b2.startLine :=
  scanBlocks_eq doc ▸ (Tags.doc doc).ordered

/-- an indented block starts at a line indented by at least four spaces -/
theorem scan_indented_start (doc : Str) (b : MdBlock) (hb : b ∈ scanBlocks doc) (hk : b.kind = .indented) :
    ∃ line tail, (normaliseCrLf doc).drop b.pos = line ++ tail ∧ line ∈ mdLines (normaliseCrLf doc) ∧
      4 ≤ leadSpaces line := by
  obtain ⟨line, tail, hd, hm, _, hc⟩ := scan_opening doc b hb
  exact ⟨line, tail, hd, hm, hc hk⟩

/-- there is exactly one block per opening-fence line and per first line of an indented block -/
theorem scanBlocks_length (doc : Str) :
    (scanBlocks doc).length =
      ((tagDoc doc).filter fun t => t.tag.startsBlock).length := by
  rw [scanBlocks_eq, assemble2_length, List.filter_map, List.length_map]; rfl

/-- **blocks are disjoint**: the text captured by a block (which is at most as long as the document lines it was taken
    from) ends before the next block starts -/
theorem scanBlocks_disjoint (doc : Str) :
    (scanBlocks doc).Pairwise fun b1 b2 => b1.pos + b1.source.length ≤ b2.pos :=
  scanBlocks_eq doc ▸ (Tags.doc doc).disjoint

/-- a document of **D** with three blocks: heading, paragraph with a lazy continuation line, a ```` ```recipe ```` fence
    indented by 2 (body lines indented by 2, 4 and 1), an indented block with an interior blank line, a
    `~~~~new-recipe extra` fence containing a shorter `~~~`, CRLF line endings. -/
def exDoc : Str :=
  "# Stew for 2\r\n\r\nMix {4} eggs,\r\n    then rest.\r\n\r\n  ```recipe\r\n  x = 1 egg\r\n    y = fry(x)\r\n \r\n  ```\r\n\r\n    z = 2 eggs\r\n\r\n      w = boil(z)\r\n\r\n~~~~new-recipe extra\r\nv = 3 eggs\r\n~~~\r\n~~~~\r\nDone.\r\n".toList

/-- the facts of the `example`s below in one statement: one evaluation by the kernel shares the scanning of the document -/
theorem exDoc_evaluated :
    inDoc exDoc = true ∧
    scanBlocks exDoc =
      [⟨.fenced "recipe".toList, 44, "x = 1 egg\n  y = fry(x)\n\n".toList, 7⟩,
       ⟨.indented, 92, "z = 2 eggs\n\n  w = boil(z)\n".toList, 12⟩,
       ⟨.fenced "new-recipe".toList, 127, "v = 3 eggs\n~~~\n".toList, 17⟩] ∧
    extractLine (paddedSource exDoc 44 true "x = 1 egg\n  y = fry(x)\n\n".toList) (7 + 1) = some "  y = fry(x)".toList ∧
    extractLine (crToLf (normaliseCrLf exDoc)) (7 + 1) = some "    y = fry(x)".toList ∧
    extractLine (paddedSource exDoc 92 false "z = 2 eggs\n\n  w = boil(z)\n".toList) (12 + 2) = some "  w = boil(z)".toList ∧
    extractLine (crToLf (normaliseCrLf exDoc)) (12 + 2) = some "      w = boil(z)".toList := by
  -- the kernel reads a string literal in quadratic time (`Lemmas/StrLit.lean`): give it the character lists
  unfold exDoc; lit_chars
  decide +kernel

example : inDoc exDoc = true := exDoc_evaluated.1

example : scanBlocks exDoc =
    [⟨.fenced "recipe".toList, 44, "x = 1 egg\n  y = fry(x)\n\n".toList, 7⟩,
     ⟨.indented, 92, "z = 2 eggs\n\n  w = boil(z)\n".toList, 12⟩,
     ⟨.fenced "new-recipe".toList, 127, "v = 3 eggs\n~~~\n".toList, 17⟩] := exDoc_evaluated.2.1

/-- the hypotheses of `scan_block_lines` are met, e.g. by the second body line of the first block (document line 8,
    indented by 4, of which the fence's 2 are removed) and by the third line of the indented block (line 14) -/
example :
    extractLine (paddedSource exDoc 44 true "x = 1 egg\n  y = fry(x)\n\n".toList) (7 + 1) = some "  y = fry(x)".toList ∧
    extractLine (crToLf (normaliseCrLf exDoc)) (7 + 1) = some "    y = fry(x)".toList ∧
    extractLine (paddedSource exDoc 92 false "z = 2 eggs\n\n  w = boil(z)\n".toList) (12 + 2) = some "  w = boil(z)".toList ∧
    extractLine (crToLf (normaliseCrLf exDoc)) (12 + 2) = some "      w = boil(z)".toList := exDoc_evaluated.2.2

/-- the hypotheses of `doc_error_line` (`Props/C19f.lean`) are met: the redefinition of `x` on document line 12 (first line of the indented
    block, which belongs to the recipe started by the first fence) is reported on line 12, column 1 -/
example :
    let grp : List MdBlock := [⟨.fenced "recipe".toList, 44, "x = 1 egg\n  y = fry(x)\n\n".toList, 7⟩,
                               ⟨.indented, 92, "x = 2 eggs\n\n  w = boil(z)\n".toList, 12⟩]
    compile (grp.map fun b => crToLf b.source) = .redefined 1 0 ∧
    offsetToLineCol (crToLf "x = 2 eggs\n\n  w = boil(z)\n".toList) 0 = (1, 1) := by
  lit_chars
  decide +kernel

/-- the exceptional last line of `scan_block_lines` exists: a document ending, without a newline, in a lone carriage
    return inside an indented block — the block's text gets one more (empty) line than the document has -/
example : inDoc "    x\r".toList = true ∧
    scanBlocks "    x\r".toList = [⟨.indented, 0, "x\r\n".toList, 1⟩] ∧
    extractLine (paddedSource "    x\r".toList 0 false "x\r\n".toList) (1 + 1) = some [] ∧
    extractLine (crToLf (normaliseCrLf "    x\r".toList)) (1 + 1) = none ∧
    (splitLines (paddedSource "    x\r".toList 0 false "x\r\n".toList)).length = 2 := by decide +kernel

/-- outside **D** the statement fails, which is why `inDoc` excludes these (real defects of the line
    numbering): a lone carriage return after the info string counts as a document line for `markdown.py` but the
    padding does not account for it — the statement on document line 4 is handed to the compiler on line 3 -/
example :
    let doc := "```recipe\r\r\nx = 1 egg\nx = 2 eggs\n```\n".toList
    inDoc doc = false ∧
    scanBlocks doc = [⟨.fenced "recipe".toList, 0, "x = 1 egg\nx = 2 eggs\n".toList, 3⟩] ∧
    extractLine (paddedSource doc 0 true "x = 1 egg\nx = 2 eggs\n".toList) 3 = some "x = 2 eggs".toList ∧
    extractLine (crToLf (normaliseCrLf doc)) 4 = some "x = 2 eggs".toList := by
  lit_chars
  decide +kernel

/-- documents just outside **D** are rejected by `inDoc`: a block quote, list items, a tab, an HTML line, a thematic break,
    a setext heading, a link reference definition, interruptions of a paragraph — no claim is made about them -/
example : inDoc "> quoted\n".toList = false ∧ inDoc "- item\n\n      code\n".toList = false ∧
    inDoc "1. item\n".toList = false ∧ inDoc "\tcode\n".toList = false ∧ inDoc "```recipe\n\tx\n```\n".toList = false ∧
    inDoc "<div>\n".toList = false ∧ inDoc "***\n".toList = false ∧ inDoc "Title\n=====\n".toList = false ∧
    inDoc "[x]: /url\n".toList = false ∧ inDoc "text\n> q\n".toList = false ∧ inDoc "text\n- item\n".toList = false := by
  lit_chars
  decide +kernel

/-- … while these are members: a `#hashtag` paragraph, seven hashes, a backtick "fence" with a backtick in its info
    string (a paragraph for marko), a line starting with a link, an indented line after a paragraph line (lazy
    continuation — no code block), a byte-order mark in front of a fence (a paragraph, so the closing fence opens a block) -/
example : inDoc "#hashtag\n####### seven\n``` a`b\n[link](u) text\n    lazy\n".toList = true ∧
    scanBlocks "#hashtag\n####### seven\n``` a`b\n[link](u) text\n    lazy\n".toList = [] ∧
    inDoc "\uFEFF```recipe\nx\n```\n".toList = true ∧
    scanBlocks "\uFEFF```recipe\nx\n```\n".toList = [⟨.fenced [], 13, [], 4⟩] := by
  lit_chars
  decide +kernel

end RG.C19
